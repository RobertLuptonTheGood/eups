import EupsModel.Model.LockCmd
import EupsModel.Lemmas.List
/-! C09 — lemmas about the tables of the command line (`Model/LockCmd.lean`). -/
namespace EupsModel.LockCmd

/-- `Cmd.all`, the list the driver dumps for comparison with the `register(...)` table, has every command: a fact checked on
it holds of all. -/
theorem Cmd.mem_all (c : Cmd) : c ∈ Cmd.all :=
  List.mem_of_getElem? (i := c.ctorIdx) (by cases c <;> rfl)

theorem Cmd.forall {P : Cmd → Prop} (h : ∀ c ∈ Cmd.all, P c) (c : Cmd) : P c := h c c.mem_all

theorem mem_dedup (l : List Nat) (x : Nat) : x ∈ dedup l ↔ x ∈ l := mem_keepFirst rfl (fun _ _ => rfl) l x

theorem nodup_dedup (l : List Nat) : (dedup l).Nodup := nodup_keepFirst rfl (fun _ _ => rfl) l

end EupsModel.LockCmd
