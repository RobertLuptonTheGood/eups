import EupsModel.Model.Record
import EupsModel.Lemmas.List
/-! Helper lemmas about the record model (C16): `Except` results got by evaluation, prefixes of segment lists and
`Path.under`, macro resolution (`resolveMacros`), symbolic links. -/
namespace EupsModel.Record

/-- test vectors are evaluated through `toOption`: `Except` has no `DecidableEq` -/
theorem eq_ok_of_toOption {ε α : Type} {x : Except ε α} {a : α} (h : x.toOption = some a) : x = .ok a := by
  cases x with
  | error e => cases h
  | ok b => cases h; rfl

/-- `∃ text, print = .ok (some text) ∧ parse text = .ok b` from one evaluation: `p` is what the printer gives, `k` the
parser -/
theorem witness_of_eval {ε α β : Type} {p : Except ε (Option α)} {k : α → Except ε β} {b : β}
    (h : (match p with | .ok (some t) => (k t).toOption | _ => none) = some b) : ∃ t, p = .ok (some t) ∧ k t = .ok b :=
  match p, h with
  | .ok (some t), h => ⟨t, rfl, eq_ok_of_toOption h⟩

theorem SegsOK.append {a b : List Str} (ha : SegsOK a) (hb : SegsOK b) : SegsOK (a ++ b) := by
  intro s hs
  rcases List.mem_append.mp hs with h | h
  · exact ha s h
  · exact hb s h

theorem SegsOK.left {a b : List Str} (h : SegsOK (a ++ b)) : SegsOK a :=
  fun s hs => h s (List.mem_append.mpr (Or.inl hs))

theorem SegsOK.right {a b : List Str} (h : SegsOK (a ++ b)) : SegsOK b :=
  fun s hs => h s (List.mem_append.mpr (Or.inr hs))

theorem isPrefixOf_append_left (a b c : List Str) : (a ++ b).isPrefixOf (a ++ c) = b.isPrefixOf c := by
  induction a with
  | nil => simp
  | cons x xs ih => simp [ih]

theorem under_append (x : Bool) (a b : List Str) (hb : b ≠ []) :
    Path.under ⟨x, a ++ b⟩ ⟨x, a⟩ = some b := by
  simp [Path.under, isPrefixOf_append_self, hb]

theorem under_abs_ne (p r : Path) (h : p.abs ≠ r.abs) : p.under r = none := by
  simp [Path.under, h]

theorem under_not_prefix (p r : Path) (h : r.segs.isPrefixOf p.segs = false) : p.under r = none := by
  simp [Path.under, h]

theorem subpath_not_prefix (p r : Path) (h : r.segs.isPrefixOf p.segs = false) : p.subpath r = false := by
  simp [Path.subpath, h]

theorem under_append_left (x : Bool) (p a b : List Str) :
    Path.under ⟨x, p ++ a⟩ ⟨x, p ++ b⟩ = Path.under ⟨x, a⟩ ⟨x, b⟩ := by
  have hd : List.drop (p.length + b.length) p = [] := List.drop_eq_nil_of_le (by omega)
  simp [Path.under, isPrefixOf_append_left, List.drop_append, hd]

theorem under_cons (x : Bool) (y : Str) (a b : List Str) :
    Path.under ⟨x, y :: a⟩ ⟨x, y :: b⟩ = Path.under ⟨x, a⟩ ⟨x, b⟩ := under_append_left x [y] a b

theorem under_self_append (x : Bool) (a b : List Str) :
    Path.under ⟨x, a ++ b⟩ ⟨x, a⟩ = if b = [] then none else some b := by
  by_cases hb : b = []
  · subst hb; simp [Path.under]
  · rw [under_append x a b hb]; simp [hb]

theorem under_nil (x : Bool) (a : List Str) : Path.under ⟨x, a⟩ ⟨x, []⟩ = if a = [] then none else some a := by
  simpa using under_self_append x [] a

theorem under_abs_rel (a b : List Str) : Path.under ⟨true, a⟩ ⟨false, b⟩ = none := under_abs_ne _ _ (by simp)

theorem under_rel_abs (a b : List Str) : Path.under ⟨false, a⟩ ⟨true, b⟩ = none := under_abs_ne _ _ (by simp)

theorem subpath_append_left (x : Bool) (p a b : List Str) :
    Path.subpath ⟨x, p ++ a⟩ ⟨x, p ++ b⟩ = Path.subpath ⟨x, a⟩ ⟨x, b⟩ := by
  simp [Path.subpath, isPrefixOf_append_left]

theorem under_head_ne (x : Bool) (l m : List Str) (y : Str) (r : List Str) (hne : l ≠ []) (h : l.head? ≠ some y) :
    Path.under ⟨x, l ++ m⟩ ⟨x, y :: r⟩ = none ∧ Path.subpath ⟨x, l ++ m⟩ ⟨x, y :: r⟩ = false := by
  cases l with
  | nil => exact absurd rfl hne
  | cons c l =>
    have : ¬ y = c := fun e => h (by simp [e])
    simp [Path.under, Path.subpath, List.isPrefixOf, this]

theorem isPrefixOf_diverge (a b x y : List Str) (h1 : a.isPrefixOf b = false) (h2 : b.isPrefixOf a = false) :
    (a ++ x).isPrefixOf (b ++ y) = false := by
  rw [← Bool.not_eq_true, List.isPrefixOf_iff_prefix] at *
  exact fun hp => (List.prefix_or_prefix_of_prefix ((List.prefix_append a x).trans hp) (List.prefix_append b y)).elim h1 h2

theorem stackRoot_db (root : List Str) : stackRoot (absP (root ++ [sUpsDb])) = absP root := by
  simp [stackRoot, absP, Path.dirname]

/-- no segment contains `$` -/
def No36 (l : List Str) : Prop := ∀ s ∈ l, 36 ∉ s

@[simp] theorem No36_nil : No36 [] := by simp [No36]
@[simp] theorem No36_cons (x : Str) (l : List Str) : No36 (x :: l) ↔ 36 ∉ x ∧ No36 l := by simp [No36]
@[simp] theorem No36_append (a b : List Str) : No36 (a ++ b) ↔ No36 a ∧ No36 b := by
  simp only [No36, List.mem_append]
  exact ⟨fun h => ⟨fun s hs => h s (Or.inl hs), fun s hs => h s (Or.inr hs)⟩, fun h s hs => hs.elim (h.1 s) (h.2 s)⟩

theorem SegsOK.no36 {l : List Str} (h : SegsOK l) : ∀ s ∈ l, 36 ∉ s := fun s hs => (h s hs).2.2

theorem isMacroPath_false (abs : Bool) (segs : List Str) (h : No36 segs) :
    isMacroPath ⟨abs, segs⟩ = false := by
  cases segs with
  | nil => simp [isMacroPath, headStartsWith]
  | cons s r =>
    have hs : 36 ∉ s := h s (by simp)
    simp [isMacroPath, headStartsWith, mPROD_, mUPS_, isPrefixOf_not_mem _ hs]

theorem substFlavorAux_id (f : Str) : ∀ s : Str, 36 ∉ s → substFlavorAux f 0 s = s
  | [], _ => by simp [substFlavorAux]
  | c :: r, h => by
    have hc : c ≠ 36 := fun e => h (by simp [e])
    have hr : 36 ∉ r := fun m => h (by simp [m])
    simp [substFlavorAux, hc, substFlavorAux_id f r hr]

theorem substFlavor_id (f : Str) (s : Str) (h : 36 ∉ s) : substFlavor f s = s := substFlavorAux_id f s h

theorem map_substFlavor_id (f : Str) (l : List Str) (h : No36 l) : l.map (substFlavor f) = l :=
  map_eq_self fun s hs => substFlavor_id f s (h s hs)

theorem substHead_abs (name : Str) (r : Option Path) (segs : List Str) : substHead name r ⟨true, segs⟩ = ⟨true, segs⟩ := by
  cases r <;> simp [substHead]

theorem substHead_other (name : Str) (r : Option Path) (v : Path) (h : v.segs.head? ≠ some name) : substHead name r v = v := by
  cases r with
  | none => rfl
  | some r => simp [substHead, h]

theorem substHead_hit (name : Str) (r s : List Str) :
    substHead name (some ⟨true, r⟩) ⟨false, name :: s⟩ = ⟨true, r ++ s⟩ := by
  simp [substHead]

/-- the `$FLAVOR` pass of `Product._resolve` over the segments of a path -/
def flavSegs (m : Macros) (segs : List Str) : List Str :=
  if m.flavor.isEmpty then segs else segs.map (substFlavor m.flavor)

theorem flavSegs_plain (m : Macros) (segs : List Str) (h : No36 segs) : flavSegs m segs = segs := by
  unfold flavSegs
  split
  · rfl
  · exact map_substFlavor_id _ _ h

theorem flavSegs_append (m : Macros) (a b : List Str) : flavSegs m (a ++ b) = flavSegs m a ++ flavSegs m b := by
  unfold flavSegs
  split <;> simp

theorem flavSegs_cons (m : Macros) (M : Str) (s : List Str) (hM : ∀ f, substFlavor f M = M) :
    flavSegs m (M :: s) = M :: flavSegs m s := by
  unfold flavSegs
  split <;> simp [hM]

theorem substFlavor_macro : ∀ M ∈ [mPROD_ROOT, mUPS_DB, mPROD_DIR, mUPS_DIR], ∀ f, substFlavor f M = M := by
  intro M hM f
  simp only [List.mem_cons, List.not_mem_nil, or_false] at hM
  rcases hM with rfl | rfl | rfl | rfl <;> rfl

/-- the dictionary `Product._resolve` goes through after the `$FLAVOR` pass, in its order; `skip` leaves `$PROD_DIR` out -/
def Macros.heads (m : Macros) (skip : Bool) : List (Str × Option Path) :=
  [(mPROD_ROOT, some m.prodRoot), (mUPS_DB, some m.upsDb), (mPROD_DIR, if skip then none else m.prodDir),
   (mUPS_DIR, m.upsDir)]

def substHeads (l : List (Str × Option Path)) (v : Path) : Path := l.foldl (fun v e => substHead e.1 e.2 v) v

theorem resolveMacros_eq (m : Macros) (b a : Bool) (segs : List Str) (h : a = true ∨ segs ≠ []) :
    resolveMacros m b ⟨a, segs⟩ = substHeads (m.heads b) ⟨a, flavSegs m segs⟩ := by
  have hne : (!(a || !segs.isEmpty)) = false := by
    rcases h with rfl | h
    · rfl
    · cases segs <;> simp_all
  unfold resolveMacros flavSegs
  simp only [hne, Bool.false_eq_true, if_false]
  have hnone : ∀ name v, substHead name none v = v := fun _ _ => rfl
  by_cases hf : m.flavor.isEmpty = true <;> cases b <;>
    simp only [hf, substHeads, Macros.heads, List.foldl_cons, List.foldl_nil, if_true, if_false, Bool.false_eq_true, hnone]

theorem substHeads_abs (l : List (Str × Option Path)) (segs : List Str) : substHeads l ⟨true, segs⟩ = ⟨true, segs⟩ :=
  foldl_fixed fun e _ => substHead_abs e.1 e.2 segs

theorem substHeads_other (l : List (Str × Option Path)) (v : Path) (h : ∀ e ∈ l, v.segs.head? ≠ some e.1) :
    substHeads l v = v := foldl_fixed fun e he => substHead_other e.1 e.2 v (h e he)

theorem substHeads_hit (l : List (Str × Option Path)) (M : Str) (r s : List Str) (hnd : (l.map (·.1)).Nodup)
    (hM : (M, some ⟨true, r⟩) ∈ l) : substHeads l ⟨false, M :: s⟩ = ⟨true, r ++ s⟩ := by
  induction l with
  | nil => cases hM
  | cons e l ih =>
    rw [List.map_cons, List.nodup_cons] at hnd
    rw [substHeads, List.foldl_cons]
    rcases List.mem_cons.mp hM with rfl | hM
    · rw [substHead_hit]; exact substHeads_abs l _
    · rw [substHead_other _ _ _ fun e' => hnd.1 (by rw [← Option.some.inj e']; exact List.mem_map_of_mem (f := (·.1)) hM)]
      exact ih hnd.2 hM

theorem resolveMacros_abs_flav (m : Macros) (b : Bool) (segs : List Str) :
    resolveMacros m b ⟨true, segs⟩ = ⟨true, flavSegs m segs⟩ := by
  rw [resolveMacros_eq m b true segs (Or.inl rfl), substHeads_abs]

theorem heads_names (m : Macros) (b : Bool) : (m.heads b).map (·.1) = [mPROD_ROOT, mUPS_DB, mPROD_DIR, mUPS_DIR] := rfl

theorem heads_name {m : Macros} {b : Bool} {M : Str} {x : Option Path} (h : (M, x) ∈ m.heads b) :
    M ∈ [mPROD_ROOT, mUPS_DB, mPROD_DIR, mUPS_DIR] :=
  heads_names m b ▸ List.mem_map_of_mem (f := (·.1)) h

theorem resolveMacros_plain (m : Macros) (b : Bool) (v : Path) (h : No36 v.segs) : resolveMacros m b v = v := by
  obtain ⟨a, segs⟩ := v
  by_cases hv : a = true ∨ segs ≠ []
  · rw [resolveMacros_eq m b a segs hv, flavSegs_plain m segs h]
    refine substHeads_other _ _ fun e he hx => ?_
    have h36 : 36 ∈ e.1 := by
      have := heads_name (x := e.2) he
      simp only [List.mem_cons, List.not_mem_nil, or_false] at this
      rcases this with h | h | h | h <;> rw [h] <;> decide +kernel
    cases segs with
    | nil => cases hx
    | cons x xs => cases hx; exact h _ (by simp) h36
  · have : (!(a || !segs.isEmpty)) = true := by
      cases a <;> cases segs <;> simp_all
    simp [resolveMacros, this]

theorem resolveMacros_abs (m : Macros) (b : Bool) (segs : List Str) (h : ∀ s ∈ segs, 36 ∉ s) :
    resolveMacros m b ⟨true, segs⟩ = ⟨true, segs⟩ := resolveMacros_plain m b _ h

theorem resolveMacros_head (m : Macros) (b : Bool) (M : Str) (r s : List Str) (hM : (M, some ⟨true, r⟩) ∈ m.heads b) :
    resolveMacros m b ⟨false, M :: s⟩ = ⟨true, r ++ flavSegs m s⟩ := by
  rw [resolveMacros_eq m b false _ (Or.inr (by simp)), flavSegs_cons m _ s (substFlavor_macro M (heads_name hM)),
    substHeads_hit _ M r _ (by rw [heads_names]; decide +kernel) hM]

theorem contains36_false (s : Str) (h : 36 ∉ s) : s.contains 36 = false := by
  simp [h]

theorem hasDollar_false (abs : Bool) (segs : List Str) (h : No36 segs) : hasDollar ⟨abs, segs⟩ = false := by
  simp only [hasDollar, List.any_eq_false]
  intro s hs
  simp [h s hs]

theorem trimKeyR_id (ex : Path → Bool) (td : Option Path) : trimKeyR id ex td = trimKey ex td := by
  funext i k
  unfold trimKeyR trimKey
  rfl

theorem trimInfoR_id (ex : Path → Bool) (td : Option Path) (order : List PKey) (i : PInfo) :
    trimInfoR id ex td order i = trimInfo ex td order i := by
  unfold trimInfoR trimInfo
  rw [trimKeyR_id]

theorem declarePathsR_id (ex : Path → Bool) (p : Prod) (old : Option PInfo) : declarePathsR id ex p old = declarePaths ex p old := by
  unfold declarePathsR declarePaths
  simp only [trimInfoR_id]

theorem declareRecR_id (ex : Path → Bool) (who now : Str) (vr : VRec) (p : Prod) :
    declareRecR id ex who now vr p = declareRec ex who now vr p := by
  unfold declareRecR declareRec
  simp only [declarePathsR_id, trimInfoR_id]

theorem realOf_nil (p : Path) : realOf [] p = p := rfl

theorem realOf_through (l t a : List Str) :
    realOf [(absP l, absP t)] (absP (l ++ a)) = absP (t ++ a) := by
  simp [realOf, Path.subpath, absP, isPrefixOf_append_self]

theorem realOf_under (l t a b : List Str) :
    (realOf [(absP l, absP t)] (absP (l ++ a))).under (realOf [(absP l, absP t)] (absP (l ++ b)))
      = (absP (l ++ a)).under (absP (l ++ b)) := by
  rw [realOf_through, realOf_through]
  simp only [absP, under_append_left]

end EupsModel.Record
