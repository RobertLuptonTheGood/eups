import EupsModel.Model.FsTab
import EupsModel.Lemmas.FsStore
/-! Lemmas for database-held table files under a kill (C08): the record component of a crash state of the extended
commands is the crash state of `Model/FsEff.lean`; the table component is a prefix of `copyEffects`, which is read in
the vocabulary of `Lemmas/FsStore.lean` (`TEff.toS`) so that frame and old-or-new come from `frame` and `atomic_write`. -/
namespace EupsModel.FsEff
open EupsModel.Store

theorem isStore_tab : IsStore Prod.fst Prod.snd tget tset tdel where
  get_eq t f := by unfold tget; generalize List.find? _ _ = o; cases o <;> rfl
  set_nil f c := ⟨(f, c), rfl, rfl, rfl⟩
  set_cons := fun (_, _) _ f c => ⟨(f, c), rfl, rfl, rfl⟩
  del_nil _ := rfl
  del_cons := fun (_, _) _ _ => rfl

theorem tget_tset (t : TabFs) (f g : TPath) (c : TFile) : tget (tset t f c) g = if g = f then some c else tget t g :=
  isStore_tab.get_set t f g c

theorem tget_tdel (t : TabFs) (f g : TPath) : tget (tdel t f) g = if g = f then none else tget t g :=
  isStore_tab.get_del t f g

def applyTAll (t : TabFs) (es : List TEff) : TabFs := es.foldl applyTEff t

theorem applyAll2_rec (db : Db) (es : List Eff) :
    applyAll2 db (es.map .onRec) = { db with fs := applyAll db.fs es } := by
  induction es generalizing db with
  | nil => rfl
  | cons e r ih => exact ih (applyEff2 db (.onRec e))

theorem applyAll2_tab (db : Db) (es : List TEff) :
    applyAll2 db (es.map .onTab) = { db with tabs := applyTAll db.tabs es } := by
  induction es generalizing db with
  | nil => rfl
  | cons e r ih => exact ih (applyEff2 db (.onTab e))

theorem applyAll2_append (db : Db) (a b : List Eff2) : applyAll2 db (a ++ b) = applyAll2 (applyAll2 db a) b := by
  simp [applyAll2, List.foldl_append]

theorem crashAt2_eq (cfg : Cfg) (db : Db) (c : Cmd2) (k : Nat) :
    crashAt2 cfg db c k =
      { fs := crashAt cfg db.fs c.onRecords k,
        tabs := applyTAll db.tabs ((tabEffects cfg c).take (k - (effects cfg db.fs c.onRecords).length)) } := by
  unfold crashAt2 effects2
  rw [List.take_append, applyAll2_append]
  rw [← List.map_take, ← List.map_take, applyAll2_rec, applyAll2_tab]
  simp [crashAt]

theorem crashAt2_fs (cfg : Cfg) (db : Db) (c : Cmd2) (k : Nat) :
    (crashAt2 cfg db c k).fs = crashAt cfg db.fs c.onRecords k := by rw [crashAt2_eq]

theorem crashAt2_tabs (cfg : Cfg) (db : Db) (c : Cmd2) (k : Nat) :
    (crashAt2 cfg db c k).tabs =
      applyTAll db.tabs ((tabEffects cfg c).take (k - (effects cfg db.fs c.onRecords).length)) := by rw [crashAt2_eq]

def touches (k : TKey) (f : TPath) : Prop := f = .main k ∨ f = .tmp k

def TEff.toS : TEff → SEff TPath TFile
  | .creat f => .set f .empty
  | .write f n last => .set f (if last then .full n else .part)
  | .close _ => .nop
  | .rename a b => .rename a b
  | .unlink f => .del f

theorem tget_applyTEff (t : TabFs) (e : TEff) : tget (applyTEff t e) = e.toS.apply (tget t) := by
  cases e with
  | creat f | write f n last => exact funext fun g => tget_tset ..
  | close f => rfl
  | unlink f => exact funext fun g => tget_tdel ..
  | rename a b =>
    simp only [applyTEff, TEff.toS, SEff.apply]
    cases tget t a with
    | none => rfl
    | some c => exact funext fun g => by rw [tget_tset, tget_tdel]

theorem tget_applyTAll (t : TabFs) (es : List TEff) :
    tget (applyTAll t es) = (es.map TEff.toS).foldl SEff.apply (tget t) :=
  foldl_view tget TEff.toS tget_applyTEff es t

theorem copy_frame (atomic : Bool) (k : TKey) (n : Nat) (t : TabFs) (j : Nat) (g : TPath) (h : ¬ touches k g) :
    tget (applyTAll t ((copyEffects atomic k n).take j)) g = tget t g := by
  obtain ⟨hg, hg'⟩ := not_or.mp h
  rw [tget_applyTAll, List.map_take]
  refine frame (tget t) _ g (fun e he => ?_) j
  cases atomic <;>
    simp only [copyEffects, if_true, if_false, Bool.false_eq_true, List.map_cons, List.map_nil, List.mem_cons,
      List.not_mem_nil, or_false] at he <;>
    rcases he with rfl | rfl | rfl | rfl <;> simp [TEff.toS, SEff.touched, hg, hg']

theorem copy_atomic_final (k : TKey) (n : Nat) (t : TabFs) :
    tget (applyTAll t (copyEffects true k n)) (.main k) = some (.full n) := by
  simp [copyEffects, applyTAll, applyTEff, tget_tset]

theorem copy_atomic (k : TKey) (n : Nat) (t : TabFs) (j : Nat) :
    tget (applyTAll t ((copyEffects true k n).take j)) (.main k) = tget t (.main k) ∨
    tget (applyTAll t ((copyEffects true k n).take j)) (.main k) = some (.full n) := by
  rw [tget_applyTAll, List.map_take]
  -- creat, write, close touch only the temporary file, which then holds the copy
  exact (atomic_write [.set (.tmp k) .empty, .set (.tmp k) (.full n), .nop] (.tmp k) (.main k) (.full n) (tget t)
    (by simp [SEff.touched]) (by simp [SEff.apply]) (.main k) nofun j).imp_right And.right

end EupsModel.FsEff
