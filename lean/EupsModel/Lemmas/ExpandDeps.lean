import EupsModel.Lemmas.ExpandCollect
import EupsModel.Model.Deps
/-! Bridge between the model of `expandTableFile` (`Model/Expand.lean`, property C17), which takes the answers of
`getDependencies(n, v, setup=True, shouldRaise=True)` as data, and the model of the dependency listing
(`Model/Deps.lean`, property C13): the answers computed by the C13 model satisfy C17's hypothesis `DepsSound`. -/
namespace EupsModel.Expand

/-- `eups.app.getDependencies(n, v, eupsenv, setup=True, shouldRaise=True)` over the C13 model:
`topProduct = findProduct(n, v)`, `[]` when it is not declared, otherwise
`getDependentProducts(topProduct, setup=True, shouldRaise=True)` — the C13 listing with every product replaced by the
version of it that is set up (`Deps.getDependentProductsSetup`, not topological).  `setup` is the environment's
`SETUP_<P>` records (name ↦ version).  `raises n v` stands for "`shouldRaise=True` raised" (a required product of the
listing is not set up); nothing below depends on which answers raise.  Out of fuel is "no answer". -/
def depsOfModel (db : Deps.Db) (fuel : Nat) (setup : List (Str × Str)) (raises : Str → Str → Bool) (n v : Str) : DepsAnswer :=
  match db.find n (some v) with
  | none => .ok []
  | some top =>
    if raises n v then .raised
    else match Deps.getDependentProductsSetup db fuel top setup false false with
      | .ok l => .ok (l.filterMap fun e => e.prod.ver.map fun ver => (⟨e.prod.name, ver, e.optional⟩ : Dep))
      | _ => .unknown

theorem adjustSetup_sound (db : Deps.Db) (setup : List (Str × Str)) (out : List Deps.Entry) :
    ∀ e ∈ Deps.adjustSetup db setup out, ∃ v, e.prod.ver = some v ∧ setup.lookup e.prod.name = some v := by
  intro e he
  unfold Deps.adjustSetup at he
  simp only [List.mem_filterMap] at he
  obtain ⟨e0, _, h⟩ := he
  cases hl : setup.lookup e0.prod.name with
  | none => simp [hl] at h
  | some v =>
    simp only [hl] at h
    split at h
    · simp at h; subst h; exact ⟨v, rfl, hl⟩
    · simp at h

theorem getDependentProductsSetup_sound (db : Deps.Db) (fuel : Nat) (top : Deps.Prod) (setup : List (Str × Str))
    (l : List Deps.Entry) (h : Deps.getDependentProductsSetup db fuel top setup false false = .ok l) :
    ∀ e ∈ l, ∃ v, e.prod.ver = some v ∧ setup.lookup e.prod.name = some v := by
  unfold Deps.getDependentProductsSetup at h
  split at h
  · cases h; simp
  · split at h
    · cases h
    · rename_i out st _
      simp [Deps.finishListing] at h
      subst h
      exact adjustSetup_sound db setup out

theorem depsSound_of_depsModel (db : Deps.Db) (fuel : Nat) (setup : List (Str × Str)) (raises : Str → Str → Bool)
    (A : Answers) (hsv : ∀ n, A.sv n = setup.lookup n)
    (hdeps : ∀ n v, A.deps n v = depsOfModel db fuel setup raises n v) : DepsSound A := by
  intro n v l hl d hd
  rw [hdeps, depsOfModel] at hl
  split at hl
  · cases hl; simp at hd
  · split at hl
    · cases hl
    · split at hl
      · rename_i lst hlst
        cases hl
        simp only [List.mem_filterMap] at hd
        obtain ⟨e, he, hmap⟩ := hd
        obtain ⟨ver, hver, hlook⟩ := getDependentProductsSetup_sound db fuel _ setup lst hlst e he
        simp [hver] at hmap
        subst hmap
        simpa [hsv] using hlook
      · cases hl

end EupsModel.Expand
