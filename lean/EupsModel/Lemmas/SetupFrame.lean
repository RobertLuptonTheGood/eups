import EupsModel.Lemmas.SetupSpec
/-! Instances of the subject-indexed invariant: what belongs to a product name that no request of the run can
have as its subject stays as it was (C04 frame and depth clauses); records stay paired with their directory
variable (C01 clause (a)); for tables that contribute through their own `${PRODUCT_DIR}` (`OwnTables`), the invariants
over the closure of a request that the C02 round trip rests on; a shell function no table of a subject defines stays
untouched (C04 alias clause, on the alias table: `aliasFree_stInv`).  The subjects are those of `Within`. -/
namespace EupsModel.Setup

def ownedBy (m : Name) : Elem → Bool
  | .own p _ => decide (p.1 = m)
  | .foreign _ => false

/-- the sub-list of the elements of a path variable selected by `f` (as `pathUnique` leaves it) -/
def partBy (f : Elem → Bool) (e : Env) (var : Str) : List Elem := PathAlg.uniq ((e.pathOf var).filter f)

theorem partBy_of_all {f : Elem → Bool} {e : Env} {var : Str} (h : ∀ x ∈ e.pathOf var, f x = true) :
    partBy f e var = PathAlg.uniq (e.pathOf var) := by
  rw [partBy, List.filter_eq_self.mpr h]

def ownPart (m : Name) (e : Env) (var : Str) : List Elem := partBy (ownedBy m) e var

/-- record, directory variable and own path elements (order included) of `m` are the same in both environments -/
structure SameFor (m : Name) (e0 e : Env) : Prop where
  record : e.rec? m = e0.rec? m
  dir : aget e.dirs m = aget e0.dirs m
  path : ∀ var, ownPart m e var = ownPart m e0 var

theorem SameFor.refl (m : Name) (e : Env) : SameFor m e e := ⟨rfl, rfl, fun _ => rfl⟩

theorem ownedBy_elem (m : Name) (p : Prod) (val : Val) (h : p.1 ≠ m) : ownedBy m (val.elem p) = false := by
  cases val <;> simp [Val.elem, ownedBy, h]

theorem partBy_addPath (f : Elem → Bool) (e : Env) (var var2 : Str) (xs : List Elem) (app : Bool)
    (hx : ∀ x ∈ xs, f x = false) : partBy f (e.addPath var xs app) var2 = partBy f e var2 := by
  by_cases hv : var2 = var
  · subst hv
    unfold partBy
    rw [pathOf_addPath_same, PathAlg.filter_applyL f app true xs _ hx, PathAlg.filter_uniq, PathAlg.uniq_idem]
  · unfold partBy; rw [pathOf_addPath_other e var var2 xs app hv]

theorem partBy_removePath (f : Elem → Bool) (e : Env) (var var2 : Str) (xs : List Elem)
    (hx : ∀ x ∈ xs, f x = false) : partBy f (e.removePath var xs) var2 = partBy f e var2 := by
  by_cases hv : var2 = var
  · subst hv
    unfold partBy
    rw [pathOf_removePath_same, PathAlg.filter_applyL f false false xs _ hx, PathAlg.filter_uniq, PathAlg.uniq_idem]
  · unfold partBy; rw [pathOf_removePath_other e var var2 xs hv]

theorem partBy_apply (f : Elem → Bool) (fwd : Bool) (p : Prod) (a : Act) (s : St)
    (hf : ∀ v vals app, a = .prepend v vals app → ∀ val ∈ vals, f (val.elem p) = false) (var : Str) :
    partBy f (a.apply fwd p s).env var = partBy f s.env var := by
  cases a with
  | prepend v vals app =>
    have hx : ∀ x ∈ vals.map (Val.elem p), f x = false := by
      intro x hxm
      obtain ⟨val, hval, rfl⟩ := List.mem_map.1 hxm
      exact hf v vals app rfl val hval
    cases fwd
    · exact partBy_removePath f s.env v var _ hx
    · exact partBy_addPath f s.env v var _ app hx
  | set v val => cases fwd <;> rfl
  | alias k v => cases fwd <;> rfl
  | dep n o j v x t kl => rfl

theorem ownPart_apply (m : Name) (fwd : Bool) (p : Prod) (a : Act) (s : St) (hp : p.1 ≠ m) (var : Str) :
    ownPart m (a.apply fwd p s).env var = ownPart m s.env var :=
  partBy_apply (ownedBy m) fwd p a s (fun _ _ _ _ val _ => ownedBy_elem m p val hp) var

theorem SameFor.apply {m : Name} {e0 : Env} (fwd : Bool) (p : Prod) (a : Act) (s : St) (hp : p.1 ≠ m)
    (h : SameFor m e0 s.env) : SameFor m e0 (a.apply fwd p s).env :=
  ⟨by rw [apply_rec?]; exact h.record, by rw [apply_dirs]; exact h.dir,
   fun var => by rw [ownPart_apply m fwd p a s hp]; exact h.path var⟩

theorem sameFor_subjInv (cfg : Cfg) (S : Nat → Name → Prop) (m : Name) (hm : ∀ k, ¬ S k m) (e0 : Env) :
    SubjInv cfg S (SameFor m e0) := by
  refine ⟨?_, ?_, ?_⟩
  · intro fwd k d a s _ _ hS hp
    exact hp.apply fwd d.prod a s fun e => hm k (e ▸ hS)
  · intro k d r s _ hS hp
    have hne : m ≠ d.name := fun e => hm k (e ▸ hS)
    exact ⟨(record_rec?_other d r s m hne).trans hp.record, (record_dirs_other d r s m hne).trans hp.dir, hp.path⟩
  · intro k d e _ hS hp
    have hne : m ≠ d.name := fun e => hm k (e ▸ hS)
    exact ⟨(unrec_rec?_other e d.name m hne).trans hp.record, (unrec_dirs_other e d.name m hne).trans hp.dir, hp.path⟩

/-- C01 clause (a): every record names a declared version and `<P>_DIR` is that version's directory -/
def DirOK (db : Db) (e : Env) : Prop :=
  ∀ n v, e.rec? n = some v → (∃ d, db.lookup (n, v) = some d) ∧ aget e.dirs n = some (.own (n, v) [])

theorem dirOK_subjInv (cfg : Cfg) : SubjInv cfg (fun _ _ => True) (DirOK cfg.db) := by
  refine ⟨?_, ?_, ?_⟩
  · intro fwd k d a s _ _ _ hp n v h
    rw [apply_rec?] at h
    rw [apply_dirs]; exact hp n v h
  · intro k d r s hc _ hp n v h
    by_cases hn : n = d.name
    · subst hn
      rw [record_rec?_same] at h
      have hv : d.ver = v := Option.some.inj h
      subst hv
      exact ⟨⟨d, hc⟩, by simp [record, aget_aset_same, Decl.prod]⟩
    · rw [record_rec?_other d r s n hn] at h
      obtain ⟨h1, h2⟩ := hp n v h
      exact ⟨h1, (record_dirs_other d r s n hn).trans h2⟩
  · intro k d e _ _ hp n v h
    have h' : aget (aunset e.recs d.name) n = some v := h
    obtain ⟨h0, hn⟩ := aget_aunset_some _ _ _ _ h'
    obtain ⟨h1, h2⟩ := hp n v h0
    exact ⟨h1, (unrec_dirs_other e d.name n hn).trans h2⟩

def Closed (db : Db) (S : Name → Prop) : Prop :=
  ∀ d ∈ db.decls, S d.name → ∀ g n o j v x t kl, (g, Act.dep n o j v x t kl) ∈ d.table → S n

theorem Closed.dep {db : Db} {S : Name → Prop} (h : Closed db S) {d : Decl} (hc : Canon db d) (hS : S d.name) {exact : Bool}
    {n : Name} {o j : Bool} {v : Option VerReq} {x : Option VExpr} {t : List Str} {kl : Bool}
    (hm : Act.dep n o j v x t kl ∈ d.actions exact) : S n := by
  obtain ⟨hd, g, hg⟩ := canon_table_mem db d hc exact _ hm
  exact h d hd hS g n o j v x t kl hg

theorem closed_closedAt (cfg : Cfg) (S : Name → Prop) (h : Closed cfg.db S) : ClosedAt cfg (fun _ n => S n) :=
  fun d hd _ hS _ g n o j v x t kl hg => h d hd hS g n o j v x t kl hg

/-- `Within db top k n`: a path of exactly `k` dependency lines (of any declared version, under any guard)
leads from `top` to `n` -/
inductive Within (db : Db) (top : Name) : Nat → Name → Prop where
  | root : Within db top 0 top
  | step {k : Nat} {a n : Name} {d : Decl} {g : Guard} {o j : Bool} {v : Option VerReq} {x : Option VExpr} :
      Within db top k a → d ∈ db.decls → d.name = a → (g, Act.dep n o j v x t kl) ∈ d.table → Within db top (k + 1) n

theorem within_rank (db : Db) (rank : Name → Nat) (hdag : NameDag db rank) (top : Name) :
    ∀ k n, Within db top k n → rank n + k ≤ rank top := by
  intro k n hw
  induction hw with
  | root => exact Nat.le_refl _
  | step _ hd hn hg ih =>
    have := hdag _ hd _ _ _ _ _ _ _ _ hg
    rw [hn] at this
    omega

theorem within_closedAt (cfg : Cfg) (top : Name) (N : Nat) (hN : cfg.maxDepth = some N) :
    ClosedAt cfg (fun k n => Within cfg.db top k n ∧ k ≤ N) := by
  intro d hd k hS hmd g n o j v x t kl hg
  have hk : k ≠ N := fun e => hmd (by rw [hN, e])
  exact ⟨Within.step hS.1 hd rfl hg, by omega⟩

theorem within_closed (db : Db) (top : Name) : Closed db (fun n => ∃ k, Within db top k n) :=
  fun _ hd ⟨k, hk⟩ _ _ _ _ _ _ _ _ hg => ⟨k + 1, Within.step hk hd rfl hg⟩

theorem within_closedAt_unbounded (cfg : Cfg) (top : Name) :
    ClosedAt cfg (fun _ n => ∃ k, Within cfg.db top k n) :=
  closed_closedAt cfg _ (within_closed cfg.db top)

theorem within_withTypes (db : Db) (types : List Str) (top : Name) :
    ∀ k n, Within (db.withTypes types) top k n → Within db top k n := by
  intro k n hw
  induction hw with
  | root => exact Within.root
  | step _ hd hn hg ih =>
    simp only [Db.withTypes, List.mem_map] at hd
    obtain ⟨d0, hd0, rfl⟩ := hd
    simp only [Decl.withTypes, List.mem_map] at hg
    obtain ⟨ga, hga, he⟩ := hg
    obtain ⟨g0, a0⟩ := ga
    simp only [Prod.mk.injEq] at he
    obtain ⟨_, rfl⟩ := he
    exact Within.step ih hd0 hn hga

/-- every `envPrepend` / `envAppend` / `envSet` value is `${PRODUCT_DIR}…` -/
def OwnTables (db : Db) : Prop :=
  ∀ d ∈ db.decls, ∀ g a, (g, a) ∈ d.table →
    (∀ var vals app, a = Act.prepend var vals app → ∀ val ∈ vals, ∃ rel, val = Val.own rel) ∧
    (∀ var val, a = Act.set var val → ∃ rel, val = .own rel)

def SetVar (db : Db) (S : Name → Prop) (var : Str) : Prop :=
  ∃ d ∈ db.decls, S d.name ∧ ∃ g val, (g, Act.set var val) ∈ d.table

structure VarsInv (db : Db) (S : Name → Prop) (e0 e : Env) : Prop where
  other : ∀ var, ¬ SetVar db S var → aget e.vars var = aget e0.vars var
  mine : ∀ var, SetVar db S var → aget e.vars var = none ∨ ∃ p rel, aget e.vars var = some (.own p rel) ∧ S p.1

def DirClean (S : Name → Prop) (e : Env) : Prop := ∀ n, S n → e.rec? n = none → aget e.dirs n = none

theorem partBy_subjInvAt (cfg : Cfg) (S : Nat → Name → Prop) (hown : OwnTables cfg.db) (f : Elem → Bool)
    (hf : ∀ k p rel, S k p.1 → f (.own p rel) = false) (e0 : Env) :
    SubjInv cfg S (fun e => ∀ var, partBy f e var = partBy f e0 var) := by
  refine ⟨?_, fun _ _ _ _ _ _ hp => hp, fun _ _ _ _ _ hp => hp⟩
  intro fwd k d a s hc ha hS hp var
  obtain ⟨hd, g, hg⟩ := canon_table_mem cfg.db d hc cfg.exact a ha
  rw [partBy_apply f fwd d.prod a s ?_ var]
  · exact hp var
  · intro v vals app he val hval
    obtain ⟨rel, rfl⟩ := (hown d hd g a hg).1 v vals app he val hval
    exact hf k d.prod rel hS

theorem apply_vars_other (fwd : Bool) (p : Prod) (a : Act) (s : St) (var2 : Str) (h : ∀ val, a ≠ .set var2 val) :
    aget (a.apply fwd p s).env.vars var2 = aget s.env.vars var2 := by
  cases a with
  | set var val =>
    have hne : var2 ≠ var := fun e => h val (by rw [e])
    cases fwd
    · exact aget_aunset_other _ _ _ hne
    · exact aget_aset_other _ _ _ _ hne
  | prepend v vals app => cases fwd <;> rfl
  | alias k v => cases fwd <;> rfl
  | dep n o j v x t kl => rfl

theorem varsOther_subjInv (cfg : Cfg) (S : Nat → Name → Prop) (e0 : Env) :
    SubjInv cfg S (fun e => ∀ var, ¬ SetVar cfg.db (fun n => ∃ k, S k n) var → aget e.vars var = aget e0.vars var) := by
  refine ⟨?_, fun _ _ _ _ _ _ hp => hp, fun _ _ _ _ _ hp => hp⟩
  intro fwd k d a s hc ha hS hp var2 h2
  obtain ⟨hd, g, hg⟩ := canon_table_mem cfg.db d hc cfg.exact a ha
  rw [apply_vars_other fwd d.prod a s var2 fun val e => h2 ⟨d, hd, ⟨k, hS⟩, g, val, e ▸ hg⟩]
  exact hp var2 h2

theorem varsInv_subjInv (cfg : Cfg) (S : Name → Prop) (hown : OwnTables cfg.db) (e0 : Env) :
    SubjInv cfg (fun _ n => S n) (VarsInv cfg.db S e0) := by
  refine ⟨?_, fun _ _ _ _ _ _ hp => ⟨hp.other, hp.mine⟩, fun _ _ _ _ _ hp => ⟨hp.other, hp.mine⟩⟩
  intro fwd k d a s hc ha hS hp
  obtain ⟨hd, g, hg⟩ := canon_table_mem cfg.db d hc cfg.exact a ha
  constructor
  · intro var2 h2
    rw [apply_vars_other fwd d.prod a s var2 fun val e => h2 ⟨d, hd, hS, g, val, e ▸ hg⟩]
    exact hp.other var2 h2
  · intro var2 h2
    by_cases hv : ∃ val, a = .set var2 val
    · obtain ⟨val, rfl⟩ := hv
      obtain ⟨rel, rfl⟩ := (hown d hd g _ hg).2 var2 val rfl
      cases fwd
      · exact Or.inl (aget_aunset_same s.env.vars var2)
      · exact Or.inr ⟨d.prod, rel, aget_aset_same s.env.vars var2 _, hS⟩
    · rw [apply_vars_other fwd d.prod a s var2 fun val e => hv ⟨val, e⟩]
      exact hp.mine var2 h2

theorem dirClean_subjInv (cfg : Cfg) (S : Name → Prop) : SubjInv cfg (fun _ n => S n) (DirClean S) := by
  refine ⟨?_, ?_, ?_⟩
  · intro fwd k d a s _ _ _ hp n hn hr
    rw [apply_rec?] at hr
    rw [apply_dirs]; exact hp n hn hr
  · intro k d r s _ _ hp n hn hr
    have hne : n ≠ d.name := by
      intro e; subst e; rw [record_rec?_same] at hr; cases hr
    rw [record_rec?_other d r s n hne] at hr
    exact (record_dirs_other d r s n hne).trans (hp n hn hr)
  · intro k d e _ _ hp n hn hr
    by_cases hne : n = d.name
    · subst hne; exact aget_aunset_same _ _
    · rw [unrec_rec?_other e d.name n hne] at hr
      exact (unrec_dirs_other e d.name n hne).trans (hp n hn hr)

def AliasOf (db : Db) (S : Nat → Name → Prop) (key : Str) : Prop :=
  ∃ d ∈ db.decls, (∃ k, S k d.name) ∧ ∃ g val, (g, Act.alias key val) ∈ d.table

def AliasFree (key : Str) (s : St) : Prop := aget s.aliases key = none ∧ key ∉ s.unaliased

theorem apply_aliasFree (key : Str) (fwd : Bool) (p : Prod) (a : Act) (s : St) (ha : ∀ val, a ≠ .alias key val)
    (h : AliasFree key s) : AliasFree key (a.apply fwd p s) := by
  cases a with
  | prepend var vals app => exact h
  | set var val => exact h
  | dep n o j v x t kl => exact h
  | alias k2 val =>
    have hne : key ≠ k2 := fun e => ha val (by rw [e])
    cases fwd
    · refine ⟨?_, ?_⟩
      · show aget (aunset s.aliases k2) key = none
        rw [aget_aunset_other _ _ _ hne]; exact h.1
      · show key ∉ k2 :: s.unaliased.filter (· ≠ k2)
        intro hm
        rcases List.mem_cons.1 hm with hm | hm
        · exact hne hm
        · exact h.2 (List.mem_filter.1 hm).1
    · refine ⟨?_, h.2⟩
      show aget (aset s.aliases k2 val) key = none
      rw [aget_aset_other _ _ _ _ hne]; exact h.1

theorem aliasFree_stInv (cfg : Cfg) (S : Nat → Name → Prop) (key : Str) (hkey : ¬ AliasOf cfg.db S key) :
    StInv cfg S (AliasFree key) := by
  refine ⟨?_, fun _ _ _ _ _ _ h => h, fun _ _ _ _ _ h => h, fun s s' _ ha hu h => by unfold AliasFree; rw [ha, hu]; exact h⟩
  intro fwd k d a s hc ha hS h
  refine apply_aliasFree key fwd d.prod a s ?_ h
  intro val e
  obtain ⟨hd, g, hg⟩ := canon_table_mem cfg.db d hc cfg.exact _ ha
  exact hkey ⟨d, hd, ⟨k, hS⟩, g, val, e ▸ hg⟩

def ownTablesB (db : Db) : Bool :=
  db.decls.all fun d => d.table.all fun ga =>
    match ga.2 with
    | .prepend _ vals _ => vals.all fun v => match v with
      | .own _ => true
      | .lit _ => false
    | .set _ (.lit _) => false
    | _ => true

theorem ownTables_of_check (db : Db) (h : ownTablesB db = true) : OwnTables db := by
  intro d hd g a hg
  have h2 := all_lines h hd hg
  constructor
  · intro var vals app he val hval
    subst he
    simp only [List.all_eq_true] at h2
    have h3 := h2 val hval
    cases val with
    | own rel => exact ⟨rel, rfl⟩
    | lit s => simp at h3
  · intro var val he
    subst he
    cases val with
    | own rel => exact ⟨rel, rfl⟩
    | lit s => simp at h2

end EupsModel.Setup
