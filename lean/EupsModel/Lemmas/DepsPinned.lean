import EupsModel.Lemmas.DepsTopo
import EupsModel.Lemmas.DepsGuard
/-! What the topological listing guarantees when the closure holds a product in several versions (D31), stated on the
graph the code really sorts: the **pinned** graph — the tables opened in the second pass of `getDependentProducts`, every
name resolved to the version of its last entry in the plain listing.  Under `SingleVersion` it is the closure itself. -/
namespace EupsModel.Deps

/-- paths along the lines of the tables opened under the required versions `req` -/
inductive DepPathR (db : Db) (req : Required) (top : Prod) : Prod → Prod → Prop
  | refl (a : Prod) : DepPathR db req top a a
  | step {a b c : Prod} : XReach db req top a → Edge db req a b → DepPathR db req top b c → DepPathR db req top a c

/-- paths along the lines of opened tables: `DepPathR` with nothing required (`depPath_iff`) -/
inductive DepPath (db : Db) (top : Prod) : Prod → Prod → Prop
  | refl (a : Prod) : DepPath db top a a
  | step {a b c : Prod} : XReach db [] top a → Edge db [] a b → DepPath db top b c → DepPath db top a c

theorem DepPathR.of_depPath {db : Db} {top a b : Prod} (h : DepPath db top a b) : DepPathR db [] top a b := by
  induction h with
  | refl => exact DepPathR.refl _
  | step h1 h2 _ ih => exact DepPathR.step h1 h2 ih

theorem DepPathR.to_depPath {db : Db} {top a b : Prod} (h : DepPathR db [] top a b) : DepPath db top a b := by
  induction h with
  | refl => exact DepPath.refl _
  | step h1 h2 _ ih => exact DepPath.step h1 h2 ih

theorem depPath_iff {db : Db} {top a b : Prod} : DepPath db top a b ↔ DepPathR db [] top a b :=
  ⟨.of_depPath, DepPathR.to_depPath⟩

theorem path_iff {db : Db} {req : Required} {top : Prod} {out : List Entry} {st : St}
    (C : Exact db req top out st) (a b : Prod) :
    Topo.Path (Topo.normalise (graphOf st)) a b ↔ DepPathR db req top a b := by
  constructor <;> intro h
  · induction h with
    | refl => exact .refl _
    | step hab _ ih =>
      obtain ⟨_, h1, h2⟩ := (succs_graph_iff C _ _).mp hab
      exact .step h1 h2 ih
  · induction h with
    | refl => exact .refl _
    | @step a' b' c' h1 h2 _ ih =>
      -- a line that denotes the product itself is no edge of the graph
      by_cases hba : b' = a'
      · subst hba; exact ih
      · exact .step ((succs_graph_iff C _ _).mpr ⟨hba, h1, h2⟩) ih

/-- the pins `getDependentProducts` derives for `top` with the driver's fuel -/
def pins (db : Db) (top : Prod) : Required :=
  match listing db db.fuel [] top with
  | some (out, _) => pinsOf out
  | none => []

/-- no two different nodes of the pinned closure (the root included) bear the same name; `SingleVersion db top` is
`PinnedSingle db [] top` -/
def PinnedSingle (db : Db) (req : Required) (top : Prod) : Prop :=
  ∀ u v, (u = top ∨ Listed db req top u) → (v = top ∨ Listed db req top v) → u.name = v.name → u = v

theorem pins_eq {db : Db} {top : Prod} {out : List Entry} {st : St} (h : listing db db.fuel [] top = some (out, st)) :
    pins db top = pinsOf out := by
  simp [pins, h]

theorem PinnedSingle.of_mem {db : Db} {req : Required} {top : Prod} {l : List Prod} (htop : top ∈ l)
    (hmem : ∀ u, Listed db req top u → u ∈ l) (hc : ∀ u ∈ l, ∀ v ∈ l, u.name = v.name → u = v) :
    PinnedSingle db req top :=
  fun u v hu hv => hc u (hu.elim (· ▸ htop) (hmem u)) v (hv.elim (· ▸ htop) (hmem v))

/-- **What a successful topological run yields, without any hypothesis on versions**, on the pinned graph: when names are
unique among its nodes the depths respect every edge between different components. -/
theorem topo_pinned {db : Db} (hns : NoUnsetup db) {fuel : Nat} {top : Prod}
    {cc : Bool} {out : List Entry} (h : getDependentProducts db fuel top true cc = .ok out) :
    ∃ (out1 : List Entry) (st1 : St), listing db fuel [] top = some (out1, st1) ∧
      (PinnedSingle db (pinsOf out1) top → ∀ eu ∈ out, ∀ ev ∈ out, ∀ pu pv : Prod,
        pu.name = eu.prod.name → pv.name = ev.prod.name →
        XReach db (pinsOf out1) top pu → Edge db (pinsOf out1) pu pv → ¬ DepPathR db (pinsOf out1) top pv pu →
        ∃ du dv, eu.depth = some du ∧ ev.depth = some dv ∧ du < dv) := by
  obtain ⟨out1, st1, h1, _, hsecond⟩ := getDependentProducts_ok_inv (tableMissing_false hns top) h
  obtain ⟨_, st2, ls, h2, h3, rfl⟩ := hsecond rfl
  obtain ⟨o2, hd2, _⟩ := listing_unfold h2
  have C := depsOf_exact hns hd2
  obtain ⟨lvl, hl1, hl2, hl3, _⟩ := Topo.topologicalSort_ok h3
  refine ⟨out1, st1, h1, fun hps => ?_⟩
  -- the depth of an entry is that of the one pinned node bearing its name
  have hdepth : ∀ e ∈ relabel ls out1,
      ∀ p, (p = top ∨ Listed db (pinsOf out1) top p) → p.name = e.prod.name →
        e.depth = some (ls.length - lvl p) := by
    intro e he p hp hpn
    obtain ⟨e1, _, hprod, hdep⟩ := relabel_sound he
    obtain ⟨hlt, hiff⟩ := hl1 _ ((keys_graph_iff C _).mpr hp)
    have hname : depthOfName (depthAssignments (ls.length + 1) 0 ls) e1.prod.name
        = some (ls.length + 1 - lvl p - 1) := by
      apply depthOfName_unique hlt
      · exact ⟨p, (hiff _ hlt).mpr rfl, by rw [hpn, hprod]⟩
      · rintro j hj ⟨p', hp', hpn'⟩
        have hpl := (keys_graph_iff C p').mp (hl2 _ (List.getElem_mem hj) p' hp')
        cases hps _ _ hpl hp (by rw [hpn', hpn, hprod])
        exact (hiff j hj).mp hp'
    rw [hdep, hname, Nat.sub_sub, Nat.add_sub_add_right]
  intro eu hu ev hv pu pv hnu hnv hopen hedge hcomp
  have hlv : Listed db (pinsOf out1) top pv := ⟨pu, hopen, hedge⟩
  have hku := (keys_graph_iff C pu).mpr hopen.listed
  have hne : pv ≠ pu := fun he => hcomp (he ▸ DepPathR.refl _)
  have hlvl := hl3 pu hku pv ((succs_graph_iff C pu pv).mpr ⟨hne, hopen, hedge⟩)
    (fun hpath => hcomp ((path_iff C _ _).mp hpath))
  have h1u := (hl1 pu hku).1
  exact ⟨_, _, hdepth eu hu pu hopen.listed hnu, hdepth ev hv pv (Or.inr hlv) hnv, by omega⟩

theorem getDependentProducts_cycle_iff {db : Db} {fuel : Nat} {top : Prod} {topological : Bool}
    (hm : db.tableMissing top = false) {out1 : List Entry} {st1 : St} {o2 : List Entry} {st2 : St}
    (h1 : listing db fuel [] top = some (out1, st1))
    (h2 : listing db fuel (pinsOf out1) top = some (o2, st2)) :
    getDependentProducts db fuel top topological true = .cycle ↔
      Topo.topologicalSort (graphOf st2) true = .cycle := by
  rw [getDependentProducts_eq hm h1, h2]
  simp only [Bool.or_true, Bool.true_eq_false, if_false]
  split <;> simp [*]

theorem pinned_cycle_iff {db : Db} (hns : NoUnsetup db) {fuel : Nat} {top : Prod} {topological : Bool}
    {out1 : List Entry} {st1 : St} {o2 : List Entry} {st2 : St}
    (h1 : listing db fuel [] top = some (out1, st1)) (h2 : listing db fuel (pinsOf out1) top = some (o2, st2)) :
    getDependentProducts db fuel top topological true = .cycle ↔
      ∃ a b, a ≠ b ∧ DepPathR db (pinsOf out1) top a b ∧ DepPathR db (pinsOf out1) top b a := by
  obtain ⟨_, hd, _⟩ := listing_unfold h2
  rw [getDependentProducts_cycle_iff (tableMissing_false hns top) h1 h2, Topo.topologicalSort_cycle_iff]
  simp only [path_iff (depsOf_exact hns hd), true_and]

/-! ### required versions that resolve the lines of the opened tables alike open the same tables

So without a product in two versions the pinned graph is the closure itself (`resolve_second_pass`). -/

section Agree
variable {db : Db} {req req' : Required} {top : Prod}
  (hag : ∀ w, XReach db req top w → ∀ d ∈ db.table w, resolve db req' d = resolve db req d)
include hag

theorem xedge_congr {u w : Prod} (hu : XReach db req top u) : XEdge db req' u w ↔ XEdge db req u w :=
  exists_congr fun d => and_congr_right fun hd => by rw [hag u hu d hd]

theorem edge_congr {u v : Prod} (hu : XReach db req top u) : Edge db req' u v ↔ Edge db req u v :=
  exists_congr fun d => and_congr_right fun hd => by unfold target; rw [hag u hu d hd]

theorem xreach_congr (w : Prod) : XReach db req' top w ↔ XReach db req top w := by
  have to : ∀ {u v}, XReach db req' u v → XReach db req top u → XReach db req top v := by
    intro u v h
    induction h with
    | refl => exact id
    | head he _ ih => exact fun hu => ih (hu.tail ((xedge_congr hag hu).mp he))
  have back : ∀ {u v}, XReach db req u v → XReach db req top u → XReach db req' u v := by
    intro u v h
    induction h with
    | refl => exact fun _ => .refl _
    | head he _ ih => exact fun hu => .head ((xedge_congr hag hu).mpr he) (ih (hu.tail he))
  exact ⟨fun h => to h (.refl _), fun h => back h (.refl _)⟩

theorem listed_congr (v : Prod) : Listed db req' top v ↔ Listed db req top v :=
  exists_congr fun w =>
    ⟨fun ⟨hw, he⟩ => ⟨(xreach_congr hag w).mp hw, (edge_congr hag ((xreach_congr hag w).mp hw)).mp he⟩,
      fun ⟨hw, he⟩ => ⟨(xreach_congr hag w).mpr hw, (edge_congr hag hw).mpr he⟩⟩

theorem depPathR_congr (a b : Prod) : DepPathR db req' top a b ↔ DepPathR db req top a b := by
  constructor <;> intro h
  · induction h with
    | refl => exact .refl _
    | step h1 h2 _ ih =>
      exact .step ((xreach_congr hag _).mp h1) ((edge_congr hag ((xreach_congr hag _).mp h1)).mp h2) ih
  · induction h with
    | refl => exact .refl _
    | step h1 h2 _ ih => exact .step ((xreach_congr hag _).mpr h1) ((edge_congr hag h1).mpr h2) ih

theorem pinnedSingle_congr (h : PinnedSingle db req top) : PinnedSingle db req' top :=
  fun u v hu hv => h u v (hu.imp_right (listed_congr hag u).mp) (hv.imp_right (listed_congr hag v).mp)

end Agree

theorem listing_out_listed {db : Db} (hns : NoUnsetup db) {top : Prod} {f : Nat} {out : List Entry} {st : St}
    (h : listing db f [] top = some (out, st)) : ∀ e ∈ out, Listed db [] top e.prod := by
  obtain ⟨o, hd, rfl⟩ := listing_unfold h
  intro e he
  exact (depsOf_listed hns hd _).mp (List.mem_map_of_mem (List.mem_filter.mp he).1)

/-- a listing returned under `checkCycles`, no product in two versions: no two different products reach one another
along lines of opened tables.  Nothing is asked of the two products: a path between different ones begins at an opened
one. -/
theorem checked_listing_acyclic {db : Db} (hns : NoUnsetup db) {fuel : Nat} {top : Prod} (hsv : SingleVersion db top)
    {out : List Entry} (h : getDependentProducts db fuel top true true = .ok out) {a b : Prod}
    (hab : DepPath db top a b) (hba : DepPath db top b a) : a = b := by
  obtain ⟨out1, st1, h1, _, hsecond⟩ := getDependentProducts_ok_inv (tableMissing_false hns top) h
  obtain ⟨_, _, _, h2, _⟩ := hsecond rfl
  have hag := resolve_second_pass hsv (listing_out_listed hns h1)
  refine Classical.byContradiction fun hne => ?_
  have hcy := (pinned_cycle_iff (topological := true) hns h1 h2).mpr
    ⟨a, b, hne, (depPathR_congr hag a b).mpr (.of_depPath hab), (depPathR_congr hag b a).mpr (.of_depPath hba)⟩
  rw [h] at hcy
  cases hcy

end EupsModel.Deps
