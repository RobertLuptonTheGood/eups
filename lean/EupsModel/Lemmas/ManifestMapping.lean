import EupsModel.Lemmas.ManifestText
/-! `Mapping` (manifest.remap): a table is read through its per-product look-up `prodTable` and per-version look-up `lk`;
what `Mapping.add` does to them; rule lists (`buildMapping`) and operations on a live object (`runOps`); one rule, and
products no rule mentions; `inverse` as one loop over the table's entries (`inverse_eq_fold`) whose one-to-one test never
fires on distinct images (`fold_stepInv`). -/
namespace EupsModel.Manifest

def prodTable (m : MapTable) (fl p : Str) : Option (List (Str × (Str × Option Str))) :=
  (assocGet m fl).bind fun byP => assocGet byP p

theorem apply1_eq (m : Mapping) (inP inV fl : Str) :
    m.apply1 inP inV fl =
      match prodTable m.map fl inP with
      | none => (inP, some inV)
      | some byV =>
        if byV.isEmpty then (inP, none)
        else match assocGet byV inV with
          | some r => r
          | none => match assocGet byV sAny with
            | some r => r
            | none => (inP, some inV) := by
  unfold Mapping.apply1 prodTable
  cases assocGet m.map fl with
  | none => rfl
  | some byP =>
    cases assocGet byP inP with
    | none => rfl
    | some byV => rfl

theorem prodTable_tableAdd_other {pinned : Bool} {m : MapTable} {inP inV outP : Str} {outV : Option Str}
    {flavor : Str} {ow : Bool} {fl p : Str} (h : fl ≠ flavor ∨ p ≠ inP) :
    prodTable (tableAdd pinned m inP inV outP outV flavor ow) fl p = prodTable m fl p := by
  unfold prodTable tableAdd
  by_cases hf : fl = flavor
  · subst hf
    rw [assocGet_assocSet_same, Option.bind_some, assocGet_assocSet_other (h.resolve_left (· rfl))]
    cases assocGet m fl <;> rfl
  · rw [assocGet_assocSet_other hf]

structure Rule where
  inP : Str
  inV : Str
  outP : Option Str
  outV : Option Str
  flavor : Str
  overwrite : Bool := true

def addRule (pinned : Bool) (m : Mapping) (r : Rule) : Mapping :=
  m.addP pinned r.inP r.inV r.outP r.outV r.flavor r.overwrite

def buildMapping (pinned : Bool) (rules : List Rule) : Mapping := rules.foldl (addRule pinned) {}

/-- on a live `Mapping` object; `merge` is what `remapEntries(mapping=M)` does with the rules of the `manifest.remap` files -/
inductive MapOp
  | add (r : Rule) (overwrite : Bool)
  | merge (o : Mapping) (overwrite : Bool)

def MapOp.run (m : Mapping) : MapOp → Mapping
  | .add r ow => m.add r.inP r.inV r.outP r.outV r.flavor ow
  | .merge o ow => m.merge o ow

def runOps (ops : List MapOp) (m : Mapping) : Mapping := ops.foldl MapOp.run m

/-- a word that `Mapping.add` takes as a genuine out-version -/
def Plain (w : Str) : Prop := w ≠ [] ∧ lowerAscii w ≠ sNoreinstall

instance (w : Str) : Decidable (Plain w) := by unfold Plain; exact inferInstance

/-- an absent or `Plain` out-version goes into `map` -/
theorem addP_plain {pinned : Bool} {m : Mapping} {inP inV : Str} {outP outV : Option Str} {fl : Str} {ow : Bool}
    (h : ∀ W, outV = some W → Plain W) :
    m.addP pinned inP inV outP outV fl ow =
      { m with map := tableAdd pinned m.map inP inV (if falsy outP then inP else outP.getD []) outV fl ow } := by
  unfold Mapping.addP
  cases outV with
  | none => rfl
  | some W => simp [falsy_some (h W rfl).1, (h W rfl).2]

theorem prodTable_addP_other {pinned : Bool} {m : Mapping} {inP inV : Str} {outP outV : Option Str} {flavor : Str}
    {ow : Bool} {fl p : Str} (h : fl ≠ flavor ∨ p ≠ inP) :
    prodTable (m.addP pinned inP inV outP outV flavor ow).map fl p = prodTable m.map fl p := by
  simp only [Mapping.addP]
  split
  · rfl
  · exact prodTable_tableAdd_other h

theorem filterMap_id_on {α : Type} (g : α → Option α) (l : List α) (h : ∀ x ∈ l, g x = some x) : l.filterMap g = l := by
  induction l with
  | nil => rfl
  | cons x r ih => rw [List.filterMap_cons, h x (by simp), ih (fun y hy => h y (by simp [hy]))]

/-- a product without a table in any flavor is left alone -/
theorem apply_of_no_table (m : Mapping) (p v fl : Str) (h : ∀ f, prodTable m.map f p = none) :
    m.apply p v fl = (p, some v) := by
  have key : ∀ f, m.apply1 p v f = (p, some v) := fun f => by rw [apply1_eq, h f]
  simp [Mapping.apply, key]

theorem apply_unmentioned (pinned : Bool) (rules : List Rule) (p v fl : Str) (h : ∀ r ∈ rules, r.inP ≠ p) :
    (buildMapping pinned rules).apply p v fl = (p, some v) :=
  apply_of_no_table _ p v fl fun f =>
    foldl_invariant (P := fun m : Mapping => prodTable m.map f p = none) rfl fun _ r hr hm =>
      (prodTable_addP_other (.inr fun e => h r hr e.symm)).trans hm

theorem apply_of_apply1 (m : Mapping) (p v f q w : Str) (h : m.apply1 p v f = (q, some w)) (hne : (q, w) ≠ (p, v)) :
    m.apply p v f = (q, some w) := by
  have : ((q, some w) == (p, some v)) = false := by simpa using hne
  simp [Mapping.apply, h, this]

theorem apply_generic_only (T : List (Str × List (Str × (Str × Option Str)))) (nr : MapTable) (p v fl : Str) :
    ({ map := [(sGeneric, T)], noReinstall := nr } : Mapping).apply p v fl =
      ({ map := [(sGeneric, T)], noReinstall := nr } : Mapping).apply1 p v sGeneric := by
  by_cases hf : fl = sGeneric
  · subst hf; simp [Mapping.apply]
  · simp [Mapping.apply, Mapping.apply1, assocGet, hf, Ne.symm hf]

theorem single_rule_apply (P V : Str) (outP outV : Option Str) (V' fl : Str) (hplain : ∀ W, outV = some W → Plain W) :
    (buildMapping false [{ inP := P, inV := V, outP := outP, outV := outV, flavor := sGeneric }]).apply P V' fl =
      if V = V' ∨ V = sAny then (if falsy outP then P else outP.getD [], outV) else (P, some V') := by
  have hm : buildMapping false [{ inP := P, inV := V, outP := outP, outV := outV, flavor := sGeneric }] =
      { map := [(sGeneric, [(P, [(V, (if falsy outP then P else outP.getD [], outV))])])] } := by
    rw [buildMapping, List.foldl_cons, List.foldl_nil, addRule, addP_plain hplain]
    cases outV with
    | none => rfl
    | some W => simp [tableAdd, falsy_some (hplain W rfl).1, assocGet, assocSet]
  rw [hm, apply_generic_only]
  by_cases h1 : V = V'
  · simp [Mapping.apply1, assocGet, h1]
  · by_cases h2 : V = sAny
    · subst h2; simp [Mapping.apply1, assocGet, h1]
    · simp [Mapping.apply1, assocGet, h1, h2]

/-! ### the inverse of a one-to-one mapping -/

/-- `mapping[flavor][product][version]` -/
def lk (T : MapTable) (f p v : Str) : Option (Str × Option Str) := (prodTable T f p).bind fun byV => assocGet byV v

theorem tableExists_eq (T : MapTable) (p v f : Str) : tableExists T p v f = (lk T f p v).isSome := by
  unfold tableExists lk prodTable
  cases assocGet T f with
  | none => rfl
  | some byP =>
    simp only [Option.bind_some]
    cases assocGet byP p with
    | none => rfl
    | some byV => rfl

theorem apply1_of_lk (m : Mapping) (p v f : Str) (r : Str × Option Str) (h : lk m.map f p v = some r) :
    m.apply1 p v f = r := by
  rw [apply1_eq]
  unfold lk at h
  cases hp : prodTable m.map f p with
  | none => simp [hp] at h
  | some byV =>
    simp only [hp, Option.bind_some] at h
    have hne : byV.isEmpty = false := by
      cases byV with
      | nil => simp [assocGet] at h
      | cons _ _ => rfl
    simp [hne, h]

theorem apply1_changes (m : Mapping) (p v f q w : Str) (ha : m.apply1 p v f = (q, some w)) (hne : (q, w) ≠ (p, v)) :
    lk m.map f p v = some (q, some w) ∨ ∃ r, lk m.map f p sAny = some r := by
  have hid : (p, some v) = (q, some w) → False := fun e => hne (by cases e; rfl)
  rw [apply1_eq] at ha
  cases hp : prodTable m.map f p with
  | none => exact (hid (by simpa [hp] using ha)).elim
  | some byV =>
    simp only [hp] at ha
    split at ha
    · cases ha
    · cases hv : assocGet byV v with
      | some r => exact Or.inl (by simpa [lk, hp, hv] using ha)
      | none =>
        cases hany : assocGet byV sAny with
        | some r => exact Or.inr ⟨r, by simp [lk, hp, hany]⟩
        | none => exact (hid (by simpa [hv, hany] using ha)).elim

theorem lk_eq (T : MapTable) (f p v : Str) : lk T f p v = assocGet ((prodTable T f p).getD []) v := by
  unfold lk
  cases prodTable T f p <;> rfl

theorem lk_add (m : Mapping) (p v outP outV f : Str) (hv : Plain outV) (hp : outP ≠ []) (f' p' v' : Str) :
    lk (m.add p v (some outP) (some outV) f true).map f' p' v' =
      if f' = f ∧ p' = p ∧ v' = v then some (outP, some outV) else lk m.map f' p' v' := by
  rw [Mapping.add, addP_plain fun _ e => Option.some.inj e ▸ hv]
  simp only [falsy_some hp, Bool.false_eq_true, if_false, Option.getD_some]
  by_cases hfp : f' = f ∧ p' = p
  · obtain ⟨rfl, rfl⟩ := hfp
    have ht : prodTable (tableAdd false m.map p' v outP (some outV) f' true) f' p' =
        some (assocSet ((prodTable m.map f' p').getD []) v (outP, some outV)) := by
      unfold prodTable tableAdd
      cases assocGet m.map f' <;> simp [assocGet_assocSet_same, falsy_some hv.1, assocGet]
    rw [lk, ht, Option.bind_some, lk_eq]
    by_cases hv' : v' = v
    · simp [hv', assocGet_assocSet_same]
    · simp [hv', assocGet_assocSet_other hv']
  · rw [lk, prodTable_tableAdd_other (Classical.not_and_iff_not_or_not.mp hfp),
      if_neg fun h => hfp ⟨h.1, h.2.1⟩]
    rfl

/-- one entry of a table: flavor, product, in-version, out-product, out-version -/
abbrev Entry := Str × Str × Str × Str × Option Str

def entriesV (f p : Str) (byV : List (Str × (Str × Option Str))) : List Entry :=
  byV.map fun q => (f, p, q.1, q.2.1, q.2.2)
def entriesP (f : Str) (byP : List (Str × List (Str × (Str × Option Str)))) : List Entry :=
  byP.flatMap fun q => entriesV f q.1 q.2
def entries (T : MapTable) : List Entry := T.flatMap fun q => entriesP q.1 q.2

/-- the body of the innermost loop of `Mapping.inverse` -/
def stepInv (inv : Mapping) : Entry → Option Mapping
  | (f, inP, inV, outP, outV) =>
    match outV with
    | none => some inv
    | some ov => if tableExists inv.map outP ov f then none else some (inv.add outP ov (some inP) (some inV) f true)

theorem foldlM_flatMap {α β γ : Type} (f : γ → β → Option γ) (g : α → List β) (l : List α) (c : γ) :
    (l.flatMap g).foldlM f c = l.foldlM (fun c x => (g x).foldlM f c) c := by
  induction l generalizing c with
  | nil => rfl
  | cons x r ih =>
    rw [List.flatMap_cons, List.foldlM_append, List.foldlM_cons]
    cases (g x).foldlM f c with
    | none => rfl
    | some c' => exact ih c'

theorem inverse_eq_fold (m : Mapping) : m.inverse = (entries m.map).foldlM stepInv {} := by
  unfold entries entriesP entriesV
  simp only [foldlM_flatMap, List.foldlM_map]
  rfl

theorem mem_entries_of_lk (T : MapTable) (f p v op : Str) (ov : Option Str) (h : lk T f p v = some (op, ov)) :
    (f, p, v, op, ov) ∈ entries T := by
  unfold lk prodTable at h
  cases hf : assocGet T f with
  | none => simp [hf] at h
  | some byP =>
    simp only [hf, Option.bind_some] at h
    cases hp : assocGet byP p with
    | none => simp [hp] at h
    | some byV =>
      simp only [hp, Option.bind_some] at h
      have m1 := assocGet_mem hf
      have m2 := assocGet_mem hp
      have m3 := assocGet_mem h
      simp only [entries, entriesP, entriesV, List.mem_flatMap, List.mem_map]
      exact ⟨(f, byP), m1, (p, byV), m2, (v, (op, ov)), m3, rfl⟩

/-- the key under which the inverse stores the image of an entry -/
def outKey (e : Entry) : Str × Str × Option Str := (e.1, e.2.2.2.1, e.2.2.2.2)

/-- an entry the inverse is claimed for: no removal, and `inverse` adds it turned round (`lk_add` with in and out
exchanged), so its IN-product must be named and its IN-version a word that `Mapping.add` takes as an out-version -/
def EntryOk (e : Entry) : Prop := e.2.1 ≠ [] ∧ Plain e.2.2.1 ∧ e.2.2.2.2.isSome = true

instance (e : Entry) : Decidable (EntryOk e) := by unfold EntryOk; exact inferInstance

/-- from a mapping that holds none of the images the `tableExists` test of `inverse` never fires -/
theorem fold_stepInv (E : List Entry) : ∀ inv0 : Mapping,
    E.Pairwise (fun a b => outKey a ≠ outKey b) → (∀ e ∈ E, EntryOk e) →
    (∀ f p v op w, (f, p, v, op, some w) ∈ E → lk inv0.map f op w = none) →
    ∃ inv, E.foldlM stepInv inv0 = some inv ∧
      (∀ f p v op w, (f, p, v, op, some w) ∈ E → lk inv.map f op w = some (p, some v)) ∧
      (∀ f p w, (∀ e ∈ E, outKey e ≠ (f, p, some w)) → lk inv.map f p w = lk inv0.map f p w) := by
  induction E with
  | nil => intro inv0 _ _ _; exact ⟨inv0, rfl, nofun, fun _ _ _ _ => rfl⟩
  | cons e rest ih =>
    intro inv0 hpw hok hfree
    obtain ⟨f, p, v, op, ov⟩ := e
    obtain ⟨hp, hv, hsome⟩ := hok (f, p, v, op, ov) (by simp)
    simp only at hp hv hsome
    obtain ⟨w, rfl⟩ := Option.isSome_iff_exists.mp hsome
    have hnone := hfree f p v op w List.mem_cons_self
    have hex : tableExists inv0.map op w f = false := by rw [tableExists_eq, hnone]; rfl
    have hadd := lk_add inv0 op w p v f hv hp
    obtain ⟨hhead_ne, hrest_pw⟩ := List.pairwise_cons.mp hpw
    obtain ⟨inv, hfold, himg, hframe⟩ := ih (inv0.add op w (some p) (some v) f true) hrest_pw
      (fun e he => hok e (List.mem_cons_of_mem _ he))
      (by
        intro f' p' v' op' w' he
        rw [hadd, if_neg]
        · exact hfree f' p' v' op' w' (List.mem_cons_of_mem _ he)
        · rintro ⟨rfl, rfl, rfl⟩
          exact hhead_ne _ he rfl)
    refine ⟨inv, ?_, ?_, ?_⟩
    · simp only [List.foldlM_cons, stepInv, hex, Bool.false_eq_true, if_false, Option.bind_eq_bind, Option.bind_some]
      exact hfold
    · intro f' p' v' op' w' he
      rcases List.mem_cons.mp he with e | he
      · cases e
        rw [hframe f op w (fun e' he' hk => hhead_ne e' he' hk.symm), hadd, if_pos ⟨rfl, rfl, rfl⟩]
      · exact himg f' p' v' op' w' he
    · intro f' p' w' hne
      rw [hframe f' p' w' (fun e' he' => hne e' (List.mem_cons_of_mem _ he')), hadd, if_neg]
      rintro ⟨rfl, rfl, rfl⟩
      exact hne (f', p, v, p', some w') List.mem_cons_self rfl

end EupsModel.Manifest
