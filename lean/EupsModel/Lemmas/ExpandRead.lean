import EupsModel.Model.Expand
import EupsModel.Lemmas.List
import EupsModel.Lemmas.Str
import EupsModel.Lemmas.Text
/-! The reader of `expandTableFile` (`Model/Expand.lean`): Python's `strip`, the regular expression for setup lines and
what `classify` makes of a line (`classify_spec`); then the reader as a fold of `step` over the classified lines
(`readAll_eq`, with the lines, products and final block it stores as `filterMap`s of them) and its two invariants: setup
blocks and other blocks keep their kinds of line apart (`KindsOk`), and `lastSetupBlock` points at a setup block (`LastOk`);
each is proved for `pushLine`, `openSetup` and `openOther`, the three moves `step` is made of. -/
namespace EupsModel.Expand

theorem all_of_dropWhile_nil {p : Nat → Bool} {l : List Nat} (h : l.dropWhile p = []) : ∀ x ∈ l, p x = true := by
  induction l with
  | nil => simp
  | cons a rest ih => by_cases ha : p a = true <;> simp_all

theorem rstrip_cons_of_not_space {a : Nat} {rest : Str} (h : Str.isSpace a = false) : ∃ r, rstrip (a :: rest) = a :: r :=
  ⟨_, Text.stripR_cons h rest⟩

theorem lstrip_head (s : Str) : lstrip s = [] ∨ ∃ a r, lstrip s = a :: r ∧ Str.isSpace a = false := by
  induction s with
  | nil => exact .inl rfl
  | cons c cs ih =>
    by_cases h : Str.isSpace c = true
    · simpa [lstrip, List.dropWhile_cons, h] using ih
    · exact .inr ⟨c, cs, by simp [lstrip, h], by simpa using h⟩

theorem strip_eq_nil {t : Str} (h : strip t = []) : ∀ c ∈ t, Str.isSpace c = true := by
  rcases lstrip_head t with hl | ⟨a, r, hl, ha⟩
  · exact all_of_dropWhile_nil hl
  · -- `lstrip` leaves a first character that `rstrip` keeps
    obtain ⟨r', hr'⟩ := rstrip_cons_of_not_space (rest := r) ha
    rw [strip, hl, hr'] at h
    cases h

theorem rstrip_idem (x : Str) : rstrip (rstrip x) = rstrip x := Text.stripR_idem x

theorem rstrip_snoc {xs : Str} {a : Nat} (h : Str.isSpace a = false) : rstrip (xs ++ [a]) = xs ++ [a] :=
  Text.stripR_of_last (by simp [h])

theorem lstrip_cons_of_not_space {a : Nat} {r : Str} (h : Str.isSpace a = false) : lstrip (a :: r) = a :: r := by
  simp [lstrip, h]

theorem strip_idem (s : Str) : strip (strip s) = strip s := by
  unfold strip
  rcases lstrip_head s with h | ⟨a, r, h, ha⟩
  · rw [h]; rfl
  · rw [h]
    obtain ⟨r', hr'⟩ := rstrip_cons_of_not_space (rest := r) ha
    rw [hr', lstrip_cons_of_not_space ha, ← hr', rstrip_idem]

theorem strip_cons_of_not_space {a : Nat} {rest : Str} (h : Str.isSpace a = false) : ∃ r, strip (a :: rest) = a :: r := by
  unfold strip
  rw [lstrip_cons_of_not_space h]
  exact rstrip_cons_of_not_space h

theorem lstrip_replicate_append (n : Nat) (s : Str) : lstrip (List.replicate n cSp ++ s) = lstrip s := by
  simp [lstrip, show Str.isSpace cSp = true by decide]

theorem sReqP_eq : sReqP = [115, 101, 116, 117, 112, 82, 101, 113, 117, 105, 114, 101, 100, 40] := by  -- "setupRequired("
  unfold sReqP; decide_lit

theorem sOptP_eq : sOptP = [115, 101, 116, 117, 112, 79, 112, 116, 105, 111, 110, 97, 108, 40] := by  -- "setupOptional("
  unfold sOptP; decide_lit

theorem sGe_eq : sGe = [62, 61, 32] := by unfold sGe; decide_lit  -- ">= "

/-- "setup" ++ "Optional" / "Required" -/
theorem cmdName_eq (opt : Bool) : cmdName opt =
    [115, 101, 116, 117, 112] ++ if opt then [79, 112, 116, 105, 111, 110, 97, 108] else [82, 101, 113, 117, 105, 114, 101, 100] := by
  cases opt <;> (unfold cmdName sSetupRequired sSetupOptional; decide_lit)

/-- 115 = `s` -/
theorem matchSetupAt_head {c : Nat} {cs : Str} {m : RexMatch} (h : matchSetupAt (c :: cs) = some m) : c = 115 := by
  unfold matchSetupAt at h
  by_cases hc : c = 115
  · exact hc
  · simp [sReqP_eq, sOptP_eq, isPrefixOf_head_ne _ _ _ _ hc] at h

/-- 117 = `u` (an unsetup line) -/
theorem matchRexAt_head {c : Nat} {cs : Str} {m : RexMatch} (h : matchRexAt (c :: cs) = some m) : c = 115 ∨ c = 117 := by
  unfold matchRexAt at h
  split at h
  · rename_i rest heq
    simp only [List.cons.injEq] at heq
    exact .inr heq.1
  · exact .inl (matchSetupAt_head h)

theorem searchRex_allSpace (t : Str) (h : ∀ c ∈ t, Str.isSpace c = true) : searchRex t = none := by
  induction t with
  | nil => rfl
  | cons c cs ih =>
    unfold searchRex
    cases hm : matchRexAt (c :: cs) with
    | some m =>
      have hsp := h c (by simp)
      rcases matchRexAt_head hm with e | e <;> subst e <;> simp [Str.isSpace] at hsp
    | none => simpa using ih (fun x hx => h x (by simp [hx]))

theorem strip_ne_nil_of_searchRex {t : Str} {m : RexMatch} (h : searchRex t = some m) : strip t ≠ [] := by
  intro hs
  have := searchRex_allSpace t (strip_eq_nil hs)
  simp [this] at h

theorem subGo_id (A : Answers) (o : Opts) (s : Str) (h : searchRex s = none) : subGo A o 0 s = .ok s := by
  induction s with
  | nil => rfl
  | cons c cs ih =>
    unfold searchRex at h
    cases hm : matchRexAt (c :: cs) with
    | some m => simp [hm] at h
    | none =>
      simp only [hm] at h
      simp [subGo, hm, ih h, bind, Except.bind, pure, Except.pure]

theorem classify_other_of_noMatch (A : Answers) (o : Opts) (raw : Str) (hb : isBlankOrComment raw = false)
    (hm : searchRex (stripComment raw) = none) : classify A o raw = .ok (.other (stripComment raw)) := by
  unfold classify
  simp [hb, subAll, subGo_id A o _ hm, hm, bind, Except.bind, pure, Except.pure]

theorem classify_blank (A : Answers) (o : Opts) (raw : Str) (hb : isBlankOrComment raw = true) :
    classify A o raw = .ok (.blank raw) := by
  unfold classify; simp [hb, pure, Except.pure]

theorem classify_spec {A : Answers} {o : Opts} {raw : Str} {c : Classified} (h : classify A o raw = .ok c) :
    (isBlankOrComment raw = true ∧ c = .blank raw) ∨
    (isBlankOrComment raw = false ∧ ∃ t, subAll A o (stripComment raw) = .ok t ∧
      ((searchRex t = none ∧ c = .other t) ∨
       (∃ m, searchRex t = some m ∧ (c = .eups t ∨ ∃ p, c = .setup t p)))) := by
  unfold classify at h
  by_cases hb : isBlankOrComment raw = true
  · simp [hb, pure, Except.pure] at h; exact .inl ⟨hb, h.symm⟩
  · simp only [hb, Bool.false_eq_true, if_false, bind_eq_ok] at h
    obtain ⟨t, hs, h⟩ := h
    refine .inr ⟨by simpa using hb, t, hs, ?_⟩
    cases hm : searchRex t with
    | none => simp [hm, pure, Except.pure] at h; exact .inl ⟨rfl, h.symm⟩
    | some m =>
      refine .inr ⟨m, rfl, ?_⟩
      simp only [hm] at h
      split at h
      · split at h
        · simp [pure, Except.pure] at h; exact .inl h.symm
        · simp [pure, Except.pure] at h; exact .inr ⟨_, h.symm⟩
      · simp [pure, Except.pure] at h; exact .inr ⟨_, h.symm⟩

theorem otherInput_sublist {A : Answers} {o : Opts} {lines : List Str} {cs : List Classified}
    (hcs : lines.mapM (classify A o) = .ok cs) :
    ((lines.filter fun raw => !isBlankOrComment raw && (searchRex (stripComment raw)).isNone).map stripComment).Sublist
      (cs.filterMap Classified.otherText) := by
  induction lines generalizing cs with
  | nil => simp
  | cons raw rest ih =>
    obtain ⟨c, cs', hc, hr, rfl⟩ := mapM_cons_ok hcs
    have ih' := ih hr
    by_cases ho : (!isBlankOrComment raw && (searchRex (stripComment raw)).isNone) = true
    · have hb : isBlankOrComment raw = false := by simp at ho; exact ho.1
      have hm : searchRex (stripComment raw) = none := by simp at ho; exact ho.2
      rw [classify_other_of_noMatch A o raw hb hm] at hc
      cases hc
      simp only [List.filter_cons, ho, if_true, List.map_cons, List.filterMap_cons, Classified.otherText]
      exact List.Sublist.cons_cons _ ih'
    · simp only [List.filter_cons, ho, Bool.false_eq_true, if_false, List.filterMap_cons]
      cases c.otherText with
      | none => exact ih'
      | some t => exact List.Sublist.cons _ ih'

theorem readAll_eq (A : Answers) (o : Opts) (lines : List Str) :
    readAll A o lines = (lines.mapM (classify A o)).map (·.foldl step {}) := by
  unfold readAll
  generalize ({} : RState) = st
  induction lines generalizing st with
  | nil => rfl
  | cons l ls ih =>
    simp only [List.foldlM_cons, List.mapM_cons, readLine, bind, Except.bind]
    cases classify A o l with
    | error e => rfl
    | ok c => simp only [pure, Except.pure, ih]; cases ls.mapM (classify A o) <;> rfl

theorem readAll_ok {A : Answers} {o : Opts} {lines : List Str} {st : RState}
    (h : readAll A o lines = .ok st) :
    ∃ cs, lines.mapM (classify A o) = .ok cs ∧ st = cs.foldl step {} := by
  rw [readAll_eq] at h
  obtain ⟨cs, hm, rfl⟩ := map_eq_ok_iff.mp h
  exact ⟨cs, hm, rfl⟩

def RState.allLines (st : RState) : List BLine := st.blocks.flatMap (·.lines)

theorem allLines_eq (st : RState) : st.allLines = st.prev.flatMap (·.lines) ++ st.cur.lines := by
  simp [RState.allLines, RState.blocks]

theorem mem_allLines {st : RState} {b : Block} {l : BLine} (hb : b ∈ st.blocks) (hl : l ∈ b.lines) : l ∈ st.allLines := by
  simp only [RState.allLines, List.mem_flatMap]; exact ⟨b, hb, hl⟩

theorem allLines_pushLine (st : RState) (k : LKind) (t : Str) :
    (pushLine st k t).allLines = st.allLines ++ [⟨k, t⟩] := by
  simp [allLines_eq, pushLine]

theorem allLines_openSetup (st : RState) : (openSetup st).allLines = st.allLines := by
  unfold openSetup; split <;> simp [allLines_eq]

theorem allLines_openOther (st : RState) : (openOther st).allLines = st.allLines := by
  unfold openOther; split <;> simp [allLines_eq]

theorem allLines_step (st : RState) (c : Classified) :
    (step st c).allLines = st.allLines ++ c.bline.toList := by
  cases c with
  | blank raw => simp [step, allLines_pushLine, Classified.bline]
  | eups t =>
    simp only [step, Classified.bline, Option.toList, List.append_nil]
    rw [← allLines_openSetup st]; simp [allLines_eq]
  | setup t p =>
    cases p with
    | none => simp [step, allLines_pushLine, allLines_openSetup, Classified.bline]
    | some p =>
      simp only [step, allLines_pushLine, Classified.bline, Option.toList]
      rw [← allLines_openSetup st]; simp [allLines_eq]
  | other t => simp [step, allLines_pushLine, allLines_openOther, Classified.bline]

theorem open_keeps (st : RState) :
    ((openSetup st).products = st.products ∧ (openSetup st).final = st.final) ∧
    ((openOther st).products = st.products ∧ (openOther st).final = st.final) := by
  unfold openSetup openOther
  constructor <;> split <;> exact ⟨rfl, rfl⟩

theorem products_step (st : RState) (c : Classified) :
    (step st c).products = st.products ++ c.prod.toList := by
  cases c with
  | blank raw => simp [step, pushLine, Classified.prod]
  | eups t => simp [step, (open_keeps st).1.1, Classified.prod]
  | setup t p => cases p <;> simp [step, pushLine, (open_keeps st).1.1, Classified.prod]
  | other t => simp [step, pushLine, (open_keeps st).2.1, Classified.prod]

theorem final_step (st : RState) (c : Classified) :
    (step st c).final = st.final ++ c.finalLine.toList := by
  cases c with
  | blank raw => simp [step, pushLine, Classified.finalLine]
  | eups t => simp [step, (open_keeps st).1.2, Classified.finalLine]
  | setup t p => cases p <;> simp [step, pushLine, (open_keeps st).1.2, Classified.finalLine]
  | other t => simp [step, pushLine, (open_keeps st).2.2, Classified.finalLine]

theorem foldl_step_append {β : Type} (proj : RState → List β) (f : Classified → Option β)
    (h : ∀ st c, proj (step st c) = proj st ++ (f c).toList) (cs : List Classified) (st : RState) :
    proj (cs.foldl step st) = proj st ++ cs.filterMap f := by
  induction cs generalizing st with
  | nil => simp
  | cons c cs ih =>
    simp only [List.foldl_cons, ih, h, List.append_assoc]
    cases hc : f c <;> simp [hc]

theorem allLines_read (cs : List Classified) : (cs.foldl step {}).allLines = cs.filterMap Classified.bline :=
  foldl_step_append _ _ allLines_step cs {}

theorem products_read (cs : List Classified) : (cs.foldl step {}).products = cs.filterMap Classified.prod :=
  foldl_step_append _ _ products_step cs {}

theorem final_read (cs : List Classified) : (cs.foldl step {}).final = cs.filterMap Classified.finalLine :=
  foldl_step_append _ _ final_step cs {}

def Block.KindsOk (b : Block) : Prop :=
  ∀ l ∈ b.lines, if b.isSetup then l.kind ≠ .other else l.kind ≠ .setup

def RState.KindsOk (st : RState) : Prop := (∀ b ∈ st.prev, b.KindsOk) ∧ st.cur.KindsOk

theorem kindsOk_pushLine {st : RState} (h : st.KindsOk) (k : LKind)
    (hk : if st.cur.isSetup then k ≠ .other else k ≠ .setup) (t : Str) : (pushLine st k t).KindsOk :=
  ⟨h.1, fun l hl => (List.mem_append.mp hl).elim (h.2 l) fun e => by cases List.mem_singleton.mp e; exact hk⟩

theorem RState.KindsOk.blocks {st : RState} (h : st.KindsOk) : ∀ b ∈ st.blocks, b.KindsOk :=
  fun b hb => (List.mem_append.mp hb).elim (h.1 b) fun e => List.mem_singleton.mp e ▸ h.2

theorem kindsOk_openSetup {st : RState} (h : st.KindsOk) : (openSetup st).KindsOk ∧ (openSetup st).cur.isSetup = true := by
  unfold openSetup
  split
  · exact ⟨⟨h.blocks, nofun⟩, rfl⟩
  · rename_i hc; exact ⟨h, by simpa using hc⟩

theorem kindsOk_openOther {st : RState} (h : st.KindsOk) : (openOther st).KindsOk ∧ (openOther st).cur.isSetup = false := by
  unfold openOther
  split
  · exact ⟨⟨h.blocks, nofun⟩, rfl⟩
  · rename_i hc; exact ⟨h, by simpa using hc⟩

theorem kindsOk_step {st : RState} (h : st.KindsOk) (c : Classified) : (step st c).KindsOk := by
  cases c with
  | blank raw => exact kindsOk_pushLine h _ (by split <;> simp) _
  | eups t => exact (kindsOk_openSetup h).1
  | setup t p =>
    obtain ⟨h1, h2⟩ := kindsOk_openSetup h
    cases p with
    | none => exact kindsOk_pushLine h1 _ (by simp [h2]) _
    | some p =>
      exact kindsOk_pushLine (st := { openSetup st with products := (openSetup st).products ++ [p] }) h1 _ (by simp [h2]) _
  | other t =>
    obtain ⟨h1, h2⟩ := kindsOk_openOther h
    exact kindsOk_pushLine h1 _ (by simp [h2]) _

theorem kindsOk_read (cs : List Classified) : ∀ b ∈ (cs.foldl step {}).blocks, b.KindsOk :=
  RState.KindsOk.blocks (foldl_invariant (by simp [RState.KindsOk, Block.KindsOk]) fun _ c _ k => kindsOk_step k c)

def RState.flags (st : RState) : List Bool := st.blocks.map (·.isSetup)

/-- invariant of the reader: `lastSetupBlock` is set once anything of a setup line is stored, and indexes a setup block -/
structure RState.LastOk (st : RState) : Prop where
  none : st.lastSetup = none → st.cur.isSetup = false ∧ st.products = [] ∧ st.final = []
  idx : ∀ i, st.lastSetup = some i → st.flags[i]? = some true

theorem flags_pushLine (st : RState) (k : LKind) (t : Str) : (pushLine st k t).flags = st.flags := by
  simp [RState.flags, RState.blocks, pushLine]

theorem lastOk_init : (({} : RState)).LastOk := ⟨fun _ => ⟨rfl, rfl, rfl⟩, nofun⟩

theorem lastOk_pushLine {st : RState} (h : st.LastOk) (k : LKind) (t : Str) : (pushLine st k t).LastOk :=
  ⟨h.none, fun i hi => flags_pushLine st k t ▸ h.idx i hi⟩

theorem lastOk_openSetup {st : RState} (h : st.LastOk) : (openSetup st).LastOk ∧ (openSetup st).lastSetup ≠ none := by
  unfold openSetup
  split
  · exact ⟨⟨nofun, fun i hi => by cases hi; simp [RState.flags, RState.blocks]⟩, nofun⟩
  · rename_i hc
    exact ⟨h, fun hn => hc (by simp [(h.none hn).1])⟩

theorem lastOk_openOther {st : RState} (h : st.LastOk) : (openOther st).LastOk := by
  unfold openOther
  split
  · rename_i hc
    refine ⟨fun hn => by simp [(h.none hn).1] at hc, fun i hi => ?_⟩
    have := h.idx i hi
    simp only [RState.flags, RState.blocks, List.map_append, List.map_cons, List.map_nil] at this ⊢
    rw [List.getElem?_append_left]
    · exact this
    · simpa using (List.getElem?_eq_some_iff.mp this).1
  · exact h

theorem lastOk_step {st : RState} (h : st.LastOk) (c : Classified) : (step st c).LastOk := by
  cases c with
  | blank raw => exact lastOk_pushLine h _ _
  | eups t =>
    obtain ⟨h1, h2⟩ := lastOk_openSetup h
    exact ⟨fun hn => absurd hn h2, h1.idx⟩
  | setup t p =>
    obtain ⟨h1, h2⟩ := lastOk_openSetup h
    cases p with
    | none => exact lastOk_pushLine h1 _ _
    | some p =>
      exact lastOk_pushLine (st := { openSetup st with products := (openSetup st).products ++ [p] })
        ⟨fun hn => absurd hn h2, h1.idx⟩ _ _
  | other t => exact lastOk_pushLine (lastOk_openOther h) _ _

theorem lastOk_read (cs : List Classified) : (cs.foldl step {}).LastOk :=
  foldl_invariant lastOk_init fun _ c _ k => lastOk_step k c

theorem lastOk_block {st : RState} (h : st.LastOk) {i : Nat} (hi : st.lastSetup = some i) :
    ∃ b, st.blocks[i]? = some b ∧ b.isSetup = true := by
  simpa only [RState.flags, List.getElem?_map, Option.map_eq_some_iff] using h.idx i hi

end EupsModel.Expand
