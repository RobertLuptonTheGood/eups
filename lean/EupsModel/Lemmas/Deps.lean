import EupsModel.Model.Deps
import EupsModel.Lemmas.Walk
/-! The recursive table walk `depsOf` / `depsLoop` (`Model/Deps.lean`) for tables without unsetup lines, as an instance
of `Walk`: what it returns is exactly what is reachable, and the product dictionary it fills holds exactly the edges
of the tables it opened (`depsOf_exact`); not recursive, it returns the lines of the one table (`depsOf_nonrec_prods`).
At the end `getDependentProducts` as an equation over its two walks. -/
namespace EupsModel.Deps

/-- no table has an `unsetupRequired` / `unsetupOptional` line, and every declared table file exists (the name
speaks of the first half only) -/
def NoUnsetup (db : Db) : Prop :=
  (∀ d ∈ db.decls, ∀ x ∈ d.deps, x.unsetup = false) ∧ (∀ d ∈ db.decls, d.tableMissing = false)

instance (db : Db) : Decidable (NoUnsetup db) := by unfold NoUnsetup; infer_instance

theorem resolve_nil (db : Db) (d : Dep) : resolve db [] d = db.find d.name d.ver := by
  simp [resolve, lookupLast]

theorem tableMissing_false_of {db : Db} (hm : ∀ d ∈ db.decls, d.tableMissing = false) (p : Prod) :
    db.tableMissing p = false := by
  unfold Db.tableMissing
  split
  · split
    · rename_i d hd
      exact hm d (List.mem_of_find?_eq_some hd)
    · rfl
  · rfl

theorem tableMissing_false {db : Db} (h : NoUnsetup db) (p : Prod) : db.tableMissing p = false :=
  tableMissing_false_of h.2 p

theorem table_noUnsetup {db : Db} (h : NoUnsetup db) (p : Prod) : ∀ x ∈ db.table p, x.unsetup = false := by
  intro x hx
  unfold Db.table at hx
  split at hx
  · split at hx
    · rename_i d hd
      exact h.1 d (List.mem_of_find?_eq_some hd) x (List.mem_filter.mp hx).1
    · simp at hx
  · simp at hx

/-- the product a setup line denotes: the resolved product, or the placeholder carrying the version written
on the line -/
def target (db : Db) (req : Required) (d : Dep) : Prod := (resolve db req d).getD ⟨d.name, d.ver, false⟩

/-- `u`'s table has a line denoting `v` -/
def Edge (db : Db) (req : Required) (u v : Prod) : Prop := ∃ d ∈ db.table u, target db req d = v

/-- `u`'s table has a line without `-j` that resolves to the declared product `v` (whose table is then opened) -/
def XEdge (db : Db) (req : Required) (u v : Prod) : Prop :=
  ∃ d ∈ db.table u, d.noRec = false ∧ resolve db req d = some v

/-- the products whose tables the walk from `u` opens: `u` itself, or a declared product reached from it through
lines without `-j` -/
inductive XReach (db : Db) (req : Required) : Prod → Prod → Prop
  | refl (u : Prod) : XReach db req u u
  | head {u w v : Prod} : XEdge db req u w → XReach db req w v → XReach db req u v

theorem XReach.tail {db : Db} {req : Required} {u w v : Prod} (h1 : XReach db req u w) (h2 : XEdge db req w v) :
    XReach db req u v := by
  induction h1 with
  | refl => exact XReach.head h2 (XReach.refl _)
  | head he _ ih => exact XReach.head he (ih h2)

theorem XReach.trans {db : Db} {req : Required} {u w v : Prod} (h1 : XReach db req u w) (h2 : XReach db req w v) :
    XReach db req u v := by
  induction h1 with
  | refl => exact h2
  | head he _ ih => exact XReach.head he (ih h2)

/-- `v` is listed from `top`: some opened table has a line denoting it — "reachable through its table files (as
resolved)" -/
def Listed (db : Db) (req : Required) (top v : Prod) : Prop := ∃ w, XReach db req top w ∧ Edge db req w v

theorem Listed.of_head {db : Db} {req : Required} {u w v : Prod} (h1 : XEdge db req u w) (h2 : Listed db req w v) :
    Listed db req u v := by
  obtain ⟨x, hx, he⟩ := h2
  exact ⟨x, XReach.head h1 hx, he⟩

theorem XReach.listed {db : Db} {req : Required} {u v : Prod} (h : XReach db req u v) : v = u ∨ Listed db req u v := by
  induction h with
  | refl => exact Or.inl rfl
  | head he _ ih =>
    right
    rcases ih with rfl | ih
    · obtain ⟨d, hd, _, hr⟩ := he
      exact ⟨_, XReach.refl _, d, hd, by simp [target, hr]⟩
    · exact Listed.of_head he ih

def ofKey (k : Str × Option Str) : Prod := ⟨k.1, k.2, true⟩

theorem ofKey_prodkey {p : Prod} (h : p.real = true) : ofKey (prodkey p) = p := by
  cases p; simp_all [ofKey, prodkey]

theorem find_some {db : Db} {n : Str} {v : Option Str} {p : Prod} (h : db.find n v = some p) :
    ∃ v', p = ⟨n, some v', true⟩ ∧ db.declared n v' = true := by
  unfold Db.find at h
  split at h
  · split at h
    · exact ⟨_, (Option.some.inj h).symm, ‹_›⟩
    · cases h
  · split at h
    · split at h
      · exact ⟨_, (Option.some.inj h).symm, ‹_›⟩
      · cases h
    · cases h

theorem find_real {db : Db} {n : Str} {v : Option Str} {p : Prod} (h : db.find n v = some p) : p.real = true := by
  obtain ⟨_, rfl, _⟩ := find_some h
  rfl

theorem find_name {db : Db} {n : Str} {v : Option Str} {p : Prod} (h : db.find n v = some p) : p.name = n := by
  obtain ⟨_, rfl, _⟩ := find_some h
  rfl

theorem find_again {db : Db} {n : Str} {v : Option Str} {p : Prod} (h : db.find n v = some p) :
    db.find n p.ver = some p := by
  obtain ⟨v', rfl, hd⟩ := find_some h
  simp [Db.find, hd]

theorem resolve_real {db : Db} {req : Required} {d : Dep} {p : Prod} (h : resolve db req d = some p) :
    p.real = true := by
  unfold resolve at h
  split at h <;> exact find_real h

theorem depsLoop_cons_setup (db : Db) (req : Required)
    (recur : Prod → Nat → St → Option (List Entry × St)) (fresh : Prod → Option (List Str))
    (top : Prod) (recursive : Bool) (depth : Nat) (d : Dep) (ds : List Dep) (acc : List Entry) (st : St)
    (hd : d.unsetup = false) (hm : ∀ p, db.tableMissing p = false) :
    depsLoop db req recur fresh top recursive depth (d :: ds) acc st =
      match resolve db req d with
      | none =>
        depsLoop db req recur fresh top recursive depth ds
          (acc ++ [⟨⟨d.name, d.ver, false⟩, d.optional, if recursive then some depth else none⟩])
          { st with edges := st.edges ++ [(top, ⟨d.name, d.ver, false⟩)] }
      | some p =>
        if recursive && !d.noRec && !st.seen.contains (prodkey p) then
          match recur p (depth + 1) { st with seen := prodkey p :: st.seen } with
          | none => none
          | some (sub, st') =>
            depsLoop db req recur fresh top recursive depth ds
              (acc ++ ⟨p, d.optional, if recursive then some depth else none⟩ :: sub)
              { st' with edges := st'.edges ++ [(top, p)] }
        else
          depsLoop db req recur fresh top recursive depth ds
            (acc ++ [⟨p, d.optional, if recursive then some depth else none⟩])
            { st with edges := st.edges ++ [(top, p)] } := by
  rw [depsLoop]
  simp only [hd, Bool.false_eq_true, if_false, hm]
  rfl

open Walk

/-- what the walk records: a product in the listing, a key of the product dictionary, an edge of it -/
inductive Fact
  | out (p : Prod)
  | node (p : Prod)
  | edge (u v : Prod)

def facts (out : List Entry) (st : St) : Fact → Prop
  | .out p => p ∈ out.map (·.prod)
  | .node p => p ∈ st.nodes
  | .edge u v => (u, v) ∈ st.edges

theorem facts_split (out : List Entry) (st : St) (f : Fact) : facts out st f ↔ facts out St.empty f ∨ facts [] st f := by
  cases f <;> simp [facts, St.empty]

/-- an entry and its edge are recorded; `sub`, `st` come from the nested walk or are `[]` and the state as it was -/
theorem facts_entry (acc sub : List Entry) (st : St) (e : Entry) (top : Prod) (f : Fact) :
    facts (acc ++ e :: sub) { st with edges := st.edges ++ [(top, e.prod)] } f ↔
      facts acc St.empty f ∨ (f = .out e.prod ∨ f = .edge top e.prod) ∨ facts sub st f := by
  cases f <;> simp [facts, St.empty, or_comm]

/-- the walk of `depsOf` over tables without unsetup lines: opening `w` records `w` as a key (item `none`) and reads
the lines of its table -/
def tableSys (db : Db) (req : Required) : Sys Prod (Str × Option Str) (Option Dep) Fact where
  key := prodkey
  node := ofKey
  items w := none :: (db.table w).map some
  needs w i f := match i with
    | none => f = .node w
    | some d => f = .out (target db req d) ∨ f = .edge w (target db req d)
  opens _ i v := ∃ d, i = some d ∧ d.noRec = false ∧ resolve db req d = some v
  node_key := fun ⟨_, _, _, hr⟩ => ofKey_prodkey (resolve_real hr)

variable {db : Db} {req : Required}

theorem needs_none (top : Prod) (f : Fact) : (tableSys db req).needs top none f ↔ f = .node top := Iff.rfl

theorem needs_line (top : Prod) (d : Dep) (f : Fact) :
    (tableSys db req).needs top (some d) f ↔ f = .out (target db req d) ∨ f = .edge top (target db req d) := Iff.rfl

theorem mem_items_iff {top : Prod} {i : Option Dep} :
    i ∈ (tableSys db req).items top ↔ i = none ∨ ∃ d ∈ db.table top, i = some d := by
  simp only [tableSys, List.mem_cons, List.mem_map, eq_comm]

theorem mem_items {top : Prod} {d : Dep} (h : d ∈ db.table top) : some d ∈ (tableSys db req).items top :=
  mem_items_iff.mpr (.inr ⟨d, h, rfl⟩)

theorem line_post {top : Prod} {d : Dep} {ds : List Dep} {acc : List Entry} {st : St} {seen' : List (Str × Option Str)}
    {F' : Fact → Prop} {e : Entry} (hdt : d ∈ db.table top) (he : e.prod = target db req d)
    (hseen : d.noRec = false → ∀ v, resolve db req d = some v → prodkey v ∈ st.seen)
    (P : Post (tableSys db req) top (ds.map some) st.seen
      (facts (acc ++ [e]) { st with edges := st.edges ++ [(top, e.prod)] }) seen' F') :
    Post (tableSys db req) top ((d :: ds).map some) st.seen (facts acc st) seen' F' := by
  refine Post.plain (mem_items hdt) (fun f => ?_) ?_ P
  · rw [facts_entry, facts_split acc st f, needs_line, ← he, ← or_assoc, or_right_comm]
  · rintro v ⟨d', hd', hj, hr⟩
    cases hd'
    exact hseen hj v hr

theorem depsLoop_walk (db : Db) (req : Required)
    (recur : Prod → Nat → St → Option (List Entry × St)) (fresh : Prod → Option (List Str))
    (top : Prod) (depth : Nat) (hm : ∀ p, db.tableMissing p = false)
    (hrec : ∀ p dp st out st', recur p dp st = some (out, st') →
      Post (tableSys db req) p ((tableSys db req).items p) st.seen (facts [] st) st'.seen (facts out st'))
    (ds acc st out st') (hu : ∀ d ∈ ds, d.unsetup = false) (ht : ∀ d ∈ ds, d ∈ db.table top)
    (h : depsLoop db req recur fresh top true depth ds acc st = some (out, st')) :
      Post (tableSys db req) top (ds.map some) st.seen (facts acc st) st'.seen (facts out st') := by
  fun_induction depsLoop db req recur fresh top true depth ds acc st with
  -- no line left
  | case1 => cases h; exact Post.nil ..
  -- an unsetup line (name not listed / nested listing fails / entries filtered): there is none
  | case2 d _ _ _ hd | case3 d _ _ _ hd | case4 d _ _ _ hd => simp [hu d (by simp)] at hd
  -- unresolved: nothing to open
  | case5 d _ _ _ _ _ hr _ ih =>
    obtain ⟨hdt, ht⟩ := List.forall_mem_cons.mp ht
    refine line_post hdt (by rw [target, hr]; rfl) ?_ (ih (List.forall_mem_cons.mp hu).2 ht h)
    intro _ v hv
    rw [hr] at hv
    cases hv
  -- table file missing: there is none
  | case6 _ _ _ _ _ _ p _ _ hmiss => simp [hm p] at hmiss
  -- nested walk fails
  | case7 => cases h
  -- nested walk returns
  | case8 d _ acc st _ _ p hr hc _ sub st2 hq ih =>
    obtain ⟨hdt, ht⟩ := List.forall_mem_cons.mp ht
    have htg : target db req d = p := by simp [target, hr]
    have hj : d.noRec = false := by simp only [Bool.true_and, Bool.and_eq_true, Bool.not_eq_true'] at hc; exact hc.1
    refine Post.descend (K := facts acc St.empty) (mem_items hdt) ⟨d, rfl, hj, hr⟩ ?_ (hrec _ _ _ _ _ hq)
      (facts_split acc st) (fun f => ?_) (ih (List.forall_mem_cons.mp hu).2 ht h)
    · -- the line opens `p` and nothing else
      rintro v' ⟨d', hd', _, hr'⟩
      cases hd'
      rw [hr] at hr'
      exact (Option.some.inj hr').symm
    · rw [needs_line, htg]
      exact facts_entry ..
  -- not opened: `-j`, or marked before
  | case9 d _ _ st _ _ p hr hc ih =>
    obtain ⟨hdt, ht⟩ := List.forall_mem_cons.mp ht
    refine line_post hdt (by rw [target, hr]; rfl) ?_ (ih (List.forall_mem_cons.mp hu).2 ht h)
    intro hj v hv
    rw [hr] at hv
    cases hv
    simpa [hj] using hc

theorem depsOf_walk (db : Db) (hns : NoUnsetup db) (req : Required) {g : Guard} :
    ∀ f top depth st out st', depsOfG db f g req top true depth st = some (out, st') →
      Post (tableSys db req) top ((tableSys db req).items top) st.seen (facts [] st) st'.seen (facts out st') := by
  intro f
  induction f with
  | zero => intro top depth st out st' h; simp [depsOfG] at h
  | succ k ih =>
    intro top depth st out st' h
    unfold depsOfG at h
    have P := depsLoop_walk db req _ _ top depth (tableMissing_false hns) (fun p dp st out st' hq => ih p dp st out st' hq)
      _ _ _ _ _ (table_noUnsetup hns top) (fun _ h => h) h
    refine Post.plain (i := none) (mem_items_iff.mpr (.inl rfl)) (fun f => ?_) (fun v ⟨_, hd, _⟩ => nomatch hd) P
    rw [needs_none]
    cases f with
    | node a =>
      -- `top` becomes a key unless it is one
      simp only [facts, Fact.node.injEq]
      split
      · rename_i hc
        exact ⟨.inl, fun h => h.elim id (· ▸ List.contains_iff_mem.mp hc)⟩
      · simp
    | _ => exact ⟨.inl, fun h => h.resolve_right nofun⟩

theorem tableSys_reach {u v : Prod} : Reach (tableSys db req) u v ↔ XReach db req u v := by
  constructor
  · intro h
    induction h with
    | refl => exact .refl _
    | head hi ho _ ih =>
      obtain ⟨d, rfl, hj, hr⟩ := ho
      obtain hi | ⟨d', hd', hi⟩ := mem_items_iff.mp hi
      · cases hi
      · cases hi
        exact .head ⟨d, hd', hj, hr⟩ ih
  · intro h
    induction h with
    | refl => exact .refl _
    | head he _ ih =>
      obtain ⟨d, hd, hj, hr⟩ := he
      exact .head (mem_items hd) ⟨d, rfl, hj, hr⟩ ih

theorem tableSys_just {top : Prod} {f : Fact} : Just (tableSys db req) top f ↔
    ∃ w, XReach db req top w ∧ (f = .node w ∨ ∃ d ∈ db.table w, f = .out (target db req d) ∨ f = .edge w (target db req d)) := by
  simp only [Just, tableSys_reach]
  constructor
  · rintro ⟨w, i, hw, hi, hn⟩
    refine ⟨w, hw, ?_⟩
    obtain rfl | ⟨d, hd, rfl⟩ := mem_items_iff.mp hi
    · exact .inl hn
    · exact .inr ⟨d, hd, hn⟩
  · rintro ⟨w, hw, rfl | ⟨d, hd, hn⟩⟩
    · exact ⟨w, none, hw, mem_items_iff.mpr (.inl rfl), rfl⟩
    · exact ⟨w, some d, hw, mem_items hd, hn⟩

/-- the listing and the product dictionary of a walk begun from the empty state -/
structure Exact (db : Db) (req : Required) (top : Prod) (out : List Entry) (st : St) : Prop where
  out_iff : ∀ v, v ∈ out.map (·.prod) ↔ Listed db req top v
  nodes_iff : ∀ a, a ∈ st.nodes ↔ XReach db req top a
  edges_iff : ∀ a b, (a, b) ∈ st.edges ↔ XReach db req top a ∧ Edge db req a b

/-- **The walk is sound and complete** (tables without unsetup lines): the three readings of `Post.facts_iff` -/
theorem depsOf_exact {db : Db} (hns : NoUnsetup db) {req : Required} {f : Nat} {top : Prod} {depth : Nat}
    {out : List Entry} {st' : St} (h : depsOf db f req top true depth St.empty = some (out, st')) :
    Exact db req top out st' := by
  have key := fun f => ((depsOf_walk db hns req _ _ _ _ _ _ h).facts_iff (fun _ h => nomatch h)
    (by intro f hf; cases f <;> simp [facts, St.empty] at hf) f).trans tableSys_just
  refine ⟨fun v => (key (.out v)).trans ?_, fun a => (key (.node a)).trans ?_, fun a b => (key (.edge a b)).trans ?_⟩
  · simp [Listed, Edge, eq_comm]
  · simp
  · simp only [reduceCtorEq, Fact.edge.injEq, false_or, Edge]
    exact ⟨fun ⟨w, hw, d, hd, h1, h2⟩ => h1 ▸ ⟨hw, d, hd, h2.symm⟩, fun ⟨hw, d, hd, h⟩ => ⟨a, hw, d, hd, rfl, h.symm⟩⟩

theorem depsOf_listed {db : Db} (hns : NoUnsetup db) {req : Required} {f : Nat} {top : Prod} {depth : Nat}
    {out : List Entry} {st' : St} (h : depsOf db f req top true depth St.empty = some (out, st')) (v : Prod) :
    v ∈ out.map (·.prod) ↔ Listed db req top v := (depsOf_exact hns h).out_iff v

theorem depsLoop_nonrec_prods (db : Db) (req : Required)
    (recur : Prod → Nat → St → Option (List Entry × St)) (fresh : Prod → Option (List Str))
    (top : Prod) (depth : Nat) (ds acc st out st') (hu : ∀ d ∈ ds, d.unsetup = false)
    (h : depsLoop db req recur fresh top false depth ds acc st = some (out, st')) :
      out.map (·.prod) = acc.map (·.prod) ++ ds.map (target db req) := by
  fun_induction depsLoop db req recur fresh top false depth ds acc st with
  -- no line left
  | case1 => cases h; simp
  -- an unsetup line (name not listed / nested listing fails / entries filtered): there is none
  | case2 d _ _ _ hd | case3 d _ _ _ hd | case4 d _ _ _ hd => simp [hu d (by simp)] at hd
  -- unresolved
  | case5 _ _ _ _ _ _ hr p ih =>
    rw [ih (List.forall_mem_cons.mp hu).2 h]
    simp [target, hr, p]
  -- opened (table file missing / nested walk fails / returns): not when the listing is not recursive
  | case6 _ _ _ _ _ _ _ _ hc | case7 _ _ _ _ _ _ _ hc | case8 _ _ _ _ _ _ _ _ hc => simp at hc
  -- not opened
  | case9 _ _ _ _ _ _ _ hr _ ih =>
    rw [ih (List.forall_mem_cons.mp hu).2 h]
    simp [target, hr]

theorem depsOf_nonrec_prods {db : Db} (hns : NoUnsetup db) {req : Required} {f : Nat} {p : Prod} {depth : Nat}
    {st : St} {out : List Entry} {st' : St} (h : depsOf db f req p false depth st = some (out, st')) :
    out.map (·.prod) = (db.table p).map (target db req) := by
  cases f with
  | zero => cases h
  | succ k =>
    unfold depsOf depsOfG at h
    have := depsLoop_nonrec_prods db req _ _ p depth _ _ _ _ _ (table_noUnsetup hns p) h
    simpa using this

/-- the versions the second pass requires: every name ↦ the version of its entries in the plain listing (the last
one wins, `lookupLast`) -/
def pinsOf (out : List Entry) : Required := out.map fun e => (e.prod.name, e.prod.ver)

/-- the depths of the layers written into the entries of the first pass, sorted, made unique -/
def relabel (ls : List (List Prod)) (out : List Entry) : List Entry :=
  uniqueLast (sortStable entryLe (out.map fun e =>
    match depthOfName (depthAssignments (ls.length + 1) 0 ls) e.prod.name with
    | some d => { e with depth := some d }
    | none => e))

theorem getDependentProducts_eq {db : Db} {fuel : Nat} {top : Prod} (hm : db.tableMissing top = false)
    {out1 : List Entry} {st1 : St} (h1 : listing db fuel [] top = some (out1, st1)) (topological cc : Bool) :
    getDependentProducts db fuel top topological cc =
      if (topological || cc) = false then .ok out1 else
      match listing db fuel (pinsOf out1) top with
      | none => .outOfFuel
      | some (_, st2) =>
        match Topo.topologicalSort (graphOf st2) cc with
        | .outOfFuel => .outOfFuel
        | .cycle => .cycle
        | .ok ls => .ok (relabel ls out1) := by
  simp only [getDependentProducts, hm, h1, finishListing, Bool.false_eq_true, if_false]
  cases topological <;> cases cc <;> rfl

end EupsModel.Deps
