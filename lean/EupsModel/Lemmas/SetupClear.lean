import EupsModel.Lemmas.SetupFrame
/-! Discharging the proviso of `C02_inverse_partial` ("no product of the closure is left set up") for closures without `-j`
and `max_depth`.  Unsetup (`setup_false_clear`): when a product loses its record, every product its table names has none
at the end.  Forward (`setup_supp2`; `setup_supp`, which nothing else uses, assumes one declared version per name instead):
every set-up product of the closure was asked for by one (`Supp`).  The two combine by induction on the rank
(`none_of_cleared`).  Last, for C01's required closure: the required dependencies of every set-up product are set up
(`ReqSat`, `setup_req`). -/
namespace EupsModel.Setup

def NoJust (db : Db) (S : Name → Prop) : Prop :=
  ∀ d ∈ db.decls, S d.name → ∀ g n o j v x t kl, (g, Act.dep n o j v x t kl) ∈ d.table → j = false

theorem NoJust.dep {db : Db} {S : Name → Prop} (h : NoJust db S) {d : Decl} (hc : Canon db d) (hS : S d.name) {exact : Bool}
    {n : Name} {o j : Bool} {v : Option VerReq} {x : Option VExpr} {t : List Str} {kl : Bool}
    (hm : Act.dep n o j v x t kl ∈ d.actions exact) : j = false := by
  obtain ⟨hd, g, hg⟩ := canon_table_mem db d hc exact _ hm
  exact h d hd hS g n o j v x t kl hg

def OneVersion (db : Db) (S : Name → Prop) : Prop :=
  ∀ d ∈ db.decls, ∀ d' ∈ db.decls, S d.name → d'.name = d.name → d'.ver = d.ver

def noJustB (db : Db) : Bool :=
  db.decls.all fun d => d.table.all fun ga =>
    match ga.2 with
    | .dep _ _ j _ _ _ _ => !j
    | _ => true

theorem noJust_of_check (db : Db) (S : Name → Prop) (h : noJustB db = true) : NoJust db S := by
  intro d hd _ g n o j v x t kl hg
  simpa using all_lines h hd hg

def oneVersionB (db : Db) : Bool :=
  db.decls.all fun d => db.decls.all fun d' => decide (d'.name = d.name → d'.ver = d.ver)

theorem oneVersion_of_check (db : Db) (S : Name → Prop) (h : oneVersionB db = true) : OneVersion db S := by
  intro d hd d' hd' _ hn
  unfold oneVersionB at h
  rw [List.all_eq_true] at h
  have h1 := h d hd
  rw [List.all_eq_true] at h1
  have h2 := h1 d' hd'
  simp at h2
  rcases h2 with h2 | h2
  · exact absurd hn h2
  · exact h2

def RecsDeclared (db : Db) (e : Env) : Prop := ∀ n v, e.rec? n = some v → ∃ d, db.lookup (n, v) = some d

theorem RecsDeclared.of_sub {db : Db} {e e' : Env} (h : RecsDeclared db e) (hs : Sub e' e) : RecsDeclared db e' :=
  fun n v hr => h n v (hs.recs n v hr)

theorem RecsDeclared.of_recs_eq {db : Db} {e e' : Env} (h : RecsDeclared db e) (hr : ∀ n, e'.rec? n = e.rec? n) :
    RecsDeclared db e' :=
  fun n v hv => h n v (by rw [← hr]; exact hv)

theorem setupProd_none_of_declared {db : Db} {e : Env} (hd : RecsDeclared db e) {n : Name}
    (h : setupProd db e n = none) : e.rec? n = none := by
  cases hr : e.rec? n with
  | none => rfl
  | some v =>
    obtain ⟨d, hl⟩ := hd n v hr
    rw [setupProd_of_rec hr, hl] at h; cases h

/-- when a product of `S` loses its record during the run, everything its table names is without a record at the end -/
def Cleared (cfg : Cfg) (S : Name → Prop) (e e' : Env) : Prop :=
  ∀ p v, S p → e.rec? p = some v → e'.rec? p = none →
    ∀ m o j x y t kl, Act.dep m o j x y t kl ∈ tableOf cfg (p, v) → e'.rec? m = none

theorem cleared_trans {cfg : Cfg} {S : Name → Prop} {a b c : Env} (h1 : Cleared cfg S a b) (h2 : Cleared cfg S b c)
    (hba : Sub b a) (hcb : Sub c b) : Cleared cfg S a c := by
  intro p v hp hr hn m o j x y t kl hline
  cases hb : b.rec? p with
  | none => exact hcb.rec_none m (h1 p v hp hr hb m o j x y t kl hline)
  | some w =>
    have : w = v := by have := hba.recs p w hb; rw [hr] at this; exact (Option.some.inj this).symm
    subst this
    exact h2 p w hp hb hn m o j x y t kl hline

theorem forall_dep_cons {P : Name → Bool → Prop} (a : Act) (rest : List Act)
    (ha : ∀ n o j v x t kl, a = .dep n o j v x t kl → P n o)
    (hrest : ∀ n o j v x t kl, Act.dep n o j v x t kl ∈ rest → P n o) :
    ∀ n o j v x t kl, Act.dep n o j v x t kl ∈ a :: rest → P n o := by
  intro n o j v x t kl hm
  rcases List.mem_cons.1 hm with hm | hm
  · exact ha n o j v x t kl hm.symm
  · exact hrest n o j v x t kl hm

section
variable {cfg : Cfg} (S : Name → Prop) (hmd : cfg.maxDepth = none) (hcl : Closed cfg.db S) (hnj : NoJust cfg.db S)
include hmd hcl hnj

/-- unsetup without `--no-recursion` in a closure without `-j` and `max_depth`: every dependency line is followed, so what
the lines left of the table name has no record at the end -/
theorem unClear_rules :
    UnRules cfg (fun _ nr n s s' => nr = false → S n → RecsDeclared cfg.db s.env → Cleared cfg S s.env s'.env)
      (fun _ nr d l s s' => nr = false → S d.name → RecsDeclared cfg.db s.env → Cleared cfg S s.env s'.env ∧
        (∀ n o j v x t kl, Act.dep n o j v x t kl ∈ l → s'.env.rec? n = none) ∧ Sub s'.env s.env) where
  nil := fun _ _ _ =>
    ⟨fun p v _ hr hn => (by rw [hr] at hn; cases hn), fun _ _ _ _ _ _ _ hm => absurd hm List.not_mem_nil, Sub.refl _⟩
  line := fun d a s _ _ hnd ih hnr hSd hd => by
    obtain ⟨hs1, hrec1, _, _⟩ := apply_false_spec d.prod a s
    obtain ⟨hc2, hb2, hs2⟩ := ih hnr hSd (hd.of_sub hs1)
    exact ⟨fun p v hp hr hn => hc2 p v hp (by rw [hrec1]; exact hr) hn,
      forall_dep_cons a _ (fun n' o' j' v' x' t' kl' e => absurd e (hnd n' o' j' v' x' t' kl')) hb2, hs2.trans hs1⟩
  skip := fun hgo _ hnr => by subst hnr; simp [hmd] at hgo
  absent := fun hnone ih hnr hSd hd => by
    obtain ⟨hc2, hb2, hs2⟩ := ih hnr hSd hd
    have hnone := setupProd_none_of_declared hd hnone
    exact ⟨hc2, forall_dep_cons _ _ (fun _ _ _ _ _ _ _ e => by cases e; exact hs2.rec_none _ hnone) hb2, hs2⟩
  ok := fun hc hm _ hr1 hq ih hnr hSd hd => by
    have hSn := hcl.dep hc hSd hm
    cases hnj.dep hc hSd hm
    have hs1 := (setup_false_sub cfg hr1).2
    obtain ⟨hc2, hb2, hs2⟩ := ih hnr hSd (hd.of_sub hs1)
    exact ⟨cleared_trans (hq rfl hSn hd) hc2 hs1 hs2,
      forall_dep_cons _ _ (fun _ _ _ _ _ _ _ e => by
        cases e; exact hs2.rec_none _ (setup_false_unsets cfg hr1)) hb2, hs2.trans hs1⟩
  unwind := fun d s hc hname hrec ih hnr hSn hd => by
    obtain ⟨hc2, hb2, _⟩ := ih hnr (hname ▸ hSn) (hd.of_sub (Sub.unrecorded s d))
    intro p v hp hr hn m o j x y t kl hline
    by_cases hpd : p = d.name
    · subst hpd
      rw [hname] at hr
      rw [hrec] at hr
      have hv : d.ver = v := Option.some.inj hr
      subst hv
      exact hb2 m o j x y t kl (tableOf_canon cfg d hc ▸ hline)
    · exact hc2 p v hp ((unrec_rec?_other s.env d.name p hpd).trans hr) hn m o j x y t kl hline

end

theorem setup_false_clear (cfg : Cfg) (S : Name → Prop) (hmd : cfg.maxDepth = none) (hcl : Closed cfg.db S)
    (hnj : NoJust cfg.db S) {fuel depth : Nat} {vro : List VroEnt} {n : Name} {ver : Option VerReq} {vexpr : Option VExpr}
    {s s' : St} (hSn : S n) (hd : RecsDeclared cfg.db s.env)
    (h : setup cfg fuel false depth false vro n ver vexpr s = .ok s') : Cleared cfg S s.env s'.env :=
  (unClear_rules S hmd hcl hnj).run fuel h rfl hSn hd

/-- every set-up product of `S` other than `top` is named by a line of the table of a set-up product of `S` -/
def Supp (cfg : Cfg) (S : Name → Prop) (top : Name) (e : Env) : Prop :=
  ∀ m v, S m → e.rec? m = some v →
    m = top ∨ ∃ p w, S p ∧ e.rec? p = some w ∧ ∃ o j x y t kl, Act.dep m o j x y t kl ∈ tableOf cfg (p, w)

/-- who asked for `n`: it is the requested product, or a line of the table of a set-up product of `S` names it -/
def Asked (cfg : Cfg) (S : Name → Prop) (top : Name) (e : Env) (n : Name) : Prop :=
  n = top ∨ ∃ p w, S p ∧ e.rec? p = some w ∧ ∃ o j x y t kl, Act.dep n o j x y t kl ∈ tableOf cfg (p, w)

def Grow (e e' : Env) : Prop := ∀ m v, e.rec? m = some v → e'.rec? m = some v

def SuppSpec (cfg : Cfg) (S : Name → Prop) (top : Name) (rec : Rec) : Prop :=
  ∀ depth noRec vro n ver vexpr s s', S n → Asked cfg S top s.env n →
    (depth > 0 ∨ setupProd cfg.db s.env n = none) → AlreadyOK cfg.db s.already → RecsDeclared cfg.db s.env →
    Supp cfg S top s.env → rec true depth noRec vro n ver vexpr s = .ok s' →
    Supp cfg S top s'.env ∧ Grow s.env s'.env ∧ RecsDeclared cfg.db s'.env

theorem grow_record {d : Decl} {r : Option VroEnt} {s : St} (hnone : s.env.rec? d.name = none) :
    Grow s.env (record d r s).env := by
  intro m w hm
  have hne : m ≠ d.name := by intro e; rw [e, hnone] at hm; cases hm
  rw [record_rec?_other d r s m hne]; exact hm

theorem recsDeclared_record {db : Db} {d : Decl} {r : Option VroEnt} {s : St} (hc : Canon db d)
    (hd : RecsDeclared db s.env) : RecsDeclared db (record d r s).env := by
  intro n v hr
  by_cases hn : n = d.name
  · subst hn
    rw [record_rec?_same] at hr
    cases hr
    exact ⟨d, hc⟩
  · rw [record_rec?_other d r s n hn] at hr; exact hd n v hr

/-- the state `fresh` records the chosen product in: its name has no record there, and the records stay declared -/
theorem Chosen.fresh_recs {cfg : Cfg} {k : Nat} {vro : List VroEnt} {n : Name} {ver : Option VerReq} {vexpr : Option VExpr}
    {s : St} {d : Decl} {reason : Option VroEnt} {s0 : St} (hch : Chosen cfg k vro n ver vexpr s d reason s0)
    (hd : RecsDeclared cfg.db s.env) (hsp : setupProd cfg.db s.env n = none) :
    s0.env.rec? d.name = none ∧ RecsDeclared cfg.db (record d reason s0).env := by
  rw [← hch.env] at hd hsp
  rw [← hch.name] at hsp
  exact ⟨setupProd_none_of_declared hd hsp, recsDeclared_record hch.canon hd⟩

/-- with one declared version per name of `S`, `install` never replaces the set-up version of the chosen product's name -/
theorem oneVersion_kept {cfg : Cfg} {S : Name → Prop} (hone : OneVersion cfg.db S) {k : Nat} {vro : List VroEnt} {n : Name}
    {ver : Option VerReq} {vexpr : Option VExpr} {s : St} {d : Decl} {reason : Option VroEnt} {s0 : St}
    (hch : Chosen cfg k vro n ver vexpr s d reason s0) (hSn : S n) (hdepth : k > 0 ∨ setupProd cfg.db s.env n = none)
    {sd : Decl} (hsp : setupProd cfg.db s.env n = some sd) : sd.ver.1 = d.ver.1 ∧ 0 < k := by
  obtain rfl := hch.name
  obtain ⟨hcs, hname, _⟩ := setupProd_some cfg.db s.env d.name sd hsp
  rw [hone d (lookup_some cfg.db d.prod d hch.canon).1 sd (lookup_some cfg.db sd.prod sd hcs).1 hSn hname]
  exact ⟨rfl, hdepth.resolve_right (by rw [hsp]; nofun)⟩

/-- a line of the table of a set-up product of `S` asks for its target -/
theorem asked_of_line {cfg : Cfg} {S : Name → Prop} {top : Name} {e : Env} {d : Decl} (hc : Canon cfg.db d) (hS : S d.name)
    (hr : e.rec? d.name = some d.ver) {n : Name} {o j : Bool} {v : Option VerReq} {x : Option VExpr} {t : List Str}
    {kl : Bool} (hm : Act.dep n o j v x t kl ∈ d.actions cfg.exact) : Asked cfg S top e n :=
  Or.inr ⟨d.name, d.ver, hS, hr, o, j, v, x, t, kl, mem_tableOf hc hm⟩

theorem supp_record {cfg : Cfg} {S : Name → Prop} {top : Name} {d : Decl} {r : Option VroEnt} {s : St}
    (hs : Supp cfg S top s.env) (hask : Asked cfg S top s.env d.name) (hnone : s.env.rec? d.name = none) :
    Supp cfg S top (record d r s).env := by
  have lift : ∀ n, Asked cfg S top s.env n → Asked cfg S top (record d r s).env n := by
    intro n hask
    rcases hask with h1 | ⟨p, w, hp, hpw, hline⟩
    · exact Or.inl h1
    · exact Or.inr ⟨p, w, hp, grow_record hnone p w hpw, hline⟩
  intro m v hm hr
  by_cases hmd : m = d.name
  · subst hmd; exact lift _ hask
  · rw [record_rec?_other d r s m hmd] at hr
    exact lift m (hs m v hm hr)

theorem supp_of_recs_eq {cfg : Cfg} {S : Name → Prop} {top : Name} {e e' : Env} (h : Supp cfg S top e)
    (hr : ∀ n, e'.rec? n = e.rec? n) : Supp cfg S top e' := by
  intro m v hm hrec
  rw [hr] at hrec
  rcases h m v hm hrec with h1 | ⟨p, w, hp, hpw, hline⟩
  · exact Or.inl h1
  · exact Or.inr ⟨p, w, hp, by rw [hr]; exact hpw, hline⟩

section
variable {cfg : Cfg} (S : Name → Prop) (top : Name) (hcl : Closed cfg.db S) (hone : OneVersion cfg.db S)
include hcl hone

theorem supp_rules :
    FwdRules cfg
      (fun k _ _ n s res => S n → Asked cfg S top s.env n →
        (k > 0 ∨ setupProd cfg.db s.env n = none) → RecsDeclared cfg.db s.env → Supp cfg S top s.env →
        ∀ s', res = .ok s' → Supp cfg S top s'.env ∧ Grow s.env s'.env ∧ RecsDeclared cfg.db s'.env)
      (fun _ _ _ d _ s res => S d.name → RecsDeclared cfg.db s.env → Supp cfg S top s.env →
        s.env.rec? d.name = some d.ver →
        ∀ s', res = .ok s' → Supp cfg S top s'.env ∧ Grow s.env s'.env ∧ RecsDeclared cfg.db s'.env) where
  nil := fun _ hd hs _ _ h => by cases h; exact ⟨hs, fun _ _ h => h, hd⟩
  line := fun d a s _ _ _ ih hSd hd hs hr s' h => by
    have hrecs := apply_rec? true d.prod a s
    obtain ⟨hs2, hg2, hd2⟩ := ih hSd (hd.of_recs_eq hrecs) (supp_of_recs_eq hs hrecs) (by rw [hrecs]; exact hr) s' h
    exact ⟨hs2, fun m w hm => hg2 m w (by rw [hrecs]; exact hm), hd2⟩
  skip := fun _ ih => ih
  ok := fun _ hc _ hm _ _ hq ih hSd hd hs hr s' h => by
    obtain ⟨hs1, hg1, hd1⟩ := hq (hcl.dep hc hSd hm) (asked_of_line hc hSd hr hm) (Or.inl (Nat.succ_pos _)) hd hs _ rfl
    obtain ⟨hs2, hg2, hd2⟩ := ih hSd hd1 hs1 (hg1 _ _ hr) s' h
    exact ⟨hs2, fun m w hm => hg2 m w (hg1 m w hm), hd2⟩
  raise := fun _ _ _ _ _ _ _ h => nomatch h
  cont := fun _ _ ih => ih
  notFound := fun _ _ _ _ _ _ h => nomatch h
  raised := fun _ _ _ _ _ _ h => nomatch h
  same := fun hch _ _ _ _ _ hd hs _ h => by cases h; rw [hch.env]; exact ⟨hs, fun _ _ h => h, hd⟩
  fresh := fun hch hsp ih hSn hask _ hd hs s' h => by
    obtain ⟨hnone, hd0⟩ := hch.fresh_recs hd hsp
    obtain rfl := hch.name
    rw [← hch.env] at hs hask ⊢
    obtain ⟨hs3, hg3, hd3⟩ := ih hSn hd0 (supp_record hs hask hnone) (record_rec?_same ..) s' h
    exact ⟨hs3, fun m w hm => hg3 m w (grow_record hnone m w hm), hd3⟩
  replace := fun _ hch hsp hnv _ _ hSn _ hdepth _ _ => absurd (oneVersion_kept hone hch hSn hdepth hsp) hnv

end

theorem setup_supp (cfg : Cfg) (rank : Name → Nat) (hdag : NameDag cfg.db rank) (S : Name → Prop) (top : Name)
    (hcl : Closed cfg.db S) (hone : OneVersion cfg.db S) : ∀ fuel, SuppSpec cfg S top (setup cfg fuel) :=
  fun fuel _ _ _ _ _ _ _ s' hSn hask hdepth ha hd hs h =>
    (supp_rules S top hcl hone).run fuel ha h nofun hSn hask hdepth hd hs s' rfl

theorem supp_of_cleared {cfg : Cfg} {S : Name → Prop} {top : Name} {e e' : Env} (hs : Supp cfg S top e)
    (hc : Cleared cfg S e e') (hsub : Sub e' e) : Supp cfg S top e' := by
  intro m v hm hr
  rcases hs m v hm (hsub.recs m v hr) with h1 | ⟨p, w, hp, hpw, o, j, x, y, t, kl, hline⟩
  · exact Or.inl h1
  · right
    cases hpe : e'.rec? p with
    | none =>
      have := hc p w hp hpw hpe m o j x y t kl hline
      rw [hr] at this; cases this
    | some w' =>
      have : w' = w := by have := hsub.recs p w' hpe; rw [hpw] at this; exact (Option.some.inj this).symm
      subst this
      exact ⟨p, w', hp, hpe, o, j, x, y, t, kl, hline⟩

theorem tableOf_dep_rank (cfg : Cfg) (rank : Name → Nat) (hdag : NameDag cfg.db rank) (p : Name) (w : Ver) {m : Name}
    {o j : Bool} {x : Option VerReq} {y : Option VExpr} {t : List Str} {kl : Bool}
    (h : Act.dep m o j x y t kl ∈ tableOf cfg (p, w)) : rank m < rank p := by
  unfold tableOf at h
  cases hl : cfg.db.lookup (p, w) with
  | none => rw [hl] at h; cases h
  | some d =>
    rw [hl] at h
    obtain ⟨hc, hp⟩ := lookup_canon cfg.db (p, w) d hl
    have := hdag.dep hc h
    rwa [show d.name = p from congrArg Prod.fst hp] at this

/-- `Supp` before, `Cleared` across: when the top product has lost its record, so has every product of `S`.  By induction
on the distance of the rank from the top's: what still has a record was asked for by a product of higher rank, which by
induction has none, and then `Cleared` says that what its table names has none either. -/
theorem none_of_cleared (cfg : Cfg) (rank : Name → Nat) (hdag : NameDag cfg.db rank) (S : Name → Prop) (top : Name)
    (hrank : ∀ m, S m → rank m ≤ rank top) {e e' : Env} (hs : Supp cfg S top e) (hc : Cleared cfg S e e') (hsub : Sub e' e)
    (htop : e'.rec? top = none) : ∀ m, S m → e'.rec? m = none := by
  have key : ∀ k m, S m → rank top - rank m = k → e'.rec? m = none := by
    intro k
    induction k using Nat.strongRecOn with
    | _ k ih =>
      intro m hm hk
      cases hr : e'.rec? m with
      | none => rfl
      | some v =>
        exfalso
        rcases hs m v hm (hsub.recs m v hr) with rfl | ⟨p, w, hp, hpw, o, j, x, y, t, kl, hline⟩
        · rw [htop] at hr; cases hr
        · have h1 := tableOf_dep_rank cfg rank hdag p w hline
          have h2 := hrank p hp
          have hpnone := ih (rank top - rank p) (by omega) p hp rfl
          rw [hc p w hp hpw hpnone m o j x y t kl hline] at hr; cases hr
  exact fun m hm => key _ m hm rfl

theorem asked_of_frame (cfg : Cfg) (rank : Name → Nat) (hdag : NameDag cfg.db rank) {S : Name → Prop} {top : Name}
    {e e' : Env} {n : Name} (h : Asked cfg S top e n)
    (hfr : ∀ m, m ≠ n → rank n ≤ rank m → e'.rec? m = e.rec? m) : Asked cfg S top e' n := by
  rcases h with h1 | ⟨p, w, hp, hpw, o, j, x, y, t, kl, hline⟩
  · exact Or.inl h1
  · have hr := tableOf_dep_rank cfg rank hdag p w hline
    exact Or.inr ⟨p, w, hp, by rw [of_rank_lt (hfr p) hr]; exact hpw, o, j, x, y, t, kl, hline⟩

section
variable {cfg : Cfg} (rank : Name → Nat) (hdag : NameDag cfg.db rank) (S : Name → Prop) (top : Name)
  (hmd : cfg.maxDepth = none) (hcl : Closed cfg.db S) (hnj : NoJust cfg.db S)
include hdag hmd hcl hnj

/-- without `OneVersion`, from a residue-free environment: a replaced version is unwound first and takes along what its
table names (`Cleared`), so what stays set up was still asked for -/
theorem supp2_rules :
    FwdRules cfg
      (fun _ nr _ n s res => nr = false → S n → Asked cfg S top s.env n → WellOwned cfg s.env →
        NoResidue Empty s.env → RecsDeclared cfg.db s.env → Supp cfg S top s.env →
        ∀ s', res = .ok s' → Supp cfg S top s'.env ∧ RecsDeclared cfg.db s'.env)
      (fun _ nr _ d _ s res => nr = false → S d.name → TableInv cfg d s.env → RecsDeclared cfg.db s.env →
        Supp cfg S top s.env → ∀ s', res = .ok s' → Supp cfg S top s'.env ∧ RecsDeclared cfg.db s'.env) where
  nil := fun _ _ _ hd hs _ h => by cases h; exact ⟨hs, hd⟩
  line := fun d a s hc hm _ ih hnr hSd hi hd hs s' h => by
    have hrecs := apply_rec? true d.prod a s
    exact ih hnr hSd (hi.apply a (mem_tableOf hc hm)) (hd.of_recs_eq hrecs) (supp_of_recs_eq hs hrecs) s' h
  skip := fun _ ih => ih
  ok := fun _ hc ha hm _ hr1 hq ih hnr hSd hi hd hs s' h => by
    obtain ⟨hs1, hd1⟩ := hq (hnj.dep hc hSd hm) (hcl.dep hc hSd hm) (asked_of_line hc hSd hi.recorded hm)
      hi.owned hi.clean hd hs _ rfl
    exact ih hnr hSd (hi.ok (setup_spec cfg rank hdag ha hi.owned hi.clean hr1)
      (of_rank_lt (setup_frame cfg rank hdag ha hr1 _) (hdag.dep hc hm))) hd1 hs1 s' h
  raise := fun _ _ _ _ _ _ _ _ h => nomatch h
  cont := fun _ _ ih => ih
  notFound := fun _ _ _ _ _ _ _ _ h => nomatch h
  raised := fun _ _ _ _ _ _ _ _ h => nomatch h
  same := fun hch _ _ _ _ _ _ _ hd hs _ h => by cases h; rw [hch.env]; exact ⟨hs, hd⟩
  fresh := fun hch hsp ih hnr hSn hask hw hn hd hs s' h => by
    have hi := TableInv.fresh hch hw hn hsp
    obtain ⟨hnone, hd0⟩ := hch.fresh_recs hd hsp
    obtain rfl := hch.name
    rw [← hch.env] at hs hask
    exact ih hnr hSn hi hd0 (supp_record hs hask hnone) s' h
  replace := fun _ hch _ _ hr1 ih hnr hSn hask hw hn hd hs s' h => by
    have hi := TableInv.replace hch hw hn hr1
    obtain rfl := hch.name
    subst hnr
    rw [← hch.env] at hd hs hask
    have hsub := (setup_false_sub cfg hr1).2
    -- the unwinding changes no record of a name of higher rank, so who asked still does
    have hask1 := asked_of_frame cfg rank hdag hask (setup_frame cfg rank hdag hch.already hr1)
    have hnone := setup_false_unsets cfg hr1
    exact ih rfl hSn hi (recsDeclared_record hch.canon (hd.of_sub hsub))
      (supp_record (supp_of_cleared hs (setup_false_clear cfg S hmd hcl hnj hSn hd hr1) hsub) hask1 hnone) s' h

end

theorem setup_supp2 (cfg : Cfg) (rank : Name → Nat) (hdag : NameDag cfg.db rank) (S : Name → Prop) (top : Name)
    (hmd : cfg.maxDepth = none) (hcl : Closed cfg.db S) (hnj : NoJust cfg.db S) {fuel depth : Nat} {vro : List VroEnt}
    {n : Name} {ver : Option VerReq} {vexpr : Option VExpr} {s s' : St} (hSn : S n) (hask : Asked cfg S top s.env n)
    (ha : AlreadyOK cfg.db s.already) (hw : WellOwned cfg s.env) (hn : NoResidue Empty s.env)
    (hd : RecsDeclared cfg.db s.env) (hs : Supp cfg S top s.env)
    (h : setup cfg fuel true depth false vro n ver vexpr s = .ok s') :
    Supp cfg S top s'.env ∧ RecsDeclared cfg.db s'.env :=
  (supp2_rules rank hdag S top hmd hcl hnj).run fuel ha h nofun rfl hSn hask hw hn hd hs s' rfl

/-- every `setupRequired` line of the table of every set-up product of `S` outside `Y` has its target set up -/
def ReqSat (cfg : Cfg) (S Y : Name → Prop) (e : Env) : Prop :=
  ∀ p v, S p → ¬ Y p → e.rec? p = some v →
    ∀ m j x y t kl, Act.dep m false j x y t kl ∈ tableOf cfg (p, v) → ∃ w, e.rec? m = some w

theorem reqSat_grow {cfg : Cfg} {S Y : Name → Prop} {e e' : Env} (h : ReqSat cfg S Y e) (hg : Grow e e')
    (hsame : ∀ p v, S p → ¬ Y p → e'.rec? p = some v → e.rec? p = some v) : ReqSat cfg S Y e' := by
  intro p v hp hy hr m j x y t kl hline
  obtain ⟨w, hw⟩ := h p v hp hy (hsame p v hp hy hr) m j x y t kl hline
  exact ⟨w, hg m w hw⟩

section
variable {cfg : Cfg} (S : Name → Prop) (hmd : cfg.maxDepth = none) (hcl : Closed cfg.db S) (hnj : NoJust cfg.db S)
  (hone : OneVersion cfg.db S)
include hmd hcl hnj hone

theorem req_rules :
    FwdRules cfg
      (fun k nr _ n s res => nr = false → ∀ Y : Name → Prop, S n →
        (k > 0 ∨ setupProd cfg.db s.env n = none) → RecsDeclared cfg.db s.env → ReqSat cfg S Y s.env →
        ∀ s', res = .ok s' →
          ReqSat cfg S Y s'.env ∧ Grow s.env s'.env ∧ RecsDeclared cfg.db s'.env ∧ ∃ w, s'.env.rec? n = some w)
      (fun _ nr _ d l s res => nr = false → ∀ Y : Name → Prop, S d.name → RecsDeclared cfg.db s.env →
        ReqSat cfg S (fun m => Y m ∨ m = d.name) s.env → ∀ s', res = .ok s' →
          ReqSat cfg S (fun m => Y m ∨ m = d.name) s'.env ∧ Grow s.env s'.env ∧ RecsDeclared cfg.db s'.env ∧
          (∀ m o j x y t kl, Act.dep m o j x y t kl ∈ l → o = false → ∃ w, s'.env.rec? m = some w)) where
  nil := fun _ _ _ hd hq _ h => by
    cases h; exact ⟨hq, fun _ _ h => h, hd, fun _ _ _ _ _ _ _ hm => absurd hm List.not_mem_nil⟩
  line := fun d a s _ _ hnd ih hnr Y hSd hd hq s' h => by
    have hrecs := apply_rec? true d.prod a s
    obtain ⟨hq2, hg2, hd2, hdone2⟩ := ih hnr Y hSd (hd.of_recs_eq hrecs)
      (reqSat_grow hq (fun m w h => (hrecs m).trans h) fun p v _ _ h => (hrecs p).symm.trans h) s' h
    exact ⟨hq2, fun m w hm => hg2 m w (by rw [hrecs]; exact hm), hd2,
      forall_dep_cons a _ (fun n o j v x t kl e => absurd e (hnd n o j v x t kl)) hdone2⟩
  skip := fun hgo _ hnr => by subst hnr; simp [hmd] at hgo
  ok := fun d hc _ hm _ _ hq0 ih hnr Y hSd hd hq s' h => by
    obtain ⟨hq1, hg1, hd1, w1, hw1⟩ := hq0 (hnj.dep hc hSd hm) (fun m => Y m ∨ m = d.name) (hcl.dep hc hSd hm)
      (Or.inl (Nat.succ_pos _)) hd hq _ rfl
    obtain ⟨hq2, hg2, hd2, hdone2⟩ := ih hnr Y hSd hd1 hq1 s' h
    exact ⟨hq2, fun m w hm => hg2 m w (hg1 m w hm), hd2,
      forall_dep_cons _ _ (fun _ _ _ _ _ _ _ e _ => by cases e; exact ⟨w1, hg2 _ w1 hw1⟩) hdone2⟩
  raise := fun _ _ _ _ _ _ _ _ h => nomatch h
  cont := fun _ _ ih hnr Y hSd hd hq s' h => by
    obtain ⟨hq2, hg2, hd2, hdone2⟩ := ih hnr Y hSd hd hq s' h
    exact ⟨hq2, hg2, hd2, forall_dep_cons _ _ (fun _ _ _ _ _ _ _ e ho => by cases e; cases ho) hdone2⟩
  notFound := fun _ _ _ _ _ _ _ h => nomatch h
  raised := fun _ _ _ _ _ _ _ h => nomatch h
  same := fun hch hsp _ _ _ _ _ hd hq _ h => by
    cases h; rw [hch.env]
    exact ⟨hq, fun _ _ h => h, hd, ⟨_, (setupProd_some _ _ _ _ hsp).2.2⟩⟩
  fresh := by
    intro k nr vro n ver vexpr s d reason s0 res hch hsp ih hnr Y hSn _ hd hq s' h
    obtain ⟨hnone, hd0⟩ := hch.fresh_recs hd hsp
    obtain rfl := hch.name
    rw [← hch.env] at hq ⊢
    have hgrow : Grow s0.env (record d reason s0).env := grow_record hnone
    have hq2 : ReqSat cfg S (fun m => Y m ∨ m = d.name) (record d reason s0).env :=
      reqSat_grow (fun p v hp hy => hq p v hp fun h => hy (Or.inl h)) hgrow
        fun p v _ hy h => (record_rec?_other d reason s0 p fun e => hy (Or.inr e)).symm.trans h
    obtain ⟨hq3, hg3, hd3, hdone3⟩ := ih hnr Y hSn hd0 hq2 s' h
    have hrd : s'.env.rec? d.name = some d.ver := hg3 _ _ (record_rec?_same d reason s0)
    refine ⟨?_, fun m w hm => hg3 m w (hgrow m w hm), hd3, ⟨d.ver, hrd⟩⟩
    intro p v hp hy hr m j x y t kl hline
    by_cases hpd : p = d.name
    · subst hpd
      rw [hrd] at hr
      cases hr
      exact hdone3 m false j x y t kl (tableOf_canon cfg d hch.canon ▸ hline) rfl
    · exact hq3 p v hp (fun h => h.elim hy hpd) hr m j x y t kl hline
  replace := fun _ hch hsp hnv _ _ _ _ hSn hdepth _ _ => absurd (oneVersion_kept hone hch hSn hdepth hsp) hnv

end

theorem setup_req (cfg : Cfg) (S : Name → Prop) (hmd : cfg.maxDepth = none) (hcl : Closed cfg.db S)
    (hnj : NoJust cfg.db S) (hone : OneVersion cfg.db S) (Y : Name → Prop) {fuel depth : Nat} {vro : List VroEnt}
    {n : Name} {ver : Option VerReq} {vexpr : Option VExpr} {s s' : St} (hSn : S n)
    (hdepth : depth > 0 ∨ setupProd cfg.db s.env n = none) (ha : AlreadyOK cfg.db s.already)
    (hd : RecsDeclared cfg.db s.env) (hq : ReqSat cfg S Y s.env)
    (h : setup cfg fuel true depth false vro n ver vexpr s = .ok s') :
    ReqSat cfg S Y s'.env ∧ Grow s.env s'.env ∧ RecsDeclared cfg.db s'.env ∧ ∃ w, s'.env.rec? n = some w :=
  (req_rules S hmd hcl hnj hone).run fuel ha h nofun rfl Y hSn hdepth hd hq s' rfl

end EupsModel.Setup
