import EupsModel.Model.Db
import EupsModel.Lemmas.List
/-! Lemmas about `Model/Db.lean`.  What an effect does to a content, as one equation per field (`applyDb_decls`,
`applyDb_tags`), and what is read off it: the invariants (`DbInv`), the frames, the footprint of a command (`Within`).  What
the functions the commands are made of emit (`Emits`) and how they end; reads of a content; the listing `findProducts`.
The commands themselves are in `Lemmas/DbPlan`. -/
namespace EupsModel.Db

theorem Decl.hasKey_iff {d : Decl} {s : Nat} {n : Name} {v : Ver} {f : Flav} :
    d.hasKey s n v f = true ↔ d.stack = s ∧ d.name = n ∧ d.ver = v ∧ d.flav = f := by
  simp [Decl.hasKey, and_assoc]

theorem Decl.sameKey_iff {d e : Decl} :
    d.sameKey e = true ↔ d.stack = e.stack ∧ d.name = e.name ∧ d.ver = e.ver ∧ d.flav = e.flav := by
  simp [Decl.sameKey, Decl.hasKey_iff]

theorem TagRec.hasKey_iff {r : TagRec} {s : Nat} {t : Tag} {n : Name} {f : Flav} :
    r.hasKey s t n f = true ↔ r.stack = s ∧ r.tag = t ∧ r.name = n ∧ r.flav = f := by
  simp [TagRec.hasKey, and_assoc]

theorem TagRec.sameKey_iff {r q : TagRec} :
    r.sameKey q = true ↔ r.stack = q.stack ∧ r.tag = q.tag ∧ r.name = q.name ∧ r.flav = q.flav := by
  simp [TagRec.sameKey, TagRec.hasKey_iff]

theorem TagRec.pointsAt_iff {r : TagRec} {s : Nat} {n : Name} {v : Ver} {f : Flav} :
    r.pointsAt s n v f = true ↔ r.stack = s ∧ r.name = n ∧ r.flav = f ∧ r.ver = v := by
  simp [TagRec.pointsAt, and_assoc]

theorem Spec.hasDecl_iff {c : Spec} {s : Nat} {n : Name} {v : Ver} {f : Flav} :
    c.hasDecl s n v f = true ↔ ∃ d ∈ c.decls, d.hasKey s n v f = true := by
  simp [Spec.hasDecl, List.any_eq_true]

theorem Spec.hasTag_iff {c : Spec} {s : Nat} {t : Tag} {n : Name} {f : Flav} :
    c.hasTag s t n f = true ↔ ∃ r ∈ c.tags, r.hasKey s t n f = true := by
  simp [Spec.hasTag, List.any_eq_true]

@[simp] theorem Spec.tags_setDecl (c : Spec) (d : Decl) : (c.setDecl d).tags = c.tags := rfl
@[simp] theorem Spec.decls_setTag (c : Spec) (r : TagRec) : (c.setTag r).decls = c.decls := rfl
@[simp] theorem Spec.decls_delTag (c : Spec) (s : Nat) (t : Tag) (n : Name) (f : Flav) :
    (c.delTag s t n f).decls = c.decls := rfl

theorem Spec.mem_setDecl {c : Spec} {d x : Decl} :
    x ∈ (c.setDecl d).decls ↔ x = d ∨ (x ∈ c.decls ∧ x.sameKey d = false) := by
  simp [Spec.setDecl, List.mem_filter]

theorem Spec.mem_setTag {c : Spec} {r x : TagRec} :
    x ∈ (c.setTag r).tags ↔ x = r ∨ (x ∈ c.tags ∧ x.sameKey r = false) := by
  simp [Spec.setTag, List.mem_filter]

theorem Spec.mem_delTag {c : Spec} {s : Nat} {t : Tag} {n : Name} {f : Flav} {x : TagRec} :
    x ∈ (c.delTag s t n f).tags ↔ x ∈ c.tags ∧ x.hasKey s t n f = false := by
  simp [Spec.delTag, List.mem_filter]

theorem Spec.mem_delDecl_decls {c : Spec} {s : Nat} {n : Name} {v : Ver} {f : Flav} {x : Decl} :
    x ∈ (c.delDecl s n v f).decls ↔ x ∈ c.decls ∧ x.hasKey s n v f = false := by
  simp [Spec.delDecl, List.mem_filter]

theorem Spec.mem_delDecl_tags {c : Spec} {s : Nat} {n : Name} {v : Ver} {f : Flav} {x : TagRec} :
    x ∈ (c.delDecl s n v f).tags ↔ x ∈ c.tags ∧ x.pointsAt s n v f = false := by
  simp [Spec.delDecl, List.mem_filter]

theorem Spec.hasDecl_setDecl_self (c : Spec) (d : Decl) :
    (c.setDecl d).hasDecl d.stack d.name d.ver d.flav = true := by
  rw [Spec.hasDecl_iff]; exact ⟨d, Spec.mem_setDecl.mpr (Or.inl rfl), by simp [Decl.hasKey_iff]⟩

/-- no tag points at an undeclared version -/
def NoDangling (c : Spec) : Prop := ∀ r ∈ c.tags, c.hasDecl r.stack r.name r.ver r.flav = true

/-- `NoDangling` for the tags of product `n` in stack `s`, flavor `f` (a slice, in the order of `AgreeOnN`) -/
def NoDanglingN (c : Spec) (s : Nat) (f : Flav) (n : Name) : Prop :=
  ∀ r ∈ c.tags, r.stack = s → r.flav = f → r.name = n → c.hasDecl s n r.ver f = true

theorem NoDangling.toN {c : Spec} (h : NoDangling c) (s : Nat) (f : Flav) (n : Name) : NoDanglingN c s f n := by
  intro r hr h1 h2 h3
  have := h r hr
  rw [h1, h2, h3] at this
  exact this

/-- within a stack a tag names at most one version per product and flavor, and a (stack, name, version,
flavor) is declared at most once -/
structure KeysUnique (c : Spec) : Prop where
  decl : ∀ d ∈ c.decls, ∀ e ∈ c.decls, d.sameKey e = true → d = e
  tag : ∀ r ∈ c.tags, ∀ q ∈ c.tags, r.sameKey q = true → r = q

theorem noDangling_empty : NoDangling Spec.empty := by intro r h; simp [Spec.empty] at h
theorem keysUnique_empty : KeysUnique Spec.empty :=
  ⟨by intro d h; simp [Spec.empty] at h, by intro r h; simp [Spec.empty] at h⟩

def Eff.touchesDecl : Eff → Decl → Bool
  | .declare d _, x => x.sameKey d
  | .undeclare s n v f, x => x.hasKey s n v f
  | _, _ => false

def Eff.touchesTag : Eff → TagRec → Bool
  | .declare d (some t), r => r.hasKey d.stack t d.name d.flav
  | .undeclare s n v f, r => r.pointsAt s n v f
  | .assign s t n f _, r => r.hasKey s t n f
  | .unassign s t n f, r => r.hasKey s t n f
  | _, _ => false

def Eff.newDecl : Eff → Option Decl
  | .declare d _ => some d
  | _ => none

def Eff.newTag : Eff → Option TagRec
  | .declare d (some t) => some ⟨d.stack, t, d.name, d.flav, d.ver⟩
  | .assign s t n f v => some ⟨s, t, n, f, v⟩
  | _ => none

/-- `Database.assignTag` raises on a version the files do not declare; every other effect goes through -/
def Eff.fires (c : Spec) : Eff → Bool
  | .assign s _ n f v => c.hasDecl s n v f
  | _ => true

theorem applyDb_of_not_fires {e : Eff} {c : Spec} (h : e.fires c = false) : applyDb e c = c := by
  cases e with
  | assign s t n f v => simp only [Eff.fires] at h; simp [applyDb, Spec.assign, h]
  | _ => cases h

theorem filter_not_eq_self {α : Type} {p : α → Bool} {l : List α} (h : ∀ x ∈ l, ¬ p x = true) :
    l.filter (fun x => !p x) = l :=
  List.filter_eq_self.mpr fun x hx => Bool.not_eq_true' _ ▸ Bool.eq_false_iff.mpr (h x hx)

theorem filter_not_false {α : Type} (l : List α) : l.filter (fun _ => !false) = l :=
  filter_not_eq_self fun _ _ => nofun

/-- An effect drops the records it touches and writes at most one new one, which replaces the record of its key
(`touchesDecl_new`, `touchesTag_new`). -/
theorem applyDb_decls (e : Eff) (c : Spec) :
    (applyDb e c).decls = e.newDecl.toList ++ c.decls.filter fun x => !e.touchesDecl x := by
  cases e with
  | declare d tag => cases tag <;> rfl
  | undeclare s n v f => rfl
  | assign s t n f v => simp only [applyDb, Spec.assign]; split <;> exact (filter_not_false _).symm
  | _ => exact (filter_not_false _).symm

theorem applyDb_tags {e : Eff} {c : Spec} (h : e.fires c = true) :
    (applyDb e c).tags = e.newTag.toList ++ c.tags.filter fun x => !e.touchesTag x := by
  cases e with
  | declare d tag => cases tag with
    | none => exact (filter_not_false _).symm
    | some t => rfl
  | undeclare s n v f => rfl
  | assign s t n f v => simp only [Eff.fires] at h; simp only [applyDb, Spec.assign, h]; rfl
  | unassign s t n f => rfl
  | _ => exact (filter_not_false _).symm

theorem mem_applyDb_decls {e : Eff} {c : Spec} {x : Decl} :
    x ∈ (applyDb e c).decls ↔ e.newDecl = some x ∨ (x ∈ c.decls ∧ e.touchesDecl x = false) := by
  rw [applyDb_decls]; simp [List.mem_filter]

theorem mem_applyDb_tags {e : Eff} {c : Spec} {x : TagRec} :
    x ∈ (applyDb e c).tags ↔
      (e.fires c = true ∧ e.newTag = some x) ∨ (x ∈ c.tags ∧ (e.fires c = true → e.touchesTag x = false)) := by
  cases hf : e.fires c with
  | false => rw [applyDb_of_not_fires hf]; simp
  | true => rw [applyDb_tags hf]; simp [List.mem_filter]

theorem Eff.touchesDecl_new {e : Eff} {d : Decl} (h : e.newDecl = some d) (x : Decl) :
    e.touchesDecl x = x.sameKey d := by
  cases e with
  | declare d' tag => cases h; rfl
  | _ => cases h

theorem Eff.touchesTag_new {e : Eff} {r : TagRec} (h : e.newTag = some r) (x : TagRec) :
    e.touchesTag x = x.sameKey r := by
  cases e with
  | declare d tag => cases tag with
    | none => cases h
    | some t => cases h; rfl
  | assign s t n f v => cases h; rfl
  | _ => cases h

theorem Decl.sameKey_self (d : Decl) : d.sameKey d = true := Decl.sameKey_iff.mpr ⟨rfl, rfl, rfl, rfl⟩
theorem TagRec.sameKey_self (r : TagRec) : r.sameKey r = true := TagRec.sameKey_iff.mpr ⟨rfl, rfl, rfl, rfl⟩

theorem Decl.sameKey_of_hasKey {x y : Decl} {s : Nat} {n : Name} {v : Ver} {f : Flav} (hx : x.hasKey s n v f = true)
    (hy : y.hasKey s n v f = true) : x.sameKey y = true := by
  obtain ⟨rfl, rfl, rfl, rfl⟩ := Decl.hasKey_iff.mp hy; exact hx

theorem TagRec.sameKey_of_hasKey {x y : TagRec} {s : Nat} {t : Tag} {n : Name} {f : Flav} (hx : x.hasKey s t n f = true)
    (hy : y.hasKey s t n f = true) : x.sameKey y = true := by
  obtain ⟨rfl, rfl, rfl, rfl⟩ := TagRec.hasKey_iff.mp hy; exact hx

theorem applyDb_frame_decl (e : Eff) (c : Spec) (x : Decl) (h : ¬ e.touchesDecl x = true) :
    x ∈ (applyDb e c).decls ↔ x ∈ c.decls := by
  rw [mem_applyDb_decls]
  exact ⟨fun k => k.elim (fun k => absurd (Eff.touchesDecl_new k x ▸ x.sameKey_self) h) (·.1),
    fun k => .inr ⟨k, Bool.eq_false_iff.mpr h⟩⟩

theorem applyDb_frame_tag (e : Eff) (c : Spec) (x : TagRec) (h : ¬ e.touchesTag x = true) :
    x ∈ (applyDb e c).tags ↔ x ∈ c.tags := by
  rw [mem_applyDb_tags]
  exact ⟨fun k => k.elim (fun k => absurd (Eff.touchesTag_new k.2 x ▸ x.sameKey_self) h) (·.1),
    fun k => .inr ⟨k, fun _ => Bool.eq_false_iff.mpr h⟩⟩

theorem Eff.newTag_declared {e : Eff} {c : Spec} {r : TagRec} (hf : e.fires c = true) (h : e.newTag = some r) :
    (applyDb e c).hasDecl r.stack r.name r.ver r.flav = true := by
  cases e with
  | declare d tag => cases tag with
    | none => cases h
    | some t =>
      cases h
      exact Spec.hasDecl_iff.mpr ⟨d, mem_applyDb_decls.mpr (.inl rfl), Decl.sameKey_self d⟩
  | assign s t n f v =>
    cases h
    obtain ⟨x, hx, hk⟩ := Spec.hasDecl_iff.mp hf
    exact Spec.hasDecl_iff.mpr ⟨x, mem_applyDb_decls.mpr (.inr ⟨hx, rfl⟩), hk⟩
  | _ => cases h

theorem Eff.touchesDecl_cases {e : Eff} {x : Decl} (h : e.touchesDecl x = true) :
    (∃ d, e.newDecl = some d ∧ x.sameKey d = true) ∨ e = .undeclare x.stack x.name x.ver x.flav := by
  cases e with
  | declare d tag => exact .inl ⟨d, rfl, h⟩
  | undeclare s n v f =>
    obtain ⟨rfl, rfl, rfl, rfl⟩ := Decl.hasKey_iff.mp h
    exact .inr rfl
  | _ => cases h

theorem NoDangling.apply {c : Spec} (h : NoDangling c) (e : Eff) : NoDangling (applyDb e c) := by
  intro r hr
  rcases mem_applyDb_tags.mp hr with ⟨hf, hn⟩ | ⟨hr, hrt⟩
  · exact Eff.newTag_declared hf hn
  · obtain ⟨x, hx, hk⟩ := Spec.hasDecl_iff.mp (h r hr)
    obtain ⟨xs, xn, xv, xf⟩ := Decl.hasKey_iff.mp hk
    cases hxt : e.touchesDecl x with
    | false => exact Spec.hasDecl_iff.mpr ⟨x, mem_applyDb_decls.mpr (.inr ⟨hx, hxt⟩), hk⟩
    | true =>
      rcases Eff.touchesDecl_cases hxt with ⟨d, hd, hxd⟩ | rfl
      · -- the declaration the tag names is replaced by one of the same key
        obtain ⟨ds, dn, dv, df⟩ := Decl.sameKey_iff.mp hxd
        exact Spec.hasDecl_iff.mpr ⟨d, mem_applyDb_decls.mpr (.inl hd),
          Decl.hasKey_iff.mpr ⟨ds.symm.trans xs, dn.symm.trans xn, dv.symm.trans xv, df.symm.trans xf⟩⟩
      · -- were the declaration the tag names the one removed, the tag would have gone with it
        have hp : r.pointsAt x.stack x.name x.ver x.flav = false := hrt rfl
        rw [TagRec.pointsAt_iff.mpr ⟨xs.symm, xn.symm, xf.symm, xv.symm⟩] at hp
        cases hp

theorem NoDangling.assign {c : Spec} (h : NoDangling c) (s : Nat) (t : Tag) (n : Name) (f : Flav) (v : Ver) :
    NoDangling (c.assign s t n f v) := h.apply (.assign s t n f v)

theorem unique_write {α : Type} {same : α → α → Bool} (hsymm : ∀ a b, same a b = true → same b a = true) {l : List α}
    (h : ∀ a ∈ l, ∀ b ∈ l, same a b = true → a = b) {new : Option α} {drop : α → Bool}
    (hnew : ∀ x, new = some x → ∀ y, drop y = same y x) :
    ∀ a ∈ new.toList ++ l.filter (fun y => !drop y), ∀ b ∈ new.toList ++ l.filter (fun y => !drop y),
      same a b = true → a = b := by
  intro a ha b hb hab
  simp only [List.mem_append, Option.mem_toList, List.mem_filter, Bool.not_eq_true'] at ha hb
  rcases ha with ha | ⟨ha, hax⟩ <;> rcases hb with hb | ⟨hb, hbx⟩
  · exact Option.some.inj (ha.symm.trans hb)
  · rw [hnew a ha, hsymm _ _ hab] at hbx; cases hbx
  · rw [hnew b hb, hab] at hax; cases hax
  · exact h a ha b hb hab

theorem KeysUnique.apply {c : Spec} (h : KeysUnique c) (e : Eff) : KeysUnique (applyDb e c) := by
  refine ⟨?_, ?_⟩
  · rw [applyDb_decls]
    exact unique_write (fun a b k => by
      rw [Decl.sameKey_iff] at k ⊢; exact ⟨k.1.symm, k.2.1.symm, k.2.2.1.symm, k.2.2.2.symm⟩) h.decl
      fun _ => Eff.touchesDecl_new
  · cases hf : e.fires c with
    | false => rw [applyDb_of_not_fires hf]; exact h.tag
    | true =>
      rw [applyDb_tags hf]
      exact unique_write (fun a b k => by
        rw [TagRec.sameKey_iff] at k ⊢; exact ⟨k.1.symm, k.2.1.symm, k.2.2.1.symm, k.2.2.2.symm⟩) h.tag
        fun _ => Eff.touchesTag_new

theorem KeysUnique.assign {c : Spec} (h : KeysUnique c) (s : Nat) (t : Tag) (n : Name) (f : Flav) (v : Ver) :
    KeysUnique (c.assign s t n f v) := h.apply (.assign s t n f v)

structure DbInv (c : Spec) : Prop where
  nd : NoDangling c
  ku : KeysUnique c

theorem dbInv_empty : DbInv Spec.empty := ⟨noDangling_empty, keysUnique_empty⟩
theorem DbInv.apply {c : Spec} (h : DbInv c) (e : Eff) : DbInv (applyDb e c) := ⟨h.nd.apply e, h.ku.apply e⟩

theorem DbInv.foldl {c : Spec} (h : DbInv c) (es : List Eff) : DbInv (es.foldl (fun c e => applyDb e c) c) :=
  foldl_invariant h fun _ e _ k => k.apply e

@[simp] theorem Spec.decls_addDecl_some (c : Spec) (d : Decl) (t : Tag) :
    (c.addDecl d (some t)).decls = (c.setDecl d).decls := rfl
@[simp] theorem Spec.addDecl_none (c : Spec) (d : Decl) : c.addDecl d none = c.setDecl d := rfl

/-- an effect that stays within product `n`, flavor `f`, the versions `vs` and the tags `ts` -/
def Within (n : Name) (f : Flav) (vs : Ver → Prop) (ts : Tag → Prop) : Eff → Prop
  | .declare d tag => d.name = n ∧ d.flav = f ∧ vs d.ver ∧ ∀ t, tag = some t → ts t
  | .undeclare _ n' v f' => n' = n ∧ f' = f ∧ vs v
  | .assign _ t n' f' _ => n' = n ∧ f' = f ∧ ts t
  | .unassign _ t n' f' => n' = n ∧ f' = f ∧ ts t
  | .rmTree _ => True
  | .copyExtra _ => True

theorem Within.touchesDecl {n : Name} {f : Flav} {vs : Ver → Prop} {ts : Tag → Prop} {e : Eff}
    (h : Within n f vs ts e) {x : Decl} (hx : e.touchesDecl x = true) : x.name = n ∧ x.flav = f ∧ vs x.ver := by
  cases e with
  | declare d tag =>
    obtain ⟨-, xn, xv, xf⟩ := Decl.sameKey_iff.mp hx
    exact ⟨xn.trans h.1, xf.trans h.2.1, xv ▸ h.2.2.1⟩
  | undeclare s n' v f' =>
    obtain ⟨-, xn, xv, xf⟩ := Decl.hasKey_iff.mp hx
    exact ⟨xn.trans h.1, xf.trans h.2.1, xv ▸ h.2.2⟩
  | _ => cases hx

theorem Within.touchesTag {n : Name} {f : Flav} {vs : Ver → Prop} {ts : Tag → Prop} {e : Eff}
    (h : Within n f vs ts e) {x : TagRec} (hx : e.touchesTag x = true) :
    x.name = n ∧ x.flav = f ∧ (ts x.tag ∨ vs x.ver) := by
  have key : ∀ {s t n' f'}, x.hasKey s t n' f' = true → n' = n → f' = f → ts t → _ := fun hk hn hf ht =>
    have ⟨_, xt, xn, xf⟩ := TagRec.hasKey_iff.mp hk
    (⟨xn.trans hn, xf.trans hf, .inl (xt ▸ ht)⟩ : x.name = n ∧ x.flav = f ∧ (ts x.tag ∨ vs x.ver))
  cases e with
  | declare d tag =>
    cases tag with
    | none => cases hx
    | some t => exact key hx h.1 h.2.1 (h.2.2.2 t rfl)
  | undeclare s n' v f' =>
    obtain ⟨-, xn, xf, xv⟩ := TagRec.pointsAt_iff.mp hx
    exact ⟨xn.trans h.1, xf.trans h.2.1, .inr (xv ▸ h.2.2)⟩
  | assign s t n' f' v => exact key hx h.1 h.2.1 h.2.2
  | unassign s t n' f' => exact key hx h.1 h.2.1 h.2.2
  | _ => cases hx

def Cmd.name : Cmd → Name
  | .declare a => a.name
  | .undeclare a => a.name
  | .assignTag _ _ n _ _ => n
  | .unassignTag _ _ n _ _ _ => n
  | .remove _ n _ _ _ _ _ => n
  | .query _ => []

/-- the versions whose declaration the command may change -/
def Cmd.fpVer : Cmd → Ver → Prop
  | .declare a, v => v = a.ver
  | .undeclare a, v => (a.tag = none ∨ a.versionAndTag = true) ∧ ∀ v', a.ver = some v' → v = v'
  | .remove _ _ v' _ _ _ _, v => v = v'
  | _, _ => False

/-- the tags the command may assign or unassign -/
def Cmd.fpTag : Cmd → Tag → Prop
  | .declare a, t => t = a.tag.getD current
  | .undeclare a, t => a.tag = some t
  | .assignTag _ t' _ _ _, t => t = t'
  | .unassignTag _ t' _ _ _ _, t => t = t'
  | .remove .., _ => False
  | .query _, _ => False

@[simp] theorem Proc.db_emit (p : Proc) (e : Eff) : (p.emit e).db = applyDb e p.db := by
  simp [Proc.db, Proc.emit, List.foldl_append]

@[simp] theorem Proc.mem_emit (p : Proc) (e : Eff) : (p.emit e).mem = applyMem e p.mem := by
  simp [Proc.mem, Proc.emit, List.foldl_append]

/-- `q` is `p` after some more effects, each of which satisfies `Q`: the form of every statement about what a command
may emit (its footprint, nothing in a dry run, no tag added). -/
def Emits (Q : Eff → Prop) (p q : Proc) : Prop := ∃ es, q = { p with tr := p.tr ++ es } ∧ ∀ e ∈ es, Q e

theorem Emits.refl (Q : Eff → Prop) (p : Proc) : Emits Q p p := ⟨[], by rw [List.append_nil], nofun⟩

theorem Emits.emit {Q : Eff → Prop} {p : Proc} {e : Eff} (h : Q e) : Emits Q p (p.emit e) :=
  ⟨[e], rfl, by simpa using h⟩

theorem Emits.trans {Q : Eff → Prop} {p q r : Proc} (h : Emits Q p q) (k : Emits Q q r) : Emits Q p r := by
  obtain ⟨es, rfl, he⟩ := h
  obtain ⟨fs, rfl, hf⟩ := k
  exact ⟨es ++ fs, by simp, fun e h => (List.mem_append.mp h).elim (he e) (hf e)⟩

theorem Emits.mono {Q Q' : Eff → Prop} {p q : Proc} (h : Emits Q p q) (hQ : ∀ e, Q e → Q' e) : Emits Q' p q := by
  obtain ⟨es, rfl, he⟩ := h
  exact ⟨es, rfl, fun e h => hQ e (he e h)⟩

theorem Emits.eq {Q : Eff → Prop} {p q : Proc} (h : Emits Q p q) (hQ : ∀ e, ¬ Q e) : q = p := by
  obtain ⟨es, rfl, he⟩ := h
  cases es with
  | nil => simp
  | cons e _ => exact absurd (he e (by simp)) (hQ e)

theorem Emits.tr_nil {Q : Eff → Prop} {p q : Proc} (h : Emits Q p q) (hp : p.tr = []) : ∀ e ∈ q.tr, Q e := by
  obtain ⟨es, rfl, he⟩ := h
  simpa [hp] using he

theorem Emits.db {Q : Eff → Prop} {p q : Proc} (h : Emits Q p q) :
    q.db = q.tr.foldl (fun c e => applyDb e c) p.db0 := by
  obtain ⟨es, rfl, -⟩ := h; rfl

theorem Emits.invariant {Q : Eff → Prop} {P : Proc → Prop} {p q : Proc} (h : Emits Q p q) (h0 : P p)
    (hs : ∀ r e, P r → Q e → P (r.emit e)) : P q := by
  obtain ⟨es, rfl, he⟩ := h
  induction es generalizing p with
  | nil => simpa using h0
  | cons e es ih =>
    have := ih (hs p e h0 (he e (by simp))) fun x hx => he x (by simp [hx])
    simpa [Proc.emit] using this

theorem doUnassign_false (f : Flav) (t : Tag) (n : Name) (s : Nat) (p : Proc) :
    doUnassign f t n s false p = (.ok, p.emit (.unassign s t n f)) := rfl

theorem doUnassign_fst (f : Flav) (t : Tag) (n : Name) (s : Nat) (na : Bool) (p : Proc) :
    (doUnassign f t n s na p).1 = .ok := by
  unfold doUnassign; split <;> rfl

theorem doUnassign_emits (f : Flav) (t : Tag) (n : Name) (s : Nat) (na : Bool) (p : Proc) :
    Emits (fun e => na = false ∧ e = .unassign s t n f) p (doUnassign f t n s na p).2 := by
  unfold doUnassign
  split
  · exact .refl _ p
  · rename_i h; exact .emit ⟨by simpa using h, rfl⟩

theorem purge_emits (f : Flav) (t : Tag) (n : Name) (ds : List Decl) (p : Proc) :
    Emits (fun e => ∃ s, e = .unassign s t n f) p (purge f t n ds p) := by
  induction ds generalizing p with
  | nil => exact .refl _ p
  | cons d ds ih => exact ((doUnassign_emits f t n d.stack false p).mono fun _ h => ⟨_, h.2⟩).trans (ih _)

theorem purgeAll_emits (nst : Nat) (f : Flav) (t : Tag) (n : Name) (ss : List Nat) (p : Proc) :
    Emits (fun e => ∃ s, e = .unassign s t n f) p (purgeAll nst f t n ss p) := by
  induction ss generalizing p with
  | nil => exact .refl _ p
  | cons s ss ih => exact (purge_emits f t n _ p).trans (ih _)

theorem mem_allStacks {nst s : Nat} : s ∈ allStacks nst ↔ s < nst := List.mem_range

theorem findDecl_some {c : Spec} {s : Nat} {n : Name} {v : Ver} {f : Flav} {d : Decl}
    (h : c.findDecl s n v f = some d) : d ∈ c.decls ∧ d.hasKey s n v f = true :=
  ⟨List.mem_of_find?_eq_some h, (List.find?_some h :)⟩

theorem findIn_mem {c : Spec} {stacks : List Nat} {n : Name} {v : Ver} {f : Flav} {d : Decl}
    (h : c.findIn stacks n v f = some d) : d.stack ∈ stacks := by
  obtain ⟨s, hs, hd⟩ := List.exists_of_findSome?_eq_some h
  rw [(Decl.hasKey_iff.mp (findDecl_some hd).2).1]; exact hs

theorem declareTag_none {nst : Nat} {a : DeclareArgs} {m : Spec} (h : a.tag = none) :
    declareTag nst a m = if findProducts m nst a.self a.name none (allStacks nst) = [] then some current else none := by
  simp only [declareTag, h, List.isEmpty_iff]

theorem declareTag_spec {nst : Nat} {a : DeclareArgs} {m : Spec} :
    ∀ t, declareTag nst a m = some t → t = a.tag.getD current := by
  intro t ht
  unfold declareTag at ht
  split at ht
  · rename_i t' hat; cases ht; simp [hat]
  · rename_i hat
    split at ht
    · cases ht; simp [hat]
    · cases ht

theorem saveExtras_emits (a : DeclareArgs) (target : Nat) (es : List (Str × Nat)) (p : Proc) :
    Emits (fun e => ∃ x, e = .copyExtra x) p (saveExtras a target es p) := by
  induction es generalizing p with
  | nil => exact .refl _ p
  | cons e es ih => exact (Emits.emit ⟨_, rfl⟩).trans (ih _)

theorem saveExtras_db (a : DeclareArgs) (target : Nat) (es : List (Str × Nat)) (p : Proc) :
    (saveExtras a target es p).db = p.db := by
  induction es generalizing p with
  | nil => rfl
  | cons e es ih => simp only [saveExtras]; rw [ih]; simp [applyDb]

theorem inferVersion_some {nst : Nat} {a : UndeclareArgs} {ver : Option Ver} {m : Spec} {v : Ver}
    (h : inferVersion nst a ver m = .ok v) : ∀ v', ver = some v' → v = v' := by
  rintro v' rfl
  simp only [inferVersion, Except.ok.injEq] at h
  exact h.symm

theorem inferVersion_error_ne_ok {nst : Nat} {a : UndeclareArgs} {ver : Option Ver} {m : Spec} {o : Outcome}
    (h : inferVersion nst a ver m = .error o) : o ≠ .ok := by
  unfold inferVersion at h
  split at h
  · cases h
  · split at h <;> cases h <;> simp

theorem removeVersion_outcome (a : UndeclareArgs) (v : Ver) (s : Nat) (p : Proc) :
    (removeVersion a v s p).1 = .ok ∨ (removeVersion a v s p).1 = .notFound := by
  unfold removeVersion
  split
  · exact Or.inl rfl
  · split
    · exact Or.inr rfl
    · exact Or.inl rfl

theorem removeVersion_emits (a : UndeclareArgs) (v : Ver) (s : Nat) (p : Proc) :
    Emits (fun e => a.noaction = false ∧ e = .undeclare s a.name v a.self) p (removeVersion a v s p).2 := by
  unfold removeVersion
  split
  · exact .refl _ p
  · rename_i hna
    split
    · exact .refl _ p
    · exact .emit ⟨by simpa using hna, rfl⟩

theorem Spec.hasDecl_delDecl_self (c : Spec) (s : Nat) (n : Name) (v : Ver) (f : Flav) :
    (c.delDecl s n v f).hasDecl s n v f = false :=
  Bool.eq_false_iff.mpr fun h => by
    obtain ⟨d, hd, hk⟩ := Spec.hasDecl_iff.mp h
    have := (Spec.mem_delDecl_decls.mp hd).2
    rw [hk] at this; cases this

theorem Spec.tagVer_setTag_self (c : Spec) (r : TagRec) :
    (c.setTag r).tagVer r.stack r.tag r.name r.flav = some r.ver := by
  have : r.hasKey r.stack r.tag r.name r.flav = true := by simp [TagRec.hasKey_iff]
  simp [Spec.tagVer, Spec.setTag, this]

theorem Spec.hasDecl_setTag (c : Spec) (r : TagRec) (s : Nat) (n : Name) (v : Ver) (f : Flav) :
    (c.setTag r).hasDecl s n v f = c.hasDecl s n v f := rfl

theorem Spec.tagVer_isSome {c : Spec} {s : Nat} {t : Tag} {n : Name} {f : Flav} :
    (c.tagVer s t n f).isSome = c.hasTag s t n f := by
  rw [Bool.eq_iff_iff, Spec.tagVer, Spec.hasTag, Option.isSome_map, List.find?_isSome, List.any_eq_true]

theorem Spec.findDecl_isSome {c : Spec} {s : Nat} {n : Name} {v : Ver} {f : Flav} :
    (c.findDecl s n v f).isSome = c.hasDecl s n v f := by
  rw [Bool.eq_iff_iff, Spec.findDecl, Spec.hasDecl, List.find?_isSome, List.any_eq_true]

theorem Spec.tagVer_some {c : Spec} {s : Nat} {t : Tag} {n : Name} {f : Flav} {v : Ver}
    (h : c.tagVer s t n f = some v) : ∃ r ∈ c.tags, r.hasKey s t n f = true ∧ r.ver = v := by
  obtain ⟨r, hf, hv⟩ := Option.map_eq_some_iff.mp h
  exact ⟨r, List.mem_of_find?_eq_some hf, (List.find?_some hf :), hv⟩

theorem Spec.hasTag_delTag_self (c : Spec) (s : Nat) (t : Tag) (n : Name) (f : Flav) :
    (c.delTag s t n f).hasTag s t n f = false :=
  Bool.eq_false_iff.mpr fun h => by
    obtain ⟨r, hr, hk⟩ := Spec.hasTag_iff.mp h
    have := (Spec.mem_delTag.mp hr).2
    rw [hk] at this; cases this

theorem Spec.delTag_of_not_hasTag {c : Spec} {s : Nat} {t : Tag} {n : Name} {f : Flav}
    (h : c.hasTag s t n f = false) : c.delTag s t n f = c := by
  rw [Spec.delTag, filter_not_eq_self (fun x hx hk => by rw [Spec.hasTag_iff.mpr ⟨x, hx, hk⟩] at h; cases h)]

theorem Spec.delDecl_of_not_hasDecl {c : Spec} {s : Nat} {n : Name} {v : Ver} {f : Flav}
    (h : c.hasDecl s n v f = false) (hnd : NoDanglingN c s f n) : c.delDecl s n v f = c := by
  rw [Spec.delDecl, filter_not_eq_self (fun x hx hk => by rw [Spec.hasDecl_iff.mpr ⟨x, hx, hk⟩] at h; cases h),
    filter_not_eq_self (fun r hr hp => by
      -- a tag on the version would have it declared
      have k := TagRec.pointsAt_iff.mp hp
      have := hnd r hr k.1 k.2.2.1 k.2.1
      rw [k.2.2.2, h] at this; cases this)]

theorem hasTag_false_of_subset {a b : Spec} (hs : ∀ r ∈ a.tags, r ∈ b.tags) {s : Nat} {t : Tag} {n : Name} {f : Flav}
    (h : b.hasTag s t n f = false) : a.hasTag s t n f = false :=
  Bool.eq_false_iff.mpr fun ha => by
    obtain ⟨r, hr, hk⟩ := Spec.hasTag_iff.mp ha
    have : b.hasTag s t n f = true := Spec.hasTag_iff.mpr ⟨r, hs r hr, hk⟩
    rw [h] at this; cases this

theorem mem_uniqNVF {l : List Decl} {d : Decl} (h : d ∈ uniqNVF l) : d ∈ l := by
  induction l with
  | nil => simp [uniqNVF] at h
  | cons x xs ih =>
    simp only [uniqNVF, List.mem_cons, List.mem_filter] at h
    rcases h with h | h
    · exact List.mem_cons.mpr (Or.inl h)
    · exact List.mem_cons_of_mem _ (ih h.1)

theorem uniqNVF_covers {l : List Decl} {x : Decl} (h : x ∈ l) :
    ∃ y ∈ uniqNVF l, y.name = x.name ∧ y.ver = x.ver ∧ y.flav = x.flav := by
  induction l with
  | nil => cases h
  | cons z zs ih =>
    simp only [uniqNVF]
    rcases List.mem_cons.mp h with rfl | h
    · exact ⟨x, by simp, rfl, rfl, rfl⟩
    · obtain ⟨y, hy, h1, h2, h3⟩ := ih h
      by_cases hz : y.name = z.name ∧ y.ver = z.ver ∧ y.flav = z.flav
      · exact ⟨z, by simp, hz.1 ▸ h1, hz.2.1 ▸ h2, hz.2.2 ▸ h3⟩
      · refine ⟨y, ?_, h1, h2, h3⟩
        simp only [List.mem_cons, List.mem_filter]
        refine Or.inr ⟨hy, ?_⟩
        simp only [Bool.not_eq_true', Bool.and_eq_false_iff, beq_eq_false_iff_ne, ne_eq]
        by_cases a : y.name = z.name
        · by_cases b : y.ver = z.ver
          · exact Or.inr (fun c => hz ⟨a, b, c⟩)
          · exact Or.inl (Or.inr b)
        · exact Or.inl (Or.inl a)

theorem mem_insertByVer {x d : Decl} {l : List Decl} : d ∈ insertByVer x l ↔ d = x ∨ d ∈ l := by
  induction l with
  | nil => simp [insertByVer]
  | cons y ys ih =>
    simp only [insertByVer]
    split
    · simp
    · simp only [List.mem_cons, ih]
      exact or_left_comm

theorem mem_sortByVer {d : Decl} {l : List Decl} : d ∈ sortByVer l ↔ d ∈ l := by
  induction l with
  | nil => simp [sortByVer]
  | cons y ys ih => simp only [sortByVer, mem_insertByVer, ih, List.mem_cons]

theorem mem_versionsOf {c : Spec} {s : Nat} {n : Name} {f : Flav} {d : Decl} :
    d ∈ c.versionsOf s n f ↔ d ∈ c.decls ∧ d.stack = s ∧ d.name = n ∧ d.flav = f := by
  simp [Spec.versionsOf, mem_sortByVer, List.mem_filter, and_assoc]

theorem mem_tagsOf {c : Spec} {d : Decl} {t : Tag} :
    t ∈ c.tagsOf d ↔ ∃ r ∈ c.tags, r.pointsAt d.stack d.name d.ver d.flav = true ∧ r.tag = t := by
  simp [Spec.tagsOf, List.mem_filter, and_assoc]

theorem findTagged_some {c : Spec} {stacks : List Nat} {n : Name} {t : Tag} {f : Flav} {d : Decl}
    (h : c.findTagged stacks n t f = some d) :
    d ∈ c.decls ∧ d.name = n ∧ d.flav = f ∧ d.stack ∈ stacks ∧ c.tagVer d.stack t n f = some d.ver := by
  unfold Spec.findTagged at h
  obtain ⟨s, hs, hd⟩ := List.exists_of_findSome?_eq_some h
  split at hd
  · cases hd
  · rename_i v htv
    obtain ⟨hm, hk⟩ := findDecl_some hd
    obtain ⟨rfl, rfl, rfl, rfl⟩ := Decl.hasKey_iff.mp hk
    exact ⟨hm, rfl, rfl, hs, htv⟩

/-- what stack `s` and flavor `fl` contribute to the listing `findProducts m nst self n tag _` -/
def Listed (m : Spec) (nst : Nat) (self : Flav) (n : Name) (tag : Option Tag) (s : Nat) (fl : Flav) (d : Decl) : Prop :=
  m.versionsOf s n fl ≠ [] ∧
    match tag with
    | none => d ∈ m.versionsOf s n fl
    | some t => m.findTagged (allStacks nst) n t self = some d ∨ d ∈ m.versionsOf s n fl ∧ t ∈ m.tagsOf d

theorem findProducts_listed {m : Spec} {nst : Nat} {self : Flav} {n : Name} {tag : Option Tag} {stacks : List Nat}
    {d : Decl} (h : d ∈ findProducts m nst self n tag stacks) :
    ∃ s ∈ stacks, ∃ fl ∈ fallbacks self, Listed m nst self n tag s fl d := by
  unfold findProducts at h
  have h := mem_uniqNVF h
  simp only [List.mem_flatMap] at h
  obtain ⟨s, hs, fl, hfl, hd⟩ := h
  refine ⟨s, hs, fl, hfl, ?_⟩
  split at hd
  · cases hd
  · rename_i hne
    refine ⟨by simpa using hne, ?_⟩
    cases tag with
    | none => exact hd
    | some t => simpa [List.mem_filter] using hd

/-- every contribution is listed, up to the duplicates (same name, version, flavor) that `uniqNVF` drops -/
theorem findProducts_of_listed {m : Spec} (nst : Nat) {self : Flav} {n : Name} (tag : Option Tag) {stacks : List Nat}
    {s : Nat} {fl : Flav} {x : Decl} (hs : s ∈ stacks) (hfl : fl ∈ fallbacks self) (h : Listed m nst self n tag s fl x) :
    ∃ y ∈ findProducts m nst self n tag stacks, y.name = x.name ∧ y.ver = x.ver ∧ y.flav = x.flav := by
  unfold findProducts
  apply uniqNVF_covers
  simp only [List.mem_flatMap]
  refine ⟨s, hs, fl, hfl, ?_⟩
  obtain ⟨hne, h⟩ := h
  rw [if_neg (by simpa using hne)]
  cases tag with
  | none => exact h
  | some t => simpa [List.mem_filter] using h

theorem mem_findProducts {m : Spec} {nst : Nat} {self : Flav} {n : Name} {tag : Option Tag} {stacks : List Nat}
    {d : Decl} (h : d ∈ findProducts m nst self n tag stacks) : d ∈ m.decls ∧ d.name = n := by
  obtain ⟨s, -, fl, -, -, hd⟩ := findProducts_listed h
  cases tag with
  | none => have := mem_versionsOf.mp hd; exact ⟨this.1, this.2.2.1⟩
  | some t =>
    rcases hd with hd | hd
    · have := findTagged_some hd; exact ⟨this.1, this.2.1⟩
    · have := mem_versionsOf.mp hd.1; exact ⟨this.1, this.2.2.1⟩

theorem findProducts_ne_nil {m : Spec} {nst : Nat} {self : Flav} {n : Name} {d : Decl}
    (hd : d ∈ m.decls) (hs : d.stack < nst) (hn : d.name = n) (hf : d.flav = self) :
    findProducts m nst self n none (allStacks nst) ≠ [] := by
  have hv : d ∈ m.versionsOf d.stack n self := mem_versionsOf.mpr ⟨hd, rfl, hn, hf⟩
  obtain ⟨y, hy, -⟩ := findProducts_of_listed nst none (mem_allStacks.mpr hs)
    (List.mem_cons_self ..) ⟨List.ne_nil_of_mem hv, hv⟩
  exact List.ne_nil_of_mem hy

theorem resolveDeclare_explicit {nst : Nat} {a : DeclareArgs} {p : Proc} {d : Dir}
    (hdir : a.dir = some d) (htag : a.tag = none) (htn : a.table = .dflt) (hstack : a.stack = none)
    (hex : p.dirExists d = true) (htab : p.tableExists d a.name = true) (hroot : d.root < nst) :
    resolveDeclare nst a p = some ⟨d, .default, d.root, some 0, a.ext, a.ext⟩ := by
  unfold resolveDeclare resolveDirTable targetOf classifyTable
  simp [hdir, htag, htn, hstack, hex, htab, hroot]

theorem classifyTable_some {a : DeclareArgs} {d : Dir} {target : Nat} {t : TableArg} {p : Proc} {r : Resolved}
    (h : classifyTable a d target t p = some r) : r.d = d ∧ r.target = target := by
  unfold classifyTable at h
  cases t with
  | none => simp only [Option.some.injEq] at h; subst h; exact ⟨rfl, rfl⟩
  | dflt =>
    dsimp only at h
    split at h
    · simp only [Option.some.injEq] at h; subst h; exact ⟨rfl, rfl⟩
    · cases h
  | stream c => simp only [Option.some.injEq] at h; subst h; exact ⟨rfl, rfl⟩
  | path q =>
    dsimp only at h
    split at h
    · simp only [Option.some.injEq] at h; subst h; exact ⟨rfl, rfl⟩
    · split at h
      · simp only [Option.some.injEq] at h; subst h; exact ⟨rfl, rfl⟩
      · cases h

theorem resolveDeclare_some {nst : Nat} {a : DeclareArgs} {p : Proc} {r : Resolved}
    (h : resolveDeclare nst a p = some r) : r.target = targetOf nst a r.d := by
  unfold resolveDeclare at h
  split at h
  · cases h
  · obtain ⟨h1, h2⟩ := classifyTable_some h
    rw [h2, h1]

theorem resolveDeclare_explicit_path {nst : Nat} {a : DeclareArgs} {p : Proc} {d q : Dir} {c : Nat}
    (hdir : a.dir = some d) (htn : a.table = .path q) (hstack : a.stack = none)
    (hex : p.dirExists d = true) (hroot : d.root < nst) (hq : underUpsDb d.root q = false)
    (hc : p.fileContent q = some c) :
    resolveDeclare nst a p = some ⟨d, .ext q, d.root, some c, a.ext, a.ext⟩ := by
  unfold resolveDeclare resolveDirTable targetOf classifyTable
  simp [hdir, htn, hstack, hex, hroot, hq, hc]

end EupsModel.Db
