import EupsModel.Lemmas.Record
/-! `Product.resolvePaths` on hand-written records that use the macros `$PROD_ROOT`, `$UPS_DB`, `$PROD_DIR`, `$UPS_DIR`
and `$FLAVOR` (C16): the function split into its four phases, what each phase does to a macro expression, and the
composition. -/
namespace EupsModel.Record

/-- product directory (Product.py l.170-186) -/
def dirPhase (root : Path) (m : Macros) (pdir : PVal) : PVal × Macros :=
  match pdir with
  | .path d =>
    if !d.abs then
      let d := if !isMacroPath d then root.join d else d
      let d := resolveMacros m false d
      (PVal.path d, { m with prodDir := some d })
    else (pdir, m)
  | _ => (pdir, m)

/-- ups directory (l.188-207) -/
def upsPhase (m : Macros) (dir pups : PVal) : Except Err (PVal × Macros) :=
  match pups with
  | .path u =>
    if !u.abs then
      let uj : Except Err Path :=
        if !isMacroPath u then
          match dir with
          | .null => .ok u
          | .ph s => if s = sNone then .ok u else .error .unmodelled
          | .path d => .ok (d.join u)
        else .ok u
      match uj with
      | .error e => .error e
      | .ok u =>
        let u := resolveMacros m false u
        .ok (PVal.path u, { m with upsDir := some u })
    else .ok (pups, m)
  | _ => .ok (pups, m)

/-- table file (l.209-252) -/
def tabPhase (ex : Path → Bool) (root : Path) (m : Macros) (name : Str) (dir upsDir ptable : PVal) : PVal × PVal :=
  let table := if ptable = .null && !name.isEmpty && (dir.isReal || upsDir.isReal)
    then PVal.path (tableName name) else ptable
  match table with
  | .path t =>
    if !t.abs then
      let (t, upsDir) :=
        if !isMacroPath t then
          let upsDir := match upsDir, dir with
            | .null, .path d => PVal.path (d.join (Path.rel [sUps]))
            | u, _ => u
          match upsDir with
          | .path u =>
            let nt := u.join t
            let n2 := root.join t
            ((if ex nt then nt else if ex n2 then n2 else nt), upsDir)
          | _ =>
            match dir with
            | .path d => (d.join t, upsDir)
            | _ => (t, upsDir)
        else (t, upsDir)
      (PVal.path (resolveMacros m false t), upsDir)
    else (table, upsDir)
  | _ => (table, upsDir)

/-- "one last try" (l.254-266) -/
def lastPhase (m : Macros) (dir table : PVal) : PVal × PVal :=
  let (dir, m) := match dir with
    | .path d => if hasDollar d then
        let d := resolveMacros m true d
        (PVal.path d, { m with prodDir := some d })
      else (dir, m)
    | _ => (dir, m)
  let table := match table with
    | .path t => if hasDollar t then PVal.path (resolveMacros m false t) else table
    | _ => table
  (dir, table)

theorem resolvePaths_phases (ex : Path → Bool) (p : Prod) :
    resolvePaths ex p =
      (let root := stackRoot p.db
       let m0 : Macros := { flavor := p.flavor, prodRoot := root, upsDb := p.db }
       let (dir, m) := dirPhase root m0 p.dir
       match upsPhase m dir p.upsDir with
       | .error e => .error e
       | .ok (upsDir, m) =>
         let (table, upsDir) := tabPhase ex root m p.name dir upsDir p.table
         let (dir, table) := lastPhase m dir table
         .ok { p with dir := dir, table := table, upsDir := upsDir }) := by
  rfl

/-- a segment of a hand-written path: a `$`-free literal, or the macro `$FLAVOR` -/
def MSegOK (s : Str) : Prop := SegOK s ∨ s = mFLAVOR
def MSegs (l : List Str) : Prop := ∀ s ∈ l, MSegOK s
instance (s : Str) : Decidable (MSegOK s) := by unfold MSegOK; infer_instance
instance (l : List Str) : Decidable (MSegs l) := by unfold MSegs; infer_instance

theorem SegsOK.msegs {l : List Str} (h : SegsOK l) : MSegs l := fun s hs => Or.inl (h s hs)

def dseg (f s : Str) : Str := if s = mFLAVOR then f else s
def dsegs (f : Str) (l : List Str) : List Str := l.map (dseg f)

/-- the macro dictionary of `resolvePaths` for a reader whose stack is at `R` -/
def mac (f : Str) (R : List Str) (pd ud : Option Path) : Macros :=
  { flavor := f, prodRoot := ⟨true, R⟩, upsDb := ⟨true, R ++ [sUpsDb]⟩, prodDir := pd, upsDir := ud }

theorem substFlavor_FLAVOR (f : Str) : substFlavor f mFLAVOR = f := by
  simp [substFlavor, substFlavorAux, mFLAVOR]

theorem dseg_plain (f s : Str) (h : 36 ∉ s) : dseg f s = s :=
  if_neg fun (e : s = mFLAVOR) => h (e ▸ by decide +kernel)

theorem substFlavor_mseg (f s : Str) (h : MSegOK s) : substFlavor f s = dseg f s := by
  rcases h with h | rfl
  · rw [dseg_plain f s h.2.2, substFlavor_id f s h.2.2]
  · rw [substFlavor_FLAVOR]; rfl

theorem map_substFlavor_mseg (f : Str) (l : List Str) (h : MSegs l) : l.map (substFlavor f) = dsegs f l :=
  List.map_congr_left fun s hs => substFlavor_mseg f s (h s hs)

theorem dsegs_plain (f : Str) (l : List Str) (h : No36 l) : dsegs f l = l :=
  map_eq_self fun s hs => dseg_plain f s (h s hs)

theorem No36_dsegs (f : Str) (l : List Str) (hf : 36 ∉ f) (h : MSegs l) : No36 (dsegs f l) := by
  intro s hs
  obtain ⟨t, ht, rfl⟩ := List.mem_map.mp hs
  rcases h t ht with h1 | rfl
  · rw [dseg_plain f t h1.2.2]; exact h1.2.2
  · exact hf

theorem isMacroPath_mseg (abs : Bool) (segs : List Str) (h : MSegs segs) : isMacroPath ⟨abs, segs⟩ = false := by
  cases segs with
  | nil => simp [isMacroPath, headStartsWith]
  | cons s r =>
    rcases h s (by simp) with hs | hs
    · simp [isMacroPath, headStartsWith, mPROD_, mUPS_, isPrefixOf_not_mem _ hs.2.2]
    · subst hs; cases abs <;> simp [isMacroPath, headStartsWith, mPROD_, mUPS_, mFLAVOR, List.isPrefixOf]

theorem isMacroPath_macro : ∀ M ∈ [mPROD_ROOT, mUPS_DB, mPROD_DIR, mUPS_DIR], ∀ s, isMacroPath ⟨false, M :: s⟩ = true := by
  intro M hM s
  simp only [List.mem_cons, List.not_mem_nil, or_false] at hM
  rcases hM with rfl | rfl | rfl | rfl <;> rfl

theorem dirPhase_macro (root : Path) (m : Macros) (M : Str) (r s : List Str) (hM : (M, some ⟨true, r⟩) ∈ m.heads false) :
    dirPhase root m (.path ⟨false, M :: s⟩)
      = (.path ⟨true, r ++ flavSegs m s⟩, { m with prodDir := some ⟨true, r ++ flavSegs m s⟩ }) := by
  simp [dirPhase, isMacroPath_macro M (heads_name hM) s, resolveMacros_head m false M r s hM]

theorem upsPhase_macro (m : Macros) (dir : PVal) (M : Str) (r s : List Str) (hM : (M, some ⟨true, r⟩) ∈ m.heads false) :
    upsPhase m dir (.path ⟨false, M :: s⟩)
      = .ok (.path ⟨true, r ++ flavSegs m s⟩, { m with upsDir := some ⟨true, r ++ flavSegs m s⟩ }) := by
  simp [upsPhase, isMacroPath_macro M (heads_name hM) s, resolveMacros_head m false M r s hM]

theorem tabPhase_macro (ex : Path → Bool) (root : Path) (m : Macros) (name : Str) (dir ups : PVal) (M : Str) (r s : List Str)
    (hM : (M, some ⟨true, r⟩) ∈ m.heads false) :
    (tabPhase ex root m name dir ups (.path ⟨false, M :: s⟩)).1 = .path ⟨true, r ++ flavSegs m s⟩ := by
  simp [tabPhase, isMacroPath_macro M (heads_name hM) s, resolveMacros_head m false M r s hM]

theorem flavSegs_mac (f : Str) (R : List Str) (pd ud : Option Path) (segs : List Str) (hf : f ≠ []) (hs : MSegs segs) :
    flavSegs (mac f R pd ud) segs = dsegs f segs := by
  have hfe : f.isEmpty = false := List.isEmpty_eq_false_iff.mpr hf
  simp [flavSegs, mac, hfe, map_substFlavor_mseg _ _ hs]

theorem resolveMacros_absm (f : Str) (R : List Str) (pd ud : Option Path) (b : Bool) (base segs : List Str)
    (hf : f ≠ []) (hb : No36 base) (hs : MSegs segs) :
    resolveMacros (mac f R pd ud) b ⟨true, base ++ segs⟩ = ⟨true, base ++ dsegs f segs⟩ := by
  rw [resolveMacros_abs_flav, flavSegs_append, flavSegs_plain _ _ hb, flavSegs_mac f R pd ud segs hf hs]

/-- `PROD_DIR` as a person writes it -/
inductive MDir where
  | rel (s : List Str)        -- `a/b`            : below the stack
  | prodRoot (s : List Str)   -- `$PROD_ROOT/a/b` : below the stack
  | upsDb (s : List Str)      -- `$UPS_DB/a/b`    : below the database directory
  | abs (s : List Str)        -- `/a/b`           : where it says
  | none                      -- `none`
  deriving DecidableEq, Repr

inductive MUps where
  | rel (s : List Str)        -- `ups`            : below the product directory
  | prodDir (s : List Str)    -- `$PROD_DIR/ups`  : below the product directory
  | prodRoot (s : List Str)
  | upsDb (s : List Str)
  | abs (s : List Str)
  | none                      -- `none`
  | missing                   -- no `UPS_DIR` line (and no `End:` line that would supply `none`)
  deriving DecidableEq, Repr

inductive MTab where
  | rel (s : List Str)        -- `x.table`           : looked for in the ups directory, then in the stack
  | upsDir (s : List Str)     -- `$UPS_DIR/x.table`
  | prodDir (s : List Str)    -- `$PROD_DIR/ups/x.table`
  | prodRoot (s : List Str)
  | upsDb (s : List Str)
  | abs (s : List Str)
  | none
  deriving DecidableEq, Repr

def MDir.toRec : MDir → PVal
  | .rel s => .path ⟨false, s⟩
  | .prodRoot s => .path ⟨false, mPROD_ROOT :: s⟩
  | .upsDb s => .path ⟨false, mUPS_DB :: s⟩
  | .abs s => .path ⟨true, s⟩
  | .none => .ph sNone

def MUps.toRec : MUps → PVal
  | .rel s => .path ⟨false, s⟩
  | .prodDir s => .path ⟨false, mPROD_DIR :: s⟩
  | .prodRoot s => .path ⟨false, mPROD_ROOT :: s⟩
  | .upsDb s => .path ⟨false, mUPS_DB :: s⟩
  | .abs s => .path ⟨true, s⟩
  | .none => .ph sNone
  | .missing => .null

def MTab.toRec : MTab → PVal
  | .rel s => .path ⟨false, s⟩
  | .upsDir s => .path ⟨false, mUPS_DIR :: s⟩
  | .prodDir s => .path ⟨false, mPROD_DIR :: s⟩
  | .prodRoot s => .path ⟨false, mPROD_ROOT :: s⟩
  | .upsDb s => .path ⟨false, mUPS_DB :: s⟩
  | .abs s => .path ⟨true, s⟩
  | .none => .ph sNone

/-- segments after a macro (or of a relative directory) may use `$FLAVOR`; absolute paths and relative table-file
names are `$`-free (the existence probes for a relative table file are made on the name as written) -/
def MDir.ok : MDir → Prop
  | .rel s => MSegs s
  | .prodRoot s => MSegs s
  | .upsDb s => MSegs s
  | .abs s => No36 s
  | .none => True
def MUps.ok : MUps → Prop
  | .rel s => MSegs s
  | .prodDir s => MSegs s
  | .prodRoot s => MSegs s
  | .upsDb s => MSegs s
  | .abs s => No36 s
  | _ => True
def MTab.ok : MTab → Prop
  | .rel s => No36 s ∧ s ≠ []
  | .upsDir s => MSegs s
  | .prodDir s => MSegs s
  | .prodRoot s => MSegs s
  | .upsDb s => MSegs s
  | .abs s => No36 s
  | .none => True

/-- the record is relative: `resolvePaths` then defines `$PROD_DIR` / `$UPS_DIR` -/
def MDir.isRel : MDir → Bool
  | .rel _ => true | .prodRoot _ => true | .upsDb _ => true | _ => false
def MUps.isRel : MUps → Bool
  | .rel _ => true | .prodDir _ => true | .prodRoot _ => true | .upsDb _ => true | _ => false

/-- **what the entries mean** for a reader whose stack is at `R` and whose flavor is `f` -/
def MDir.denote (R : List Str) (f : Str) : MDir → PVal
  | .rel s => .path ⟨true, R ++ dsegs f s⟩
  | .prodRoot s => .path ⟨true, R ++ dsegs f s⟩
  | .upsDb s => .path ⟨true, R ++ sUpsDb :: dsegs f s⟩
  | .abs s => .path ⟨true, s⟩
  | .none => .ph sNone

def below (D : PVal) (s : List Str) : PVal :=
  match D with
  | .path d => .path ⟨true, d.segs ++ s⟩
  | _ => .null

def MUps.denote (R : List Str) (f : Str) (D : PVal) : MUps → PVal
  | .rel s => below D (dsegs f s)
  | .prodDir s => below D (dsegs f s)
  | .prodRoot s => .path ⟨true, R ++ dsegs f s⟩
  | .upsDb s => .path ⟨true, R ++ sUpsDb :: dsegs f s⟩
  | .abs s => .path ⟨true, s⟩
  | .none => .ph sNone
  | .missing => .null

def MTab.denote (ex : Path → Bool) (R : List Str) (f : Str) (D U : PVal) : MTab → PVal
  | .rel t =>
    let U' := match U, D with
      | .null, .path d => PVal.path ⟨true, d.segs ++ [sUps]⟩
      | u, _ => u
    match U' with
    | .path u =>
      if ex ⟨true, u.segs ++ t⟩ then .path ⟨true, u.segs ++ t⟩
      else if ex ⟨true, R ++ t⟩ then .path ⟨true, R ++ t⟩ else .path ⟨true, u.segs ++ t⟩
    | _ => match D with
      | .path d => .path ⟨true, d.segs ++ t⟩
      | _ => .path ⟨false, t⟩
  | .upsDir s => below U (dsegs f s)
  | .prodDir s => below D (dsegs f s)
  | .prodRoot s => .path ⟨true, R ++ dsegs f s⟩
  | .upsDb s => .path ⟨true, R ++ sUpsDb :: dsegs f s⟩
  | .abs s => .path ⟨true, s⟩
  | .none => .ph sNone

/-- what the phase that resolves an entry to `v` leaves in its macro slot (`$PROD_DIR` / `$UPS_DIR`): the path, if the
entry is relative; else the slot stays undefined -/
def slotOf (isRel : Bool) (v : PVal) : Option Path :=
  if isRel then (match v with | .path p => some p | _ => none) else none

/-- a directory value as the phases produce it: an absolute `$`-free path, or a placeholder / nothing -/
def ResPV (v : PVal) : Prop :=
  match v with
  | .path p => p.abs = true ∧ No36 p.segs
  | .ph s => s = sNone
  | .null => True

theorem ResPV.path {d : Path} (h : ResPV (.path d)) : ∃ ds, d = ⟨true, ds⟩ ∧ No36 ds := by
  obtain ⟨a, ds⟩ := d
  obtain ⟨rfl, hds⟩ := h
  exact ⟨ds, rfl, hds⟩

theorem below_good (D : PVal) (s : List Str) (hD : ResPV D) (hs : No36 s) : ResPV (below D s) := by
  cases D with
  | path d => simp only [ResPV] at hD; simp [below, ResPV, hD.2, hs]
  | ph x => simp [below, ResPV]
  | null => simp [below, ResPV]

/-- a value without `$` (a relative table-file name is allowed) -/
def NoDollarV (v : PVal) : Prop :=
  match v with
  | .path p => No36 p.segs
  | _ => True

theorem ResPV.noDollar {v : PVal} (h : ResPV v) : NoDollarV v := by
  cases v <;> simp_all [ResPV, NoDollarV]

/-! Each phase on a macro expression: the value it gives is the denotation, and the denotation is again a value the next
phase can take (`ResPV`; for the table file, which nothing takes further, `NoDollarV`: the last phase leaves it alone). -/

theorem dirPhase_spec (R : List Str) (f : Str) (md : MDir) (hR : No36 R) (hf : f ≠ []) (hf36 : 36 ∉ f) (h : md.ok) :
    dirPhase ⟨true, R⟩ (mac f R none none) md.toRec
      = (md.denote R f, mac f R (slotOf md.isRel (md.denote R f)) none) ∧ ResPV (md.denote R f) := by
  have hdb : 36 ∉ sUpsDb := by decide +kernel
  cases md with
  | rel s =>
    have hm := isMacroPath_mseg false s h
    have hr := resolveMacros_absm f R none none false R s hf hR h
    simp only [mac] at hr
    exact ⟨by simp [dirPhase, MDir.toRec, MDir.denote, MDir.isRel, slotOf, hm, Path.join, hr, mac],
      by simp [MDir.denote, ResPV, hR, No36_dsegs f s hf36 h]⟩
  | prodRoot s =>
    refine ⟨?_, by simp [MDir.denote, ResPV, hR, No36_dsegs f s hf36 h]⟩
    rw [MDir.toRec, dirPhase_macro _ _ mPROD_ROOT R s (by simp [Macros.heads, mac]), flavSegs_mac f R none none s hf h]
    simp [MDir.denote, MDir.isRel, slotOf, mac]
  | upsDb s =>
    refine ⟨?_, by simp [MDir.denote, ResPV, hR, hdb, No36_dsegs f s hf36 h]⟩
    rw [MDir.toRec, dirPhase_macro _ _ mUPS_DB (R ++ [sUpsDb]) s (by simp [Macros.heads, mac]), flavSegs_mac f R none none s hf h]
    simp [MDir.denote, MDir.isRel, slotOf, mac]
  | abs s => exact ⟨by simp [dirPhase, MDir.toRec, MDir.denote, MDir.isRel, slotOf], ⟨rfl, h⟩⟩
  | none => exact ⟨by simp [dirPhase, MDir.toRec, MDir.denote, MDir.isRel, slotOf], by simp [MDir.denote, ResPV]⟩

theorem upsPhase_spec (R : List Str) (f : Str) (pd : Option Path) (D : PVal) (mu : MUps) (hR : No36 R) (hf : f ≠ [])
    (hf36 : 36 ∉ f) (h : mu.ok) (hD : ResPV D)
    (hrel : ∀ s, mu = .rel s → ∃ d, D = .path d)
    (hpd : ∀ s, mu = .prodDir s → ∃ d, D = .path d ∧ pd = some d) :
    upsPhase (mac f R pd none) D mu.toRec
      = .ok (mu.denote R f D, mac f R pd (slotOf mu.isRel (mu.denote R f D))) ∧ ResPV (mu.denote R f D) := by
  have hdb : 36 ∉ sUpsDb := by decide +kernel
  cases mu with
  | rel s =>
    refine ⟨?_, below_good D _ hD (No36_dsegs f s hf36 h)⟩
    obtain ⟨d, rfl⟩ := hrel s rfl
    obtain ⟨ds, rfl, hds⟩ := hD.path
    have hm := isMacroPath_mseg false s h
    have hr := resolveMacros_absm f R pd none false ds s hf hds h
    simp only [mac] at hr
    simp [upsPhase, MUps.toRec, MUps.denote, MUps.isRel, slotOf, below, hm, Path.join, hr, mac]
  | prodDir s =>
    refine ⟨?_, below_good D _ hD (No36_dsegs f s hf36 h)⟩
    obtain ⟨d, rfl, rfl⟩ := hpd s rfl
    obtain ⟨ds, rfl, hds⟩ := hD.path
    rw [MUps.toRec, upsPhase_macro _ _ mPROD_DIR ds s (by simp [Macros.heads, mac]), flavSegs_mac f R _ none s hf h]
    simp [MUps.denote, MUps.isRel, slotOf, below, mac]
  | prodRoot s =>
    refine ⟨?_, by simp [MUps.denote, ResPV, hR, No36_dsegs f s hf36 h]⟩
    rw [MUps.toRec, upsPhase_macro _ _ mPROD_ROOT R s (by simp [Macros.heads, mac]), flavSegs_mac f R pd none s hf h]
    simp [MUps.denote, MUps.isRel, slotOf, mac]
  | upsDb s =>
    refine ⟨?_, by simp [MUps.denote, ResPV, hR, hdb, No36_dsegs f s hf36 h]⟩
    rw [MUps.toRec, upsPhase_macro _ _ mUPS_DB (R ++ [sUpsDb]) s (by simp [Macros.heads, mac]), flavSegs_mac f R pd none s hf h]
    simp [MUps.denote, MUps.isRel, slotOf, mac]
  | abs s => exact ⟨by simp [upsPhase, MUps.toRec, MUps.denote, MUps.isRel, slotOf], ⟨rfl, h⟩⟩
  | none => exact ⟨by simp [upsPhase, MUps.toRec, MUps.denote, MUps.isRel, slotOf], by simp [MUps.denote, ResPV]⟩
  | missing => exact ⟨by simp [upsPhase, MUps.toRec, MUps.denote, MUps.isRel, slotOf], by simp [MUps.denote, ResPV]⟩

theorem tabPhase_spec (ex : Path → Bool) (R : List Str) (f : Str) (pd ud : Option Path) (name : Str) (D U : PVal)
    (mt : MTab) (hR : No36 R) (hf : f ≠ []) (hf36 : 36 ∉ f) (h : mt.ok) (hD : ResPV D) (hU : ResPV U)
    (hud : ∀ s, mt = .upsDir s → ∃ u, U = .path u ∧ ud = some u)
    (hpd : ∀ s, mt = .prodDir s → ∃ d, D = .path d ∧ pd = some d) :
    (tabPhase ex ⟨true, R⟩ (mac f R pd ud) name D U mt.toRec).1 = mt.denote ex R f D U ∧
      NoDollarV (mt.denote ex R f D U) := by
  have hdb : 36 ∉ sUpsDb := by decide +kernel
  cases mt with
  | rel t =>
    obtain ⟨ht, htne⟩ := h
    have hm := isMacroPath_false false t ht
    have hpl := fun (p : Path) (hp : No36 p.segs) => resolveMacros_plain (mac f R pd ud) false p hp
    have hu36 : 36 ∉ sUps := by decide +kernel
    cases U with
    | path u =>
      obtain ⟨us, rfl, hus⟩ := hU.path
      have e1 := hpl ⟨true, us ++ t⟩ (by simp [hus, ht])
      have e2 := hpl ⟨true, R ++ t⟩ (by simp [hR, ht])
      simp only [tabPhase, MTab.toRec, MTab.denote]
      cases D <;> exact ⟨by simp [hm, Path.join, apply_ite (resolveMacros _ false), apply_ite PVal.path, e1, e2],
        by simp only [apply_ite NoDollarV]; simp [NoDollarV, hus, ht, hR]⟩
    | ph x =>
      cases D with
      | path d =>
        obtain ⟨ds, rfl, hds⟩ := hD.path
        have e1 := hpl ⟨true, ds ++ t⟩ (by simp [hds, ht])
        exact ⟨by simp [tabPhase, MTab.toRec, MTab.denote, hm, Path.join, e1], by simp [MTab.denote, NoDollarV, hds, ht]⟩
      | _ => exact ⟨by simp [tabPhase, MTab.toRec, MTab.denote, hm, hpl ⟨false, t⟩ ht], by simp [MTab.denote, NoDollarV, ht]⟩
    | null =>
      cases D with
      | path d =>
        obtain ⟨ds, rfl, hds⟩ := hD.path
        have e1 := hpl ⟨true, ds ++ (sUps :: t)⟩ (by simp [hds, ht, hu36])
        have e2 := hpl ⟨true, R ++ t⟩ (by simp [hR, ht])
        exact ⟨by simp [tabPhase, MTab.toRec, MTab.denote, hm, Path.join, Path.rel, apply_ite (resolveMacros _ false),
            apply_ite PVal.path, e1, e2],
          by simp only [MTab.denote, apply_ite NoDollarV]; simp [NoDollarV, hds, ht, hR, hu36]⟩
      | _ => exact ⟨by simp [tabPhase, MTab.toRec, MTab.denote, hm, hpl ⟨false, t⟩ ht], by simp [MTab.denote, NoDollarV, ht]⟩
  | upsDir s =>
    refine ⟨?_, (below_good U _ hU (No36_dsegs f s hf36 h)).noDollar⟩
    obtain ⟨u, rfl, rfl⟩ := hud s rfl
    obtain ⟨us, rfl, hus⟩ := hU.path
    rw [MTab.toRec, tabPhase_macro _ _ _ _ _ _ mUPS_DIR us s (by simp [Macros.heads, mac]), flavSegs_mac f R pd _ s hf h]
    simp [MTab.denote, below]
  | prodDir s =>
    refine ⟨?_, (below_good D _ hD (No36_dsegs f s hf36 h)).noDollar⟩
    obtain ⟨d, rfl, rfl⟩ := hpd s rfl
    obtain ⟨ds, rfl, hds⟩ := hD.path
    rw [MTab.toRec, tabPhase_macro _ _ _ _ _ _ mPROD_DIR ds s (by simp [Macros.heads, mac]), flavSegs_mac f R _ ud s hf h]
    simp [MTab.denote, below]
  | prodRoot s =>
    refine ⟨?_, by simp [MTab.denote, NoDollarV, hR, No36_dsegs f s hf36 h]⟩
    rw [MTab.toRec, tabPhase_macro _ _ _ _ _ _ mPROD_ROOT R s (by simp [Macros.heads, mac]), flavSegs_mac f R pd ud s hf h]
    simp [MTab.denote]
  | upsDb s =>
    refine ⟨?_, by simp [MTab.denote, NoDollarV, hR, hdb, No36_dsegs f s hf36 h]⟩
    rw [MTab.toRec, tabPhase_macro _ _ _ _ _ _ mUPS_DB (R ++ [sUpsDb]) s (by simp [Macros.heads, mac]), flavSegs_mac f R pd ud s hf h]
    simp [MTab.denote]
  | abs s => exact ⟨by simp [tabPhase, MTab.toRec, MTab.denote], h⟩
  | none => exact ⟨by simp [tabPhase, MTab.toRec, MTab.denote], by simp [MTab.denote, NoDollarV]⟩

theorem lastPhase_id (m : Macros) (D T : PVal) (hD : NoDollarV D) (hT : NoDollarV T) : lastPhase m D T = (D, T) := by
  have hd : ∀ p, NoDollarV (.path p) → hasDollar p = false := fun p h => hasDollar_false p.abs p.segs h
  cases D with
  | path d =>
    cases T with
    | path t => simp [lastPhase, hd d hD, hd t hT]
    | _ => simp [lastPhase, hd d hD]
  | _ =>
    cases T with
    | path t => simp [lastPhase, hd t hT]
    | _ => simp [lastPhase]

/-- which combinations of entries are meaningful: `resolvePaths` defines `$PROD_DIR` / `$UPS_DIR` only for relative records -/
structure MacroWF (md : MDir) (mu : MUps) (mt : MTab) : Prop where
  dir : md.ok
  ups : mu.ok
  tab : mt.ok
  upsRel : ∀ s, mu = .rel s → md ≠ .none
  upsPd : ∀ s, mu = .prodDir s → md.isRel = true
  tabUd : ∀ s, mt = .upsDir s → mu.isRel = true
  tabPd : ∀ s, mt = .prodDir s → md.isRel = true

theorem MDir.denote_path_of_ne_none (R : List Str) (f : Str) (md : MDir) (h : md ≠ .none) :
    ∃ d, md.denote R f = .path d := by
  cases md <;> simp [MDir.denote] at h ⊢

theorem MDir.slot_of_isRel (R : List Str) (f : Str) (md : MDir) (h : md.isRel = true) :
    ∃ d, md.denote R f = .path d ∧ slotOf md.isRel (md.denote R f) = some d := by
  cases md <;> simp [MDir.denote, MDir.isRel, slotOf] at h ⊢

theorem MUps.slot_of_isRel (R : List Str) (f : Str) {md : MDir} {mu : MUps} {mt : MTab} (hwf : MacroWF md mu mt)
    (h : mu.isRel = true) :
    ∃ u, mu.denote R f (md.denote R f) = .path u ∧ slotOf mu.isRel (mu.denote R f (md.denote R f)) = some u := by
  cases mu with
  | rel s =>
    obtain ⟨d, hd⟩ := MDir.denote_path_of_ne_none R f md (hwf.upsRel s rfl)
    simp [MUps.denote, MUps.isRel, slotOf, below, hd]
  | prodDir s =>
    obtain ⟨d, hd, _⟩ := MDir.slot_of_isRel R f md (hwf.upsPd s rfl)
    simp [MUps.denote, MUps.isRel, slotOf, below, hd]
  | prodRoot s => simp [MUps.denote, MUps.isRel, slotOf]
  | upsDb s => simp [MUps.denote, MUps.isRel, slotOf]
  | _ => simp [MUps.isRel] at h

theorem MTab.truthy (mt : MTab) (h : mt.ok) : mt.toRec.truthy = true := by
  cases mt <;> simp [MTab.toRec, PVal.truthy, sNone]
  · exact h.2

theorem resolve_macro_spec (ex : Path → Bool) (R : List Str) (name version f : Str) (md : MDir) (mu : MUps) (mt : MTab)
    (hR : SegsOK R) (hf : SegOK f) (hwf : MacroWF md mu mt) :
    (resolveInfo ex name version f (absP (R ++ [sUpsDb]))
        { productDir := some md.toRec, tableFile := some mt.toRec, upsDir := some mu.toRec }).map
        (fun p => (p.dir, p.table))
      = .ok (md.denote R f, mt.denote ex R f (md.denote R f) (mu.denote R f (md.denote R f))) := by
  have hR36 : No36 R := hR.no36
  obtain ⟨hdir, hDgood⟩ := dirPhase_spec R f md hR36 hf.1 hf.2.2 hwf.dir
  obtain ⟨hups, hUgood⟩ := upsPhase_spec R f (slotOf md.isRel (md.denote R f)) (md.denote R f) mu hR36 hf.1 hf.2.2 hwf.ups
    hDgood (fun s hs => MDir.denote_path_of_ne_none R f md (hwf.upsRel s hs))
    (fun s hs => MDir.slot_of_isRel R f md (hwf.upsPd s hs))
  obtain ⟨htab, hTgood⟩ := tabPhase_spec ex R f (slotOf md.isRel (md.denote R f))
    (slotOf mu.isRel (mu.denote R f (md.denote R f))) name (md.denote R f) (mu.denote R f (md.denote R f)) mt hR36 hf.1
    hf.2.2 hwf.tab hDgood hUgood (fun s hs => MUps.slot_of_isRel R f hwf (hwf.tabUd s hs))
    (fun s hs => MDir.slot_of_isRel R f md (hwf.tabPd s hs))
  -- `Product.__init__` changes nothing: a table file is given
  have hinit : ∀ p : Prod, p.table = mt.toRec → p.init ex = p := fun p hp => by
    simp [Prod.init, hp, MTab.truthy mt hwf.tab]
  unfold resolveInfo
  simp only []
  rw [hinit _ rfl, resolvePaths_phases]
  simp only [absP]
  rw [show stackRoot ⟨true, R ++ [sUpsDb]⟩ = ⟨true, R⟩ from stackRoot_db R,
    show ({ flavor := f, prodRoot := ⟨true, R⟩, upsDb := ⟨true, R ++ [sUpsDb]⟩ } : Macros) = mac f R none none from rfl, hdir]
  simp only []
  rw [hups]
  simp only []
  have hlast := lastPhase_id (mac f R (slotOf md.isRel (md.denote R f)) (slotOf mu.isRel (mu.denote R f (md.denote R f))))
    _ _ hDgood.noDollar hTgood
  generalize tabPhase ex ⟨true, R⟩ _ name _ _ mt.toRec = tp at htab
  obtain ⟨tp1, tp2⟩ := tp
  subst htab
  simp only [hlast, Except.map]

end EupsModel.Record
