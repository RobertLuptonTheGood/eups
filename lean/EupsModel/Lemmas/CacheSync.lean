import EupsModel.Model.CacheSync
import EupsModel.Lemmas.List
/-! The invariant behind the three `C07_*_safe` theorems: with the repaired staleness test (`fixed = true`) and no deletion
of the cache file under the live instances,
* every live instance has the file of `persistDir` in its dictionary,
* a file that is not older than the database is complete; an older one every instance regards as unchanged since it
  looked (so nobody reloads it),
* an instance that the test calls "in sync" holds the whole database,
so a write-through either finds its stack complete or reloads a complete file, and what it saves is complete. -/
namespace EupsModel.CacheSync

theorem St.inst_setInst (s : St) (i j : Bool) (x : Inst) :
    (s.setInst i x).inst j = if j = i then x else s.inst j := by
  cases i <;> cases j <;> rfl

theorem St.inst_with (s : St) (now : Nat) (db : List Nat) (dbTime : Nat) (file : Option File) (j : Bool) :
    ({ s with now := now, db := db, dbTime := dbTime, file := file } : St).inst j = s.inst j := by
  cases j <;> rfl

theorem St.setInst_file (s : St) (i : Bool) (x : Inst) : (s.setInst i x).file = s.file := by cases i <;> rfl
theorem St.setInst_now (s : St) (i : Bool) (x : Inst) : (s.setInst i x).now = s.now := by cases i <;> rfl
theorem St.setInst_db (s : St) (i : Bool) (x : Inst) : (s.setInst i x).db = s.db := by cases i <;> rfl
theorem St.setInst_dbTime (s : St) (i : Bool) (x : Inst) : (s.setInst i x).dbTime = s.dbTime := by cases i <;> rfl

/-- The invariant of the head of this file: `mod` is its first item, `safe` and `stale` the second, `sync` the third;
`flt` and `clock` say that the clock is ahead of every time on record. -/
structure Inv (s : St) : Prop where
  mod : ∀ i, ∃ t, (s.inst i).mod = some t ∧ t < s.now
  flt : ∀ f, s.file = some f → f.mtime < s.now
  safe : Safe s
  stale : ∀ f, s.file = some f → f.mtime < s.dbTime → ∀ i t, (s.inst i).mod = some t → f.mtime ≤ t
  sync : ∀ i, (inSync true (s.inst i).mod s.file).1 = true → (s.inst i).mem = s.db
  clock : s.dbTime < s.now

/-- while an up-to-date cache file is complete, a fresh process holds the database either way -/
theorem otherMem_of_safe {s : St} (h : Safe s) : otherMem s = s.db := by
  unfold otherMem
  cases hf : s.file with
  | none => rfl
  | some f =>
    dsimp only
    split
    · rename_i hfr; exact h f hf hfr
    · rfl

/-- the usual way the invariant comes about: the cache file is complete and not older than the database, and the
instances that have seen this file are complete (the others will be told to reload it) -/
theorem Inv.of_fresh {s : St} {f : File} (hf : s.file = some f) (hfl : f.mtime < s.now) (hfr : s.dbTime ≤ f.mtime)
    (hc : f.content = s.db)
    (hmod : ∀ i, ∃ t, (s.inst i).mod = some t ∧ t < s.now ∧ (f.mtime ≤ t → (s.inst i).mem = s.db)) : Inv s := by
  refine ⟨fun i => (hmod i).imp fun t h => ⟨h.1, h.2.1⟩, ?_, ?_, ?_, ?_, Nat.lt_of_le_of_lt hfr hfl⟩
  · intro f' h'; rw [hf] at h'; cases h'; exact hfl
  · intro f' h' _; rw [hf] at h'; cases h'; exact hc
  · intro f' h' hs; rw [hf] at h'; cases h'; omega
  · intro i hs
    obtain ⟨t, hm, _, hk⟩ := hmod i
    rw [hm, hf] at hs
    exact hk (by simpa [inSync] using hs)

/-- what `ensureInSync` leaves: the entry is still there, and the stack is complete -/
theorem ensure_spec {s : St} (h : Inv s) (i : Bool) :
    ∃ t, (ensure true (s.inst i) s.file).mod = some t ∧ t < s.now ∧ (ensure true (s.inst i) s.file).mem = s.db ∧
      (inSync true (some t) s.file).1 = true ∧
      (∀ f, s.file = some f → f.mtime ≤ t) := by
  obtain ⟨t, hm, hlt⟩ := h.mod i
  have hsync := h.sync i
  cases hf : s.file with
  | none =>
    refine ⟨0, ?_, by omega, ?_, by simp [inSync], by intro f h; cases h⟩
    · simp [ensure, inSync, hm]
    · have : (inSync true (s.inst i).mod s.file).1 = true := by simp [inSync, hm, hf]
      simpa [ensure, inSync, hm, hf] using hsync this
  | some f =>
    by_cases hle : f.mtime ≤ t
    · refine ⟨t, ?_, hlt, ?_, by simp [inSync, hle], by intro f' h; cases h; exact hle⟩
      · simp [ensure, inSync, hm, hle]
      · have : (inSync true (s.inst i).mod s.file).1 = true := by simp [inSync, hm, hf, hle]
        simpa [ensure, inSync, hm, hf, hle] using hsync this
    · -- out of sync: the file is newer than what the instance knows, hence not stale, hence complete
      have hfr : s.dbTime ≤ f.mtime := Nat.le_of_not_lt fun hc => hle (h.stale f hf hc i t hm)
      refine ⟨f.mtime, ?_, h.flt f hf, ?_, by simp [inSync], by intro f' h; cases h; exact Nat.le_refl _⟩
      · simp [ensure, inSync, hm, hle]
      · simpa [ensure, inSync, hm, hle] using h.safe f hf hfr

/-- under the invariant a write-through always ends in `persist` of the whole database -/
theorem step_write_eq {s : St} (h : Inv s) (i : Bool) :
    step true s (.write i) =
      { (s.setInst i ⟨some (s.now + 1), s.db ++ [s.db.length]⟩) with
        db := s.db ++ [s.db.length], dbTime := s.now, file := some ⟨s.now + 1, s.db ++ [s.db.length]⟩,
        now := s.now + 2 } := by
  obtain ⟨t, hmod, _, hmem, hsyn, _⟩ := ensure_spec h i
  cases i with
  | false =>
    simp only [St.inst, Bool.false_eq_true, if_false] at hmod hmem
    simp only [step, St.inst, St.setInst, Bool.false_eq_true, if_false, hmod, hmem, hsyn, if_true]
  | true =>
    simp only [St.inst, if_true] at hmod hmem
    simp only [step, St.inst, St.setInst, if_true, hmod, hmem, hsyn]

theorem Inv.step {s : St} (h : Inv s) (e : Ev) (he : e ≠ .delete) : Inv (step true s e) := by
  have hc := h.clock
  cases e with
  | delete => exact absurd rfl he
  | other =>
    have hmem := otherMem_of_safe h.safe
    refine .of_fresh (f := ⟨s.now + 1, otherMem s ++ [s.db.length]⟩) rfl (Nat.lt_succ_self _) (Nat.le_succ _)
      (by rw [hmem]; rfl) fun i => ?_
    obtain ⟨t, hm, hlt⟩ := h.mod i
    exact ⟨t, by cases i <;> exact hm, Nat.lt_add_right 2 hlt, fun hle => absurd hle (by dsimp only; omega)⟩
  | write i =>
    rw [step_write_eq h i]
    refine .of_fresh (f := ⟨s.now + 1, s.db ++ [s.db.length]⟩) rfl (Nat.lt_succ_self _) (Nat.le_succ _) rfl fun j => ?_
    rw [St.inst_with, St.inst_setInst]
    split
    · exact ⟨s.now + 1, rfl, Nat.lt_succ_self _, fun _ => rfl⟩
    · obtain ⟨t, hm, hlt⟩ := h.mod j
      exact ⟨t, hm, Nat.lt_add_right 2 hlt, fun hle => absurd hle (by dsimp only; omega)⟩
  | check i =>
    obtain ⟨t, hmod, hlt, hmem, hsyn, hle⟩ := ensure_spec h i
    show Inv (s.setInst i (ensure true (s.inst i) s.file))
    refine ⟨fun j => ?_, by rw [St.setInst_file, St.setInst_now]; exact h.flt,
      fun f => by rw [St.setInst_file, St.setInst_db, St.setInst_dbTime]; exact h.safe f, ?_, fun j => ?_,
      by rw [St.setInst_dbTime, St.setInst_now]; exact hc⟩
    · rw [St.inst_setInst, St.setInst_now]; split
      · exact ⟨t, hmod, hlt⟩
      · exact h.mod j
    · rw [St.setInst_file, St.setInst_dbTime]
      intro f hf hs j t' ht'
      rw [St.inst_setInst] at ht'
      split at ht'
      · rw [hmod] at ht'; cases ht'; exact hle f hf
      · exact h.stale f hf hs j t' ht'
    · rw [St.inst_setInst, St.setInst_file, St.setInst_db]; split
      · exact fun _ => hmem
      · exact h.sync j

theorem Inv.run {s : St} (h : Inv s) (evs : List Ev) (hnd : ∀ e ∈ evs, e ≠ .delete) : Inv (run true s evs) :=
  foldl_invariant h fun _ e he hs => hs.step e (hnd e he)

/-- a world as single-process histories leave it (`C07_cache_inv`): a cache file that is not older than the database is
complete; the clock is ahead of every time in it -/
structure Start (s : St) : Prop where
  safe : Safe s
  clock : s.dbTime < s.now
  flt : ∀ f, s.file = some f → f.mtime < s.now

theorem load2_inv {s : St} (h : Start s) (sysOk : Bool) :
    Inv (load true sysOk (load true sysOk s false) true) := by
  have hc := h.clock
  -- no usable cache anywhere: instance 0 rebuilds and saves, instance 1 reads that file
  have rebuilt : (∀ f, s.file = some f → ¬ s.dbTime ≤ f.mtime) →
      Inv (load true false (load true false s false) true) := by
    intro hst
    have e : load true false (load true false s false) true =
        { s with i0 := ⟨some s.now, s.db⟩, i1 := ⟨some s.now, s.db⟩, file := some ⟨s.now, s.db⟩, now := s.now + 1 } := by
      have hle : s.dbTime ≤ s.now := by omega
      cases hf : s.file with
      | none => simp [load, fresh, hf, St.setInst, hle]
      | some f => simp [load, fresh, hf, St.setInst, hst f hf, hle]
    rw [e]
    exact .of_fresh (f := ⟨s.now, s.db⟩) rfl (Nat.lt_succ_self _) (Nat.le_of_lt hc) rfl fun i =>
      ⟨s.now, by cases i <;> rfl, Nat.lt_succ_self _, fun _ => by cases i <;> rfl⟩
  cases hf : s.file with
  | none =>
    cases sysOk with
    | true =>
      have e : load true true (load true true s false) true =
          { s with i0 := ⟨some 0, s.db⟩, i1 := ⟨some 0, s.db⟩ } := by
        simp [load, fresh, hf, St.setInst]
      rw [e]
      refine ⟨fun i => ⟨0, by cases i <;> rfl, by dsimp only; omega⟩, ?_, ?_, ?_, fun i _ => by cases i <;> rfl, hc⟩
      · intro f h'; simp [hf] at h'
      · intro f h'; simp [hf] at h'
      · intro f h'; simp [hf] at h'
    | false => exact rebuilt fun f h' => by rw [hf] at h'; cases h'
  | some f =>
    have hfl := h.flt f hf
    by_cases hfr : s.dbTime ≤ f.mtime
    · have hcont := h.safe f hf hfr
      have e : load true sysOk (load true sysOk s false) true =
          { s with i0 := ⟨some f.mtime, f.content⟩, i1 := ⟨some f.mtime, f.content⟩ } := by
        simp [load, fresh, hf, St.setInst, hfr]
      rw [e]
      exact .of_fresh (f := f) hf hfl hfr hcont fun i =>
        ⟨f.mtime, by cases i <;> rfl, hfl, fun _ => by cases i <;> exact hcont⟩
    · cases sysOk with
      | true =>
        have e : load true true (load true true s false) true =
            { s with i0 := ⟨some f.mtime, s.db⟩, i1 := ⟨some f.mtime, s.db⟩ } := by
          simp [load, fresh, hf, St.setInst, hfr]
        rw [e]
        refine ⟨fun i => ⟨f.mtime, by cases i <;> rfl, hfl⟩, ?_, ?_, ?_, fun i _ => by cases i <;> rfl, hc⟩
        · intro f' h'; simp [hf] at h'; subst h'; exact hfl
        · intro f' h' hfr'; simp [hf] at h'; subst h'; exact absurd hfr' hfr
        · intro f' h' _ i t ht
          simp [hf] at h'; subst h'
          cases i <;> (simp [St.inst] at ht; subst ht; exact Nat.le_refl _)
      | false => exact rebuilt fun f' h' => by rw [hf] at h'; cases h'; exact hfr

/-- noting the time BEFORE reading keeps the invariant whatever lands in the window of `reload` -/
theorem loadGate_inv {s : St} (h : Start s) (sysOk readLate : Bool) (f : File) (hf : s.file = some f)
    (hfr : s.dbTime ≤ f.mtime) : Inv (loadGate true readLate (load true sysOk s false)) := by
  have hc := h.clock
  have hfl := h.flt f hf
  have e0 : load true sysOk s false = { s with i0 := ⟨some f.mtime, f.content⟩ } := by
    simp [load, fresh, hf, St.setInst, hfr]
  rw [e0]
  have hcont := h.safe f hf hfr
  simp only [loadGate, hf, step, otherMem, hfr, if_true, hcont]
  refine .of_fresh (f := ⟨s.now + 1, s.db ++ [s.db.length]⟩) rfl (Nat.lt_succ_self _) (Nat.le_succ _) rfl fun i =>
    ⟨f.mtime, by cases i <;> simp [St.inst], Nat.lt_add_right 2 hfl, fun hle => absurd hle (by dsimp only; omega)⟩

/-- a rebuilding constructor with another writer inside (repaired rule): the other writer's file stays, instance 0
knows it is behind, instance 1 reads the complete file -/
theorem rebuildGate_inv {s : St} (h : Start s) : Inv (load true false (rebuildGate true s) true) := by
  have hc := h.clock
  have hmem := otherMem_of_safe h.safe
  have ht0 : (s.file.map (·.mtime)).getD 0 < s.now := by
    cases hf : s.file with
    | none => simp; omega
    | some f => simpa using h.flt f hf
  have e : load true false (rebuildGate true s) true =
      { s with db := s.db ++ [s.db.length], dbTime := s.now, file := some ⟨s.now + 1, s.db ++ [s.db.length]⟩,
               now := s.now + 2, i0 := ⟨some ((s.file.map (·.mtime)).getD 0), s.db⟩,
               i1 := ⟨some (s.now + 1), s.db ++ [s.db.length]⟩ } := by
    simp [rebuildGate, step, hmem, load, fresh, St.setInst]
  rw [e]
  refine .of_fresh (f := ⟨s.now + 1, s.db ++ [s.db.length]⟩) rfl (Nat.lt_succ_self _) (Nat.le_succ _) rfl fun i => ?_
  cases i with
  | false => exact ⟨_, rfl, Nat.lt_add_right 2 ht0, fun hle => absurd hle (by dsimp only; omega)⟩
  | true => exact ⟨s.now + 1, rfl, Nat.lt_succ_self _, fun _ => rfl⟩

end EupsModel.CacheSync
