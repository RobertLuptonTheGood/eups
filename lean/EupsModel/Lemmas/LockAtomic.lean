import EupsModel.Lemmas.LockStep
import EupsModel.Lemmas.LockAcct
/-! C09, pinned protocol — phase-atomic clause.  A *phase* is a run of `Lock.step` for one process from one resting point
to the next: an acquisition attempt or a release.  If phases do not overlap, the whole property holds (`AInv`), the lock
directory holds exactly the holders' files (`AInv.atRest`), and an attempt is granted exactly when the request is
compatible with every holder but the requester's parent (`phase_attempt`). -/
namespace EupsModel.Lock

/-- resting points: not in the middle of `takeLocks` or `giveLocks` (the `sleep` between two attempts is one) -/
def quiet : PC → Bool
  | .mkdir _ | .hold | .unlocked | .done | .failedAcq _ | .failedRel _ => true
  | _ => false

def runTo : Nat → St → Pid → St
  | 0, s, _ => s
  | f + 1, s, i => if quiet (s.pc i) then s else runTo f (step s i) i

/-- One phase of process `i`: its next call, then on to its next resting point (a phase has at most 6 calls;
`ainv_phase` shows the result rests, i.e. the fuel suffices). -/
def phase (s : St) (i : Pid) : St := runTo 6 (step s i) i

theorem runTo_quiet {f : Nat} {s : St} {i : Pid} (h : quiet (s.pc i) = true) : runTo f s i = s := by
  cases f <;> simp [runTo, h]

theorem runTo_step {f : Nat} {s : St} {i : Pid} (h : quiet (s.pc i) = false) :
    runTo (f + 1) s i = runTo f (step s i) i := by
  simp [runTo, h]

/-- phases are runs of the same `step` the correspondence check validates -/
theorem runTo_is_run (f : Nat) (s : St) (i : Pid) : ∃ n, runTo f s i = run s (List.replicate n i) := by
  induction f generalizing s with
  | zero => exact ⟨0, rfl⟩
  | succ f ih =>
    by_cases hq : quiet (s.pc i) = true
    · exact ⟨0, by simp [runTo, hq]⟩
    · obtain ⟨n, hn⟩ := ih (step s i)
      exact ⟨n + 1, by simp [runTo, hq, hn, List.replicate_succ]⟩

theorem phase_is_run (s : St) (i : Pid) : ∃ n, phase s i = run s (List.replicate n i) := by
  obtain ⟨n, hn⟩ := runTo_is_run 6 (step s i) i
  exact ⟨n + 1, by simp [phase, hn, List.replicate_succ]⟩

theorem phases_is_run (s : St) (ps : List Pid) : ∃ sched, ps.foldl phase s = run s sched := by
  induction ps generalizing s with
  | nil => exact ⟨[], rfl⟩
  | cons i r ih =>
    obtain ⟨n, hn⟩ := phase_is_run s i
    obtain ⟨sched, hs⟩ := ih (phase s i)
    exact ⟨List.replicate n i ++ sched, by rw [List.foldl_cons, hs, hn, run_append]⟩

theorem phases_kind (s : St) (ps : List Pid) : (ps.foldl phase s).kind = s.kind := by
  obtain ⟨sched, hs⟩ := phases_is_run s ps
  rw [hs, run_kind]

theorem phases_lp (s : St) (ps : List Pid) : (ps.foldl phase s).lp = s.lp := by
  obtain ⟨sched, hs⟩ := phases_is_run s ps
  rw [hs, run_lp]

section closed
variable {s : St} {i : Pid}

theorem phase_idle (h : s.pc i = .done ∨ ∃ e, s.pc i = .failedAcq e) : phase s i = s := by
  rcases h with h | ⟨e, h⟩
  · simp [phase, step_done h, runTo, quiet, h]
  · simp [phase, step_failedAcq h, runTo, quiet, h]

theorem acquire_free {l : Nat} (hpc : s.pc i = .mkdir l) (hd : s.dir = false) (hf : s.files = []) :
    phase s i = { s with dir := true, files := [(s.kind i, i)], pc := upd s.pc i .hold } := by
  simp [phase, runTo, quiet, step_mkdir hpc, hd, step_scan, step_create, setPC, hf, exFiles]

theorem acquire_ex_reenter {l : Nat} {k : Kind} {q : Pid} (hpc : s.pc i = .mkdir l) (hd : s.dir = true)
    (hk : s.kind i = .ex) (hf : s.files = [(k, q)]) (hl : s.lp i = some q) (hne : q ≠ i) :
    phase s i = { s with files := (.ex, i) :: s.files, pc := upd s.pc i .hold } := by
  have hne' : ¬ (i = q) := fun e => hne e.symm
  cases k <;>
    simp [phase, runTo, quiet, step_mkdir hpc, hd, hk, step_scanAll, step_scan, step_scan2, step_create, setPC, hf,
      hl, exFiles, parentHolds, hne']

theorem acquire_ex_refused {l : Nat} (hpc : s.pc i = .mkdir l) (hd : s.dir = true) (hk : s.kind i = .ex)
    (hp : parentHolds (s.lp i) s.files = false) :
    phase s i = setPC s i (match l with | 0 => .failedAcq .runtime | n + 1 => .mkdir n) := by
  cases l with
  | zero => simp [phase, runTo, quiet, step_mkdir hpc, hd, hk, step_scanAll, step_scanMsg_zero, setPC, hp]
  | succ n => simp [phase, runTo, quiet, step_mkdir hpc, hd, hk, step_scanAll, step_scanMsg_succ, setPC, hp]

theorem acquire_sh_join {l : Nat} (hpc : s.pc i = .mkdir l) (hd : s.dir = true) (hk : s.kind i = .sh)
    (hn : exFiles s.files = []) (hnm : (Kind.sh, i) ∉ s.files) :
    phase s i = { s with files := (.sh, i) :: s.files, pc := upd s.pc i .hold } := by
  simp [phase, runTo, quiet, step_mkdir hpc, hd, hk, step_existsChk, step_scan, step_create, setPC, hn, hnm]

theorem acquire_sh_reenter {l : Nat} {q : Pid} (hpc : s.pc i = .mkdir l) (hd : s.dir = true) (hk : s.kind i = .sh)
    (hn : exFiles s.files = [(.ex, q)]) (hl : s.lp i = some q) (hnm : (Kind.sh, i) ∉ s.files) :
    phase s i = { s with files := (.sh, i) :: s.files, pc := upd s.pc i .hold } := by
  simp [phase, runTo, quiet, step_mkdir hpc, hd, hk, step_existsChk, step_scan, step_scan2, step_create, setPC, hn,
    hl, hnm]

theorem acquire_sh_refused {l : Nat} (hpc : s.pc i = .mkdir l) (hd : s.dir = true) (hk : s.kind i = .sh)
    (hn : exFiles s.files ≠ []) (hnp : ∀ q, exFiles s.files = [(.ex, q)] → s.lp i ≠ some q) :
    phase s i = setPC s i (.failedAcq .runtime) := by
  cases hx : exFiles s.files with
  | nil => exact absurd hx hn
  | cons a rest =>
    have ha : a.1 = .ex := by
      have : a ∈ exFiles s.files := by rw [hx]; simp
      simpa [exFiles] using (List.mem_filter.mp this).2
    cases rest with
    | nil =>
      have : a = (.ex, a.2) := by cases a; simp_all
      have hq := hnp a.2 (by rw [hx, ← this])
      simp [phase, runTo, quiet, step_mkdir hpc, hd, hk, step_existsChk, step_scan, step_scan2, setPC, hx, hq]
    | cons b rest2 =>
      simp [phase, runTo, quiet, step_mkdir hpc, hd, hk, step_existsChk, step_scan, setPC, hx]

theorem release_eq (hpc : s.pc i = .hold) (hd : s.dir = true) (hm : (s.kind i, i) ∈ s.files) :
    phase s i =
      { s with dir := !(s.files.filter (· != (s.kind i, i))).isEmpty,
               files := s.files.filter (· != (s.kind i, i)),
               pc := upd s.pc i .done } := by
  by_cases he : (s.files.filter (· != (s.kind i, i))) = []
  · simp [phase, runTo, quiet, step_hold hpc, step_isdir, step_rexists, step_remove, step_count, step_rmdir,
      setPC, hd, hm, he]
  · simp [phase, runTo, quiet, step_hold hpc, step_isdir, step_rexists, step_remove, step_count,
      setPC, hd, hm, he]

end closed

/-- program counters seen between non-overlapping phases -/
def resting : PC → Bool
  | .mkdir _ | .hold | .done | .failedAcq .runtime => true
  | _ => false

theorem quiet_of_resting {p : PC} (h : resting p = true) : quiet p = true := by
  cases p <;> first | rfl | cases h

structure AInv (s : St) : Prop where
  rest   : ∀ i, resting (s.pc i) = true
  files  : ∀ k i, (k, i) ∈ s.files ↔ (s.pc i = .hold ∧ s.kind i = k)
  nodup  : s.files.Nodup
  dirIff : s.dir = true ↔ s.files ≠ []
  mutex  : ∀ i j, s.pc i = .hold → s.pc j = .hold → s.kind i = .ex → i ≠ j → related s i j

theorem ainv_init (kind : Pid → Kind) (lp : Pid → Option Pid) (tries : Pid → Nat) : AInv (init kind lp tries) := by
  constructor <;> simp [init, resting]

namespace AInv
variable {s : St}

theorem holds_of_mem (h : AInv s) {k : Kind} {j : Pid} (hm : (k, j) ∈ s.files) : s.pc j = .hold ∧ s.kind j = k :=
  (h.files k j).mp hm

theorem toMutex (h : AInv s) : Mutex s := fun i j hij hnr hi hk => by
  cases hj : s.pc j with
  | hold => exact absurd (h.mutex i j hi hj hk hij) hnr
  | unlocked => have := h.rest j; rw [hj] at this; cases this
  | _ => rfl

theorem atRest (h : AInv s) : AtRest (· = .hold) s.kind s.dir s.files s.pc := ⟨h.files, h.nodup, h.dirIff⟩

theorem update (h : AInv s) (i : Pid) (v : PC) (d' : Bool) (fs' : List (Kind × Pid)) (hr : resting v = true)
    (hself : ∀ k, (k, i) ∈ fs' ↔ v = .hold ∧ s.kind i = k) (hother : ∀ k j, j ≠ i → ((k, j) ∈ fs' ↔ (k, j) ∈ s.files))
    (hnd : fs'.Nodup) (hd : d' = true ↔ fs' ≠ [])
    (hmx : v = .hold → ∀ j, j ≠ i → s.pc j = .hold → (s.kind i = .ex ∨ s.kind j = .ex) → related s i j) :
    AInv { s with dir := d', files := fs', pc := upd s.pc i v } := by
  refine ⟨forall_upd (P := fun _ x => resting x = true) hr (fun j _ => h.rest j), fun k j => ?_, hnd, hd,
    fun a b ha hb hka hab => ?_⟩
  · exact forall_upd (P := fun j x => (k, j) ∈ fs' ↔ x = PC.hold ∧ s.kind j = k) (hself k)
      (fun j hj => (hother k j hj).trans (h.files k j)) j
  · -- read symmetrically (one of the two holders is exclusive), a pair with `i` is `hmx`
    exact sym_pair_upd (A := (· = PC.hold)) (Q := fun a b => (s.kind a = .ex ∨ s.kind b = .ex) → related s a b)
      (fun _ _ q hk => Or.symm (q hk.symm))
      (fun a b hab ha hb hk => hk.elim (fun hka => h.mutex a b ha hb hka hab)
        (fun hkb => Or.symm (h.mutex b a hb ha hkb (Ne.symm hab))))
      hmx a b hab ha hb (.inl hka)

theorem setPC_nonhold (h : AInv s) (i : Pid) (v : PC) (hi : s.pc i ≠ .hold) (hv : v ≠ .hold)
    (hr : resting v = true) : AInv (setPC s i v) :=
  h.update i v s.dir s.files hr (fun _ => ⟨fun hm => absurd (h.holds_of_mem hm).1 hi, fun e => absurd e.1 hv⟩)
    (fun _ _ _ => Iff.rfl) h.nodup h.dirIff (fun e => absurd e hv)

theorem grant (h : AInv s) (i : Pid) (hi : s.pc i ≠ .hold)
    (hc : ∀ j, s.pc j = .hold → (s.kind i = .ex ∨ s.kind j = .ex) → related s i j) :
    AInv { s with dir := true, files := (s.kind i, i) :: s.files, pc := upd s.pc i .hold } := by
  have hni : ∀ k, (k, i) ∉ s.files := fun k hm => hi (h.holds_of_mem hm).1
  refine h.update i .hold true _ rfl (fun k => ?_) (fun k j hj => ?_) (List.nodup_cons.mpr ⟨hni _, h.nodup⟩) (by simp)
    (fun _ j _ hj hk => hc j hj hk) <;> rw [List.mem_cons, Prod.mk.injEq]
  · exact ⟨fun hm => ⟨rfl, (hm.resolve_right (hni k)).1.symm⟩, fun e => .inl ⟨e.2.symm, rfl⟩⟩
  · exact ⟨fun hm => hm.resolve_left (fun e => hj e.2), .inr⟩

theorem release (h : AInv s) (i : Pid) :
    AInv { s with dir := !(s.files.filter (· != (s.kind i, i))).isEmpty,
                  files := s.files.filter (· != (s.kind i, i)),
                  pc := upd s.pc i .done } := by
  refine h.update i .done _ _ rfl (fun k => ?_) (fun k j hj => ?_) (h.nodup.filter _) (by simp) nofun <;>
    rw [List.mem_filter]
  · refine ⟨fun ⟨hm, hne⟩ => ?_, fun e => nomatch e.1⟩
    rw [← (h.holds_of_mem hm).2] at hne; simp at hne
  · exact ⟨fun hm => hm.1, fun hm => ⟨hm, by simp [hj]⟩⟩

end AInv

def compat (s : St) (i : Pid) : Prop := Compat (· = .hold) s.kind s.pc (s.kind i) (s.lp i)

/-- What a phase-atomic acquisition attempt decides, between resting states: the lock is granted exactly when the request is
compatible with every holder but the parent; a refused requester is left without a trace. -/
theorem phase_attempt {s : St} (h : AInv s) {i : Pid} {l : Nat} (hpc : s.pc i = .mkdir l) :
    (compat s i ∧ phase s i = { s with dir := true, files := (s.kind i, i) :: s.files, pc := upd s.pc i .hold }) ∨
    (¬ compat s i ∧ ∃ v, v ≠ .hold ∧ resting v = true ∧ phase s i = setPC s i v) := by
  have hni : ∀ k, (k, i) ∉ s.files := fun k hm => by have := (h.holds_of_mem hm).1; rw [hpc] at this; cases this
  have r := h.atRest
  unfold compat
  cases hd : s.dir with
  | false =>
    have hf := r.files_nil_of_noDir hd
    exact .inl ⟨fun j hj _ => absurd hj (r.noHolder hd j), by rw [acquire_free hpc hd hf, hf]⟩
  | true =>
    cases hk : s.kind i with
    | ex =>
      rw [r.compat_ex]
      cases hp : parentHolds (s.lp i) s.files with
      | true =>
        obtain ⟨k, q, hf, hl⟩ := parentHolds_iff.mp hp
        have hqi : q ≠ i := fun e => hni k (by rw [hf, e]; simp)
        exact .inl ⟨.inr rfl, by rw [acquire_ex_reenter hpc hd hk hf hl hqi, hd]⟩
      | false =>
        refine .inr ⟨by simp [hd], _, ?_, ?_, acquire_ex_refused hpc hd hk hp⟩
        · cases l <;> simp
        · cases l <;> simp [resting]
    | sh =>
      rw [r.compat_sh]
      by_cases hn : exFiles s.files = []
      · exact .inl ⟨by rw [hn]; nofun, by rw [acquire_sh_join hpc hd hk hn (hni _), hd]⟩
      · by_cases hre : ∃ q, exFiles s.files = [(.ex, q)] ∧ s.lp i = some q
        · obtain ⟨q, hx, hl⟩ := hre
          exact .inl ⟨by rw [hx]; simpa using hl, by rw [acquire_sh_reenter hpc hd hk hx hl (hni _), hd]⟩
        · refine .inr ⟨fun hall => ?_, _, by simp, by simp [resting],
            acquire_sh_refused hpc hd hk hn (fun q hx hl => hre ⟨q, hx, hl⟩)⟩
          -- every exclusive file would be the parent's: the "exclusive*" listing would be that one file
          obtain ⟨k, j, hx, hl⟩ := r.single_of_parent (fun _ hx => (mem_exFiles.mp hx).1) (h.nodup.filter _) hn hall
          have hkx : k = .ex := (mem_exFiles.mp (hx ▸ List.mem_singleton_self (k, j))).2
          exact hre ⟨j, hkx ▸ hx, hl⟩

theorem ainv_phase (s : St) (i : Pid) (h : AInv s) : AInv (phase s i) := by
  have hr := h.rest i
  cases hpc : s.pc i with
  | mkdir l =>
    have hi : s.pc i ≠ .hold := by rw [hpc]; simp
    rcases phase_attempt h hpc with ⟨hg, e⟩ | ⟨_, v, hv, hrv, e⟩ <;> rw [e]
    · exact h.grant i hi (fun j hj hor => .inl (hg j hj hor))
    · exact h.setPC_nonhold i v hi hv hrv
  | hold =>
    have hm : (s.kind i, i) ∈ s.files := (h.files _ i).mpr ⟨hpc, rfl⟩
    have hd : s.dir = true := h.dirIff.mpr (by intro e; rw [e] at hm; simp at hm)
    rw [release_eq hpc hd hm]
    exact h.release i
  | done => rw [phase_idle (Or.inl hpc)]; exact h
  | failedAcq e => rw [phase_idle (Or.inr ⟨e, hpc⟩)]; exact h
  | existsChk | scanAll | scanMsg | scan | scan2 | create | unlocked | isdir | rexists | remove | count | rmdir
  | failedRel =>
    rw [hpc] at hr; cases hr

theorem phase_grants {s : St} (h : AInv s) {i : Pid} {l : Nat} (hpc : s.pc i = .mkdir l) :
    (phase s i).pc i = .hold ↔ compat s i := by
  rcases phase_attempt h hpc with ⟨hg, e⟩ | ⟨hng, v, hv, _, e⟩ <;> rw [e]
  · exact ⟨fun _ => hg, fun _ => upd_same _ _ _⟩
  · exact ⟨fun e => absurd ((upd_same _ _ _).symm.trans e) hv, fun hg => absurd hg hng⟩

theorem ainv_phases (s : St) (ps : List Pid) (h : AInv s) : AInv (ps.foldl phase s) :=
  foldl_keeps (P := AInv) ainv_phase ps h

theorem phase_pc_other (s : St) (i j : Pid) (h : j ≠ i) : (phase s i).pc j = s.pc j := by
  obtain ⟨n, hn⟩ := phase_is_run s i
  rw [hn]; exact run_replicate_pc_other s i j n h

@[simp] theorem phase_kind (s : St) (i : Pid) : (phase s i).kind = s.kind := by
  obtain ⟨n, hn⟩ := phase_is_run s i
  rw [hn]; simp

@[simp] theorem phase_lp (s : St) (i : Pid) : (phase s i).lp = s.lp := by
  obtain ⟨n, hn⟩ := phase_is_run s i
  rw [hn]; simp

/-- an incompatible request is not granted: afterwards the two would hold together, which `AInv` of the result excludes -/
theorem phase_refuses {s : St} (h : AInv s) {i q : Pid} (hne : q ≠ i) (hq : s.pc q = .hold) (hunrel : ¬ related s i q)
    (hex : s.kind i = .ex ∨ s.kind q = .ex) : (phase s i).pc i ≠ .hold := by
  have h' := ainv_phase s i h
  intro hi
  have hq' : (phase s i).pc q = .hold := by rw [phase_pc_other s i q hne]; exact hq
  have hrel : related (phase s i) i q := by
    rcases hex with hex | hex
    · exact h'.mutex i q hi hq' (by simp [hex]) (fun e => hne e.symm)
    · exact related_symm (h'.mutex q i hq' hi (by simp [hex]) hne)
  exact hunrel (by simpa [related] using hrel)

end EupsModel.Lock
