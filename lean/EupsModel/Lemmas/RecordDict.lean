import EupsModel.Model.Record
/-! The dictionary operations `dget` / `dset` / `ddel` of the record model (C16): lookups after an update, and updates of
a dictionary whose last entry is the one being written (the situation of the file readers). -/
namespace EupsModel.Record

variable {β : Type}

theorem dget_dset_self (l : List (Str × β)) (k : Str) (v : β) : dget (dset l k v) k = some v := by
  induction l with
  | nil => simp [dset, dget]
  | cons x r ih => by_cases ha : x.1 = k <;> simp [dset, dget, ha, ih]

theorem dget_dset_other (l : List (Str × β)) (k k' : Str) (v : β) (h : k' ≠ k) :
    dget (dset l k v) k' = dget l k' := by
  fun_induction dset l k v <;> simp_all [dget, Ne.symm h]

theorem dset_same (l : List (Str × β)) (k : Str) (v : β) (h : dget l k = some v) : dset l k v = l := by
  induction l with
  | nil => simp [dget] at h
  | cons x r ih =>
    obtain ⟨a, b⟩ := x
    by_cases ha : a = k
    · simp only [dget, ha, if_true, Option.some.injEq] at h; simp [dset, ha, h]
    · simp only [dget, ha, if_false] at h; simp [dset, ha, ih h]

theorem dset_dset (l : List (Str × β)) (k : Str) (v w : β) : dset (dset l k v) k w = dset l k w := by
  induction l with
  | nil => simp [dset]
  | cons x r ih => by_cases ha : x.1 = k <;> simp [dset, ha, ih]

theorem dget_ddel_self (l : List (Str × β)) (k : Str) : dget (ddel l k) k = none := by
  induction l with
  | nil => rfl
  | cons x r ih => by_cases ha : x.1 = k <;> simp_all [ddel, dget]

theorem dget_ddel_other (l : List (Str × β)) (k k' : Str) (h : k' ≠ k) : dget (ddel l k) k' = dget l k' := by
  induction l with
  | nil => rfl
  | cons x r ih => by_cases ha : x.1 = k <;> by_cases hb : x.1 = k' <;> simp_all [ddel, dget]

theorem ddel_none (l : List (Str × β)) (k : Str) (h : dget l k = none) : ddel l k = l := by
  induction l with
  | nil => rfl
  | cons x r ih =>
    by_cases ha : x.1 = k
    · simp [dget, ha] at h
    · simp only [dget, ha, if_false] at h
      have := ih h
      simp only [ddel] at this ⊢
      simp [ha, this]

theorem dget_map (l : List (Str × β)) (g : Str → β → β) (k : Str) :
    dget (l.map fun (f, i) => (f, g f i)) k = (dget l k).map (g k) := by
  induction l with
  | nil => rfl
  | cons x r ih =>
    by_cases ha : x.1 = k
    · subst ha; simp [dget]
    · simp [dget, ha, ih]

theorem dset_absent (l : List (Str × β)) (k : Str) (v : β) (h : dget l k = none) : dset l k v = l ++ [(k, v)] := by
  induction l with
  | nil => rfl
  | cons x r ih =>
    by_cases ha : x.1 = k
    · simp [dget, ha] at h
    · simp only [dget, ha, if_false] at h; simp [dset, ha, ih h]

theorem dget_append_old (l : List (Str × β)) (k k' : Str) (v : β) (h : k' ≠ k) :
    dget (l ++ [(k, v)]) k' = dget l k' := by
  induction l with
  | nil => simp [dget, Ne.symm h]
  | cons x r ih => by_cases ha : x.1 = k' <;> simp [dget, ha, ih]

theorem dget_append_new (l : List (Str × β)) (k : Str) (v : β) (h : dget l k = none) :
    dget (l ++ [(k, v)]) k = some v := by
  rw [← dset_absent l k v h, dget_dset_self]

theorem dset_append_new (l : List (Str × β)) (k : Str) (v w : β) (h : dget l k = none) :
    dset (l ++ [(k, v)]) k w = l ++ [(k, w)] := by
  rw [← dset_absent l k v h, dset_dset, dset_absent l k w h]

/-- the last entry is given a new key (what a non-empty `QUALIFIERS` line does to the block opened by `FLAVOR`) -/
theorem rename_last (l : List (Str × β)) (f k : Str) (v : β) (hf : dget l f = none) (hk : dget l k = none)
    (hne : k ≠ f) : ddel (dset (l ++ [(f, v)]) k v) f = l ++ [(k, v)] := by
  have h1 : dget (l ++ [(f, v)]) k = none := by rw [dget_append_old _ _ _ _ hne, hk]
  rw [dset_absent _ _ _ h1]
  simp only [ddel, List.filter_append] at *
  have := ddel_none l f hf
  simp only [ddel] at this
  simp [this, hne]

end EupsModel.Record
