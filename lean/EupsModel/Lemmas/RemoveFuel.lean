import EupsModel.Lemmas.Remove
import EupsModel.Lemmas.DepsGuard
/-! Termination of the model of `Eups._remove` (with its visited set) on every database, and the ways `remove` fails. -/
namespace EupsModel.Remove
open EupsModel.Deps

/-- listing the direct dependencies never runs out of fuel, whatever the tables say (tree with the D32 repair) -/
theorem directDeps_not_fuel (db : Db) (p : Prod) (expand : Bool) : directDeps db p expand ≠ .error .outOfFuel := by
  unfold directDeps
  split
  · split
    · simp
    · obtain ⟨o, st, h⟩ := depsOf_total db [] p false 0
      rw [h]; simp
  · simp

/-- the call started with the visited set `seen` does not hit the recursion limit, and when it succeeds it has only
added to the visited set -/
def Ends (seen : Seen) (r : Except Err (List Prod × Seen)) : Prop :=
  r ≠ .error .outOfFuel ∧ ∀ l seen', r = .ok (l, seen') → ∀ x ∈ seen, x ∈ seen'

theorem Ends.error {seen : Seen} {e : Err} (he : e ≠ .outOfFuel) : Ends seen (.error e) :=
  ⟨fun h => he (Except.error.inj h), fun _ _ h => nomatch h⟩

theorem Ends.ok {seen seen' : Seen} {l : List Prod} (hs : ∀ x ∈ seen, x ∈ seen') : Ends seen (.ok (l, seen')) :=
  ⟨nofun, fun _ _ h => (_root_.Prod.mk.inj (Except.ok.inj h)).2 ▸ hs⟩

theorem Ends.mono {seen0 seen : Seen} {r : Except Err (List Prod × Seen)} (h0 : ∀ x ∈ seen0, x ∈ seen)
    (h : Ends seen r) : Ends seen0 r :=
  ⟨h.1, fun l s' hr x hx => h.2 l s' hr x (h0 x hx)⟩

theorem collectLoop_fuel (db : Db) (sb : Option SetupBy) (force : Bool) (top : Str × Str) (recursive : Bool)
    (recur : Prod → Seen → Except Err (List Prod × Seen)) (k : Nat) (qs acc seen)
    (hrec : recursive = true → ∀ q ∈ qs, ∀ sn, unopened db sn ≤ k → Ends sn (recur q sn))
    (hk : unopened db seen ≤ k) : Ends seen (collectLoop sb force top recursive recur qs acc seen) := by
  fun_induction collectLoop sb force top recursive recur qs acc seen with
  | case1 => exact Ends.ok fun _ hx => hx
  | case2 => exact Ends.error nofun
  | case3 q _ _ seen _ hr e hres =>
    exact Ends.error fun he => (hrec hr q (List.mem_cons_self ..) seen hk).1 (he ▸ hres)
  | case4 q _ _ seen _ hr sub seen' hres ih =>
    have hsub := (hrec hr q (List.mem_cons_self ..) seen hk).2 sub seen' hres
    exact (ih (fun hr y hy => hrec hr y (List.mem_cons_of_mem _ hy))
      (Nat.le_trans (unopened_mono db hsub) hk)).mono hsub
  | case5 _ _ _ _ _ _ ih => exact ih (fun hr y hy => hrec hr y (List.mem_cons_of_mem _ hy)) hk

theorem collect_nonrec_fuel (db : Db) (sb : Option SetupBy) (force : Bool) (dn : Option Str) (top : Str × Str)
    (k : Nat) (name : Str) (ver : Option Str) (seen : Seen) :
    Ends seen (collect db sb force dn top (k + 1) name ver false seen) := by
  rw [collect_nonrec_eq]
  split
  · exact Ends.ok fun _ hx => hx
  · split
    · exact Ends.error nofun
    · split
      · exact Ends.error nofun
      · exact Ends.ok fun _ hx => hx

/-- **`_remove` ends** on every database: fuel beyond the number of products still unopened (+2) is not exhausted -/
theorem collect_fuel (db : Db) (sb : Option SetupBy) (force : Bool) (dn : Option Str) (top : Str × Str)
    (f name ver recursive seen) (hf : unopened db seen + 2 ≤ f) :
    Ends seen (collect db sb force dn top f name ver recursive seen) := by
  fun_induction collect db sb force dn top f name ver recursive seen with
  | case1 => omega
  | case2 => exact Ends.ok fun _ hx => hx
  | case3 => exact Ends.error nofun
  | case4 _ _ _ _ _ _ _ _ _ e he => exact Ends.error fun h => directDeps_not_fuel _ _ _ (h ▸ he)
  | case5 k name _ recursive seen _ p hp expand deps hd ih =>
    by_cases hex : expand = true
    · -- the product is opened now: strictly fewer remain for the nested calls
      have hnot : prodkey p ∉ seen := by
        simp only [expand, Bool.and_eq_true, Bool.not_eq_true', List.contains_eq_mem, decide_eq_false_iff_not] at hex
        exact hex.2
      have hlt := unopened_cons_lt db (find_key_mem hp) hnot
      rw [if_pos hex]
      exact (collectLoop_fuel db sb force top recursive _ (unopened db (prodkey p :: seen)) deps [] _
        (fun _ q _ sn hsn => ih q sn (by omega)) (Nat.le_refl _)).mono fun x hx => List.mem_cons_of_mem _ hx
    · -- not opened (not recursive, or seen before): the only nested call is on `p` itself, and not recursive
      have hdeps : deps = [p] := by
        simp only [directDeps, hex] at hd; cases hd; rfl
      have hnr : (p.name != name) = false := by rw [find_name hp]; exact bne_self_eq_false name
      obtain ⟨k', rfl⟩ : ∃ k', k = k' + 1 := ⟨k - 1, by omega⟩
      rw [if_neg hex, hdeps]
      exact collectLoop_fuel db sb force top recursive _ (unopened db seen) [p] [] seen
        (fun _ q hq sn _ => by
          rw [List.mem_singleton.mp hq, hnr]
          exact collect_nonrec_fuel db sb force dn top k' _ _ sn)
        (Nat.le_refl _)

theorem removeFuel_enough (s : State) : unopened s.db ([] : Seen) + 2 ≤ s.removeFuel := by
  have := unopened_le s.db ([] : Seen)
  unfold State.removeFuel
  have hd : s.db.decls = s.decls := rfl
  rw [hd] at this
  omega

/-- **The ways `remove` fails**, on every stack and with every option: what each error takes.  The recursion limit is
never that of `_remove` itself, only that of an in-use index that was not built. -/
theorem removeWith_failed_kinds {s : State} {uses : UsesOutcome} {name ver : Str} {recursive check force : Bool}
    {dn : Option Str} {e : Err} (h : (removeWith s uses name ver recursive check force dn).1 = .failed e) :
    match e with
    | .outOfFuel => check = true ∧ uses = .outOfFuel
    | .cycle => check = true ∧ uses = .cycle
    | .notFound => True
    | .tableError => ∃ p, s.db.tableMissing p = true
    | .refused => check = true ∧ force = false
    | .isSetup => force = false
    | .noPermission => s.dbWritable = false
    | .tagNotFound | .eof => False := by
  rw [removeWith_plan] at h
  split at h
  · rename_i e' hp
    cases h
    rcases plan_error hp with hi | ⟨sb, hsb, hc⟩ | ⟨rfl, hf⟩
    · obtain ⟨hc, ⟨hu, rfl⟩ | ⟨hu, rfl⟩⟩ := index_error hi <;> exact ⟨hc, hu⟩
    · rcases collect_error hc with rfl | rfl | ⟨rfl, h2⟩ | ⟨rfl, hsome, hf⟩
      · exact absurd hc (collect_fuel s.db sb force dn (name, ver) _ _ _ _ _ (removeFuel_enough s)).1
      · trivial
      · exact h2
      · rcases index_ok hsb with ⟨_, rfl⟩ | ⟨hc, _⟩
        · exact absurd rfl hsome
        · exact ⟨hc, hf⟩
    · exact hf
  · rename_i R hp
    rcases plan_destroyLoop hp with he | ⟨hw, he⟩
    · rw [he] at h
      cases h
    · rw [he] at h
      cases h
      exact hw

end EupsModel.Remove
