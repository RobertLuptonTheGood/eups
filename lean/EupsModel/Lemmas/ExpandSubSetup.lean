import EupsModel.Lemmas.ExpandRead
import EupsModel.Lemmas.Text
/-! `subSetup`, the rewriting of one setup command, in its two parts.  Reading the arguments: an independent reader of a
setup line — tokens separated by white space: flags, the product name, then one of the five documented ways of naming a
version (`Form`) — and `parseArgs_reads`: `parseArgs` computes what `Form.parsed` says, whatever the layout, in three layers
(white space `splitWs_render`, flags `scanArgs_toks`, words `finishParse_form`).  Deciding: what is written for the line read
(`decideRewrite_eq`).  `subSetup_parsed` puts the two together.
Code points: 45 `-`, 61 `=`, 91 `[` (`cLbr`), 93 `]` (`cRbr`). -/
namespace EupsModel.Expand

theorem splitWs_eq (s : Str) : splitWs s = Text.tokens Str.isSpace s :=
  Text.acc_tokens_rev (g := fun cur s => splitWsGo s cur) (fun _ => rfl) (fun _ _ _ => rfl) s

def tokStr (s : Str) : Bool := !s.isEmpty && s.all (fun c => !Str.isSpace c)

theorem tokStr_facts {s : Str} (h : tokStr s = true) : s ≠ [] ∧ ∀ c ∈ s, Str.isSpace c = false := by
  simp only [tokStr, Bool.and_eq_true, Bool.not_eq_true', List.isEmpty_eq_false_iff, List.all_eq_true] at h
  exact ⟨h.1, fun c hc => by simpa using h.2 c hc⟩

def renderGaps : List (Str × Str) → Str
  | [] => []
  | (t, g) :: rest => t ++ g ++ renderGaps rest

def gapsOK : List (Str × Str) → Bool
  | [] => true
  | [(_, g)] => g.all Str.isSpace
  | (_, g) :: r :: rest => !g.isEmpty && g.all Str.isSpace && gapsOK (r :: rest)

theorem splitWs_render (lead : Str) (hl : ∀ c ∈ lead, Str.isSpace c = true) :
    ∀ (l : List (Str × Str)), (∀ p ∈ l, tokStr p.1 = true) → gapsOK l = true →
      splitWs (lead ++ renderGaps l) = l.map (·.1) := by
  intro l ht hg
  rw [splitWs_eq, Text.tokens_blank_append hl]
  induction l with
  | nil => rfl
  | cons p rest ih =>
    obtain ⟨t, g⟩ := p
    have hw : Text.Word Str.isSpace t := tokStr_facts (ht (t, g) (by simp))
    cases rest with
    | nil =>
      simpa [renderGaps] using Text.tokens_word_blank hw (by simpa [gapsOK, Text.Blank] using hg)
    | cons r rest' =>
      simp only [gapsOK, Bool.and_eq_true, Bool.not_eq_true', List.isEmpty_eq_false_iff, List.all_eq_true] at hg
      rw [renderGaps, List.append_assoc, Text.tokens_word_gap hw hg.1.2 hg.1.1, ih (fun q hq => ht q (by simp [hq])) hg.2]
      rfl

inductive Tok
  | flag1 (f : Str)          -- a flag without argument: `-j`, `-k`, `-v`, …, `--external`
  | flag2 (f a : Str)        -- a flag with its argument: `-t current`, `-T build`, `-r dir`, …
  | word (w : Str)
deriving Repr

def Tok.strs : Tok → List Str
  | .flag1 f => [f]
  | .flag2 f a => [f, a]
  | .word w => [w]

/-- a flag as `subSetup` carries it over into the rewritten line -/
def Tok.flagText : Tok → Option Str
  | .flag1 f => some f
  | .flag2 f a => some (f ++ [cSp] ++ a)
  | .word _ => none

def Tok.wordText : Tok → Option Str
  | .word w => some w
  | _ => none

def Tok.ok : Tok → Bool
  | .flag1 f => match f with
    | 45 :: c :: _ => !argFlagChars.contains c && (bareFlagChars.contains c || sExternal.isPrefixOf f)
    | _ => false
  | .flag2 f _ => match f with
    | 45 :: c :: _ => argFlagChars.contains c
    | _ => false
  | .word w => !w.isEmpty && w.head? != some 45

/-- one round of the `while True` loop of `subSetup` takes one token -/
theorem scanArgs_tok {t : Tok} (ht : t.ok = true) (rest flags words : List Str) :
    scanArgs (t.strs ++ rest) flags words
      = scanArgs rest (flags ++ t.flagText.toList) (words ++ t.wordText.toList.flatMap splitBracket) := by
  cases t with
  | flag1 a =>
    simp only [Tok.ok] at ht
    split at ht
    · rename_i c tl
      simp only [Bool.and_eq_true, Bool.not_eq_true', Bool.or_eq_true] at ht
      obtain ⟨harg, hb⟩ := ht
      simp only [Tok.strs, Tok.flagText, Tok.wordText, Option.toList, List.cons_append, List.nil_append, List.flatMap_nil, List.append_nil]
      cases rest <;> rcases hb with hb | hb <;>
        simp only [scanArgs, harg, hb, Bool.false_eq_true, if_false, if_true, ite_self]
    · cases ht
  | flag2 a b =>
    simp only [Tok.ok] at ht
    split at ht
    · simp only [Tok.strs, Tok.flagText, Tok.wordText, Option.toList, List.cons_append, List.nil_append, List.flatMap_nil, List.append_nil,
        scanArgs, ht, if_true]
    · cases ht
  | word a =>
    simp only [Tok.ok, Bool.and_eq_true, Bool.not_eq_true', List.isEmpty_eq_false_iff, bne_iff_ne, ne_eq] at ht
    cases a with
    | nil => exact absurd rfl ht.1
    | cons c tl =>
      have hc : c ≠ 45 := fun e => ht.2 (by simp [e])
      simpa [Tok.strs, Tok.flagText, Tok.wordText] using
        scanArgs.eq_5 flags words (c :: tl) rest (fun c' tail heq => by simp only [List.cons.injEq] at heq; exact hc heq.1)
          (fun heq => by simp only [List.cons.injEq] at heq; exact hc heq.1)

theorem scanArgs_toks : ∀ (toks : List Tok) (flags words : List Str), (∀ t ∈ toks, t.ok = true) →
    scanArgs (toks.flatMap Tok.strs) flags words
      = .ok (flags ++ toks.filterMap Tok.flagText, words ++ (toks.filterMap Tok.wordText).flatMap splitBracket) := by
  intro toks
  induction toks with
  | nil => intro f w _; simp [scanArgs, pure, Except.pure]
  | cons t rest ih =>
    intro f w hok
    rw [List.flatMap_cons, scanArgs_tok (hok t (by simp)), ih _ _ fun x hx => hok x (by simp [hx])]
    cases t <;> simp [List.filterMap_cons, Tok.flagText, Tok.wordText]

/-- a word that `splitBracket` leaves whole -/
def plainWord (w : Str) : Bool := !w.isEmpty && w.head? != some cLbr && w.getLast? != some cRbr

theorem firstMatch_no {c : Nat} {tl : Str} (hc : c ≠ 91) :
    ((match c :: tl with | 91 :: r => ([[cLbr]], r) | _ => ([], c :: tl)) : List Str × Str) = ([], c :: tl) := by
  split
  · rename_i r heq; simp only [List.cons.injEq] at heq; exact absurd heq.1 hc
  · rfl

theorem plainWord_facts {w : Str} (h : plainWord w = true) :
    ∃ c tl, w = c :: tl ∧ c ≠ 91 ∧ ∀ r, w.reverse ≠ 93 :: r := by
  simp only [plainWord, Bool.and_eq_true, Bool.not_eq_true', List.isEmpty_eq_false_iff, bne_iff_ne, ne_eq] at h
  obtain ⟨⟨hne, hh⟩, hl⟩ := h
  cases w with
  | nil => exact absurd rfl hne
  | cons c tl => exact ⟨c, tl, rfl, fun e => hh (by simp [e, cLbr]), fun r e => hl (by rw [← List.head?_reverse, e]; rfl)⟩

theorem plainWord_nonempty {w : Str} (h : plainWord w = true) : w ≠ [] := by
  obtain ⟨c, tl, rfl, _, _⟩ := plainWord_facts h
  simp

theorem splitBracket_cons {c : Nat} {tl : Str} (hc : c ≠ 91) :
    splitBracket (c :: tl) = (match (c :: tl).reverse with
      | 93 :: r => [r.reverse, [cRbr]]
      | _ => [c :: tl]) := by
  unfold splitBracket
  split
  · rename_i pre a1 heq
    split at heq
    · rename_i r h2; simp only [List.cons.injEq] at h2; exact absurd h2.1 hc
    · cases heq
      split
      · rename_i r h3; simp only [h3, List.nil_append]
      · rename_i h3
        split
        · rename_i r h4; exact absurd h4 (h3 r)
        · rfl

theorem splitBracket_plain {w : Str} (h : plainWord w = true) : splitBracket w = [w] := by
  obtain ⟨c, tl, rfl, hc, hr⟩ := plainWord_facts h
  rw [splitBracket_cons hc]
  split
  · rename_i r heq; exact absurd heq (hr r)
  · rfl

theorem splitBracket_open {e : Str} (h : plainWord e = true) : splitBracket (cLbr :: e) = [[cLbr], e] := by
  obtain ⟨c, tl, rfl, hc, hr⟩ := plainWord_facts h
  unfold splitBracket
  simp only [cLbr]
  rfl

theorem splitBracket_close {e : Str} (h : plainWord e = true) : splitBracket (e ++ [cRbr]) = [e, [cRbr]] := by
  obtain ⟨c, tl, rfl, hc, hr⟩ := plainWord_facts h
  rw [List.cons_append, splitBracket_cons hc]
  simp [cRbr]

theorem splitBracket_both (e : Str) : splitBracket (cLbr :: (e ++ [cRbr])) = [[cLbr], e, [cRbr]] := by
  unfold splitBracket
  simp [cLbr, cRbr]

/-- a bracketed expression `[e1 … ek]` as written: the brackets glued to the first and the last word -/
def closeLast : List Str → List Str
  | [] => []
  | [x] => [x ++ [cRbr]]
  | x :: y :: r => x :: closeLast (y :: r)

def glue : List Str → List Str
  | [] => []
  | [e] => [cLbr :: (e ++ [cRbr])]
  | e :: e2 :: r => (cLbr :: e) :: closeLast (e2 :: r)

theorem closeLast_split : ∀ (es : List Str), es ≠ [] → (∀ e ∈ es, plainWord e = true) →
    (closeLast es).flatMap splitBracket = es ++ [[cRbr]] := by
  intro es
  induction es with
  | nil => intro h; exact absurd rfl h
  | cons x rest ih =>
    intro _ hp
    cases rest with
    | nil => simp [closeLast, splitBracket_close (hp x (by simp))]
    | cons y r =>
      simp only [closeLast, List.flatMap_cons, splitBracket_plain (hp x (by simp))]
      rw [ih (by simp) (fun e he => hp e (by simp [he]))]
      simp

theorem glue_split (es : List Str) (hne : es ≠ []) (hp : ∀ e ∈ es, plainWord e = true) :
    (glue es).flatMap splitBracket = [cLbr] :: es ++ [[cRbr]] := by
  cases es with
  | nil => exact absurd rfl hne
  | cons e rest =>
    cases rest with
    | nil => simp [glue, splitBracket_both]
    | cons e2 r =>
      simp only [glue, List.flatMap_cons, splitBracket_open (hp e (by simp))]
      rw [closeLast_split (e2 :: r) (by simp) (fun x hx => hp x (by simp [hx]))]
      simp

inductive Form
  | bare                                  -- `name`
  | ver (v : Str)                         -- `name v`
  | verExpr (v : Str) (es : List Str)     -- `name v [e1 … ek]`
  | expr (es : List Str)                  -- `name [e1 … ek]`
  | rel (r : Str) (ws : List Str)         -- `name >= 1`, `name >= 1 || == 3`
deriving Repr

def Form.words (name : Str) : Form → List Str
  | .bare => [name]
  | .ver v => [name, v]
  | .verExpr v es => name :: v :: glue es
  | .expr es => name :: glue es
  | .rel r ws => name :: r :: ws

def versionWord (v : Str) : Bool := plainWord v && !hasRelop v && v.all (fun c => !Str.isSpace c)

def Form.ok : Form → Bool
  | .bare => true
  | .ver v => versionWord v
  | .verExpr v es => versionWord v && !es.isEmpty && es.all plainWord
  | .expr es => !es.isEmpty && es.all plainWord
  | .rel r ws => plainWord r && hasRelop r && ws.all plainWord

/-- the independent reader: what a setup line of each documented form means -/
def Form.parsed (name : Str) (flags : List Str) : Form → Parsed
  | .bare => ⟨name, flags, none, none⟩
  | .ver v => ⟨name, flags, some v, none⟩
  | .verExpr v es => ⟨name, flags, some v, some (join [cSp] es)⟩
  | .expr es => ⟨name, flags, none, some (join [cSp] es)⟩
  | .rel r ws => ⟨name, flags, none, some (join [cSp] (r :: ws))⟩

theorem plainWord_ne {w : Str} (h : plainWord w = true) : w ≠ [cLbr] ∧ w ≠ [cRbr] := by
  simp only [plainWord, Bool.and_eq_true, Bool.not_eq_true', List.isEmpty_eq_false_iff, bne_iff_ne, ne_eq] at h
  exact ⟨fun e => h.1.2 (by simp [e]), fun e => h.2 (by simp [e])⟩

theorem not_mem_plain {es : List Str} (hp : ∀ e ∈ es, plainWord e = true) : [cLbr] ∉ es ∧ [cRbr] ∉ es :=
  ⟨fun m => (plainWord_ne (hp _ m)).1 rfl, fun m => (plainWord_ne (hp _ m)).2 rfl⟩

theorem versionWord_plain {v : Str} (h : versionWord v = true) : plainWord v = true := by
  simp only [versionWord, Bool.and_eq_true] at h
  exact h.1.1

theorem versionWord_legal {v : Str} (h : versionWord v = true) : v ≠ [] ∧ isLegalRelativeVersion v = .ok false := by
  simp only [versionWord, Bool.and_eq_true, Bool.not_eq_true', List.all_eq_true] at h
  obtain ⟨⟨hp, hr⟩, hs⟩ := h
  have hne := plainWord_nonempty hp
  refine ⟨hne, ?_⟩
  have hb : badRelop v = false := by
    cases v with
    | nil => exact absurd rfl hne
    | cons c tl =>
      have hc : Str.isSpace c = false := by simpa using hs c (by simp)
      unfold badRelop
      rw [lstrip_cons_of_not_space hc]
      by_cases h61 : c = 61
      · subst h61
        cases tl with
        | nil => rfl
        | cons c2 r2 =>
          have hc2 : Str.isSpace c2 = false := by simpa using hs c2 (by simp)
          simp [hc2]
      · split
        · rename_i r heq; simp only [List.cons.injEq] at heq; exact absurd heq.1 h61
        · rfl
  simp [isLegalRelativeVersion, hr, hb, pure, Except.pure]

theorem flatMap_plain {ws : List Str} (hw : ∀ w ∈ ws, plainWord w = true) : ws.flatMap splitBracket = ws := by
  induction ws with
  | nil => rfl
  | cons w rest ih =>
    simp only [List.flatMap_cons, splitBracket_plain (hw w (by simp)), ih (fun x hx => hw x (by simp [hx]))]
    simp

theorem truthy_some {v : Str} (h : v ≠ []) : truthy (some v) = true := by
  cases v with
  | nil => exact absurd rfl h
  | cons c cs => rfl

theorem join_truthy {es : List Str} (hne : es ≠ []) (hp : ∀ e ∈ es, e ≠ []) : truthy (some (join [cSp] es)) = true := by
  cases es with
  | nil => exact absurd rfl hne
  | cons e rest =>
    have he := hp e (by simp)
    cases e with
    | nil => exact absurd rfl he
    | cons c cs =>
      cases rest with
      | nil => rfl
      | cons e2 r => rfl

/-! The part of `parseArgs` after the flag loop (`finishParse`) in its three steps: a first word other than `[` is taken for
the version; the words from the first `[` to the first `]` are taken out as the logical expression; a version that is a
relational expression becomes, with the words left over, the logical expression. -/

def takeVersion : List Str → Option Str × List Str
  | w :: ws => if w != [cLbr] then (some w, ws) else (none, w :: ws)
  | [] => (none, [])

def takeLogical (words : List Str) : Option Str × List Str :=
  if words.contains [cLbr] && words.contains [cRbr] then
    (some (join [cSp] (slice words (words.idxOf [cLbr] + 1) (words.idxOf [cRbr]))),
      delSlice words (words.idxOf [cLbr]) (words.idxOf [cRbr] + 1))
  else (none, words)

def relational (flags : List Str) (name : Str) (version logical : Option Str) (words : List Str) : Except Err ParseResult :=
  match version with
  | some (c :: cs) => do
    if ← isLegalRelativeVersion (c :: cs) then
      return .parsed ⟨name, flags, none, some (join [cSp] ((c :: cs) :: words))⟩
    else return .parsed ⟨name, flags, version, logical⟩
  | _ => return .parsed ⟨name, flags, version, logical⟩

def finishParse (flags : List Str) (name : Str) (words : List Str) : Except Err ParseResult :=
  relational flags name (takeVersion words).1 (takeLogical (takeVersion words).2).1 (takeLogical (takeVersion words).2).2

theorem parseArgs_eq (argStr : Str) :
    parseArgs argStr =
      (if (splitWs argStr).head? == some sEups then pure .passthrough
       else (scanArgs (splitWs argStr) [] []).bind fun fw =>
        match fw.2 with
        | [] => pure .passthrough
        | name :: words => finishParse fw.1 name words) := by
  unfold parseArgs
  by_cases h : ((splitWs argStr).head? == some sEups) = true
  · simp [h, pure, Except.pure]
  · simp only [h, Bool.false_eq_true, if_false, bind, Except.bind]
    cases scanArgs (splitWs argStr) [] [] with
    | error e => rfl
    | ok fw =>
      obtain ⟨f, w⟩ := fw
      cases w with
      | nil => rfl
      | cons n ws => cases ws <;> rfl

theorem takeVersion_plain {w : Str} (h : plainWord w = true) (ws : List Str) : takeVersion (w :: ws) = (some w, ws) := by
  simp [takeVersion, (plainWord_ne h).1]

theorem takeLogical_brackets {es : List Str} (hp : ∀ e ∈ es, plainWord e = true) :
    takeLogical ([cLbr] :: es ++ [[cRbr]]) = (some (join [cSp] es), []) := by
  have hne : ([cLbr] == [cRbr]) = false := by decide
  simp [takeLogical, List.idxOf_cons, hne, List.idxOf_append, (not_mem_plain hp).2, slice, delSlice]

theorem takeLogical_plain {ws : List Str} (hp : ∀ e ∈ ws, plainWord e = true) : takeLogical ws = (none, ws) := by
  simp [takeLogical, (not_mem_plain hp).1]

theorem relational_version (flags : List Str) (name : Str) {v : Str} (hv : versionWord v = true) (logical : Option Str)
    (words : List Str) : relational flags name (some v) logical words = .ok (.parsed ⟨name, flags, some v, logical⟩) := by
  obtain ⟨hne, hleg⟩ := versionWord_legal hv
  cases v with
  | nil => exact absurd rfl hne
  | cons c cs => simp [relational, hleg, pure, Except.pure, bind, Except.bind]

theorem relational_rel (flags : List Str) (name : Str) {r : Str} (hr : plainWord r = true) (hrel : hasRelop r = true)
    (logical : Option Str) (words : List Str) :
    relational flags name (some r) logical words = .ok (.parsed ⟨name, flags, none, some (join [cSp] (r :: words))⟩) := by
  obtain ⟨c, cs, rfl, _, _⟩ := plainWord_facts hr
  simp [relational, isLegalRelativeVersion, hrel, pure, Except.pure, bind, Except.bind]

theorem finishParse_form (flags : List Str) (name : Str) (hn : plainWord name = true) (fm : Form) (hf : fm.ok = true) :
    ∃ ws, (fm.words name).flatMap splitBracket = name :: ws ∧
      finishParse flags name ws = .ok (.parsed (fm.parsed name flags)) := by
  unfold finishParse
  -- in each case: the words after the name; then `takeVersion`, `takeLogical` and `relational` on them
  cases fm with
  | bare => exact ⟨[], by simp [Form.words, splitBracket_plain hn], rfl⟩
  | ver v =>
    have hv := versionWord_plain hf
    refine ⟨[v], ?_, ?_⟩
    · simp [Form.words, splitBracket_plain hn, splitBracket_plain hv]
    · rw [takeVersion_plain hv]
      exact relational_version _ _ hf _ _
  | verExpr v es =>
    simp only [Form.ok, Bool.and_eq_true, Bool.not_eq_true', List.isEmpty_eq_false_iff, List.all_eq_true] at hf
    have hv := versionWord_plain hf.1.1
    refine ⟨v :: ([cLbr] :: es ++ [[cRbr]]), ?_, ?_⟩
    · simp [Form.words, splitBracket_plain hn, splitBracket_plain hv, glue_split es hf.1.2 hf.2]
    · rw [takeVersion_plain hv, takeLogical_brackets hf.2]
      exact relational_version _ _ hf.1.1 _ _
  | expr es =>
    simp only [Form.ok, Bool.and_eq_true, Bool.not_eq_true', List.isEmpty_eq_false_iff, List.all_eq_true] at hf
    refine ⟨[cLbr] :: es ++ [[cRbr]], ?_, ?_⟩
    · simp [Form.words, splitBracket_plain hn, glue_split es hf.1 hf.2]
    · -- the first word is `[`: no version is taken
      rw [show takeVersion ([cLbr] :: es ++ [[cRbr]]) = (none, [cLbr] :: es ++ [[cRbr]]) from rfl, takeLogical_brackets hf.2]
      rfl
  | rel r ws =>
    simp only [Form.ok, Bool.and_eq_true, List.all_eq_true] at hf
    refine ⟨r :: ws, ?_, ?_⟩
    · simp [Form.words, splitBracket_plain hn, splitBracket_plain hf.1.1, flatMap_plain hf.2]
    · rw [takeVersion_plain hf.1.1, takeLogical_plain hf.2]
      exact relational_rel _ _ hf.1.1 hf.1.2 _ _

/-- `parseArgs` against the reader, token level (`C17_parseArgs_reads` adds the white-space layer) -/
theorem parseArgs_reads (argStr : Str) (toks : List Tok) (name : Str) (fm : Form)
    (hsplit : splitWs argStr = toks.flatMap Tok.strs) (hok : ∀ t ∈ toks, t.ok = true)
    (hwords : toks.filterMap Tok.wordText = fm.words name) (hn : plainWord name = true) (hf : fm.ok = true)
    (heups : (toks.flatMap Tok.strs).head? ≠ some sEups) :
    parseArgs argStr = .ok (.parsed (fm.parsed name (toks.filterMap Tok.flagText))) := by
  obtain ⟨ws, hws, hfin⟩ := finishParse_form (toks.filterMap Tok.flagText) name hn fm hf
  have hscan := scanArgs_toks toks [] [] hok
  rw [hwords, hws] at hscan
  have hhead : ((toks.flatMap Tok.strs).head? == some sEups) = false := by simpa using heups
  rw [parseArgs_eq, hsplit]
  simpa only [hhead, Bool.false_eq_true, if_false, hscan, Except.bind, List.nil_append] using hfin

theorem parseArgs_eups (argStr : Str) (h : (splitWs argStr).head? = some sEups) : parseArgs argStr = .ok .passthrough := by
  unfold parseArgs
  simp [h, pure, Except.pure]

/-- the expression as it is written out: only with `expandVersions`, and never an empty one -/
def shown (o : Opts) (l : Option Str) : Option Str := if o.expandVersions && truthy l then l else none

theorem shown_eq {o : Opts} {l : Option Str} (he : o.expandVersions = true) (hl : truthy l = true) : shown o l = l := by
  simp [shown, he, hl]

theorem shown_none (o : Opts) : shown o none = none := by simp [shown]

/-- the version of a line once the `-p` pins are taken into account -/
def versionAsked (A : Answers) (p : Parsed) : Option Str := (A.pin p.name).or p.version

theorem versionAsked_none {A : Answers} {p : Parsed} (h : A.pin p.name = none) : versionAsked A p = p.version := by
  simp [versionAsked, h]

theorem versionAsked_some {A : Answers} {p : Parsed} {v : Str} (h : A.pin p.name = some v) : versionAsked A p = some v := by
  simp [versionAsked, h]

theorem truthy_ge (v : Str) : truthy (some (sGe ++ v)) = true := by rw [sGe_eq]; rfl

/-- **What `decideRewrite` decides.**  A line that has a version of its own, or whose product is pinned with `-p`, keeps that
version and its expression, nothing is added.  A line that has none takes the version that is set up (and is left alone when
nothing is), and, when it has no expression either, the constraint `>= version` (not for a `LOCAL:` version). -/
theorem decideRewrite_eq (A : Answers) (o : Opts) (optional : Bool) (p : Parsed) :
    decideRewrite A o optional p =
      if truthy (versionAsked A p) then some ⟨optional, p.name, p.flags, versionAsked A p, shown o p.logical⟩
      else (A.spv p.name).bind fun v =>
        if truthy (some v) then
          some ⟨optional, p.name, p.flags, some v,
            shown o (if truthy p.logical then p.logical else if startsWith v sLocal then p.logical else some (sGe ++ v))⟩
        else none := by
  unfold decideRewrite shown
  extract_lets version
  -- the first `match` of `decideRewrite` computes `versionAsked A p`
  have hver : version = versionAsked A p := by unfold version versionAsked; cases A.pin p.name <;> rfl
  clear_value version
  subst hver
  cases ht : truthy (versionAsked A p) with
  | true =>  -- a version of its own or a pin: `product` stays `none`
    simp only [ht, if_true, Bool.not_true, Bool.false_eq_true, if_false, ite_self]
  | false =>
    simp only [Bool.false_eq_true, if_false]
    cases A.spv p.name with
    | none => simp only [ht, Bool.not_false, if_true, Option.bind]  -- nothing is set up: the line is left alone
    | some v =>  -- the set-up version: `product = some v`
      simp only [Option.bind]
      cases truthy (some v) <;> cases truthy p.logical <;> cases startsWith v sLocal <;> rfl

theorem subSetup_passthrough {A : Answers} {o : Opts} {optional : Bool} {argStr original : Str}
    (h : parseArgs argStr = .ok .passthrough) : subSetup A o optional argStr original = .ok original := by
  unfold subSetup; rw [h]; rfl

theorem subSetup_parsed {A : Answers} {o : Opts} {optional : Bool} {argStr original : Str} {p : Parsed}
    (h : parseArgs argStr = .ok (.parsed p)) :
    subSetup A o optional argStr original = .ok (((decideRewrite A o optional p).map renderRewrite).getD original) := by
  simp only [subSetup, h, bind, Except.bind]
  cases decideRewrite A o optional p <;> rfl

end EupsModel.Expand
