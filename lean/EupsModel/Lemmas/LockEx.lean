import EupsModel.Lemmas.LockRes
/-! C09, pinned protocol — invariant behind `C09_mutex_exclusive_only_Pinned`: among exclusive requesters that do not
re-enter a parent's lock (no `EUPS_LOCK_PID`), under every interleaving, at most one process is `inside` and the lock
directory exists exactly while somebody is (`Gate`); every lock file is then that process's (`ResInv`). -/
namespace EupsModel.Lock

/-- program counters an exclusive requester without `EUPS_LOCK_PID` can reach (the others belong to shared requests,
to re-entering children, or to a release that raised) -/
def okPC : PC → Bool
  | .existsChk | .scan2 | .unlocked | .failedRel _ => false
  | _ => true

structure ExInv (s : St) : Prop where
  allEx : ∀ i, s.kind i = .ex
  noLp  : ∀ i, s.lp i = none
  okpc  : ∀ i, okPC (s.pc i) = true
  gate  : Gate inside s.dir s.pc
  res   : ResInv s

theorem exInv_init (kind : Pid → Kind) (lp : Pid → Option Pid) (tries : Pid → Nat)
    (hk : ∀ i, kind i = .ex) (hl : ∀ i, lp i = none) : ExInv (init kind lp tries) :=
  ⟨hk, hl, fun _ => rfl, ⟨fun _ _ h => (nomatch h), nofun, fun ⟨_, h⟩ => (nomatch h)⟩, resInv_init kind lp tries⟩

namespace ExInv
variable {s : St}

/-- every lock file is its owner's, who is inside, and `i` is the one process inside -/
theorem files_nil_of_noFile (h : ExInv s) {i : Pid} (hi : inside (s.pc i) = true)
    (hf : hasFile (s.pc i) = false) : s.files = [] :=
  List.eq_nil_iff_forall_not_mem.2 fun f hm => by
    have ho := (h.res.owner f hm).2
    rw [h.gate.uniq f.2 i (hasFile_inside ho) hi, hf] at ho; cases ho

theorem clean (h : ExInv s) (hnone : ∀ p, inside (s.pc p) = false) : s.dir = false ∧ s.files = [] :=
  Acct.clean h.res hnone

theorem mutex (h : ExInv s) : Mutex s := by
  intro i j hij _ hi _
  cases hj : s.pc j with
  | hold => exact absurd (h.gate.uniq i j (by rw [hi]; rfl) (by rw [hj]; rfl)) hij
  | unlocked => have := h.okpc j; rw [hj] at this; cases this
  | _ => rfl

end ExInv

theorem exInv_step (s : St) (i : Pid) (h : ExInv s) : ExInv (step s i) := by
  have hres := resInv_step s i h.res
  obtain ⟨v, d, fs, hb, he⟩ := step_branch s i
  rw [he] at hres ⊢
  -- the premise on `d`: the directory flag afterwards is the one `Gate.move` prescribes
  have key : ∀ {a}, s.pc i = a → okPC v = true → (inside v = true → inside a = true ∨ s.dir = false) →
      d = (inside v || (!inside a && s.dir)) → ExInv ⟨d, fs, s.kind, s.lp, upd s.pc i v⟩ :=
    fun hpc hok hin hd =>
      ⟨h.allEx, h.noLp, forall_upd (P := fun _ x => okPC x = true) hok (fun j _ => h.okpc j),
        h.gate.move hpc hin hd, hres⟩
  have hoki := h.okpc i
  have dir : ∀ {a}, s.pc i = a → inside a = true → s.dir = true := fun hpc ha => h.gate.dirIff.mpr ⟨i, hpc ▸ ha⟩
  have stay : ∀ {a}, s.pc i = a → inside a = true → d = s.dir → inside v = true → okPC v = true →
      ExInv ⟨d, fs, s.kind, s.lp, upd s.pc i v⟩ :=
    fun hpc ha hd hv hok => key hpc hok (fun _ => .inl ha) (by rw [hd, hv, ha]; exact dir hpc ha)
  have noFiles : ∀ {a}, s.pc i = a → inside a = true → hasFile a = false → s.files = [] :=
    fun hpc ha hf => h.files_nil_of_noFile (hpc ▸ ha) (hpc ▸ hf)
  cases hb with
  | mkdirNew hpc hd => exact key hpc rfl (fun _ => .inr hd) rfl
  | mkdirEx hpc | scanOther hpc | msgLast hpc | msgRetry hpc => exact key hpc rfl nofun rfl
  | mkdirSh _ _ hsh => rw [h.allEx] at hsh; cases hsh
  | scanParent _ hp => rw [h.noLp i] at hp; cases hp
  | dirThere hpc | dirGone hpc | scan2Gone hpc | scan2Parent hpc | scan2Other hpc | unlockedEnds hpc =>
    rw [hpc] at hoki; cases hoki
  | scanNone hpc | countZero hpc | createNew hpc | createOld hpc | bodyEnds hpc | isdirYes hpc | existsYes hpc
  | existsNo hpc | removeOk hpc =>
    exact stay hpc rfl rfl rfl rfl
  | scanOne hpc hn => rw [noFiles hpc rfl rfl] at hn; cases hn
  | scanMany hpc hn => rw [noFiles hpc rfl rfl] at hn; exact absurd rfl hn
  | createGone hpc hd | isdirNo hpc hd | countGone hpc hd | rmdirGone hpc hd => rw [dir hpc rfl] at hd; cases hd
  | removeGone hpc hnf => exact absurd (h.res.own_of hpc rfl) hnf
  | countSome hpc _ hne | rmdirFull hpc _ hne => exact absurd (noFiles hpc rfl rfl) hne
  | rmdirOk hpc => exact key hpc rfl nofun rfl
  | idle => rw [upd_self]; exact h

theorem exInv_run (s : St) (sched : List Pid) (h : ExInv s) : ExInv (run s sched) :=
  foldl_keeps (P := ExInv) exInv_step sched h

end EupsModel.Lock
