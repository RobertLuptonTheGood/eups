import EupsModel.Lemmas.TableRun
/-! C11, legacy clause, old style: `_rewrite` turns `Group:` / `Flavor = f`… / `Common:` / … / `End:` into exactly
the `if` block the group stands for.  One production per kind of line; a group and the header are their compositions.
`rewriteLine` tries its patterns in the order `File =`, `Product =`, (old variable names replaced) `Action =`,
`Qualifiers =`, `Group:`, `Common:` / `End:`, `Flavor =`, and a line only has to get past the patterns before its own:
hence each production hands `simp` its own share of `kw_others` (keywords with another first letter) under `kwEqCap_none`,
`qualLine_none`, `kwLine`, and `cf.syn` (no old variable name in the line) from `Action =` on. -/
namespace EupsModel.TableParse
open EupsModel.Cond EupsModel.C11Spec

theorem run_group {k : KwLine} (hk : k.ok sGroupC = true) (st : RwState) :
    Run st [k.raw] { st with inGroup := true, cond := [] } := by
  obtain ⟨cf, hlp, hsp⟩ := kwLine_facts (target := sGroupC) rfl (by omega) (by decide) hk
  exact .line cf.noNL (by
    simp [rewriteLine, cf.strip_eq, cf.nonempty, kwEqCap_none, qualLine_none, kw_others cf.head, cf.syn, kwLine, hlp, hsp])

theorem run_common {k : KwLine} (hk : k.ok sCommonC = true) (st : RwState) (hg : st.inGroup = true) :
    Run st [k.raw] { st with out := st.out ++ [sIfOpen ++ st.cond ++ sIfClose] } := by
  obtain ⟨cf, hlp, hsp⟩ := kwLine_facts (target := sCommonC) rfl (by omega) (by decide) hk
  exact .line cf.noNL (by
    simp [rewriteLine, cf.strip_eq, cf.nonempty, kwEqCap_none, qualLine_none, kw_others cf.head, cf.syn, kwLine, hlp, hsp, hg])

theorem run_end {k : KwLine} (hk : k.ok sEndC = true) (st : RwState) (hg : st.inGroup = true) :
    Run st [k.raw] { st with inGroup := false, out := st.out ++ [sClose] } := by
  obtain ⟨cf, hlp, hsp⟩ := kwLine_facts (target := sEndC) rfl (by omega) (by decide) hk
  exact .line cf.noNL (by
    simp [rewriteLine, cf.strip_eq, cf.nonempty, kwEqCap_none, qualLine_none, kw_others cf.head, cf.syn, kwLine, hlp, hsp, hg])

theorem run_file {e : EqLine} (he : e.ok sFile isWordCh = true) (ht : Str.lower e.value = sTable) (st : RwState) :
    Run st [e.raw] { st with old := true } := by
  obtain ⟨cf, hcap⟩ := eqLine_facts (target := sFile) rfl (by omega) (by decide) (fun _ => wordCh_tokCh) he
  exact .line cf.noNL (by simp [rewriteLine, cf.strip_eq, cf.nonempty, hcap, ht])

theorem run_product {e : EqLine} (he : e.ok sProduct isWordCh = true) (st : RwState) (ho : st.old = true) :
    Run st [e.raw] st := by
  obtain ⟨cf, hcap⟩ := eqLine_facts (target := sProduct) rfl (by omega) (by decide) (fun _ => wordCh_tokCh) he
  exact .line cf.noNL (by simp [rewriteLine, cf.strip_eq, cf.nonempty, kwEqCap_none, kw_others cf.head, hcap, ho])

theorem run_action {e : EqLine} (he : e.ok sAction isTokCh = true) (hs : isInfix sSetup (Str.lower e.value) = true)
    (st : RwState) : Run st [e.raw] st := by
  obtain ⟨cf, hcap⟩ := eqLine_facts (target := sAction) rfl (by omega) (by decide) (fun _ h => h) he
  exact .line cf.noNL (by simp [rewriteLine, cf.strip_eq, cf.nonempty, kwEqCap_none, kw_others cf.head, cf.syn, hcap, hs])

theorem run_qual {e : EqLine} (he : qualOK e = true) (st : RwState) : Run st [e.raw] st := by
  obtain ⟨cf, hq⟩ := qual_facts he
  exact .line cf.noNL (by simp [rewriteLine, cf.strip_eq, cf.nonempty, kwEqCap_none, kw_others cf.head, cf.syn, hq])

theorem run_flav_in {f : FlavLine} (hf : f.ok = true) (st : RwState) (hg : st.inGroup = true) :
    Run st [f.raw]
      { st with cond := (if st.cond.isEmpty then st.cond else st.cond ++ sBarBar) ++ flavPiece f.flavor } := by
  obtain ⟨cf, hfile, hcap⟩ := flav_facts hf
  exact .line cf.noNL (by
    simp [rewriteLine, cf.strip_eq, cf.nonempty, kwEqCap_none, qualLine_none, hfile, kw_others cf.head, cf.syn, kwLine, hcap,
      hg, flavPiece])

theorem stripped_eq (ls : List Str) : stripped ls = coresOf ls := rfl

theorem flavPiece_ne (f : Str) : flavPiece f ≠ [] := by
  unfold flavPiece; split <;> simp [sFlavorAny, sFlavorEq]

theorem run_flavs_in : ∀ (more : List FlavLine) (old : Bool) (ng : NewGroup) (cond : Str) (out : List Str), cond ≠ [] →
    more.all FlavLine.ok = true →
    Run ⟨old, true, ng, cond, out⟩ (more.map FlavLine.raw)
      ⟨old, true, ng, more.foldl (fun c g => c ++ sBarBar ++ flavPiece g.flavor) cond, out⟩
  | [], _, _, _, _, _, _ => Run.nil _
  | f :: fs, old, ng, cond, out, hc, h => by
    simp only [List.all_cons, Bool.and_eq_true] at h
    have he : cond.isEmpty = false := by simpa using hc
    have := (run_flav_in h.1 ⟨old, true, ng, cond, out⟩ rfl).cons
      (run_flavs_in fs old ng _ out (by simp [he, sBarBar]) h.2)
    simpa [he] using this

theorem run_opt {o : Option EqLine} {st : RwState} (h : ∀ e, o = some e → Run st [e.raw] st) : Run st (optLine o) st := by
  cases o with
  | none => exact .nil st
  | some e => exact h e rfl

theorem run_ogroup {g : OGroup} (hok : g.ok = true) (old : Bool) (ng : NewGroup) (cond : Str) (out : List Str)
    (hn : ng ≠ .inFlavors) :
    Run ⟨old, false, ng, cond, out⟩ g.raws
      ⟨old, false, ng, ogCond g.f.flavor (g.more.map FlavLine.flavor), out ++ g.block⟩ := by
  simp only [OGroup.ok, Bool.and_eq_true] at hok
  obtain ⟨⟨⟨⟨⟨⟨⟨⟨hgr, hf⟩, hmore⟩, hq⟩, hco⟩, hac⟩, hbody⟩, hend⟩, hafter⟩ := hok
  -- the lines in the order written; every state but the first is found by unification
  have := run_group hgr ⟨old, false, ng, cond, out⟩
    |>.append (run_flav_in hf _ rfl)
    |>.append (run_flavs_in g.more old ng _ out (flavPiece_ne _) hmore)
    |>.append (run_opt (o := g.qual) fun e he => run_qual (by rw [he] at hq; exact hq) _)
    |>.append (run_common hco _ rfl)
    |>.append (run_opt (o := g.action) fun e he => by
      rw [he] at hac; simp only [Bool.and_eq_true] at hac; exact run_action hac.1 hac.2 _)
    |>.append (Run.pass hbody _ hn)
    |>.append (run_end hend _ rfl)
    |>.append (Run.pass hafter _ hn)
  simpa [OGroup.raws, OGroup.block, OGroup.ifLine, ogCond, List.foldl_map, stripped_eq, List.append_assoc] using this

theorem emits_ogroup {g : OGroup} (hok : g.ok = true) {ng : NewGroup} (hn : ng ≠ .inFlavors) :
    Emits ng g.raws g.block ng := fun old cond out => ⟨_, run_ogroup hok old ng cond out hn⟩

theorem run_header {h : Option OHeader} (hh : ∀ x, h = some x → x.ok = true) :
    ∃ old, Run {} (hdrLines h) ⟨old, false, .no, [], []⟩ := by
  cases h with
  | none => exact ⟨false, Run.nil _⟩
  | some x =>
    have hx := hh x rfl
    simp only [OHeader.ok, Bool.and_eq_true, beq_iff_eq] at hx
    exact ⟨true, (run_file hx.1.1 hx.1.2 {}).cons (run_product hx.2 _ rfl)⟩

theorem rewrite_old_legacy (h : Option OHeader) (pre : List Str) (gs : List OGroup) (nl : Bool)
    (hh : ∀ x, h = some x → x.ok = true) (hpre : pre.all passesLine = true) (hgs : gs.all OGroup.ok = true) :
    rewrite (oldLegacyText h pre gs nl) = .ok (coresOf pre ++ gs.flatMap OGroup.block) := by
  obtain ⟨old, hhdr⟩ := run_header hh
  have := rewrite_of_emits hhdr ((Emits.pass hpre (by decide)).append
    (Emits.flatMap fun g hg => emits_ogroup (List.all_eq_true.mp hgs g hg) (by decide))) nl
  simpa [oldLegacyText, List.append_assoc] using this

theorem lineCh_flavPiece {g : Str} (hg : g.all isTokCh = true) : (flavPiece g).all lineCh = true := by
  unfold flavPiece; split
  · decide
  · have b : sFlavorEq.all lineCh = true := by decide
    simp [List.all_append, b, lineCh_of_tokChs hg]

theorem fixed_oblock {g : OGroup} (hok : g.ok = true) : ∀ l ∈ g.block, Fixed l := by
  simp only [OGroup.ok, Bool.and_eq_true] at hok
  obtain ⟨⟨⟨⟨⟨⟨⟨⟨_, hf⟩, hmore⟩, _⟩, _⟩, _⟩, hbody⟩, _⟩, hafter⟩ := hok
  have hc := lineCh_cond (fun _ => lineCh_flavPiece) g.more _ hmore (lineCh_flavPiece (flav_tok hf))
  exact fun l hl => (List.mem_append.mp hl).elim (fixed_ifBlock hc hbody l) (fixed_cores hafter l)

theorem rewrite_old_asIf (pre : List Str) (gs : List OGroup) (nl : Bool) (hpre : pre.all passesLine = true)
    (hgs : gs.all OGroup.ok = true) :
    rewrite (oldLegacyAsIfText pre gs nl) = .ok (coresOf pre ++ gs.flatMap OGroup.block) :=
  rewrite_fixed pre _ gs nl hpre fun g hg => fixed_oblock (List.all_eq_true.mp hgs g hg)

end EupsModel.TableParse
