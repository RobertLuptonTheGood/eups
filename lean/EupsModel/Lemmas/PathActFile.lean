import EupsModel.Lemmas.PathAct
/-! What `Product.getTable` hands out for a table file (`fromFile`): the older synonyms (`legacySyn` as a run of
substitutions over `legacyTable`), the envUnset rule (`readFilter`). -/
namespace EupsModel.PathAct
open EupsModel EupsModel.PathAlg

/-- the table of `Table._rewrite`, in the order it is applied -/
def legacyTable : List (Str × Option Str) :=
  [(Str.ofString "${PROD_DIR}", some mDIR), (Str.ofString "${UPS_PROD_DIR}", some mDIR),
   (Str.ofString "${UPS_PROD_FLAVOR}", some mFLAVOR), (Str.ofString "${UPS_PROD_NAME}", some mNAME),
   (Str.ofString "${UPS_PROD_VERSION}", some mVERSION), (Str.ofString "${UPS_DB}", some mPRODUCTS),
   (Str.ofString "${UPS_UPS_DIR}", some mUPS)]

theorem legacySyn_pipeline (s : Str) : legacySyn s = substRun legacyTable s := by
  unfold legacySyn legacyTable
  rw [substRun_cons_some, substRun_cons_some, substRun_cons_some, substRun_cons_some, substRun_cons_some,
    substRun_cons_some, substRun_cons_some, substRun_nil]

theorem dollar_legacy : Dollar legacyTable :=
  Dollar.cons (by decide_lit) (Dollar.cons (by decide_lit) (Dollar.cons (by decide_lit) (Dollar.cons (by decide_lit)
    (Dollar.cons (by decide_lit) (Dollar.cons (by decide_lit) (Dollar.cons (by decide_lit) Dollar.nil))))))

theorem legacySyn_no_dollar (s : Str) (h : 36 ∉ s) : legacySyn s = s := by
  rw [legacySyn_pipeline]; exact substRun_no_dollar legacyTable s dollar_legacy h

theorem readFilter_other (name var : Str) (h1 : var ≠ Str.ofString "PRODUCT_DIR")
    (h2 : var ≠ upper name ++ Str.ofString "_DIR") : readFilter name (.unset var) = none := by
  simp [readFilter, h1, h2]

theorem readFilter_product_dir (name : Str) :
    readFilter name (.unset (Str.ofString "PRODUCT_DIR")) = some (.unset (upper name ++ Str.ofString "_DIR")) := by
  simp [readFilter]

theorem readFilter_own_dir (name : Str) :
    readFilter name (.unset (upper name ++ Str.ofString "_DIR"))
      = some (.unset (upper name ++ Str.ofString "_DIR")) := by
  unfold readFilter
  dsimp only
  split
  · rfl
  · simp

theorem readFilter_path (name : Str) (app : Bool) (var value delim : Str) :
    readFilter name (.path app var value delim) = some (.path app var value delim) := rfl
theorem readFilter_set (name var value : Str) : readFilter name (.set var value) = some (.set var value) := rfl
theorem readFilter_alias (name key : Str) (ws : List Str) :
    readFilter name (.alias key ws) = some (.alias key ws) := rfl

theorem readFilter_unset_target (name var : Str) (a : Act) (h : readFilter name (.unset var) = some a) :
    a = .unset (upper name ++ Str.ofString "_DIR") := by
  unfold readFilter at h
  dsimp only at h
  split at h
  · injection h with h; exact h.symm
  · split at h
    · rename_i hv; injection h with h; rw [← h, hv]
    · cases h

example : readFilter (Str.ofString "p") (.unset (Str.ofString "PRODUCT_DIR")) = some (.unset (Str.ofString "P_DIR")) := by
  decide_lit
example : readFilter (Str.ofString "p") (.unset (Str.ofString "HOME")) = none := by decide_lit

theorem fromFile_cons (p : ProdInfo) (ep : Option Str) (fwd : Bool) (a : Act) (rest : List (Bool × Act)) :
    fromFile p ep ((fwd, a) :: rest) =
      (match readFilter p.name (a.mapArgs legacySyn) with
       | some a' => (fwd, a'.expandAll p ep) :: fromFile p ep rest
       | none => fromFile p ep rest) := by
  unfold fromFile
  rw [List.filterMap_cons]
  cases h : readFilter p.name (a.mapArgs legacySyn) <;> simp [h]

def lUPSPRODDIR : Str := Str.ofString "${UPS_PROD_DIR}"
/-- `${UPS_PROD_DIR}` without its `$` -/
def upsProdDirTail : Str := [123,85,80,83,95,80,82,79,68,95,68,73,82,125]
theorem lUPSPRODDIR_eq : lUPSPRODDIR = 36 :: upsProdDirTail := by
  unfold lUPSPRODDIR upsProdDirTail; decide_lit

theorem legacySyn_ups_prod_dir (pre post : Str) (hpre : 36 ∉ pre) (hpost : 36 ∉ post) :
    legacySyn (pre ++ lUPSPRODDIR ++ post) = pre ++ mDIR ++ post := by
  have hdt : (36 : Nat) ∉ dirTail ++ post := by simp [dirTail_no_dollar, hpost]
  have e1 : pre ++ mDIR ++ post = pre ++ 36 :: (dirTail ++ post) := by rw [mDIR_cons]; simp
  -- a pattern that starts `${U` does not stand at `${PRODUCT_DIR}`
  have u : ∀ (pat : Str), pat[2]? = some 85 → pat.isPrefixOf (36 :: (dirTail ++ post)) = false := by
    intro pat e
    match pat, e with
    | a :: b :: c :: ps, e => simp at e; subst e; simp [dirTail, List.isPrefixOf]
  rw [legacySyn_pipeline]
  unfold legacyTable
  rw [show Str.ofString "${UPS_PROD_DIR}" = 36 :: upsProdDirTail from lUPSPRODDIR_eq]
  calc substRun _ (pre ++ lUPSPRODDIR ++ post)
      = substRun _ (pre ++ mDIR ++ post) :=
        -- `${PROD_DIR}` does not stand at `${UPS_PROD_DIR}`; that one is replaced
        substRun_one_dollar_at (before := [_]) (by rw [lUPSPRODDIR_eq]; simp) (Dollar.cons (by decide_lit) Dollar.nil)
          hpre hpost (by decide)
          (NoneAt.cons (by rw [show Str.ofString "${PROD_DIR}" = [36,123,80,82,79,68,95,68,73,82,125] by decide_lit]
                           simp [upsProdDirTail, List.isPrefixOf]) (NoneAt.nil _))
    _ = pre ++ mDIR ++ post :=
        -- the five that follow start `${U`
        substRun_one_dollar_none e1 dollar_legacy.tail.tail hpre hdt
          (NoneAt.cons (u _ (by decide_lit)) (NoneAt.cons (u _ (by decide_lit)) (NoneAt.cons (u _ (by decide_lit))
            (NoneAt.cons (u _ (by decide_lit)) (NoneAt.cons (u _ (by decide_lit)) (NoneAt.nil _))))))

end EupsModel.PathAct
