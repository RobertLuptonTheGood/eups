import EupsModel.Lemmas.LockR
/-! C09, repaired protocol — processes killed outright at any point.  Exclusion survives them (`minv_runK`, with `MInv` in
Lemmas/LockR.lean: a process that stops dead neither holds nor removes anything).  The stale lock file it leaves blocks every
incompatible request until `clearLocks` (`Blocked`). -/
namespace EupsModel.LockR
open EupsModel.Lock (Pid Kind Err exFiles parentHolds)

/-- the lock file `g` of a killed process is there, its owner is dead, and `i` — incompatible with it and not the owner's
child — has not got the lock -/
structure Blocked (s : St) (g : Kind × Pid) (i : Pid) : Prop where
  notChild : s.lp i ≠ some g.2
  incompat : s.kind i = .ex ∨ g.1 = .ex
  dir   : s.dir = true
  file  : g ∈ s.files
  dead  : s.pc g.2 = .killed
  noHold : s.pc i ≠ .hold

theorem blocked_step (s : St) (p : Pid) {g : Kind × Pid} {i : Pid} (hgi : g.2 ≠ i) (h : Blocked s g i) :
    Blocked (step s p) g i := by
  by_cases hpg : p = g.2
  · rw [step_terminated (by rw [hpg, h.dead]; rfl)]; exact h
  obtain ⟨v, d, fs, hb, he⟩ := step_branch s p
  rw [he]
  -- directory and ghost file survive every call of a live process; `i` reaches `hold` only through a listing that
  -- shows nobody else, but the ghost's file is there
  have keep : d = true → g ∈ fs → (i = p → v ≠ .hold) → Blocked ⟨d, fs, s.kind, s.lp, upd s.pc p v⟩ g i := by
    intro hd hf hv
    refine ⟨h.notChild, h.incompat, hd, hf, (upd_other _ _ _ _ (fun e => hpg e.symm)).trans h.dead, ?_⟩
    by_cases hip : i = p
    · subst hip; show upd s.pc i v i ≠ _; rw [upd_same]; exact hv rfl
    · show upd s.pc p v i ≠ _; rw [upd_other _ _ _ _ hip]; exact h.noHold
  cases hb with
  | mkdirNew => exact keep rfl h.file nofun
  | createNew => exact keep h.dir (List.mem_cons_of_mem _ h.file) nofun
  | removeOk =>
    exact keep h.dir (List.mem_filter.2 ⟨h.file, by simpa using fun e : g = (s.kind p, p) => hpg (e ▸ rfl)⟩) nofun
  | rmdirOk _ _ hfs => exact absurd h.file (hfs ▸ List.not_mem_nil)
  | lookFree _ hnone =>
    exact keep h.dir h.file (fun hip _ => by subst hip; exact look_excl hnone h.file hgi h.notChild h.incompat)
  | isdirNo | rmdirRefused => exact keep h.dir h.file (fun _ => afterPC_ne_hold _)
  | idle => exact keep h.dir h.file (fun hip => hip ▸ h.noHold)
  | _ => exact keep h.dir h.file nofun

theorem blocked_run (s : St) (sched : List Pid) {g : Kind × Pid} {i : Pid} (hgi : g.2 ≠ i) (h : Blocked s g i) :
    Blocked (run s sched) g i :=
  Lock.foldl_keeps (P := (Blocked · g i)) (fun s p => blocked_step s p hgi) sched h

end EupsModel.LockR
