import EupsModel.Lemmas.PathAlgMulti
/-! `${VAR}` references inside values (`Action.expandEnvironmentalVariable`, and `setEnv`'s interpolation of a reference
that came in with a variable's value, D123): what a reference denotes, and the action on a value written with one.
Code points: `$` 36, `-` 45, `?` 63, `{` 123, `}` 125; `36 :: 123 :: key ++ [125]` is `${key}`. -/
namespace EupsModel.PathAlg

/-- a variable name as it can stand in `${..}`: free of `-` and `}` -/
def GoodKey (key : Str) : Prop := ∀ ch ∈ key, ch ≠ 45 ∧ ch ≠ 125

theorem takeWhileNot_key (key rest : Str) (stop : Nat) (hk : GoodKey key) (hs : stop = 45 ∨ stop = 125) :
    takeWhileNot (fun c => c == 45 || c == 125) (key ++ stop :: rest) = (key, stop :: rest) := by
  induction key with
  | nil => rcases hs with h | h <;> simp [takeWhileNot, h]
  | cons a as ih =>
    have ha := hk a (by simp)
    have := ih (fun ch hch => hk ch (by simp [hch]))
    simp [takeWhileNot, ha.1, ha.2, this]

theorem takeWhileNot_brace (s rest : Str) (hs : 125 ∉ s) :
    takeWhileNot (fun c => c == 125) (s ++ 125 :: rest) = (s, 125 :: rest) := by
  induction s with
  | nil => simp [takeWhileNot]
  | cons a as ih =>
    obtain ⟨ha, has⟩ := List.ne_and_not_mem_of_not_mem_cons hs
    simp [takeWhileNot, ha.symm, ih has]

theorem varAt_plain (key rest : Str) (hk : GoodKey key) :
    varAt (36 :: 123 :: key ++ 125 :: rest) = some ⟨false, key, none, rest⟩ := by
  simp [varAt, takeWhileNot_key key rest 125 hk (Or.inr rfl)]

theorem varAt_optional (key rest : Str) (hk : GoodKey key) :
    varAt (36 :: 63 :: 123 :: key ++ 125 :: rest) = some ⟨true, key, none, rest⟩ := by
  simp [varAt, takeWhileNot_key key rest 125 hk (Or.inr rfl)]

theorem expandGo_at (env : Env) (f : Nat) (s : Str) (m : VarMatch) (hm : varAt s = some m) :
    expandGo env (f + 1) s =
      (match (match env.get m.key with | some v => some v | none => m.default) with
       | some r => (match expandGo env f m.rest with | .value t => .value (r ++ t) | o => o)
       | none => if m.optional then .skip else .error) := by
  cases s with
  | nil => cases hm
  | cons c cs => rw [expandGo, hm]; rfl

/-- the first reference of a value, after text without `$`: the fuel that `expand` passes is spent exactly down to
the length of what begins at the reference -/
theorem expand_at (env : Env) (pre s : Str) (m : VarMatch) (hpre : 36 ∉ pre) (hm : varAt s = some m) :
    expand env (pre ++ s) =
      (match (match env.get m.key with | some v => some v | none => m.default) with
       | some r => (match expandGo env s.length m.rest with | .value t => .value (pre ++ r ++ t) | o => o)
       | none => if m.optional then .skip else .error) := by
  have hf : (pre ++ s).length + 1 - pre.length = s.length + 1 := by simp [List.length_append]; omega
  unfold expand
  rw [expandGo_pre env pre _ _ hpre, hf, expandGo_at env _ _ _ hm]
  cases (match env.get m.key with | some v => some v | none => m.default) with
  | none => cases m.optional <;> rfl
  | some r => cases expandGo env s.length m.rest <;> simp

theorem expand_optional_anywhere (env : Env) (pre key rest : Str) (hpre : 36 ∉ pre) (hk : GoodKey key)
    (hv : env.get key = none) : expand env (pre ++ (36 :: 63 :: 123 :: key ++ 125 :: rest)) = .skip := by
  rw [expand_at env pre _ _ hpre (varAt_optional key rest hk), hv]
  rfl

theorem expand_optional_head_undefined (env : Env) (key rest : Str) (hk : GoodKey key)
    (hv : env.get key = none) : expand env (36 :: 63 :: 123 :: key ++ 125 :: rest) = .skip :=
  expand_optional_anywhere env [] key rest (by simp) hk hv

theorem varAt_default (key dflt rest : Str) (hk : GoodKey key) (hd : dflt ≠ []) (hd2 : 125 ∉ dflt) :
    varAt (36 :: 123 :: key ++ 45 :: (dflt ++ 125 :: rest)) = some ⟨false, key, some dflt, rest⟩ := by
  cases dflt with
  | nil => exact absurd rfl hd
  | cons a as =>
    have h1 := takeWhileNot_key key ((a :: as) ++ 125 :: rest) 45 hk (Or.inl rfl)
    have h2 := takeWhileNot_brace (a :: as) rest hd2
    simp only [List.cons_append] at h1 h2
    simp [varAt, h1, h2]

/-- one reference of any of the three forms, given by what `varAt` recognises at its position -/
theorem expand_one_ref (env : Env) (pre ref post key : Str) (opt : Bool) (dflt : Option Str)
    (hpre : 36 ∉ pre) (hpost : 36 ∉ post)
    (hm : varAt (ref ++ post) = some ⟨opt, key, dflt, post⟩) :
    expand env (pre ++ ref ++ post) =
      (match (match env.get key with | some v => some v | none => dflt) with
       | some r => .value (pre ++ r ++ post)
       | none => if opt then .skip else .error) := by
  rw [List.append_assoc, expand_at env pre _ _ hpre hm, expandGo_no_dollar env _ post hpost]

theorem expand_defined (env : Env) (pre key post v : Str) (hpre : 36 ∉ pre) (hpost : 36 ∉ post)
    (hk : GoodKey key) (hv : env.get key = some v) :
    expand env (pre ++ (36 :: 123 :: key ++ [125]) ++ post) = .value (pre ++ v ++ post) := by
  have := expand_one_ref env pre (36 :: 123 :: key ++ [125]) post key false none hpre hpost
    (by rw [List.append_assoc]; exact varAt_plain key post hk)
  simpa [hv] using this

theorem expand_undefined (env : Env) (pre key post : Str) (hpre : 36 ∉ pre) (hpost : 36 ∉ post)
    (hk : GoodKey key) (hv : env.get key = none) :
    expand env (pre ++ (36 :: 123 :: key ++ [125]) ++ post) = .error := by
  have := expand_one_ref env pre (36 :: 123 :: key ++ [125]) post key false none hpre hpost
    (by rw [List.append_assoc]; exact varAt_plain key post hk)
  simpa [hv] using this

theorem expand_default (env : Env) (pre key dflt post : Str) (hpre : 36 ∉ pre) (hpost : 36 ∉ post)
    (hk : GoodKey key) (hd : dflt ≠ []) (hd2 : 125 ∉ dflt) (hv : env.get key = none) :
    expand env (pre ++ (36 :: 123 :: key ++ 45 :: dflt ++ [125]) ++ post) = .value (pre ++ dflt ++ post) := by
  have := expand_one_ref env pre (36 :: 123 :: key ++ 45 :: dflt ++ [125]) post key false (some dflt)
    hpre hpost (by rw [List.append_assoc, List.append_assoc]; exact varAt_default key dflt post hk hd hd2)
  simpa [hv] using this

theorem refAt_plain (key rest : Str) (hk : 125 ∉ key) :
    refAt (36 :: 123 :: key ++ 125 :: rest) = some (key, rest) := by
  simp [refAt, takeWhileNot_brace key rest hk]

theorem interp_ref (env : Env) (key rest : Str) (f : Nat) (hk : 125 ∉ key) :
    interp env (f + 1) (36 :: 123 :: key ++ 125 :: rest)
      = (env.get key).getD (36 :: 123 :: key ++ [125]) ++ interp env f rest := by
  have hm := refAt_plain key rest hk
  have hc : 36 :: 123 :: key ++ 125 :: rest = 36 :: (123 :: key ++ 125 :: rest) := rfl
  rw [hc] at hm ⊢
  simp only [interp, hm]
  cases env.get key <;> rfl

theorem interp_one_ref (env : Env) (pre key post : Str) (hpre : 36 ∉ pre) (hpost : 36 ∉ post) (hk : 125 ∉ key) :
    interp env ((pre ++ (36 :: 123 :: key ++ [125]) ++ post).length + 1) (pre ++ (36 :: 123 :: key ++ [125]) ++ post)
      = pre ++ (env.get key).getD (36 :: 123 :: key ++ [125]) ++ post := by
  have hlen : (pre ++ (36 :: 123 :: key ++ [125]) ++ post).length + 1
      = ((key.length + post.length + 3) + 1) + pre.length := by
    simp [List.length_append]; omega
  have htxt : pre ++ (36 :: 123 :: key ++ [125]) ++ post = pre ++ (36 :: 123 :: key ++ 125 :: post) := by simp
  rw [hlen, htxt, interp_pre env pre _ _ hpre, Nat.add_sub_cancel, interp_ref env key post _ hk,
    interp_no_dollar env _ post hpost, List.append_assoc]

theorem expandGo_ref (env : Env) (key rest v : Str) (f : Nat) (hk : GoodKey key) (hv : env.get key = some v) :
    expandGo env (f + 1) (36 :: 123 :: key ++ 125 :: rest) =
      (match expandGo env f rest with
       | .value t => .value (v ++ t)
       | o => o) := by
  rw [expandGo_at env f _ _ (varAt_plain key rest hk), hv]

theorem expand_two_defined (env : Env) (pre keyA mid keyB post a b : Str)
    (hpre : 36 ∉ pre) (hmid : 36 ∉ mid) (hpost : 36 ∉ post) (hkA : GoodKey keyA) (hkB : GoodKey keyB)
    (hA : env.get keyA = some a) (hB : env.get keyB = some b) :
    expand env (pre ++ (36 :: 123 :: keyA ++ 125 :: (mid ++ (36 :: 123 :: keyB ++ 125 :: post))))
      = .value (pre ++ a ++ mid ++ b ++ post) := by
  unfold expand
  have e1 : (pre ++ (36 :: 123 :: keyA ++ 125 :: (mid ++ (36 :: 123 :: keyB ++ 125 :: post)))).length + 1
      = (((keyA.length + keyB.length + post.length + 5) + 1 + mid.length) + 1) + pre.length := by
    simp [List.length_append]; omega
  rw [e1, expandGo_pre env pre _ _ hpre, Nat.add_sub_cancel, expandGo_ref env keyA _ a _ hkA hA,
    expandGo_pre env mid _ _ hmid, Nat.add_sub_cancel, expandGo_ref env keyB post b _ hkB hB,
    expandGo_no_dollar env _ post hpost]
  simp [List.append_assoc]

/-- a value written with references, one of them possibly nested: what counts is the value after `expand` and one
pass of `interp` -/
theorem envPrepend_lifts_nested (c : Nat) (append fwd : Bool) (var value w v : Str)
    (oldl : List Str) (env : Env)
    (hold : ∀ e ∈ oldl, OldPiece c e) (hv : GoodPiece c v) (hcv : c ∉ value)
    (hexp : expand env value = .value w) (hint : interp env (w.length + 1) w = v)
    (henv : (env.get var).getD [] = join [c] oldl) :
    envPrepend append fwd var value [c] env = .ok (env.set var (join [c] (applyL append fwd [v] oldl))) :=
  envPrepend_of_pieces [c] (by simp) append fwd var value w [v] oldl env
    (fun e he => (oldPieceD_single c e).mpr (hold e he)) (startsWith_not_mem c _ hcv) (endsWith_not_mem c _ hcv) hexp
    (by rw [hint]; exact split_join_multi c [] [v] (by simp) (by simpa using hv.2.1)) henv

theorem envPrepend_lifts_expand (c : Nat) (append fwd : Bool) (var value v : Str)
    (oldl : List Str) (env : Env)
    (hold : ∀ e ∈ oldl, OldPiece c e) (hv : GoodPiece c v) (hcv : c ∉ value)
    (hexp : expand env value = .value v)
    (henv : (env.get var).getD [] = join [c] oldl) :
    envPrepend append fwd var value [c] env = .ok (env.set var (join [c] (applyL append fwd [v] oldl))) :=
  envPrepend_lifts_nested c append fwd var value v v oldl env hold hv hcv hexp
    (interp_no_dollar env _ v hv.2.2) henv

theorem envPrepend_lifts_old (c : Nat) (append fwd : Bool) (var v : Str) (oldl : List Str) (env : Env)
    (hold : ∀ e ∈ oldl, OldPiece c e) (hv : GoodPiece c v)
    (henv : (env.get var).getD [] = join [c] oldl) :
    envPrepend append fwd var v [c] env = .ok (env.set var (join [c] (applyL append fwd [v] oldl))) :=
  envPrepend_lifts_expand c append fwd var v v oldl env hold hv hv.2.1 (expand_no_dollar env v hv.2.2) henv

theorem envPrepend_refuses (append : Bool) (var value delim : Str) (env : Env)
    (hsw : startsWith value delim = false) (hew : endsWith value delim = false)
    (hexp : expand env value = .error) :
    envPrepend append true var value delim env = .runtimeError := by
  rw [envPrepend_core, core_plain _ _ hsw hew, hexp]; rfl

theorem envSet_of_expand (var value w : Str) (env : Env) (hexp : expand env value = .value w) (hne : w ≠ [])
    (h36 : 36 ∉ w) : envSet true var value env = .ok (env.set var w) := by
  cases w with
  | nil => exact absurd rfl hne
  | cons a as => simp [envSet, hexp, setEnvI, interp_no_dollar env _ _ h36]

end EupsModel.PathAlg
