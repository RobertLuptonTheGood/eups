import EupsModel.Lemmas.ManifestText
/-! Lemmas for C18 on the two file formats.  The readers undo the writers — a written manifest entry is read back as `roundDepP`
of it (`manifest_read_write`, either reader), a written tag list read into any reader that holds none of its products
appends the kept entries in sorted order (`TagList.read_write`) — and manifests and tag lists as live objects (`roll`,
`mergeProductList`).  Code points: 40, 41, 46 = `(`, `)`, `.`. -/
namespace EupsModel.Manifest

theorem words_fmtEntry (a b c d e g : Str) (ha : Tok a) (hb : Tok b) (hc : Tok c) (hd : Tok d) (he : Tok e)
    (hg : Tok g) : words (fmtEntry [a, b, c, d, e, g]) = [a, b, c, d, e, g] := by
  simp only [words_eq, fmtEntry, List.append_assoc, tokens_col _ _ _ ha, tokens_col _ _ _ hb, tokens_col _ _ _ hc,
    tokens_col _ _ _ hd, tokens_col _ _ _ he, Text.tokens_word hg]

theorem spanNonWs_tok (t rest : Str) (ht : ∀ c ∈ t, isWs c = false) (hr : Text.Gap isWs rest) :
    spanNonWs (t ++ rest) = (t, rest) := by
  induction t with
  | nil =>
    cases rest with
    | nil => rfl
    | cons c r => simp [spanNonWs, hr c rfl]
  | cons c cs ih =>
    have hc : isWs c = false := ht c (by simp)
    simp [spanNonWs, hc, ih (fun x hx => ht x (by simp [hx]))]

theorem fmtVersionOk_fmt : fmtVersionOk sFmt = true := by decide

theorem parseManHeader_manHeader (p v : Str) (hp : Tok p) (hv : Tok v) :
    parseManHeader (sManHead ++ p ++ [32, 40] ++ v ++ [41, 46] ++ sVersionWord ++ sFmt) = some (p, v) := by
  have hrun : ∀ c ∈ v ++ [41, 46], isWs c = false := by
    intro c hc
    rcases List.mem_append.mp hc with h | h
    · exact hv.2 c h
    · clear hc; revert c; decide
  have hvlen : 0 < v.length := List.length_pos_iff.mpr hv.1
  have hlen : (v ++ [41, 46]).length ≥ 3 := by simp; omega
  have hl1 : lastN 1 (v ++ [41, 46]) = [46] := by simp [lastN]
  have hl2 : lastN 2 (v ++ [41, 46]) = [41, 46] := by simp [lastN]
  have hd2 : dropLast2 (v ++ [41, 46]) = v := by simp [dropLast2]
  rw [show sManHead ++ p ++ [32, 40] ++ v ++ [41, 46] ++ sVersionWord ++ sFmt =
    sManHead ++ (p ++ 32 :: 40 :: ((v ++ [41, 46]) ++ (sVersionWord ++ sFmt))) by simp]
  -- the tail and the part after `(` as variables: the two runs of `\S+` end at a blank
  generalize hT : sVersionWord ++ sFmt = T
  have hpre : sVersionWord.isPrefixOf T = true := by subst hT; simp
  have hdrop : T.drop sVersionWord.length = sFmt := by subst hT; simp
  have h2 : spanNonWs ((v ++ [41, 46]) ++ T) = (v ++ [41, 46], T) :=
    spanNonWs_tok _ _ hrun (hT ▸ Text.Gap.cons isWs_space _)
  generalize (v ++ [41, 46]) ++ T = R at h2 ⊢
  have h1 : spanNonWs (p ++ 32 :: 40 :: R) = (p, 32 :: 40 :: R) :=
    spanNonWs_tok p _ hp.2 (.cons isWs_space _)
  have hm : sManHead.isPrefixOf (sManHead ++ (p ++ 32 :: 40 :: R)) = true := by simp
  -- the greedy first alternative fails on `.` ≠ `)`, the second strips `).`
  simp only [parseManHeader, hm, List.drop_left, h1, hp.isEmpty, h2, Bool.not_true, Bool.false_eq_true, if_false, hl1, hl2,
    hd2, hpre, hdrop, fmtVersionOk_fmt,
    show (([46] : Str) == [41]) = false by decide, Bool.and_false, Bool.false_and, decide_eq_true hlen]
  rfl

theorem manHeader_noNl (m : Manifest) (hp : Tok (m.product.getD sUNKNOWN)) (hv : Tok (m.version.getD sGeneric)) :
    NoNl (manHeader m) := by
  simp only [manHeader, noNl_append]
  exact ⟨⟨⟨⟨⟨⟨by decide, hp.noNl⟩, by decide⟩, hv.noNl⟩, by decide⟩, by decide⟩, by decide⟩

/-- what a written entry is read back as -/
def roundDep (o : WriteOpts) (recurse : Bool) (p : Dep) : Dep :=
  { product := p.product, version := p.version, flavor := some (flavorCol o p),
    tablefile := some (orNone p.tablefile), instDir := some (orNone p.instDir), distId := p.distId,
    isOpt := false, recurse := recurse, extra := [] }

def OptTok (x : Option Str) : Prop := falsy x = true ∨ ∃ s, x = some s ∧ Tok s

instance : (x : Option Str) → Decidable (OptTok x)
  | none => isTrue (Or.inl rfl)
  | some s => decidable_of_iff (falsy (some s) = true ∨ Tok s)
      ⟨fun h => h.imp id fun h => ⟨s, rfl, h⟩, fun h => h.imp id fun ⟨_, e, h⟩ => Option.some.inj e ▸ h⟩

/-- `None` and `search` are reserved words of the format -/
def DistOk (x : Option Str) : Prop := x = none ∨ ∃ s, x = some s ∧ Tok s ∧ s ≠ sNoneCap ∧ s ≠ sSearch

instance : (x : Option Str) → Decidable (DistOk x)
  | none => isTrue (Or.inl rfl)
  | some s => decidable_of_iff (Tok s ∧ s ≠ sNoneCap ∧ s ≠ sSearch)
      ⟨fun h => Or.inr ⟨s, rfl, h⟩, fun h => h.elim (fun e => nomatch e) fun ⟨_, e, h⟩ => Option.some.inj e ▸ h⟩

structure DepOk (p : Dep) : Prop where
  product : Tok p.product
  notComment : p.product.head? ≠ some 35
  version : Tok p.version
  flavor : OptTok p.flavor
  tablefile : OptTok p.tablefile
  instDir : OptTok p.instDir
  distId : DistOk p.distId

instance (p : Dep) : Decidable (DepOk p) :=
  decidable_of_iff (Tok p.product ∧ p.product.head? ≠ some 35 ∧ Tok p.version ∧ OptTok p.flavor ∧ OptTok p.tablefile ∧
      OptTok p.instDir ∧ DistOk p.distId)
    ⟨fun ⟨a, b, c, d, e, f, g⟩ => ⟨a, b, c, d, e, f, g⟩, fun ⟨a, b, c, d, e, f, g⟩ => ⟨a, b, c, d, e, f, g⟩⟩

theorem orNone_tok (x : Option Str) (h : OptTok x) : Tok (orNone x) := by
  unfold orNone
  rcases h with h | ⟨s, rfl, hs⟩
  · simp [h, tok_sNone]
  · simp [falsy_some hs.1, hs]

theorem flavorCol_tok (o : WriteOpts) (p : Dep) (hn : Tok o.native) (ho : OptTok o.flavor) (hp : OptTok p.flavor) :
    Tok (flavorCol o p) := by
  unfold flavorCol
  have key : ∀ f : Option Str, OptTok f → Tok (if falsy f = true then o.native else f.getD []) := by
    rintro f (h | ⟨s, rfl, hs⟩)
    · simp [h, hn]
    · simp [falsy_some hs.1, hs]
  by_cases h : falsy o.flavor = true
  · simpa [h] using key p.flavor hp
  · have h' : falsy o.flavor = false := by simpa using h
    simpa [h'] using key o.flavor ho

theorem distIdText_tok (x : Option Str) (h : DistOk x) : Tok (distIdText x) := by
  rcases h with rfl | ⟨s, rfl, hs, _, _⟩
  · exact tok_sNoneCap
  · exact hs

/-- the pinned `Dependency.__init__` kept the text of the id column, the word `None` included -/
def roundDepP (pinned : Bool) (o : WriteOpts) (recurse : Bool) (p : Dep) : Dep :=
  if pinned then { roundDep o recurse p with distId := some (distIdText p.distId) } else roundDep o recurse p

theorem parseEntry_entryLine (pinned : Bool) (o : WriteOpts) (recurse : Bool) (p : Dep) (hn : Tok o.native)
    (ho : OptTok o.flavor) (hp : DepOk p) :
    parseEntry pinned recurse (entryLine o p) = .ok (some (roundDepP pinned o recurse p)) := by
  have hw : words (entryLine o p) = entryFields (flavorCol o p) p :=
    words_fmtEntry _ _ _ _ _ _ hp.product (flavorCol_tok o p hn ho hp.flavor) hp.version (orNone_tok _ hp.tablefile)
      (orNone_tok _ hp.instDir) (distIdText_tok _ hp.distId)
  have hnc : isBlankOrComment (entryLine o p) = false := by
    simp only [entryLine, entryFields, fmtEntry, padTo_eq, List.append_assoc]
    exact isBlankOrComment_entry _ _ hp.product hp.notComment
  unfold parseEntry
  rw [hnc, hw]
  simp only [Bool.false_eq_true, if_false, entryFields, List.drop_succ_cons, List.drop_nil]
  have hs : (distIdText p.distId == sSearch) = false := by
    rcases hp.distId with hd | ⟨s, hd, _, _, hs2⟩
    · rw [hd]; decide
    · simpa [hd, distIdText] using hs2
  cases pinned
  · -- `mkDep` takes the text `None` for a missing id
    rcases hp.distId with hd | ⟨s, hd, _, hs1, _⟩
    · simp [hd, distIdText, roundDepP, roundDep, mkDep, show (sNoneCap == sSearch) = false by decide]
    · simp [hd, distIdText, roundDepP, roundDep, mkDep, hs1, by simpa [hd, distIdText] using hs]
  · simp [roundDepP, roundDep, mkDepPinned, hs]

theorem parseEntry_comment (pinned recurse : Bool) (l : Str) (h : isBlankOrComment l = true) :
    parseEntry pinned recurse l = .ok none := by
  simp [parseEntry, h]

theorem parseEntries_skip (pinned recurse : Bool) (l : Str) (ls : List Str) (h : isBlankOrComment l = true) :
    parseEntries pinned recurse (l :: ls) = parseEntries pinned recurse ls := by
  simp only [parseEntries, parseEntry_comment pinned recurse l h]

theorem parseEntries_entries (pinned : Bool) (o : WriteOpts) (recurse : Bool) (ds : List Dep) (hn : Tok o.native)
    (ho : OptTok o.flavor) (hd : ∀ p ∈ ds, DepOk p) :
    parseEntries pinned recurse (ds.map (entryLine o)) = .ok (ds.map (roundDepP pinned o recurse)) := by
  induction ds with
  | nil => rfl
  | cons p r ih =>
    simp only [List.map_cons, parseEntries, parseEntry_entryLine pinned o recurse p hn ho (hd p (by simp)),
      ih (fun x hx => hd x (by simp [hx]))]

theorem readLines_cons (pinned r : Bool) (h : Str) (rest : List Str) (p v : Str) (ds : List Dep)
    (hh : parseManHeader h = some (p, v)) (he : parseEntries pinned r rest = .ok ds) :
    readLines pinned r (h :: rest) = .ok { product := some p, version := some v, deps := ds } := by
  simp only [readLines, hh, he]

theorem entryLine_noNl (o : WriteOpts) (p : Dep) (hn : Tok o.native) (ho : OptTok o.flavor) (hp : DepOk p) :
    NoNl (entryLine o p) := by
  simp only [entryLine, entryFields, fmtEntry, noNl_append, noNl_padTo, noNl_space, hp.product.noNl, hp.version.noNl,
    (flavorCol_tok o p hn ho hp.flavor).noNl, (orNone_tok _ hp.tablefile).noNl, (orNone_tok _ hp.instDir).noNl,
    (distIdText_tok _ hp.distId).noNl, and_self]

theorem manifest_read_write (pinned : Bool) (o : WriteOpts) (comments : List Str) (m : Manifest) (recurse : Bool)
    (hn : Tok o.native) (ho : OptTok o.flavor)
    (hprod : ∀ s, m.product = some s → Tok s) (hver : ∀ s, m.version = some s → Tok s)
    (hc : ∀ l ∈ comments, isBlankOrComment l = true ∧ NoNl l) (hd : ∀ p ∈ written o m, DepOk p) :
    read pinned recurse (write o comments m) =
      .ok { product := some (m.product.getD sUNKNOWN), version := some (m.version.getD sGeneric),
            deps := (written o m).map (roundDepP pinned o recurse) } := by
  have hp := tok_getD hprod tok_unknown
  have hv := tok_getD hver tok_generic
  unfold EupsModel.Manifest.read EupsModel.Manifest.write writeLines
  rw [lines_file _ _ _ (manHeader_noNl m hp hv) (fun l hl => (hc l hl).2)
    (List.forall_mem_map.mpr fun p hp' => entryLine_noNl o p hn ho (hd p hp'))]
  exact readLines_cons pinned recurse _ _ _ _ _ (parseManHeader_manHeader _ _ hp hv)
    ((skip_comments _ (parseEntries_skip pinned recurse) comments _ fun l hl => (hc l hl).1).trans
      (parseEntries_entries pinned o recurse (written o m) hn ho hd))

theorem insertSorted_perm (x : Str) (l : List Str) : (insertSorted x l).Perm (x :: l) := by
  induction l with
  | nil => exact List.Perm.refl _
  | cons y r ih =>
    simp only [insertSorted]
    split
    · exact List.Perm.refl _
    · exact (List.Perm.cons y ih).trans (List.Perm.swap x y r)

theorem sortStrs_perm (l : List Str) : (sortStrs l).Perm l := by
  induction l with
  | nil => exact List.Perm.refl _
  | cons x r ih =>
    simp only [sortStrs, List.foldr_cons]
    exact (insertSorted_perm x _).trans (List.Perm.cons x ih)

/-- adjacent elements in Python's string order -/
def SortedAdj : List Str → Prop
  | [] => True
  | [_] => True
  | x :: y :: r => Str.cmp x y ≤ 0 ∧ SortedAdj (y :: r)

theorem sortStrs_sorted_id (l : List Str) (h : SortedAdj l) : sortStrs l = l := by
  induction l with
  | nil => rfl
  | cons x r ih =>
    cases r with
    | nil => rfl
    | cons y r2 =>
      have h2 : SortedAdj (y :: r2) := h.2
      have := ih h2
      simp only [sortStrs, List.foldr_cons] at this ⊢
      rw [this]
      simp [insertSorted, h.1]

/-- the last column and what follows it, each further word behind two blanks -/
theorem tokens_tail (t : Str) (extra : List Str) (ht : Tok t) (he : ∀ x ∈ extra, Tok x) :
    Text.tokens isWs (t ++ extra.flatMap fun x => [32, 32] ++ x) = t :: extra := by
  have hs : Text.Spaced isWs (extra.map fun x => ([32, 32], x)) [] :=
    ⟨by simpa using fun x hx => ⟨blank_pad 2, he x hx⟩, .nil⟩
  simpa [List.flatMap_map, Function.comp_def] using Text.tokens_line .nil ht hs

theorem words_tagLine (fa : Option Str) (p fl ver : Str) (extra : List Str) (hp : Tok p) (hfl : Tok (fa.getD fl))
    (hver : Tok ver) (he : ∀ x ∈ extra, Tok x) :
    words (tagLine fa p (fl :: ver :: extra)) = p :: fa.getD fl :: ver :: extra := by
  simp only [words_eq, tagLine, List.append_assoc, tokens_col _ _ _ hp, tokens_col _ _ _ hfl, tokens_tail ver extra hver he]

theorem parseTagHeader_tagHeader (tag : Str) : parseTagHeader tag (tagHeader tag) = true := by
  have h1 : (sTagHead ++ tag ++ sTagMid).isPrefixOf (tagHeader tag) = true := by
    simp [tagHeader, List.append_assoc]
  have h2 : (tagHeader tag).drop (sTagHead ++ tag ++ sTagMid).length = 46 :: (sVersionWord ++ sFmt) := by
    have : tagHeader tag = (sTagHead ++ tag ++ sTagMid) ++ (46 :: (sVersionWord ++ sFmt)) := by
      simp [tagHeader, List.append_assoc]
    rw [this, List.drop_left']
    rfl
  have h3 : sVersionWord.isPrefixOf (sVersionWord ++ sFmt) = true := by simp
  have h4 : (sVersionWord ++ sFmt).drop sVersionWord.length = sFmt := by simp
  unfold parseTagHeader
  simp only [h1, h2, Bool.true_and]
  simp [h3, h4, fmtVersionOk_fmt]

theorem tagHeader_noNl (tag : Str) (h : NoNl tag) : NoNl (tagHeader tag) := by
  simp only [tagHeader, noNl_append]
  exact ⟨⟨⟨⟨⟨by decide, h⟩, by decide⟩, by decide⟩, by decide⟩, by decide⟩

/-- what `tagEntry` keeps of the list it reads into -/
structure TagInv (r : TagList) (F : Str) : Prop where
  flavor : r.flavor = F
  keys : r.info.map (·.1) = r.products
  nodup : r.products.Nodup

theorem mem_addProduct_products {t : TagList} {p v q : Str} {fl : Option Str} {ex : List Str}
    (h : q ∈ (t.addProduct p v fl ex).products) : q ∈ t.products ∨ q = p := by
  simp only [TagList.addProduct] at h
  split at h
  · exact Or.inl h
  · simpa using h

theorem getProducts_add_new (r : TagList) (F p ver fl : Str) (extra : List Str) (hi : TagInv r F)
    (hp : p ∉ r.products) :
    (r.addProduct p ver (some fl) extra).getProducts = r.getProducts ++ [p :: fl :: ver :: extra] ∧
      TagInv (r.addProduct p ver (some fl) extra) F := by
  have hc : r.products.contains p = false := by simpa using hp
  have hk : p ∉ r.info.map (·.1) := by rw [hi.keys]; exact hp
  refine ⟨?_, hi.flavor, ?_, ?_⟩
  · simp only [TagList.getProducts, TagList.addProduct, hc, Bool.false_eq_true, if_false, List.map_append,
      List.map_cons, List.map_nil, Option.getD_some, assocGet_assocSet_same]
    congr 1
    apply List.map_congr_left
    intro q hq
    have : q ≠ p := fun e => hp (e ▸ hq)
    rw [assocGet_assocSet_other this]
  · simp only [TagList.addProduct, hc, Bool.false_eq_true, if_false, Option.getD_some]
    rw [assocSet_keys_new hk, hi.keys]
  · simp only [TagList.addProduct, hc, Bool.false_eq_true, if_false]
    exact List.nodup_append.mpr ⟨hi.nodup, by simp, by
      intro a ha b hb; simp at hb; subst hb; exact fun e => hp (e ▸ ha)⟩

/-- `generic` stands for the reader's flavor `F` -/
def readerFlavor (fa : Option Str) (F fl : Str) : Str := if fa.getD fl == sGeneric then F else fa.getD fl

def keepEntry (fa : Option Str) (F : Str) (p : Str) (info : List Str) : Option (List Str) :=
  match info with
  | fl :: ver :: extra =>
    if readerFlavor fa F fl == F then some (p :: readerFlavor fa F fl :: ver :: extra) else none
  | _ => none

def TagEntryOk (fa : Option Str) (p : Str) (info : List Str) : Prop :=
  Tok p ∧ p.head? ≠ some 35 ∧ ∃ fl ver extra, info = fl :: ver :: extra ∧ Tok (fa.getD fl) ∧ Tok ver ∧ ∀ x ∈ extra, Tok x

instance (fa : Option Str) (p : Str) : (info : List Str) → Decidable (TagEntryOk fa p info)
  | fl :: ver :: extra => decidable_of_iff (Tok p ∧ p.head? ≠ some 35 ∧ Tok (fa.getD fl) ∧ Tok ver ∧ ∀ x ∈ extra, Tok x)
      ⟨fun ⟨a, b, c⟩ => ⟨a, b, fl, ver, extra, rfl, c⟩, fun ⟨a, b, _, _, _, e, c⟩ => by cases e; exact ⟨a, b, c⟩⟩
  | [] | [_] => isFalse fun ⟨_, _, _, _, _, e, _⟩ => nomatch e

theorem tagEntry_line (fa : Option Str) (F : Str) (r : TagList) (p : Str) (info : List Str) (hi : TagInv r F)
    (hok : TagEntryOk fa p info) (hp : p ∉ r.products) :
    ∃ r', tagEntry r (tagLine fa p info) = .ok r' ∧ TagInv r' F ∧
      r'.getProducts = r.getProducts ++ (keepEntry fa F p info).toList ∧
      (∀ q, q ∈ r'.products → q ∈ r.products ∨ q = p) := by
  obtain ⟨htp, hnc, fl, ver, extra, rfl, hfl, hver, hex⟩ := hok
  have hw := words_tagLine fa p fl ver extra htp hfl hver hex
  have hskip : tagSkip (tagLine fa p (fl :: ver :: extra)) = false := by
    simp only [tagSkip, tagLine, padTo_eq, List.append_assoc]
    exact isBlankOrComment_entry _ _ htp hnc
  unfold tagEntry
  simp only [hskip, Bool.false_eq_true, if_false, hw, hi.flavor, keepEntry]
  have e : (if (fa.getD fl == sGeneric) = true then F else fa.getD fl) = readerFlavor fa F fl := rfl
  simp only [e]
  generalize readerFlavor fa F fl = f2
  cases hk : f2 == F
  · simp only [Bool.false_eq_true, if_false]
    exact ⟨r, rfl, hi, by simp, fun q hq => Or.inl hq⟩
  · simp only [if_true]
    obtain ⟨h1, h2⟩ := getProducts_add_new r F p ver f2 extra hi hp
    exact ⟨_, rfl, h2, by rw [h1]; rfl, fun q => mem_addProduct_products⟩

theorem tagEntries_lines (fa : Option Str) (F : Str) (info : Str → List Str) : ∀ (ps : List Str) (r : TagList),
    TagInv r F → ps.Nodup → (∀ p ∈ ps, p ∉ r.products) → (∀ p ∈ ps, TagEntryOk fa p (info p)) →
    ∃ r', tagEntries r (ps.map fun p => tagLine fa p (info p)) = .ok r' ∧
      r'.getProducts = r.getProducts ++ ps.filterMap (fun p => keepEntry fa F p (info p)) := by
  intro ps
  induction ps with
  | nil => intro r _ _ _ _; exact ⟨r, rfl, by simp⟩
  | cons p rest ih =>
    intro r hi hnd hdis hok
    obtain ⟨r1, h1, hi1, hg1, hmem⟩ := tagEntry_line fa F r p (info p) hi (hok p (by simp)) (hdis p (by simp))
    have hnd' := (List.nodup_cons.mp hnd).2
    have hpn := (List.nodup_cons.mp hnd).1
    have hdis' : ∀ q ∈ rest, q ∉ r1.products := by
      intro q hq hq1
      rcases hmem q hq1 with h | h
      · exact hdis q (by simp [hq]) h
      · subst h; exact hpn hq
    obtain ⟨r2, h2, hg2⟩ := ih r1 hi1 hnd' hdis' (fun q hq => hok q (by simp [hq]))
    refine ⟨r2, ?_, ?_⟩
    · simp only [List.map_cons, tagEntries, h1, h2]
    · rw [hg2, hg1]
      cases hk : keepEntry fa F p (info p) <;> simp [hk]

theorem tagEntries_skip (r : TagList) (l : Str) (ls : List Str) (h : isBlankOrComment l = true) :
    tagEntries r (l :: ls) = tagEntries r ls := by
  simp [tagEntries, tagEntry, tagSkip, h]

theorem tagLine_noNl (fa : Option Str) (p : Str) (info : List Str) (hok : TagEntryOk fa p info) :
    NoNl (tagLine fa p info) := by
  obtain ⟨htp, _, fl, ver, extra, rfl, hfl, hver, hex⟩ := hok
  have hx : NoNl (extra.flatMap fun x => [32, 32] ++ x) := by
    intro c hc
    obtain ⟨x, hx, hcx⟩ := List.mem_flatMap.mp hc
    exact noNl_append.mpr ⟨by simp [NoNl], (hex x hx).noNl⟩ c hcx
  simp only [tagLine, noNl_append, noNl_padTo, noNl_space, htp.noNl, hfl.noNl, hver.noNl, hx, and_self]

theorem tagRead_of_lines (r0 : TagList) (text h : Str) (rest : List Str)
    (hl : lines (univNewlines text) = h :: rest) (hh : parseTagHeader r0.tag h = true) :
    r0.read text = tagEntries r0 rest := by
  simp [TagList.read, hl, hh]

theorem TagList.read_write (t : TagList) (fa : Option Str) (F : Str) (comments : List Str) (r0 : TagList)
    (htag0 : r0.tag = t.tag) (hinv : TagInv r0 F) (hdis : ∀ p ∈ t.products, p ∉ r0.products)
    (htag : NoNl t.tag) (hc : ∀ l ∈ comments, isBlankOrComment l = true ∧ NoNl l) (hnd : t.products.Nodup)
    (hok : ∀ p ∈ t.products, TagEntryOk fa p ((assocGet t.info p).getD [])) :
    ∃ r, r0.read (t.write fa comments) = .ok r ∧
      r.getProducts = r0.getProducts ++
        (sortStrs t.products).filterMap (fun p => keepEntry fa F p ((assocGet t.info p).getD [])) := by
  have hperm := sortStrs_perm t.products
  have hmem : ∀ p ∈ sortStrs t.products, p ∈ t.products := fun p hp => hperm.mem_iff.mp hp
  obtain ⟨r, hr, hg⟩ := tagEntries_lines fa F (fun p => (assocGet t.info p).getD []) (sortStrs t.products) r0 hinv
    (hperm.nodup_iff.mpr hnd) (fun p hp => hdis p (hmem p hp)) (fun p hp => hok p (hmem p hp))
  refine ⟨r, ?_, hg⟩
  unfold TagList.write TagList.writeLines
  rw [tagRead_of_lines r0 _ _ _
      (lines_file _ _ _ (tagHeader_noNl _ htag) (fun l hl => (hc l hl).2)
        (List.forall_mem_map.mpr fun p hp => tagLine_noNl fa p _ (hok p (hmem p hp))))
      (by rw [htag0]; exact parseTagHeader_tagHeader t.tag)]
  exact (skip_comments _ (tagEntries_skip r0) _ _ fun l hl => (hc l hl).1).trans hr

theorem rollRight1_rollLeft1 {α : Type} (l : List α) : rollRight1 (rollLeft1 l) = l := by
  cases l with
  | nil => rfl
  | cons x r => simp [rollLeft1, rollRight1]

theorem iter_succ_right {α : Type} (f : α → α) (k : Nat) (x : α) : iter f (k + 1) x = f (iter f k x) := by
  induction k generalizing x with
  | zero => rfl
  | succ k ih => rw [iter, ih (f x)]; rfl

theorem iter_cancel {α : Type} {f g : α → α} (h : ∀ x, g (f x) = x) (k : Nat) (x : α) :
    iter g k (iter f k x) = x := by
  induction k generalizing x with
  | zero => rfl
  | succ k ih => rw [iter_succ_right f k x, iter, h, ih]

theorem mem_rollLeft1 {α : Type} (d : α) (l : List α) : d ∈ rollLeft1 l ↔ d ∈ l := by
  cases l with
  | nil => rfl
  | cons x r => simp [rollLeft1, or_comm]

theorem mem_rollRight1 {α : Type} (d : α) (l : List α) : d ∈ rollRight1 l ↔ d ∈ l := by
  unfold rollRight1
  rw [← List.mem_reverse (as := l)]
  cases l.reverse <;> simp

theorem mem_iter {α : Type} {d : α} (f : List α → List α) (hf : ∀ l, d ∈ f l ↔ d ∈ l) (k : Nat) (l : List α) :
    d ∈ iter f k l ↔ d ∈ l := by
  induction k generalizing l with
  | zero => rfl
  | succ k ih => rw [iter, ih, hf]

theorem addProduct_info_same (t : TagList) (p v : Str) (fl : Option Str) (ex : List Str) :
    (t.addProduct p v fl ex).getProductInfo p = some (fl.getD t.flavor :: v :: ex) := by
  simp [TagList.addProduct, TagList.getProductInfo, assocGet_assocSet_same]

theorem addProduct_info_other {t : TagList} {p v : Str} {fl : Option Str} {ex : List Str} {q : Str} (h : q ≠ p) :
    (t.addProduct p v fl ex).getProductInfo q = t.getProductInfo q := by
  simp [TagList.addProduct, TagList.getProductInfo, assocGet_assocSet_other h]

/-- the loop of `mergeProductList` -/
theorem foldl_addProduct_info (info : List (Str × List Str)) (q : Str) : ∀ (ps : List Str) (t : TagList),
    (∀ p ∈ ps, ∃ fl ver ex, assocGet info p = some (fl :: ver :: ex)) →
    ((ps.map fun p => p :: (assocGet info p).getD []).foldl (fun t row =>
        match row with
        | p :: fl :: ver :: extra => t.addProduct p ver (some fl) extra
        | _ => t) t).getProductInfo q =
      if q ∈ ps then assocGet info q else t.getProductInfo q := by
  intro ps
  induction ps with
  | nil => intro t _; simp
  | cons p rest ih =>
    intro t hps
    obtain ⟨fl, ver, ex, hinfo⟩ := hps p (by simp)
    simp only [List.map_cons, List.foldl_cons, hinfo, Option.getD_some]
    rw [ih _ (fun r hr => hps r (by simp [hr]))]
    by_cases hq : q ∈ rest
    · simp [hq]
    · by_cases hqp : q = p
      · subst hqp
        simp [hq, hinfo, addProduct_info_same]
      · simp [hq, hqp, addProduct_info_other hqp]

end EupsModel.Manifest
