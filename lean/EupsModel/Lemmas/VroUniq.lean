import EupsModel.Model.VroPath
import EupsModel.Lemmas.PathAlg
/-! Keeping the first occurrence of each entry.  `uniqFirst` is the reference (it is `PathAlg.uniq`, and takes its laws from
`Lemmas/PathAlg`): `uniqDirs` (`setEupsPath`) is `uniqFirst` less the entries seen, and `dedupe` (`selectVRO`) is `uniqDirs`
on a list without `warn` entries.  On any list `dedupe` and `mergeWarnings` are described with the `warn` entries set aside
(`nw`): they do to the other entries what `uniqDirs` does, resp. nothing. -/
namespace EupsModel.Vro

/-! ## `uniqFirst` -/

/-- not `rfl`: the two are written with different `BEq` instances of `Str` (`List.instBEq` here, the one `DecidableEq`
gives there) -/
theorem uniqFirst_eq_uniq (l : List Str) : uniqFirst l = PathAlg.uniq l := by
  induction l with
  | nil => rfl
  | cons x xs ih =>
    rw [uniqFirst, PathAlg.uniq, ih]
    congr 1
    exact List.filter_congr fun a _ => by rw [Bool.eq_iff_iff, bne_iff_ne, @bne_iff_ne _ instBEqOfDecidableEq]

theorem mem_uniqFirst (x : Str) (l : List Str) : x ∈ uniqFirst l ↔ x ∈ l := by
  rw [uniqFirst_eq_uniq]; exact PathAlg.mem_uniq l x

theorem uniqFirst_filter (p : Str → Bool) (l : List Str) : uniqFirst (l.filter p) = (uniqFirst l).filter p := by
  simp only [uniqFirst_eq_uniq, PathAlg.filter_uniq]

theorem uniqFirst_append (a b : List Str) :
    uniqFirst (a ++ b) = uniqFirst a ++ (uniqFirst b).filter (fun x => !a.contains x) := by
  simp only [uniqFirst_eq_uniq, PathAlg.uniq_append]
  congr 1
  exact List.filter_congr fun x _ => by simp

theorem uniqFirst_nodup (l : List Str) : (uniqFirst l).Nodup := uniqFirst_eq_uniq l ▸ PathAlg.uniq_nodup l

theorem uniqFirst_of_nodup {l : List Str} (h : l.Nodup) : uniqFirst l = l :=
  (uniqFirst_eq_uniq l).trans (PathAlg.uniq_of_nodup l h)

theorem uniqFirst_idem (l : List Str) : uniqFirst (uniqFirst l) = uniqFirst l :=
  uniqFirst_of_nodup (uniqFirst_nodup l)

theorem uniqFirst_dup (P A R : List Str) (h : ∀ x ∈ A, x ∈ P) : uniqFirst (P ++ A ++ R) = uniqFirst (P ++ R) := by
  have hA : (uniqFirst A).filter (fun x => !P.contains x) = [] :=
    List.filter_eq_nil_iff.mpr (fun x hx => by simpa using h x ((mem_uniqFirst x A).mp hx))
  rw [List.append_assoc, uniqFirst_append P, uniqFirst_append A, List.filter_append, hA, uniqFirst_append P,
    List.nil_append, List.filter_filter]
  congr 1
  apply List.filter_congr
  intro x _
  by_cases hP : x ∈ P
  · simp [hP]
  · have hxA : x ∉ A := fun hA' => hP (h x hA')
    simp [hP, hxA]

theorem uniqFirst_sublist (l : List Str) : (uniqFirst l).Sublist l := by
  induction l with
  | nil => exact .slnil
  | cons x xs ih => exact (List.filter_sublist.trans ih).cons_cons x

/-! ## `uniqDirs` -/

theorem uniqDirs_eq (seen l : List Str) : uniqDirs seen l = (uniqFirst l).filter (fun x => !seen.contains x) := by
  induction l generalizing seen with
  | nil => rfl
  | cons p ps ih =>
    rw [uniqDirs, uniqFirst]
    by_cases hs : p ∈ seen
    · rw [if_pos (by simpa using hs), ih, List.filter_cons_of_neg (by simpa using hs), List.filter_filter]
      apply List.filter_congr
      intro y _
      by_cases hyp : y = p
      · subst hyp; simp [hs]
      · simp [hyp]
    · rw [if_neg (by simpa using hs), ih, List.filter_cons_of_pos (by simpa using hs), List.filter_filter]
      congr 1
      apply List.filter_congr
      intro y _
      by_cases hyp : y = p
      · subst hyp; simp
      · simp [hyp]

theorem uniqDirs_nil_eq (l : List Str) : uniqDirs [] l = uniqFirst l := by
  rw [uniqDirs_eq]; exact List.filter_eq_self.mpr (by simp)

/-! ## `dedupe` on lists without warnings -/

def NoWarn (l : List Str) : Prop := ∀ x ∈ l, isWarn x = false

instance (l : List Str) : Decidable (NoWarn l) := inferInstanceAs (Decidable (∀ x ∈ l, isWarn x = false))

theorem noWarn_cons {x : Str} {l : List Str} : NoWarn (x :: l) ↔ isWarn x = false ∧ NoWarn l := by
  simp [NoWarn]

theorem dedupe_cons_noWarn {seen : List Str} {e : Str} {rest : List Str} (he : isWarn e = false) :
    dedupe seen (e :: rest) =
      if seen.contains e then dedupe seen rest else e :: dedupe (e :: seen) rest := by
  simp [dedupe, he]

theorem dedupe_eq_uniqDirs (seen : List Str) {l : List Str} (hl : NoWarn l) : dedupe seen l = uniqDirs seen l := by
  induction l generalizing seen with
  | nil => rfl
  | cons e rest ih =>
    obtain ⟨he, hr⟩ := noWarn_cons.mp hl
    rw [dedupe_cons_noWarn he, uniqDirs, ih _ hr, ih _ hr]

theorem dedupe_nil_eq {l : List Str} (hl : NoWarn l) : dedupe [] l = uniqFirst l := by
  rw [dedupe_eq_uniqDirs [] hl, uniqDirs_nil_eq]

/-! ## `warn:<digits>` entries -/

theorem natToStr_digit (m : Nat) : ∀ d ∈ natToStr m, Str.isDigit d = true := by
  intro d hd
  unfold natToStr at hd
  obtain ⟨ch, hch, rfl⟩ := List.mem_map.mp hd
  have h := Nat.isDigit_of_mem_toDigits (by decide) (by decide) hch
  simp only [Char.isDigit, Bool.and_eq_true, decide_eq_true_eq] at h
  obtain ⟨h1, h2⟩ := h
  have h1' : 48 ≤ ch.toNat := by
    have := UInt32.le_iff_toNat_le.mp h1
    simpa using this
  have h2' : ch.toNat ≤ 57 := by
    have := UInt32.le_iff_toNat_le.mp h2
    simpa using this
  simp [Str.isDigit, h1', h2']

theorem natToStr_ne_nil (m : Nat) : natToStr m ≠ [] := by
  unfold natToStr
  intro h
  exact Nat.toDigits_ne_nil (List.map_eq_nil_iff.mp h)

def IsW (x : Str) : Prop := ∃ s, x = kWarnColon ++ s ∧ s ≠ [] ∧ ∀ d ∈ s, Str.isDigit d = true

theorem IsW.isVT {x : Str} (h : IsW x) : isVT x = false := by
  obtain ⟨s, rfl, _, _⟩ := h
  simp [Vro.isVT, kWarnColon, kVersion, kVersionBang, kVersionExpr]

theorem IsW.ne_typeExact {x : Str} (h : IsW x) : x ≠ kTypeExact := by
  obtain ⟨s, rfl, _, _⟩ := h
  simp [kWarnColon, kTypeExact]

theorem allDigits_of {s : Str} (hne : s ≠ []) (hd : ∀ d ∈ s, Str.isDigit d = true) : allDigits s = true := by
  unfold allDigits
  cases s with
  | nil => exact absurd rfl hne
  | cons a s => simpa using hd

theorem IsW.warnLevel {x : Str} (h : IsW x) : (warnLevel x).isSome = true := by
  obtain ⟨s, rfl, hne, hd⟩ := h
  unfold Vro.warnLevel
  have h1 : kWarnColon.isPrefixOf (kWarnColon ++ s) = true := by simp [kWarnColon]
  have h2 : (kWarnColon ++ s).drop kWarnColon.length = s := by simp
  simp [h1, h2, allDigits_of hne hd]

theorem isWarn_eq (e : Str) : isWarn e = (e == kWarn || (warnLevel e).isSome) := by
  unfold isWarn warnLevel
  split <;> simp [*]

theorem IsW.isWarn {x : Str} (h : IsW x) : isWarn x = true := by
  rw [isWarn_eq, h.warnLevel, Bool.or_true]

theorem isWarn_cases {x : Str} (h : isWarn x = true) : x = kWarn ∨ IsW x := by
  unfold isWarn at h
  simp only [Bool.or_eq_true, beq_iff_eq, Bool.and_eq_true] at h
  rcases h with h | ⟨h1, h2⟩
  · exact Or.inl h
  · obtain ⟨t, rfl⟩ := List.isPrefixOf_iff_prefix.mp h1
    have ht : (kWarnColon ++ t).drop kWarnColon.length = t := by simp
    rw [ht] at h2
    unfold allDigits at h2
    simp only [Bool.and_eq_true, Bool.not_eq_true', List.isEmpty_eq_false_iff, List.all_eq_true] at h2
    exact Or.inr ⟨t, rfl, h2.1, h2.2⟩

theorem warnLevel_none_of_not_isWarn {e : Str} (h : isWarn e = false) : warnLevel e = none := by
  rw [isWarn_eq, Bool.or_eq_false_iff] at h
  simpa using h.2

theorem isWarn_of_warnLevel {e : Str} {n : Nat} (h : warnLevel e = some n) : isWarn e = true := by
  rw [isWarn_eq, h]; simp

/-! ## `mergeWarnings`, one entry at a time -/

/-- what `mergeWarnings` writes for the pending level -/
def flushW : Option Nat → List Str
  | some m => [kWarnColon ++ natToStr m]
  | none => []

def pendMin : Option Nat → Nat → Nat
  | some m, n => min m n
  | none, n => n

theorem mem_flushW {x : Str} {pend : Option Nat} (h : x ∈ flushW pend) : IsW x := by
  cases pend with
  | none => cases h
  | some m =>
    simp only [flushW, List.mem_singleton] at h
    exact ⟨natToStr m, h, natToStr_ne_nil m, natToStr_digit m⟩

theorem mergeW_nil (pend : Option Nat) : mergeWarnings pend [] = flushW pend := by
  cases pend <;> rfl

theorem mergeW_cons_some {e : Str} {n : Nat} (h : warnLevel e = some n) (pend : Option Nat) (rest : List Str) :
    mergeWarnings pend (e :: rest) = mergeWarnings (some (pendMin pend n)) rest := by
  cases pend <;> simp [mergeWarnings, h, pendMin]

theorem mergeW_cons_none {e : Str} (h : warnLevel e = none) (pend : Option Nat) (rest : List Str) :
    mergeWarnings pend (e :: rest) = flushW pend ++ e :: mergeWarnings none rest := by
  cases pend <;> simp [mergeWarnings, h, flushW]

theorem mergeWarnings_noWarn (l : List Str) (hl : NoWarn l) : mergeWarnings none l = l := by
  induction l with
  | nil => rfl
  | cons e rest ih =>
    obtain ⟨he, hr⟩ := noWarn_cons.mp hl
    rw [mergeW_cons_none (warnLevel_none_of_not_isWarn he), ih hr]
    rfl

/-! ## the `warn` entries aside -/

/-- the entries that are not `warn` / `warn:N`.  `dedupe`, `mergeWarnings` and `makeVroExact` keep, merge and insert `warn`
entries, and nothing the theorems about the VRO say concerns those; seen through `nw` each of the three is a plain list
operation (`nw_dedupe`, `nw_mergeWarnings`, `nw_makeVroExact`). -/
def nw (l : List Str) : List Str := l.filter (fun x => !isWarn x)

theorem nw_append (a b : List Str) : nw (a ++ b) = nw a ++ nw b := List.filter_append ..

theorem nw_cons_warn {e : Str} (h : isWarn e = true) (l : List Str) : nw (e :: l) = nw l :=
  List.filter_cons_of_neg (by simp [h])

theorem nw_cons_noWarn {e : Str} (h : isWarn e = false) (l : List Str) : nw (e :: l) = e :: nw l :=
  List.filter_cons_of_pos (by simp [h])

theorem nw_dedupe (seen l : List Str) : nw (dedupe seen l) = uniqDirs seen (nw l) := by
  induction l generalizing seen with
  | nil => rfl
  | cons e rest ih =>
    rw [dedupe]
    cases hw : isWarn e
    · rw [nw_cons_noWarn hw, uniqDirs]
      cases hs : seen.contains e
      · simp only [Bool.false_eq_true, if_false]
        rw [nw_cons_noWarn hw, ih]
      · simp only [if_true]; exact ih seen
    · rw [nw_cons_warn hw]
      cases hs : seen.contains e
      · simp only [Bool.false_eq_true, if_false, if_true]
        rw [nw_cons_warn, ih]
        split
        · exact hw
        · decide
      · simp only [if_true]; exact ih seen

theorem nw_flushW (pend : Option Nat) : nw (flushW pend) = [] :=
  List.filter_eq_nil_iff.mpr (fun x hx => by simp [(mem_flushW hx).isWarn])

theorem nw_mergeWarnings (pend : Option Nat) (l : List Str) : nw (mergeWarnings pend l) = nw l := by
  induction l generalizing pend with
  | nil => rw [mergeW_nil, nw_flushW]; rfl
  | cons e rest ih =>
    cases hl : warnLevel e with
    | some n => rw [mergeW_cons_some hl, ih, nw_cons_warn (isWarn_of_warnLevel hl)]
    | none =>
      rw [mergeW_cons_none hl, nw_append, nw_flushW, List.nil_append]
      cases hw : isWarn e
      · rw [nw_cons_noWarn hw, nw_cons_noWarn hw, ih]
      · rw [nw_cons_warn hw, nw_cons_warn hw, ih]

theorem nw_filter (q : Str → Bool) (l : List Str) : nw (l.filter q) = (nw l).filter q := by
  simp only [nw, List.filter_filter]
  exact List.filter_congr (fun x _ => Bool.and_comm _ _)

theorem nw_uniqFirst (l : List Str) : nw (uniqFirst l) = uniqFirst (nw l) := (uniqFirst_filter _ l).symm

end EupsModel.Vro
