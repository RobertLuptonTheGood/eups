import EupsModel.Lemmas.VersionAcross
/-! C10: the listing entry point `Eups.findProducts(name, version, tags)` (`listProducts_spec`) — the listing's sort, one
stack, the loop over the stacks, the filter at the end — and the lookups of the other entry points. -/
namespace EupsModel.VersionCmp
open EupsModel

/-- one step of `[x for x in q :: qs if P x]`, `b` the outcome of the test on `q` -/
theorem mem_keep_cons {α : Type} {P : α → Prop} {q : α} {b : Bool} {qs l : List α} (hq : P q ↔ b = true)
    (ih : ∀ x, x ∈ l ↔ x ∈ qs ∧ P x) (x : α) : x ∈ (if b then q :: l else l) ↔ x ∈ q :: qs ∧ P x := by
  cases b
  · have hn : ¬ P q := fun h => Bool.noConfusion (hq.mp h)
    simp only [Bool.false_eq_true, if_false, ih, List.mem_cons]
    exact ⟨fun h => ⟨Or.inr h.1, h.2⟩, fun h => ⟨h.1.resolve_left fun e => hn (e ▸ h.2), h.2⟩⟩
  · simp only [if_true, ih, List.mem_cons]
    exact ⟨fun h => h.elim (fun e => ⟨Or.inl e, e ▸ hq.mpr rfl⟩) fun h => ⟨Or.inr h.1, h.2⟩,
      fun h => h.1.imp_right fun h' => ⟨h', h.2⟩⟩

theorem finalFilter_spec (verArg : Str) (out l : List (Nat × Str)) (h : finalFilter verArg out = .ok (some l)) :
    ∀ p, p ∈ l ↔ p ∈ out ∧ verOk verArg p.2 = .ok (some true) := by
  fun_induction finalFilter verArg out generalizing l with
  | case1 => cases h; simp
  | case6 p ps b hq l' hr ih => cases h; exact mem_keep_cons (by rw [hq]; simp) (ih l' hr)
  | _ => cases h

theorem filterVers_spec (verArg : Str) (vs l : List Str) (h : filterVers verArg vs = .ok (some l)) :
    ∀ v, v ∈ l ↔ v ∈ vs ∧ verOk verArg v = .ok (some true) := by
  fun_induction filterVers verArg vs generalizing l with
  | case1 => cases h; simp
  | case6 v vs b hq l' hr ih => cases h; exact mem_keep_cons (by rw [hq]; simp) (ih l' hr)
  | _ => cases h

theorem insertVer_perm (x : Str × Lexed) (l : List (Str × Lexed)) : (insertVer x l).Perm (x :: l) := by
  induction l with
  | nil => simp [insertVer]
  | cons y ys ih =>
    simp only [insertVer]
    split
    · exact List.Perm.refl _
    · exact (List.Perm.cons y ih).trans (List.Perm.swap x y ys)

theorem sortVers_perm (l : List (Str × Lexed)) : (sortVers l).Perm l := by
  induction l with
  | nil => exact List.Perm.refl _
  | cons x xs ih =>
    simp only [sortVers]
    exact (insertVer_perm x (sortVers xs)).trans (List.Perm.cons x ih)

theorem insertVer_sorted (x : Str × Lexed) (l : List (Str × Lexed)) (hx : convLexed x.2 = true)
    (hl : ∀ p ∈ l, convLexed p.2 = true) (hs : l.Pairwise (fun a b => cmpSort a.2 b.2 ≤ 0)) :
    (insertVer x l).Pairwise (fun a b => cmpSort a.2 b.2 ≤ 0) := by
  induction l with
  | nil => simp [insertVer]
  | cons y ys ih =>
    have hy := hl y (by simp)
    have hys : ∀ p ∈ ys, convLexed p.2 = true := fun p hp => hl p (by simp [hp])
    obtain ⟨hyall, hsy⟩ := List.pairwise_cons.mp hs
    simp only [insertVer]
    split
    · rename_i hle
      refine List.pairwise_cons.mpr ⟨?_, hs⟩
      intro z hz
      rcases List.mem_cons.mp hz with rfl | hz
      · exact hle
      · exact good_cmpSort.trans x.2 y.2 z.2 hx hy (hys z hz) hle (hyall z hz)
    · rename_i hgt
      refine List.pairwise_cons.mpr ⟨?_, ih hys hsy⟩
      intro z hz
      rcases List.mem_cons.mp ((insertVer_perm x ys).mem_iff.mp hz) with rfl | hz
      · rw [cmpSort_antisym]; omega
      · exact hyall z hz

theorem sortVers_sorted (l : List (Str × Lexed)) (hl : ∀ p ∈ l, convLexed p.2 = true) :
    (sortVers l).Pairwise (fun a b => cmpSort a.2 b.2 ≤ 0) := by
  induction l with
  | nil => simp [sortVers]
  | cons x xs ih =>
    simp only [sortVers]
    have hxs : ∀ p ∈ xs, convLexed p.2 = true := fun p hp => hl p (by simp [hp])
    exact insertVer_sorted x _ (hl x (by simp)) (fun p hp => hxs p ((sortVers_perm xs).mem_iff.mp hp)) (ih hxs)

/-- the new element goes in front of its equals -/
theorem insertVer_stable (m x : Str × Lexed) (l : List (Str × Lexed)) (hm : convLexed m.2 = true) (hx : convLexed x.2 = true)
    (hl : ∀ p ∈ l, convLexed p.2 = true) :
    (insertVer x l).filter (fun y => cmpSort y.2 m.2 == 0) = (x :: l).filter (fun y => cmpSort y.2 m.2 == 0) := by
  induction l with
  | nil => simp [insertVer]
  | cons y ys ih =>
    have hy := hl y (by simp)
    have hys : ∀ p ∈ ys, convLexed p.2 = true := fun p hp => hl p (by simp [hp])
    simp only [insertVer]
    split
    · rfl
    · rename_i hgt
      have hyx : cmpSort y.2 x.2 < 0 := by rw [cmpSort_antisym]; omega
      rw [List.filter_cons, ih hys]
      by_cases hxm : cmpSort x.2 m.2 = 0
      · -- `y < x ≈ m`: `y` is not in the class
        have hym : cmpSort y.2 m.2 < 0 := good_cmpSort.lt_of_lt_le hy hx hm hyx (by omega)
        have : (cmpSort y.2 m.2 == 0) = false := by simp only [beq_eq_false_iff_ne, ne_eq]; omega
        simp [this, hxm]
      · have : (cmpSort x.2 m.2 == 0) = false := by simpa using hxm
        simp [List.filter_cons, this]

theorem sortVers_stable (m : Str × Lexed) (l : List (Str × Lexed)) (hm : convLexed m.2 = true)
    (hl : ∀ p ∈ l, convLexed p.2 = true) :
    (sortVers l).filter (fun y => cmpSort y.2 m.2 == 0) = l.filter (fun y => cmpSort y.2 m.2 == 0) := by
  induction l with
  | nil => simp [sortVers]
  | cons x xs ih =>
    have hxs : ∀ p ∈ xs, convLexed p.2 = true := fun p hp => hl p (by simp [hp])
    simp only [sortVers]
    rw [insertVer_stable m x _ hm (hl x (by simp)) (fun p hp => hxs p ((sortVers_perm xs).mem_iff.mp hp))]
    simp only [List.filter_cons, ih hxs]

theorem sortVers_getLast (l : List (Str × Lexed)) (hl : ∀ p ∈ l, convLexed p.2 = true) :
    (sortVers l).getLast? = lastMax none l := by
  by_cases hne : l = []
  · subst hne; rfl
  · obtain ⟨m, hm, hmax⟩ := lastMax_isLastMax hne hl
    rw [hm]
    exact hmax.getLast_stableSort_of_goodOn good_cmpP hl (sortVers_perm l) (sortVers_sorted l hl)
      (sortVers_stable m l (hl m hmax.mem) hl)

/-- the version passes the version argument (always, when there is none) -/
def Passes (verArg v : Str) : Prop := verArg = [] ∨ verOk verArg v = .ok (some true)

theorem stackVers_spec {verArg : Str} {st : List Decl} {vers : List Str}
    (h : (if verArg.isEmpty then .ok (some (st.map (·.ver))) else filterVers verArg (st.map (·.ver))) = .ok (some vers)) :
    ∀ v, v ∈ vers ↔ (∃ d ∈ st, d.ver = v) ∧ Passes verArg v := by
  intro v
  cases verArg with
  | nil => cases h; simp [Passes]
  | cons c cs =>
    rw [if_neg (by simp)] at h
    rw [filterVers_spec _ _ _ h v]
    simp [Passes]

theorem taggedAcross_spec (t : Str) (rest : List (List Decl)) : ∀ (i j : Nat) (v : Str),
    taggedAcross t i rest = some (j, v) →
    ∃ k st, j = i + k ∧ rest[k]? = some st ∧ ∃ d ∈ st, d.ver = v ∧ d.tags.contains t = true := by
  intro i j v h
  fun_induction taggedAcross t i rest with
  | case1 => cases h
  | case2 i st rest d hf =>
    cases h
    exact ⟨0, st, rfl, rfl, d, List.mem_of_find?_eq_some hf, rfl, by simpa using List.find?_some hf⟩
  | case3 i st rest _ ih =>
    obtain ⟨k, st2, rfl, hget, hd⟩ := ih h
    exact ⟨k + 1, st2, by omega, hget, hd⟩

/-- `(i, v)`: the stack `i` declares the version `v` -/
def Declared (stacks : List (List Decl)) (p : Nat × Str) : Prop :=
  ∃ st, stacks[p.1]? = some st ∧ ∃ d ∈ st, d.ver = p.2

theorem taggedAcross_declared {t : Str} {stacks : List (List Decl)} {p : Nat × Str} (h : taggedAcross t 0 stacks = some p) :
    Declared stacks p := by
  obtain ⟨k, st, hk, hget, d, hd, hdv, _⟩ := taggedAcross_spec t stacks 0 p.1 p.2 h
  exact ⟨st, by rw [hk, Nat.zero_add]; exact hget, d, hd, hdv⟩

theorem listStack_spec {verArg : Str} {tags : List Str} {all : List (List Decl)} {i : Nat} {st : List Decl}
    {out out' : List (Nat × Str)} (hi : all[i]? = some st) (h : listStack verArg tags all i st out = .ok (some out')) :
    (∀ p ∈ out', p ∈ out ∨ Declared all p) ∧ (∀ p ∈ out, p ∈ out') ∧
    ∀ v, (∃ d ∈ st, d.ver = v) → Passes verArg v →
      (tags = [] ∨ (st.find? (·.ver == v)).any (·.tags.any tags.contains) = true) → (i, v) ∈ out' := by
  revert h
  fun_cases listStack verArg tags all i st out with
  | case5 out1 allPs _ latest vers hvers ps hps sorted latest' body =>
    intro h; cases h
    have hs : ∀ v, v ∈ sorted ↔ (∃ d ∈ st, d.ver = v) ∧ Passes verArg v := fun v => by
      rw [← stackVers_spec hvers v, ← lexPairs_fst hps]; exact ((sortVers_perm ps).map _).mem_iff
    clear_value latest
    have hL : ∀ l, latest' = some l → l ∈ sorted := fun l hl => by
      simp only [latest'] at hl
      split at hl
      · split at hl
        · cases hl; simpa using ‹sorted.contains _ = true›
        · cases hl
      · cases hl
    clear_value latest'
    refine ⟨fun p hp => ?_, fun p hp => by simp [out1, hp], fun v hd hp ht => ?_⟩
    · simp only [List.mem_append, out1, List.mem_filterMap, List.mem_map, body, List.mem_filter] at hp
      rcases hp with ((hp | ⟨t, _, hp⟩) | ⟨v, ⟨hv, _⟩, rfl⟩) | hp
      · exact Or.inl hp
      · exact Or.inr (taggedAcross_declared hp)
      · exact Or.inr ⟨st, hi, ((hs v).mp hv).1⟩
      · cases latest' with
        | none => cases hp
        | some l =>
          obtain rfl := List.mem_singleton.mp hp
          exact Or.inr ⟨st, hi, ((hs l).mp (hL l rfl)).1⟩
    · have hv : v ∈ sorted := (hs v).mpr ⟨hd, hp⟩
      by_cases hl : latest' = some v
      · exact List.mem_append_right _ (by rw [hl]; exact List.mem_singleton_self _)
      · refine List.mem_append_left _ (List.mem_append_right _ (List.mem_map_of_mem (List.mem_filter.mpr ⟨hv, ?_⟩)))
        rcases ht with rfl | ht
        · rfl
        · simp [hl, ht]
  | _ => intro h; cases h

/-- `rest = all.drop i`: the loop stands at the stack `i` of the path -/
theorem listStacks_spec {verArg : Str} {tags : List Str} {all : List (List Decl)} (rest : List (List Decl)) :
    ∀ (i : Nat) (out out' : List (Nat × Str)), rest = all.drop i → listStacks verArg tags all i rest out = .ok (some out') →
    (∀ p ∈ out', p ∈ out ∨ Declared all p) ∧ (∀ p ∈ out, p ∈ out') ∧
    ∀ j st, i ≤ j → all[j]? = some st → ∀ v, (∃ d ∈ st, d.ver = v) → Passes verArg v →
      (tags = [] ∨ (st.find? (·.ver == v)).any (·.tags.any tags.contains) = true) → (j, v) ∈ out' := by
  induction rest with
  | nil =>
    intro i out out' hdrop h
    cases h
    refine ⟨fun p hp => Or.inl hp, fun p hp => hp, fun j st hij hj => ?_⟩
    rw [List.getElem?_eq_none (Nat.le_trans (List.drop_eq_nil_iff.mp hdrop.symm) hij)] at hj; cases hj
  | cons st rest ih =>
    intro i out out' hdrop h
    have hi : all[i]? = some st := by rw [← List.head?_drop, ← hdrop]; rfl
    have hrest : rest = all.drop (i + 1) := by rw [← List.tail_drop, ← hdrop]; rfl
    rw [listStacks] at h
    by_cases hst : st.isEmpty = true
    · rw [if_pos hst] at h
      obtain ⟨s, m, c⟩ := ih (i + 1) out out' hrest h
      refine ⟨s, m, fun j st' hij hj v hd => ?_⟩
      rcases Nat.eq_or_lt_of_le hij with rfl | hlt
      · obtain rfl : st = st' := Option.some.inj (hi.symm.trans hj)
        obtain ⟨d, hd, _⟩ := hd; simp [List.isEmpty_iff.mp hst] at hd
      · exact c j st' hlt hj v hd
    · rw [if_neg hst] at h
      cases h1 : listStack verArg tags all i st out with
      | error e => rw [h1] at h; cases h
      | ok o =>
      cases o with
      | none => rw [h1] at h; cases h
      | some mid =>
      rw [h1] at h
      obtain ⟨s1, m1, c1⟩ := listStack_spec hi h1
      obtain ⟨s, m, c⟩ := ih (i + 1) mid out' hrest h
      refine ⟨fun p hp => (s p hp).elim (s1 p) Or.inr, fun p hp => m p (m1 p hp), fun j st' hij hj v hd hp ht => ?_⟩
      rcases Nat.eq_or_lt_of_le hij with rfl | hlt
      · obtain rfl : st = st' := Option.some.inj (hi.symm.trans hj)
        exact m _ (c1 v hd hp ht)
      · exact c j st' hlt hj v hd hp ht

/-- what the loop over the stacks collects (`out`), and what the filter at the end leaves of it (`out'`) -/
theorem listProducts_out {verArg : Str} {tags : List Str} {stacks : List (List Decl)} {l : List (Nat × Str)}
    (h : listProducts verArg tags stacks = .ok (.products l)) :
    ∃ out out', listStacks verArg tags stacks 0 stacks [] = .ok (some out) ∧ l = uniqVers out' [] ∧
      ∀ p, p ∈ out' ↔ p ∈ out ∧ Passes verArg p.2 := by
  revert h
  fun_cases listProducts verArg tags stacks with
  | case3 out hs he =>
    intro h; cases h
    exact ⟨out, out, hs, rfl, fun p => by simp [Passes, List.isEmpty_iff.mp he]⟩
  | case7 out hs hne _ l' hf =>
    intro h; cases h
    have : verArg ≠ [] := fun e => hne (by rw [e]; rfl)
    exact ⟨out, l', hs, rfl, fun p => by rw [finalFilter_spec _ _ _ hf p]; simp [Passes, this]⟩
  | _ => intro h; cases h

theorem listProducts_spec {verArg : Str} {tags : List Str} {stacks : List (List Decl)} {l : List (Nat × Str)}
    (h : listProducts verArg tags stacks = .ok (.products l)) :
    (l.map Prod.snd).Nodup ∧ (∀ p ∈ l, Declared stacks p ∧ Passes verArg p.2) ∧
    ∀ (j : Nat) st, stacks[j]? = some st → ∀ v, (∃ d ∈ st, d.ver = v) → Passes verArg v →
      (tags = [] ∨ (st.find? (·.ver == v)).any (·.tags.any tags.contains) = true) → v ∈ l.map Prod.snd := by
  obtain ⟨out, out', hs, rfl, hiff⟩ := listProducts_out h
  obtain ⟨sound, _, complete⟩ := listStacks_spec stacks 0 [] out rfl hs
  refine ⟨(uniqVers_nodup out' []).1, fun p hp => ?_, fun j st hj v hd hp ht => ?_⟩
  · obtain ⟨ho, hpass⟩ := (hiff p).mp (mem_uniqVers hp)
    exact ⟨(sound p ho).resolve_left nofun, hpass⟩
  · exact (mem_map_uniqVers out' v).mpr (List.mem_map_of_mem (f := Prod.snd)
      ((hiff (j, v)).mpr ⟨complete j st (Nat.zero_le j) hj v hd hp ht, hp⟩))

theorem selectPreferred_mem (stacks : List (List Decl)) (ms : List (Nat × Str)) (pref : List Str) (p : Nat × Str)
    (h : selectPreferred stacks ms pref = .ok (some p)) : p ∈ ms := by
  fun_induction selectPreferred stacks ms pref with
  | case5 => exact List.mem_of_getElem? (Except.ok.inj h)
  | case6 t ts q _ _ hf => cases h; exact List.mem_of_find?_eq_some hf
  | case4 _ _ _ _ _ ih | case7 _ _ _ _ _ ih => exact ih h
  | _ => cases h

theorem exactLookup_eq (v : Str) (rest : List (List Decl)) (i : Nat) :
    exactLookup v i rest = (rest.findIdx? (·.any (·.ver == v))).map fun k => (i + k, v) := by
  induction rest generalizing i with
  | nil => rfl
  | cons st rest ih =>
    rw [exactLookup, List.findIdx?_cons, ih]
    split
    · rfl
    · simp only [Option.map_map, Function.comp_def, Nat.add_assoc, Nat.add_comm 1]

theorem exactLookup_spec (v : Str) (stacks : List (List Decl)) :
    (∀ j w, exactLookup v 0 stacks = some (j, w) → w = v ∧ ∃ st, stacks[j]? = some st ∧ (∃ d ∈ st, d.ver = v) ∧
        ∀ k st', k < j → stacks[k]? = some st' → ∀ d ∈ st', d.ver ≠ v) ∧
    (exactLookup v 0 stacks = none → ∀ st ∈ stacks, ∀ d ∈ st, d.ver ≠ v) := by
  have hno : ∀ st : List Decl, ¬ st.any (·.ver == v) = true → ∀ d ∈ st, d.ver ≠ v :=
    fun st h d hd e => h (List.any_eq_true.mpr ⟨d, hd, by simp [e]⟩)
  rw [exactLookup_eq]
  constructor
  · intro j w h
    obtain ⟨k, hk, e⟩ := Option.map_eq_some_iff.mp h
    cases e
    obtain ⟨hlt, hany, hfirst⟩ := List.findIdx?_eq_some_iff_getElem.mp hk
    obtain ⟨d, hd, hdv⟩ := List.any_eq_true.mp hany
    refine ⟨rfl, _, by rw [Nat.zero_add]; exact List.getElem?_eq_getElem hlt, ⟨d, hd, by simpa using hdv⟩, ?_⟩
    intro k' st' hk' hget
    rw [Nat.zero_add] at hk'
    obtain ⟨hlt', rfl⟩ := List.getElem?_eq_some_iff.mp hget
    exact hno _ (hfirst k' hk')
  · intro h st hst
    exact hno st (by simpa using List.findIdx?_eq_none_iff.mp (Option.map_eq_none_iff.mp h) st hst)
end EupsModel.VersionCmp
