import EupsModel.Lemmas.VroSelect
/-! Where `selectVRO` puts the tags (`placeTags`, `withPretags` of `Model/Vro.lean`).  Both insert a list at an index
`afterLast` found (`withPretags_eq`, `placeTags_eq_insertAt`), so what holds of every insertion (`insertAt`) holds of them:
membership, and the two position relations.  Where the index is needed — a known split at the last entry of a kind, or the
shape of a dictionary list — it is read off the split (`afterLast_of_split`, `afterLast_some_spec`).  `keepPart` is what `--keep` puts in front, `placed` the outcome for the
default list. -/
namespace EupsModel.Vro

/-! ## `afterLast`: the index it finds and the split at the last entry of a kind -/

theorem afterLast_none_iff {p : Str → Bool} (i : Nat) (l : List Str) :
    afterLast p i l = none ↔ ∀ x ∈ l, p x = false := by
  induction l generalizing i with
  | nil => simp [afterLast]
  | cons x xs ih =>
    rw [List.forall_mem_cons, ← ih (i + 1), afterLast]
    cases afterLast p (i + 1) xs <;> cases p x <;> simp

/-- the last entry of the kind is looked for in the back piece first -/
theorem afterLast_append (p : Str → Bool) (i : Nat) (A B : List Str) :
    afterLast p i (A ++ B) = (afterLast p (i + A.length) B).or (afterLast p i A) := by
  induction A generalizing i with
  | nil => simp [afterLast]
  | cons x A ih =>
    rw [List.cons_append, afterLast, ih, afterLast, List.length_cons, Nat.add_assoc, Nat.add_comm 1]
    cases afterLast p (i + (A.length + 1)) B <;> rfl

theorem afterLast_of_split {p : Str → Bool} (i : Nat) (l1 : List Str) {x : Str} {l2 : List Str} (hx : p x = true)
    (hl2 : ∀ y ∈ l2, p y = false) : afterLast p i (l1 ++ x :: l2) = some (i + l1.length + 1) := by
  rw [afterLast_append, afterLast, (afterLast_none_iff _ l2).mpr hl2, hx]
  rfl

theorem last_split {p : Str → Bool} {l : List Str} (h : ∃ x ∈ l, p x = true) :
    ∃ pre e post, l = pre ++ e :: post ∧ p e = true ∧ ∀ x ∈ post, p x = false := by
  induction l with
  | nil => obtain ⟨x, hx, _⟩ := h; cases hx
  | cons y ys ih =>
    by_cases hys : ∃ x ∈ ys, p x = true
    · obtain ⟨pre, e, post, rfl, he, hpost⟩ := ih hys
      exact ⟨y :: pre, e, post, rfl, he, hpost⟩
    · have hno : ∀ x ∈ ys, p x = false := by
        intro x hx
        cases hv : p x
        · rfl
        · exact absurd ⟨x, hx, hv⟩ hys
      obtain ⟨x, hx, hv⟩ := h
      rcases List.mem_cons.mp hx with rfl | hx
      · exact ⟨[], x, ys, rfl, hv, hno⟩
      · rw [hno x hx] at hv; cases hv

theorem afterLast_some_spec {p : Str → Bool} {i j : Nat} {l : List Str} (h : afterLast p i l = some j) :
    ∃ l1 x l2, l = l1 ++ x :: l2 ∧ j = i + l1.length + 1 ∧ p x = true ∧ ∀ y ∈ l2, p y = false := by
  have hex : ∃ x ∈ l, p x = true := by
    cases hany : l.any p
    · rw [(afterLast_none_iff i l).mpr (by simpa using hany)] at h; cases h
    · simpa using hany
  obtain ⟨l1, x, l2, rfl, hx, hl2⟩ := last_split hex
  rw [afterLast_of_split i l1 hx hl2] at h
  exact ⟨l1, x, l2, rfl, (Option.some.inj h).symm, hx, hl2⟩

/-! ## `insertAt` -/

theorem insertAt_length (X Y Z : List Str) : insertAt (X ++ Y) X.length Z = X ++ Z ++ Y := by
  simp [insertAt]

/-- insertion right behind an entry `x`, the index `afterLast` gives (`afterLast_of_split`) -/
theorem insertAt_after (l1 : List Str) (x : Str) (l2 Z : List Str) :
    insertAt (l1 ++ x :: l2) (l1.length + 1) Z = l1 ++ x :: Z ++ l2 := by
  simpa using insertAt_length (l1 ++ [x]) l2 Z

theorem insertAt_nil (l : List Str) (i : Nat) : insertAt l i [] = l := by
  simp [insertAt]

theorem mem_insertAt {x : Str} {l Z : List Str} {i : Nat} : x ∈ insertAt l i Z ↔ x ∈ l ∨ x ∈ Z := by
  rw [insertAt, List.mem_append, List.mem_append, or_right_comm, ← List.mem_append, List.take_append_drop]

theorem BeforeP.insertAt {P : Str → Prop} {t : Str} {l : List Str} (h : BeforeP P t l) (i : Nat) {Z : List Str}
    (hZ : ∀ x ∈ Z, P x) : BeforeP P t (insertAt l i Z) := by
  obtain ⟨pre, post, rfl, hpre⟩ := h
  unfold Vro.insertAt
  by_cases hi : i ≤ pre.length
  · refine ⟨pre.take i ++ Z ++ pre.drop i, post, ?_, ?_⟩
    · rw [List.take_append_of_le_length hi, List.drop_append_of_le_length hi]; simp
    · intro x hx
      simp only [List.mem_append] at hx
      rcases hx with (hx | hx) | hx
      · exact hpre x (List.mem_of_mem_take hx)
      · exact hZ x hx
      · exact hpre x (List.mem_of_mem_drop hx)
  · obtain ⟨k, rfl⟩ : ∃ k, i = (pre ++ [t]).length + k := ⟨i - (pre.length + 1), by simp; omega⟩
    refine ⟨pre, post.take k ++ Z ++ post.drop k, ?_, hpre⟩
    have e : pre ++ t :: post = (pre ++ [t]) ++ post := by simp
    rw [e, List.take_length_add_append, List.drop_length_add_append]
    simp

theorem NoVTBehind.insertAt {y : Str} {l : List Str} (h : NoVTBehind y l) (i : Nat) {Z : List Str} (hyZ : y ∉ Z)
    (hZ : ∀ z ∈ Z, isVT z = false) : NoVTBehind y (insertAt l i Z) := by
  refine h.of_filter ?_
  have : (Z.filter fun e => e == y || isVT e) = [] :=
    List.filter_eq_nil_iff.mpr fun z hz => by simp [hZ z hz, show z ≠ y from fun e => hyZ (e ▸ hz)]
  rw [Vro.insertAt, List.filter_append, List.filter_append, this, List.append_nil, ← List.filter_append,
    List.take_append_drop]
  exact List.filter_sublist

/-! ## the -t tags -/

/-- no -t tag is a case of the insertion too, so no proof below splits on it -/
theorem withPretags_eq (v1 tags : List Str) :
    withPretags v1 tags = insertAt v1 ((afterLast (fun v => v == kCommandLine || isType v) 0 v1).getD 0) tags := by
  cases tags with
  | nil => exact (insertAt_nil v1 _).symm
  | cons t ts => rfl

theorem mem_withPretags {x : Str} {v1 tags : List Str} : x ∈ withPretags v1 tags ↔ x ∈ v1 ∨ x ∈ tags := by
  rw [withPretags_eq, mem_insertAt]

theorem NoVTBehind.withPretags {y : Str} {v1 tags : List Str} (h : NoVTBehind y v1) (hy : y ∉ tags)
    (ht : ∀ z ∈ tags, isVT z = false) : NoVTBehind y (withPretags v1 tags) := by
  rw [withPretags_eq]
  exact h.insertAt _ hy ht

theorem withPretags_split (l1 : List Str) {x : Str} {l2 : List Str} (tags : List Str)
    (hx : (x == kCommandLine || isType x) = true) (hl2 : ∀ y ∈ l2, (y == kCommandLine || isType y) = false) :
    withPretags (l1 ++ x :: l2) tags = l1 ++ x :: tags ++ l2 := by
  rw [withPretags_eq, afterLast_of_split (p := fun v => v == kCommandLine || isType v) 0 l1 hx hl2, Option.getD_some,
    Nat.zero_add, insertAt_after]

theorem withPretags_shape (A T tags : List Str)
    (hT : ∀ x ∈ T, (x == kCommandLine || isType x) = false) :
    ∃ A1 A2, A = A1 ++ A2 ∧ withPretags (A ++ T) tags = A1 ++ tags ++ (A2 ++ T) := by
  rw [withPretags_eq, afterLast_append, (afterLast_none_iff _ T).mpr hT, Option.none_or]
  cases h : afterLast (fun v => v == kCommandLine || isType v) 0 A with
  | none =>
    refine ⟨[], A, by simp, ?_⟩
    simp [insertAt]
  | some j =>
    obtain ⟨l1, x, l2, rfl, rfl, _, _⟩ := afterLast_some_spec h
    refine ⟨l1 ++ [x], l2, by simp, ?_⟩
    rw [Option.getD_some, Nat.zero_add, List.append_assoc, List.cons_append, insertAt_after]
    simp

theorem beforeP_withPretags {P : Str → Prop} {A T tags : List Str} {t : Str} (hA : ∀ x ∈ A, P x) (ht : ∀ x ∈ tags, P x)
    (hT : ∀ x ∈ T, (x == kCommandLine || isType x) = false) (htm : t ∈ tags) :
    BeforeP P t (withPretags (A ++ T) tags) := by
  obtain ⟨A1, A2, hA12, hw⟩ := withPretags_shape A T tags hT
  obtain ⟨ta, tb, htab⟩ := List.append_of_mem htm
  refine ⟨A1 ++ ta, tb ++ (A2 ++ T), by rw [hw, htab]; simp, fun x hx => ?_⟩
  rcases List.mem_append.mp hx with h | h
  · exact hA x (hA12 ▸ List.mem_append_left A2 h)
  · exact ht x (by rw [htab]; simp [h])

/-! ## `placeTags` -/

def keepPart (keep : Bool) : List Str := if keep then [kKeep] else []

theorem eq_keep_of_mem_keepPart {keep : Bool} {x : Str} (h : x ∈ keepPart keep) : x = kKeep := by
  cases keep
  · cases h
  · exact List.mem_singleton.mp h

theorem keep_cons (keep : Bool) (base : List Str) :
    (if keep then kKeep :: base else base) = keepPart keep ++ base := by
  cases keep <;> rfl

theorem placeTags_eq_insertAt {keep : Bool} {base tags post v3 : List Str} (h : placeTags keep base tags post = .ok v3) :
    ∃ i, v3 = insertAt (withPretags (keepPart keep ++ base) tags) i post := by
  unfold placeTags at h
  simp only [keep_cons] at h
  cases post with
  | nil => exact ⟨0, by simpa [insertAt_nil] using h.symm⟩
  | cons p ps =>
    rw [List.isEmpty_cons, if_neg Bool.false_ne_true] at h
    split at h
    · exact ⟨_, (Except.ok.inj h).symm⟩
    · exact ⟨_, (Except.ok.inj h).symm⟩
    · cases h

theorem mem_placeTags {keep : Bool} {base tags post v3 : List Str} (h : placeTags keep base tags post = .ok v3) {x : Str} :
    x ∈ v3 ↔ (x ∈ keepPart keep ++ base ∨ x ∈ tags) ∨ x ∈ post := by
  obtain ⟨i, rfl⟩ := placeTags_eq_insertAt h
  rw [mem_insertAt, mem_withPretags]

theorem kindly_placeTags {c : VroCfg} {base tags post v3 : List Str} (h : placeTags c.keep base tags post = .ok v3)
    (hb : ∀ x ∈ base, kindlyOne c x = .ok true) (ht : ∀ t ∈ tags, GoodTag c t) (hp : ∀ t ∈ post, GoodTag c t) :
    ∀ x ∈ v3, kindlyOne c x = .ok true := by
  intro x hx
  rcases (mem_placeTags h).mp hx with (hx | hx) | hx
  · rcases List.mem_append.mp hx with hx | hx
    · rw [eq_keep_of_mem_keepPart hx]; exact fixed_kindly (by simp [fixedWords])
    · exact hb x hx
  · exact (ht x hx).kindly
  · exact (hp x hx).kindly

theorem placeTags_split (keep : Bool) {base tags post m1 m2 : List Str} {e : Str}
    (hw : withPretags (keepPart keep ++ base) tags = m1 ++ e :: m2) (he : isVT e = true)
    (hm2 : ∀ y ∈ m2, isVT y = false) :
    placeTags keep base tags post = .ok (m1 ++ e :: post ++ m2) := by
  unfold placeTags
  simp only [keep_cons, hw, afterLast_of_split 0 m1 he hm2, Nat.zero_add, insertAt_after]
  cases post <;> simp

theorem placeTags_of_vt (keep : Bool) {base : List Str} (tags post : List Str) (hvt : ∃ x ∈ base, isVT x = true) :
    ∃ l1 e l2, withPretags (keepPart keep ++ base) tags = l1 ++ e :: l2 ∧ isVT e = true ∧ (∀ x ∈ l2, isVT x = false) ∧
      placeTags keep base tags post = .ok (l1 ++ e :: post ++ l2) := by
  obtain ⟨x, hx, hv⟩ := hvt
  obtain ⟨l1, e, l2, hw, he, hl2⟩ := last_split (p := isVT) (l := withPretags (keepPart keep ++ base) tags)
    ⟨x, mem_withPretags.mpr (.inl (List.mem_append_right _ hx)), hv⟩
  exact ⟨l1, e, l2, hw, he, hl2, placeTags_split keep hw he hl2⟩

/-- `placeTags` fails (`UnboundLocalError`) only when the -T tags have no place to go: no -t tag, no version-type entry -/
theorem placeTags_ok (keep : Bool) {base tags post : List Str}
    (hpost : post = [] ∨ tags ≠ [] ∨ ∃ x ∈ base, isVT x = true) : ∃ v3, placeTags keep base tags post = .ok v3 := by
  rcases hpost with rfl | ht | hvt
  · exact ⟨_, by unfold placeTags; rfl⟩
  · unfold placeTags
    simp only [keep_cons]
    have : pretagPos (keepPart keep ++ base) tags ≠ none := by simp [pretagPos, ht]
    split
    · exact ⟨_, rfl⟩
    · split
      · exact ⟨_, rfl⟩
      · exact ⟨_, rfl⟩
      · next h => exact absurd h this
  · obtain ⟨_, _, _, _, _, _, h⟩ := placeTags_of_vt keep tags post hvt
    exact ⟨_, h⟩

theorem placeTags_head (keep : Bool) (K M tags post : List Str)
    (hM : ∀ x ∈ M, (x == kCommandLine || isType x) = false) :
    placeTags keep (K ++ [kTypeExact, kCommandLine] ++ M ++ [kVersion, kVersionExpr, kCurrent]) tags post
      = .ok (keepPart keep ++ K ++ [kTypeExact, kCommandLine] ++ tags ++ M ++ [kVersion, kVersionExpr] ++ post
              ++ [kCurrent]) := by
  -- the last `commandLine` / `type:*` entry is the `commandLine` shown, the last version-type entry `versionExpr`
  have hR : ∀ y ∈ M ++ [kVersion, kVersionExpr, kCurrent], (y == kCommandLine || isType y) = false := by
    intro y hy
    rcases List.mem_append.mp hy with h | h
    · exact hM y h
    · simp only [List.mem_cons, List.not_mem_nil, or_false] at h
      rcases h with rfl | rfl | rfl <;> decide
  have hw := withPretags_split (keepPart keep ++ K ++ [kTypeExact]) (x := kCommandLine) tags (by decide) hR
  rw [placeTags_split keep (m1 := keepPart keep ++ K ++ [kTypeExact, kCommandLine] ++ tags ++ M ++ [kVersion])
    (e := kVersionExpr) (m2 := [kCurrent]) ?_ (by decide) (by decide)]
  · simp
  · simpa using hw

/-- the VRO right after the tags have been placed in the default list (`defaultBase`) -/
def placed (keep : Bool) (tags postTags : List Str) : List Str :=
  keepPart keep ++ [kTypeExact, kCommandLine] ++ tags ++ [kVersion, kVersionExpr] ++ postTags ++ [kCurrent]

theorem placeTags_default (keep : Bool) (tags postTags : List Str) :
    placeTags keep defaultBase tags postTags = .ok (placed keep tags postTags) := by
  have := placeTags_head keep [] [] tags postTags (by simp)
  simpa [placed, defaultBase] using this

end EupsModel.Vro
