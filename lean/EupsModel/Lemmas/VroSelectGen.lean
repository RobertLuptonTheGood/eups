import EupsModel.Lemmas.VroPlace
/-! `selectVRO` on any VRO dictionary: where the -t and -T tags end up.  The -t theorem needs a shape hypothesis on the list
`chooseBase` selects (`ShapedBaseW`; `ShapedBase` for a list without `warn` entries), the -T theorem only that
`_kindlySetPreferredTags` accepts its entries.  The default dictionary is an instance.  In front of them `selectVRO_eq`: what
`selectVRO` returns once `chooseBase`, `placeTags` and `kindly` have answered (`cmdOf`: the command-line tags in force), the
step every closed form (`Lemmas/VroDefault`) starts from. -/
namespace EupsModel.Vro

/-! ## configurations -/

structure GenCfg (c : VroCfg) : Prop where
  /-- no `Eups(vro=...)` -/
  user : c.userVRO = false
  /-- `Tags.registerTag` refuses a name that is already registered in another group -/
  disjoint : ∀ t, c.globalTags.contains t = true → pseudoTags.contains t = false

/-- the `commandLineTagNames` in force -/
def cmdOf (c : VroCfg) (a : VroArgs) : List Str := if a.tags.isEmpty then c.cmdTags else a.tags

theorem cmdOf_eq (c : VroCfg) {a : VroArgs} (h : a.tags = [] → c.cmdTags = []) : cmdOf c a = a.tags := by
  unfold cmdOf
  split
  · next he => rw [List.isEmpty_iff.mp he]; exact h (List.isEmpty_iff.mp he)
  · rfl

/-! ## the shape hypothesis -/

/-- shape of a dictionary list for which the placement clauses hold; `warn` / `warn:N` entries allowed -/
structure ShapedBaseW (c : VroCfg) (base : List Str) : Prop where
  /-- every entry is accepted by `_kindlySetPreferredTags` -/
  kindly : ∀ x ∈ base, kindlyOne c x = .ok true
  /-- no version-type entry stands before the last `commandLine` / `type:*` entry -/
  split : ∃ H T, base = H ++ T ∧ (∀ x ∈ H, isVT x = false) ∧
    (∀ x ∈ T, (x == kCommandLine || isType x) = false)

theorem selectVRO_eq (c : VroCfg) (a : VroArgs) (hu : c.userVRO = false) {base : List Str}
    {store : List Str → List (Str × VroVal)} (hcb : chooseBase c a a.tags = .ok (base, store))
    {v3 : List Str} (hpl : placeTags c.keep base a.tags a.postTags = .ok v3)
    {R : List Str} (hk : kindly c (cleanVro c (cmdOf c a) a.inexact v3) = .ok R) :
    selectVRO c a = .ok { vro := R, exact := c.exact || R.contains kTypeExact, cmdTags := cmdOf c a, dict' := store v3 } := by
  unfold cmdOf at hk
  unfold selectVRO cmdOf
  simp only [hu, Bool.false_and, Bool.false_eq_true, if_false, hcb, hpl, hk]

theorem selectVRO_of_placed (c : VroCfg) (a : VroArgs) (hu : c.userVRO = false) (base : List Str)
    (store : List Str → List (Str × VroVal)) (hcb : chooseBase c a a.tags = .ok (base, store))
    (v3 : List Str) (hpl : placeTags c.keep base a.tags a.postTags = .ok v3)
    (hk : ∀ x ∈ v3, kindlyOne c x = .ok true) :
    ∃ out, selectVRO c a = .ok out ∧
      out.vro = if (cleanVro c (cmdOf c a) a.inexact v3).isEmpty then c.prevPreferred
                else cleanVro c (cmdOf c a) a.inexact v3 :=
  ⟨_, selectVRO_eq c a hu hcb hpl (kindly_all_ok c _ (kindly_cleanVro hu (cmdOf c a) a.inexact hk)), rfl⟩

/-! ## the two placement theorems, warnings allowed -/

theorem selectVRO_pretag (c : VroCfg) (a : VroArgs) (hu : c.userVRO = false) (base : List Str)
    (store : List Str → List (Str × VroVal))
    (hcb : chooseBase c a a.tags = .ok (base, store)) (hs : ShapedBaseW c base)
    (ht : ∀ t ∈ a.tags, GoodTag c t) (hp : ∀ t ∈ a.postTags, GoodTag c t)
    (hpost : a.postTags = [] ∨ a.tags ≠ [] ∨ ∃ x ∈ base, isVT x = true) :
    ∃ out, selectVRO c a = .ok out ∧
      ∀ t ∈ a.tags, ∃ pre post, out.vro = pre ++ t :: post ∧ ∀ x ∈ pre, isVT x = false := by
  obtain ⟨v3, hpl⟩ := placeTags_ok c.keep hpost
  obtain ⟨out, hsel, hvro⟩ := selectVRO_of_placed c a hu base store hcb _ hpl (kindly_placeTags hpl hs.kindly ht hp)
  refine ⟨out, hsel, ?_⟩
  intro t htm
  rw [cmdOf_eq c fun h => absurd h (List.ne_nil_of_mem htm)] at hvro
  have hm : movedByExact c a.tags t = false := by
    rw [(ht t htm).moved]; simp [htm]
  -- the -t tags go into `keep ++ H`, and `H` holds no version-type entry
  obtain ⟨H, T, rfl, hH, hT⟩ := hs.split
  obtain ⟨i, rfl⟩ := placeTags_eq_insertAt hpl
  have hb2 : BeforeP (fun x => isVT x = false) t (withPretags (keepPart c.keep ++ H ++ T) a.tags) :=
    beforeP_withPretags (fun x hx => by
      rcases List.mem_append.mp hx with h | h
      · rw [eq_keep_of_mem_keepPart h]; decide
      · exact hH x h) (fun x hx => (ht x hx).isVT) hT htm
  rw [List.append_assoc] at hb2
  obtain ⟨pre, post, h1, h2⟩ := (hb2.insertAt i fun x hx => (hp x hx).isVT).cleanVro hu a.tags a.inexact
    (fun x hx => isVT_of_isWarn hx) (ht t htm).isWarn hm (ht t htm).ne_typeExact
  refine ⟨pre, post, ?_, h2⟩
  rw [hvro, h1]
  simp

/-- the -T theorem needs nothing of the shape of the dictionary's list but that its entries are accepted -/
theorem selectVRO_posttag (c : VroCfg) (a : VroArgs) (g : GenCfg c) (base : List Str)
    (store : List Str → List (Str × VroVal))
    (hcb : chooseBase c a a.tags = .ok (base, store)) (hk : ∀ x ∈ base, kindlyOne c x = .ok true)
    (ht : ∀ t ∈ a.tags, GoodTag c t) (hp : ∀ t ∈ a.postTags, GoodTag c t)
    (hvt : ∃ x ∈ base, isVT x = true) :
    ∃ out, selectVRO c a = .ok out ∧ (∀ x ∈ base, isVT x = true → x ∈ out.vro) ∧
      ∀ y ∈ a.postTags, y ∉ a.tags → NoVTBehind y base →
        y ∈ out.vro ∧ ∀ pre post, out.vro = pre ++ y :: post → ∀ x ∈ post, isVT x = false := by
  obtain ⟨l1, e, l2, hw, he, hl2, hpl⟩ := placeTags_of_vt c.keep a.tags a.postTags hvt
  obtain ⟨out, hsel, hvro⟩ := selectVRO_of_placed c a g.user base store hcb _ hpl (kindly_placeTags hpl hk ht hp)
  have hsurv : ∀ x ∈ base, isVT x = true → x ∈ cleanVro c (cmdOf c a) a.inexact (l1 ++ e :: a.postTags ++ l2) := by
    intro x hx hv
    exact (mem_cleanVro_iff g.user _ a.inexact (isWarn_of_isVT hv)).mpr
      ⟨(mem_placeTags hpl).mpr (.inl (.inl (List.mem_append_right _ hx))), fun _ => ne_of_isVT hv (by decide)⟩
  have hne : (cleanVro c (cmdOf c a) a.inexact (l1 ++ e :: a.postTags ++ l2)).isEmpty = false := by
    obtain ⟨x, hx, hv⟩ := hvt
    exact List.isEmpty_eq_false_iff.mpr (List.ne_nil_of_mem (hsurv x hx hv))
  rw [hne] at hvro
  simp only [Bool.false_eq_true, if_false] at hvro
  refine ⟨out, hsel, ?_⟩
  rw [hvro]
  refine ⟨hsurv, ?_⟩
  intro y hy hyt hyb
  have gy := hp y hy
  have hnv2 : NoVTBehind y (l1 ++ e :: l2) := by
    rw [← hw]
    refine NoVTBehind.withPretags (fun pre post hsplit x hx => ?_) hyt (fun z hz => (ht z hz).isVT)
    have hyk : y ∉ keepPart c.keep := fun h => gy.ne_pseudo (k := kKeep) (by decide) (eq_keep_of_mem_keepPart h)
    obtain ⟨R, _, hb⟩ := suffix_of_not_mem hsplit hyk
    exact hyb R post hb x hx
  have hnv3 : NoVTBehind y (l1 ++ e :: a.postTags ++ l2) := by
    have e1 : l1 ++ e :: a.postTags ++ l2 = (l1 ++ [e]) ++ (a.postTags ++ l2) := by simp
    rw [e1]
    refine NoVTBehind.of_not_mem (hnv2.not_mem_of_vt he gy.isVT) (fun x hx => ?_)
    rcases List.mem_append.mp hx with h | h
    · exact (hp x h).isVT
    · exact hl2 x h
  exact ⟨(mem_cleanVro_iff g.user _ a.inexact gy.isWarn).mpr ⟨(mem_placeTags hpl).mpr (.inr hy), fun _ => gy.ne_typeExact⟩,
    hnv3.cleanVro g.user _ a.inexact gy.isWarn fun x hx => vt_not_moved g.disjoint _ hx⟩

/-! ## lists without `warn` entries -/

/-- `ShapedBaseW` for a list without `warn` / `warn:N` entries.  The placement theorems ask for `ShapedBaseW` (`toW`) or for
`kindly` alone; `noWarn` is what tells the two apart. -/
structure ShapedBase (c : VroCfg) (base : List Str) : Prop where
  noWarn : NoWarn base
  kindly : ∀ x ∈ base, kindlyOne c x = .ok true
  split : ∃ H T, base = H ++ T ∧ (∀ x ∈ H, isVT x = false) ∧
    (∀ x ∈ T, (x == kCommandLine || isType x) = false)

theorem ShapedBase.toW {c : VroCfg} {base : List Str} (h : ShapedBase c base) : ShapedBaseW c base :=
  ⟨h.kindly, h.split⟩

example (c : VroCfg) (a : VroArgs) (hu : c.userVRO = false) (base : List Str)
    (store : List Str → List (Str × VroVal))
    (hcb : chooseBase c a a.tags = .ok (base, store)) (hs : ShapedBase c base)
    (ht : ∀ t ∈ a.tags, GoodTag c t) (hp : ∀ t ∈ a.postTags, GoodTag c t)
    (hpost : a.postTags = [] ∨ a.tags ≠ [] ∨ ∃ x ∈ base, isVT x = true) :
    ∃ out, selectVRO c a = .ok out ∧
      ∀ t ∈ a.tags, ∃ pre post, out.vro = pre ++ t :: post ∧ ∀ x ∈ pre, isVT x = false :=
  selectVRO_pretag c a hu base store hcb hs.toW ht hp hpost

example (c : VroCfg) (a : VroArgs) (g : GenCfg c) (base : List Str)
    (store : List Str → List (Str × VroVal))
    (hcb : chooseBase c a a.tags = .ok (base, store)) (hs : ShapedBase c base)
    (ht : ∀ t ∈ a.tags, GoodTag c t) (hp : ∀ t ∈ a.postTags, GoodTag c t)
    (hvt : ∃ x ∈ base, isVT x = true) :
    ∃ out, selectVRO c a = .ok out ∧ (∀ x ∈ base, isVT x = true → x ∈ out.vro) ∧
      ∀ y ∈ a.postTags, y ∉ a.tags → NoVTBehind y base →
        y ∈ out.vro ∧ ∀ pre post, out.vro = pre ++ y :: post → ∀ x ∈ post, isVT x = false :=
  selectVRO_posttag c a g base store hcb hs.kindly ht hp hvt

theorem selectVRO_shaped_posttag (c : VroCfg) (a : VroArgs) (g : GenCfg c) (base : List Str)
    (store : List Str → List (Str × VroVal))
    (hcb : chooseBase c a a.tags = .ok (base, store)) (hs : ShapedBase c base)
    (ht : ∀ t ∈ a.tags, GoodTag c t) (hp : ∀ t ∈ a.postTags, GoodTag c t)
    (hvt : ∃ x ∈ base, isVT x = true) :
    ∃ out, selectVRO c a = .ok out ∧
      ∀ y ∈ a.postTags, y ∉ a.tags → y ∉ base →
        y ∈ out.vro ∧ ∀ pre post, out.vro = pre ++ y :: post → ∀ x ∈ post, isVT x = false := by
  obtain ⟨out, hsel, _, h⟩ := selectVRO_posttag c a g base store hcb hs.kindly ht hp hvt
  refine ⟨out, hsel, ?_⟩
  intro y hy hyt hyb
  apply h y hy hyt
  intro pre post hsplit
  exact absurd (by rw [hsplit]; simp) hyb

/-! ## the default dictionary is an instance -/

theorem genCfg_of_default {c : VroCfg} (d : DefaultCfg c) : GenCfg c := ⟨d.user, d.disjoint⟩

theorem shapedBase_default {c : VroCfg} (d : DefaultCfg c) : ShapedBase c defaultBase := by
  refine ⟨by decide, ?_, ⟨[kTypeExact, kCommandLine], [kVersion, kVersionExpr, kCurrent], rfl, by decide, by decide⟩⟩
  exact kindly_fixed_append (F := [kTypeExact, kCommandLine, kVersion, kVersionExpr]) (by decide)
    fun x hx => List.mem_singleton.mp hx ▸ goodTag_current d

theorem noVTBehind_defaultBase {c : VroCfg} {y : Str} (gy : GoodTag c y) : NoVTBehind y defaultBase := by
  refine NoVTBehind.of_not_mem (X := [kTypeExact, kCommandLine, kVersion, kVersionExpr]) (Z := [kCurrent]) ?_ (by decide)
  simp only [List.mem_cons, List.not_mem_nil, or_false, not_or]
  exact ⟨gy.ne_typeExact, gy.ne_pseudo (by decide), gy.ne_pseudo (by decide), gy.ne_pseudo (by decide)⟩

/-- the default-dictionary -t theorem (the placement clause of `C03_pretag_before_version`) -/
theorem selectVRO_default_pretag_of_shaped (c : VroCfg) (a : VroArgs) (d : DefaultCfg c)
    (ht : ∀ t ∈ a.tags, GoodTag c t) (hp : ∀ t ∈ a.postTags, GoodTag c t) :
    ∃ out, selectVRO c a = .ok out ∧
      ∀ t ∈ a.tags, ∃ pre post, out.vro = pre ++ t :: post ∧ ∀ x ∈ pre, isVT x = false := by
  obtain ⟨store, hcb⟩ := chooseBase_default d a (tags := a.tags) (fun t htm => (ht t htm).notDefault)
  exact selectVRO_pretag c a d.user defaultBase store hcb (shapedBase_default d).toW ht hp
    (Or.inr (Or.inr ⟨kVersion, by decide, by decide⟩))

/-- the default-dictionary -T theorem (`C03_posttag_after_version`) -/
theorem selectVRO_default_posttag_of_shaped (c : VroCfg) (a : VroArgs) (d : DefaultCfg c)
    (ht : ∀ t ∈ a.tags, GoodTag c t) (hp : ∀ t ∈ a.postTags, GoodTag c t) :
    ∃ out, selectVRO c a = .ok out ∧ kVersion ∈ out.vro ∧ kVersionExpr ∈ out.vro ∧
      ∀ y ∈ a.postTags, y ∉ a.tags →
        y ∈ out.vro ∧ ∀ pre post, out.vro = pre ++ y :: post → ∀ x ∈ post, isVT x = false := by
  obtain ⟨store, hcb⟩ := chooseBase_default d a (tags := a.tags) (fun t htm => (ht t htm).notDefault)
  obtain ⟨out, hsel, hv, h⟩ := selectVRO_posttag c a (genCfg_of_default d) defaultBase store hcb
    (shapedBase_default d).kindly ht hp ⟨kVersion, by decide, by decide⟩
  exact ⟨out, hsel, hv kVersion (by decide) (by decide), hv kVersionExpr (by decide) (by decide),
    fun y hy hyt => h y hy hyt (noVTBehind_defaultBase (hp y hy))⟩

/-! ## non-vacuity: dictionaries other than the default one

The names in `g…` are this section's example vocabulary (`g` for "any dictionary"); `Lemmas/VroCmd` builds its example
configuration from `gCfg`, `gArgs`, `gBeta`, `gStable` too. -/

def gBeta : Str := [98, 101, 116, 97]  -- 'beta'
def gStable : Str := [115, 116, 97, 98, 108, 101]  -- 'stable'
def gRc : Str := [114, 99]  -- 'rc'
def gDbz : Str := [100, 98, 49]  -- 'db1'
def gFileX : Str := [102, 105, 108, 101, 58, 120]  -- 'file:x'
def gGlobals : List Str := [kCurrent, gStable, gBeta, gRc]

def gCfg (dict : List (Str × VroVal)) (keep exact : Bool) (globals cmd : List Str) : VroCfg :=
  { vroDict := dict, userVRO := false, keep := keep, exact := exact, globalTags := globals,
    cmdTags := cmd, prevPreferred := [] }
/-- `setup -t tags -T postTags [-z dbz] product version` -/
def gArgs (tags postTags : List Str) (dbz : Option Str) : VroArgs :=
  { tags := tags, productDir := false, versionName := true, dbz := dbz, inexact := false, postTags := postTags }

theorem gGenCfg (dict : List (Str × VroVal)) (keep exact : Bool) (cmd : List Str) :
    GenCfg (gCfg dict keep exact gGlobals cmd) := ⟨rfl, disjoint_of_forall (globals := gGlobals) (by decide)⟩

theorem gGoodTag (dict : List (Str × VroVal)) (keep exact : Bool) (cmd : List Str) {l : List Str}
    (h : ∀ t ∈ l, t ∈ [gStable, gBeta, gRc]) : ∀ t ∈ l, GoodTag (gCfg dict keep exact gGlobals cmd) t := by
  intro t ht
  have := h t ht
  simp only [List.mem_cons, List.not_mem_nil, or_false] at this
  rcases this with rfl | rfl | rfl
  · exact ⟨(by decide : gGlobals.contains gStable = true), by decide, by decide, by decide⟩
  · exact ⟨(by decide : gGlobals.contains gBeta = true), by decide, by decide, by decide⟩
  · exact ⟨(by decide : gGlobals.contains gRc = true), by decide, by decide, by decide⟩

/-- (1) a flat dictionary `default: commandLine beta version versionExpr current latest` -/
def gBase1 : List Str := [kCommandLine, gBeta, kVersion, kVersionExpr, kCurrent, kLatest]
def gCfg1 (keep exact : Bool) : VroCfg := gCfg [(kDefault, .flat gBase1)] keep exact gGlobals []

theorem gShaped1 (keep exact : Bool) : ShapedBase (gCfg1 keep exact) gBase1 :=
  ⟨by decide, by cases keep <;> cases exact <;> decide,
    ⟨[kCommandLine, gBeta], [kVersion, kVersionExpr, kCurrent, kLatest], rfl, by decide, by decide⟩⟩

/-- the hypotheses of both theorems hold for `setup --keep -t rc -T stable p 1.0` on dictionary (1) ... -/
example : ∃ out, selectVRO (gCfg1 true false) (gArgs [gRc] [gStable] none) = .ok out ∧
    (∀ t ∈ [gRc], ∃ pre post, out.vro = pre ++ t :: post ∧ ∀ x ∈ pre, isVT x = false) ∧
    (∀ y ∈ [gStable], y ∉ [gRc] → y ∉ gBase1 →
      y ∈ out.vro ∧ ∀ pre post, out.vro = pre ++ y :: post → ∀ x ∈ post, isVT x = false) := by
  have ht : ∀ t ∈ (gArgs [gRc] [gStable] none).tags, GoodTag (gCfg1 true false) t :=
    gGoodTag _ _ _ _ (by decide)
  have hp : ∀ t ∈ (gArgs [gRc] [gStable] none).postTags, GoodTag (gCfg1 true false) t :=
    gGoodTag _ _ _ _ (by decide)
  obtain ⟨o1, h1, p1⟩ := selectVRO_pretag (gCfg1 true false) _ rfl gBase1 _ rfl (gShaped1 true false).toW
    ht hp (Or.inr (Or.inl (by decide)))
  obtain ⟨o2, h2, p2⟩ := selectVRO_shaped_posttag (gCfg1 true false) _ (gGenCfg _ true false []) gBase1 _ rfl
    (gShaped1 true false)
    ht hp ⟨kVersion, by decide, by decide⟩
  rw [h1] at h2
  cases h2
  exact ⟨o1, h1, p1, p2⟩

example : (selectVRO (gCfg1 true false) (gArgs [gRc] [gStable] none)).map (·.vro)
    = .ok [kKeep, kCommandLine, gRc, gBeta, kVersion, kVersionExpr, gStable, kCurrent, kLatest] := by decide +kernel
example : (selectVRO (gCfg1 false true) (gArgs [gRc] [gStable] none)).map (·.vro)
    = .ok [kCommandLine, gRc, kVersion, kVersionExpr, kWarn1, gBeta, gStable, kCurrent, kLatest] := by decide +kernel

/-- (2) a dictionary keyed by database: `default: {db1: type:exact version beta, default: versionExpr current}` -/
def gDict2 : List (Str × VroVal) :=
  [(kDefault, .byDbz [(gDbz, [kTypeExact, kVersion, gBeta]), (kDefault, [kVersionExpr, kCurrent])])]
def gCfg2 (keep exact : Bool) (cmd : List Str) : VroCfg := gCfg gDict2 keep exact gGlobals cmd

theorem gShaped2 (keep exact : Bool) (cmd : List Str) :
    ShapedBase (gCfg2 keep exact cmd) [kTypeExact, kVersion, gBeta] :=
  ⟨by decide,
   kindly_fixed_append (F := [kTypeExact, kVersion]) (by decide) (gGoodTag gDict2 keep exact cmd (l := [gBeta]) (by decide)),
   ⟨[kTypeExact], [kVersion, gBeta], rfl, by decide, by decide⟩⟩

example : ∃ store, chooseBase (gCfg2 false false []) (gArgs [gRc] [gStable] (some gDbz)) [gRc]
    = .ok ([kTypeExact, kVersion, gBeta], store) := ⟨_, rfl⟩
example : (selectVRO (gCfg2 false false []) (gArgs [gRc] [gStable] (some gDbz))).map (·.vro)
    = .ok [kTypeExact, gRc, kVersion, gStable, gBeta] := by decide +kernel

/-- without `-z`, with a version: `commandLine` is put in front of the `default` list; the instance
already has `stable` among its command-line tags, `--exact`: `stable` (given with -T) is *kept* in
place by `makeVroExact` and `current` is moved -/
theorem gShaped2' (keep exact : Bool) (cmd : List Str) :
    ShapedBase (gCfg2 keep exact cmd) [kCommandLine, kVersionExpr, kCurrent] :=
  ⟨by decide,
   kindly_fixed_append (F := [kCommandLine, kVersionExpr]) (by decide) fun x hx =>
    List.mem_singleton.mp hx ▸ ⟨(by decide : gGlobals.contains kCurrent = true), by decide, by decide, by decide⟩,
   ⟨[kCommandLine], [kVersionExpr, kCurrent], rfl, by decide, by decide⟩⟩

example : ∃ out, selectVRO (gCfg2 true true [gStable]) (gArgs [] [gStable] none) = .ok out ∧
    (∀ y ∈ [gStable], y ∉ ([] : List Str) → y ∉ [kCommandLine, kVersionExpr, kCurrent] →
      y ∈ out.vro ∧ ∀ pre post, out.vro = pre ++ y :: post → ∀ x ∈ post, isVT x = false) :=
  selectVRO_shaped_posttag _ _ (gGenCfg _ true true [gStable]) [kCommandLine, kVersionExpr, kCurrent] _ rfl
    (gShaped2' true true [gStable]) (fun t h => by cases h)
    (gGoodTag _ _ _ _ (by decide))
    ⟨kVersionExpr, by decide, by decide⟩
example : (selectVRO (gCfg2 true true [gStable]) (gArgs [] [gStable] none)).map (·.vro)
    = .ok [kKeep, kCommandLine, kVersionExpr, gStable, kCurrent] := by decide +kernel

/-! ## negation witnesses: what fails without the hypotheses -/

theorem not_before_of_unique {l X Y : List Str} {t v : Str} (hl : l = X ++ t :: Y) (hX : t ∉ X) (hY : t ∉ Y)
    (hv : v ∈ X) (hvt : isVT v = true) :
    ¬ ∃ pre post, l = pre ++ t :: post ∧ ∀ x ∈ pre, isVT x = false := by
  rintro ⟨pre, post, h, hpre⟩
  have : pre = X := unique_split (hl.symm.trans h) hX hY
  rw [this] at hpre
  rw [hpre v hv] at hvt; cases hvt

theorem vro_of_map {r : Except Err VroOut} {l : List Str} {out : VroOut} (h : r.map (·.vro) = .ok l)
    (ho : r = .ok out) : out.vro = l := by
  subst ho
  simpa [Except.map] using h

/-- (W1) `ShapedBase.split` is needed for the -t theorem: on `default: version commandLine current`
every other hypothesis holds, `selectVRO` succeeds, and `-t beta` ends up *behind* `version`. -/
def w1Base : List Str := [kVersion, kCommandLine, kCurrent]
def w1Cfg : VroCfg := gCfg [(kDefault, .flat w1Base)] false false gGlobals []
def w1Args : VroArgs := gArgs [gBeta] [] none

/-- the other hypotheses of `selectVRO_pretag` -/
example : GenCfg w1Cfg ∧ NoWarn w1Base ∧ (∀ x ∈ w1Base, kindlyOne w1Cfg x = .ok true) ∧
    (∃ store, chooseBase w1Cfg w1Args w1Args.tags = .ok (w1Base, store)) ∧
    (∀ t ∈ w1Args.tags, GoodTag w1Cfg t) ∧ (∀ t ∈ w1Args.postTags, GoodTag w1Cfg t) ∧
    (w1Args.postTags = [] ∨ w1Args.tags ≠ [] ∨ ∃ x ∈ w1Base, isVT x = true) :=
  ⟨gGenCfg _ _ _ _, by decide, by decide, ⟨_, rfl⟩, gGoodTag _ _ _ _ (by decide), (fun t h => by cases h), Or.inl rfl⟩

theorem W1_split_needed :
    (selectVRO w1Cfg w1Args).map (·.vro) = .ok [kVersion, kCommandLine, gBeta, kCurrent] ∧
    -- the shape fails ...
    (¬ ∃ H T, w1Base = H ++ T ∧ (∀ x ∈ H, isVT x = false) ∧
        (∀ x ∈ T, (x == kCommandLine || isType x) = false)) ∧
    -- ... and so does the conclusion
    ¬ ∃ out, selectVRO w1Cfg w1Args = .ok out ∧
        ∀ t ∈ w1Args.tags, ∃ pre post, out.vro = pre ++ t :: post ∧ ∀ x ∈ pre, isVT x = false := by
  have hres : (selectVRO w1Cfg w1Args).map (·.vro) = .ok [kVersion, kCommandLine, gBeta, kCurrent] := by decide +kernel
  refine ⟨hres, ?_, ?_⟩
  · rintro ⟨H, T, hb, hH, hT⟩
    cases H with
    | nil =>
      simp only [List.nil_append] at hb
      have := hT kCommandLine (by rw [← hb]; decide)
      revert this; decide
    | cons h H' =>
      have hh : h = kVersion := by
        simp only [w1Base, List.cons_append, List.cons.injEq] at hb
        exact hb.1.symm
      have := hH h (by simp)
      rw [hh] at this; revert this; decide
  · rintro ⟨out, hsel, hall⟩
    have hv := vro_of_map hres hsel
    exact not_before_of_unique (X := [kVersion, kCommandLine]) (Y := [kCurrent]) (v := kVersion)
      hv (by decide) (by decide) (by decide) (by decide) (hall gBeta (by decide))

/-- (W2) the hypothesis on `y` (`y ∉ base`, or `NoVTBehind y base`) is needed for the -T theorem: on
`default: commandLine stable version versionExpr current` (a shaped list) `-T stable` leaves `stable`
where it already stood, in front of `version`. -/
def w2Base : List Str := [kCommandLine, gStable, kVersion, kVersionExpr, kCurrent]
def w2Cfg : VroCfg := gCfg [(kDefault, .flat w2Base)] false false gGlobals []
def w2Args : VroArgs := gArgs [] [gStable] none

/-- the other hypotheses of `selectVRO_shaped_posttag` -/
example : GenCfg w2Cfg ∧ (∃ store, chooseBase w2Cfg w2Args w2Args.tags = .ok (w2Base, store)) ∧
    (∀ t ∈ w2Args.tags, GoodTag w2Cfg t) ∧ (∀ t ∈ w2Args.postTags, GoodTag w2Cfg t) ∧
    ∃ x ∈ w2Base, isVT x = true :=
  ⟨gGenCfg _ _ _ _, ⟨_, rfl⟩, (fun t h => by cases h), gGoodTag _ _ _ _ (by decide), kVersion, by decide, by decide⟩

theorem W2_posttag_in_base :
    ShapedBase w2Cfg w2Base ∧
    (selectVRO w2Cfg w2Args).map (·.vro) = .ok [kCommandLine, gStable, kVersion, kVersionExpr, kCurrent] ∧
    ¬ ∃ out, selectVRO w2Cfg w2Args = .ok out ∧
        ∀ y ∈ w2Args.postTags, y ∉ w2Args.tags →
          y ∈ out.vro ∧ ∀ pre post, out.vro = pre ++ y :: post → ∀ x ∈ post, isVT x = false := by
  have hres : (selectVRO w2Cfg w2Args).map (·.vro)
      = .ok [kCommandLine, gStable, kVersion, kVersionExpr, kCurrent] := by decide +kernel
  refine ⟨⟨by decide, by decide,
    ⟨[kCommandLine, gStable], [kVersion, kVersionExpr, kCurrent], rfl, by decide, by decide⟩⟩, hres, ?_⟩
  rintro ⟨out, hsel, hall⟩
  have hv := vro_of_map hres hsel
  have := (hall gStable (by decide) (by decide)).2 [kCommandLine] [kVersion, kVersionExpr, kCurrent]
    (by rw [hv]; rfl) kVersion (by decide)
  revert this; decide

/-- (W3) `hpost` is needed: -T without -t on a list without version-type entries: `where` is unbound -/
example : (selectVRO (gCfg [(kDefault, .flat [kCommandLine, kCurrent])] false false gGlobals [])
    (gArgs [] [gStable] none)).map (·.vro) = .error .unboundLocal := by decide +kernel

/-- (W4) `ShapedBase.kindly` is needed: an entry `file:x` makes `_kindlySetPreferredTags` fail
(outside the model: `Err.unsupported`) -/
example : (selectVRO (gCfg [(kDefault, .flat [kCommandLine, gFileX, kVersion, kCurrent])] false false gGlobals [])
    (gArgs [gBeta] [] none)).map (·.vro) = .error .unsupported := by decide +kernel

/-- (W5) `GenCfg.disjoint` is needed for the -T theorem: were `version` registered as a global tag,
`--exact` would move it to the end, behind a -T tag that is one of the instance's command-line tags -/
example : (selectVRO (gCfg [(kDefault, .flat [kCommandLine, kVersion, kCurrent])] false true (kVersion :: gGlobals) [gStable])
    (gArgs [] [gStable] none)).map (·.vro) = .ok [kCommandLine, gStable, kWarn1, kVersion, kCurrent] := by decide +kernel

/-- (W6) `GenCfg.user` is needed: with `Eups(vro=...)` a -t tag is refused -/
example : (selectVRO { gCfg1 false false with userVRO := true } (gArgs [gBeta] [] none)).map (·.vro)
    = .error .runtimeError := by decide +kernel

/-! ## non-vacuity: dictionaries with warnings -/

def kWarn2 : Str := kWarnColon ++ [50]  -- 'warn:2'
def kWarn3 : Str := kWarnColon ++ [51]  -- 'warn:3'

/-- (3) a site dictionary with warnings:
`default: commandLine warn:2 warn version warn:3 warn:1 versionExpr current current latest` -/
def wBase : List Str :=
  [kCommandLine, kWarn2, kWarn, kVersion, kWarn3, kWarn1, kVersionExpr, kCurrent, kCurrent, kLatest]
def wCfg (keep exact : Bool) : VroCfg := gCfg [(kDefault, .flat wBase)] keep exact gGlobals []

/-- it is not a `ShapedBase` ... -/
example (keep exact : Bool) : ¬ ShapedBase (wCfg keep exact) wBase := by
  intro h
  have := h.noWarn kWarn2 (by decide)
  revert this; decide

/-- ... but it is a `ShapedBaseW` (the bare `warn` is accepted by `kindlyOne`: `warn` is a pseudo tag) -/
theorem wShaped (keep exact : Bool) : ShapedBaseW (wCfg keep exact) wBase :=
  ⟨by cases keep <;> cases exact <;> decide,
    ⟨[kCommandLine, kWarn2, kWarn], [kVersion, kWarn3, kWarn1, kVersionExpr, kCurrent, kCurrent, kLatest],
      rfl, by decide, by decide⟩⟩

/-- `setup -t beta -T stable p 1.0` on dictionary (3): both theorems apply ... -/
example (keep exact : Bool) : ∃ out, selectVRO (wCfg keep exact) (gArgs [gBeta] [gStable] none) = .ok out ∧
    (∀ t ∈ [gBeta], ∃ pre post, out.vro = pre ++ t :: post ∧ ∀ x ∈ pre, isVT x = false) ∧
    (∀ x ∈ wBase, isVT x = true → x ∈ out.vro) ∧
    (∀ y ∈ [gStable], y ∈ out.vro ∧ ∀ pre post, out.vro = pre ++ y :: post → ∀ x ∈ post, isVT x = false) := by
  have ht : ∀ t ∈ (gArgs [gBeta] [gStable] none).tags, GoodTag (wCfg keep exact) t :=
    gGoodTag _ _ _ _ (by decide)
  have hp : ∀ t ∈ (gArgs [gBeta] [gStable] none).postTags, GoodTag (wCfg keep exact) t :=
    gGoodTag _ _ _ _ (by decide)
  obtain ⟨o1, h1, p1⟩ := selectVRO_pretag _ _ rfl wBase _ rfl (wShaped keep exact)
    ht hp (Or.inr (Or.inl (by decide)))
  obtain ⟨o2, h2, p2, p3⟩ := selectVRO_posttag (wCfg keep exact) _ (gGenCfg _ keep exact []) wBase _ rfl (wShaped keep exact).kindly
    ht hp ⟨kVersion, by decide, by decide⟩
  rw [h1] at h2
  cases h2
  refine ⟨o1, h1, p1, p2, fun y hy => p3 y hy ?_ ?_⟩
  · simp only [List.mem_singleton] at hy; subst hy; decide
  · intro pre post hsplit
    simp only [List.mem_singleton] at hy; subst hy
    exact absurd (by rw [hsplit]; simp) (by decide : gStable ∉ wBase)

/-- `warn:2 warn` merged into `warn:1`, `warn:3 warn:1` into `warn:1`, the second `current` dropped -/
example : (selectVRO (wCfg false false) (gArgs [gBeta] [gStable] none)).map (·.vro)
    = .ok [kCommandLine, gBeta, kWarn1, kVersion, kWarn1, kVersionExpr, gStable, kCurrent, kLatest] := by decide +kernel
example : (selectVRO (wCfg true true) (gArgs [gBeta] [gStable] none)).map (·.vro)
    = .ok [kKeep, kCommandLine, gBeta, kWarn1, kVersion, kWarn1, kVersionExpr, gStable, kCurrent, kLatest] := by decide +kernel

/-- (4) `default: commandLine warn:2 version warn:3 warn:1 versionExpr current current latest`: a level other
than 1 survives the merge -/
def wBase2 : List Str :=
  [kCommandLine, kWarn2, kVersion, kWarn3, kWarn1, kVersionExpr, kCurrent, kCurrent, kLatest]
def wCfg2 (keep exact : Bool) : VroCfg := gCfg [(kDefault, .flat wBase2)] keep exact gGlobals []

theorem wShaped2 (keep exact : Bool) : ShapedBaseW (wCfg2 keep exact) wBase2 :=
  ⟨by cases keep <;> cases exact <;> decide,
    ⟨[kCommandLine, kWarn2], [kVersion, kWarn3, kWarn1, kVersionExpr, kCurrent, kCurrent, kLatest],
      rfl, by decide, by decide⟩⟩

example : (selectVRO (wCfg2 false false) (gArgs [gBeta] [gStable] none)).map (·.vro)
    = .ok [kCommandLine, gBeta, kWarn2, kVersion, kWarn1, kVersionExpr, gStable, kCurrent, kLatest] := by decide +kernel

end EupsModel.Vro
