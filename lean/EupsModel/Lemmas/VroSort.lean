import EupsModel.Model.VroSort
import EupsModel.Lemmas.VroLookup
import EupsModel.Model.VroC10
import EupsModel.Lemmas.VersionLatest
/-! `lastMax` (the fold of `Model/Vro.lean`) is the last element of Python's stable sort
(`Model/VroSort.lean`) for every comparison that is a total preorder on the names involved: the fold finds the last maximum
(`Order.IsLastMax`), a stable sort puts it last.  C10's comparator is such a preorder on conventional names (`good_cmpN`),
the driver's `simpleCmp` on all names (its component comparison is `Str.cmp`: `VersionCmp.good_str`). -/
namespace EupsModel.Vro

/-- `GoodOrdOn` plus sign antisymmetry in the other direction (`GoodOrdOn` alone allows
`cmp a b < 0 ∧ cmp b a < 0`): the strict test `cmp a b < 0` is then exactly `¬ b ≤ a`. -/
structure TotalOrdOn (P : Str → Prop) (cmp : Str → Str → Int) : Prop extends GoodOrdOn P cmp where
  anti : ∀ a b, P a → P b → cmp a b ≤ 0 → 0 ≤ cmp b a

theorem TotalOrdOn.of_goodOn {P : Str → Prop} {cmp : Str → Str → Int} (g : Order.GoodOn P cmp) : TotalOrdOn P cmp :=
  ⟨⟨fun a ha => Int.le_of_eq (g.refl a ha), g.flip, g.trans⟩, g.anti⟩

theorem TotalOrdOn.lt_of_lt_of_le {P : Str → Prop} {cmp : Str → Str → Int} (t : TotalOrdOn P cmp)
    {a b c : Str} (ha : P a) (hb : P b) (hc : P c) (h1 : cmp a b < 0) (h2 : cmp b c ≤ 0) : cmp a c < 0 := by
  have h3 : cmp a c ≤ 0 := t.trans a b c ha hb hc (by omega) h2
  by_cases h0 : 0 ≤ cmp a c
  · have h4 : cmp c a ≤ 0 := t.flip a c ha hc h0
    have h5 : cmp b a ≤ 0 := t.trans b c a hb hc ha h2 h4
    have h6 : 0 ≤ cmp a b := t.anti b a hb ha h5
    omega
  · omega

theorem snoc_induction {α : Type} {motive : List α → Prop} (nil : motive [])
    (snoc : ∀ l x, motive l → motive (l ++ [x])) (l : List α) : motive l := by
  suffices h : ∀ l : List α, motive l.reverse by simpa using h l.reverse
  intro l
  induction l with
  | nil => simpa using nil
  | cons x l ih => simpa using snoc _ x ih

/-! ## the sort -/

theorem stableSort_nil (cmp : Str → Str → Int) : stableSort cmp [] = [] := rfl

theorem stableSort_snoc (cmp : Str → Str → Int) (l : List Str) (x : Str) :
    stableSort cmp (l ++ [x]) = insertStable cmp x (stableSort cmp l) := by
  simp [stableSort, List.foldl_append]

theorem insertStable_perm (cmp : Str → Str → Int) (x : Str) (l : List Str) :
    (insertStable cmp x l).Perm (x :: l) := by
  induction l with
  | nil => simp [insertStable]
  | cons y ys ih =>
    simp only [insertStable]
    split
    · exact List.Perm.refl _
    · exact ((List.Perm.cons y ih).trans (List.Perm.swap x y ys))

theorem mem_insertStable {cmp : Str → Str → Int} {x z : Str} {l : List Str} :
    z ∈ insertStable cmp x l ↔ z = x ∨ z ∈ l := by
  rw [(insertStable_perm cmp x l).mem_iff, List.mem_cons]

theorem stableSort_perm (cmp : Str → Str → Int) (l : List Str) : (stableSort cmp l).Perm l := by
  induction l using snoc_induction with
  | nil => exact List.Perm.refl _
  | snoc l x ih =>
    rw [stableSort_snoc]
    exact (insertStable_perm cmp x _).trans ((List.Perm.cons x ih).trans (List.perm_append_singleton x l).symm)

theorem mem_stableSort {cmp : Str → Str → Int} {z : Str} {l : List Str} : z ∈ stableSort cmp l ↔ z ∈ l :=
  (stableSort_perm cmp l).mem_iff

theorem insertStable_sorted {P : Str → Prop} {cmp : Str → Str → Int} (g : GoodOrdOn P cmp) {x : Str} {l : List Str}
    (hx : P x) (hl : ∀ y ∈ l, P y) (hs : List.Pairwise (fun a b => cmp a b ≤ 0) l) :
    List.Pairwise (fun a b => cmp a b ≤ 0) (insertStable cmp x l) := by
  induction l with
  | nil => simp [insertStable]
  | cons y ys ih =>
    have hy : P y := hl y (by simp)
    have hys : ∀ z ∈ ys, P z := fun z hz => hl z (List.mem_cons_of_mem _ hz)
    obtain ⟨h1, h2⟩ := List.pairwise_cons.mp hs
    simp only [insertStable]
    split
    · rename_i hlt
      refine List.pairwise_cons.mpr ⟨?_, hs⟩
      intro z hz
      rcases List.mem_cons.mp hz with rfl | hz
      · omega
      · exact g.trans _ _ _ hx hy (hys z hz) (by omega) (h1 z hz)
    · rename_i hlt
      refine List.pairwise_cons.mpr ⟨?_, ih hys h2⟩
      intro z hz
      rcases mem_insertStable.mp hz with rfl | hz
      · exact g.flip _ _ hx hy (by omega)
      · exact h1 z hz

/-- the result is sorted (needs only `GoodOrdOn`; without `anti` "sorted" says little) -/
theorem stableSort_sorted {P : Str → Prop} {cmp : Str → Str → Int} (g : GoodOrdOn P cmp) {l : List Str}
    (hl : ∀ x ∈ l, P x) : List.Pairwise (fun a b => cmp a b ≤ 0) (stableSort cmp l) := by
  induction l using snoc_induction with
  | nil => simp [stableSort_nil]
  | snoc l x ih =>
    rw [stableSort_snoc]
    refine insertStable_sorted g (hl x (by simp)) ?_ (ih fun y hy => hl y (by simp [hy]))
    intro y hy
    exact hl y (by simp [mem_stableSort.mp hy])

/-! ## stability -/

/-- `x` is in the equivalence class of `a`: `a ≤ x ∧ x ≤ a` -/
def eqvB (cmp : Str → Str → Int) (a x : Str) : Bool := decide (cmp a x ≤ 0 ∧ cmp x a ≤ 0)

/-- seen through a filter that drops everything `x` is strictly smaller than, `x` is appended -/
theorem insertStable_filter {P : Str → Prop} {cmp : Str → Str → Int} (t : TotalOrdOn P cmp) (p : Str → Bool)
    {x : Str} {l : List Str} (hx : P x) (hl : ∀ y ∈ l, P y) (hs : List.Pairwise (fun a b => cmp a b ≤ 0) l)
    (hp : p x = true → ∀ z, P z → cmp x z < 0 → p z = false) :
    (insertStable cmp x l).filter p = (l ++ [x]).filter p := by
  induction l with
  | nil => rfl
  | cons y ys ih =>
    have hy : P y := hl y (by simp)
    have hys : ∀ z ∈ ys, P z := fun z hz => hl z (List.mem_cons_of_mem _ hz)
    obtain ⟨h1, h2⟩ := List.pairwise_cons.mp hs
    simp only [insertStable]
    split
    · rename_i hlt
      cases hpx : p x with
      | false => simp [List.filter_cons, hpx]
      | true =>
        have hnil : (y :: ys).filter p = [] := by
          rw [List.filter_eq_nil_iff]
          intro z hz
          have hz' : cmp x z < 0 := by
            rcases List.mem_cons.mp hz with rfl | hz
            · exact hlt
            · exact t.lt_of_lt_of_le hx hy (hys z hz) hlt (h1 z hz)
          simp [hp hpx z (hl z hz) hz']
        rw [List.filter_cons, List.filter_append, hnil]
        simp [hpx]
    · simp only [List.cons_append, List.filter_cons, ih hys h2]

/-- equal elements keep their input order: the members of every equivalence class appear in the sorted list in the order
they had in the input -/
theorem stableSort_stable {P : Str → Prop} {cmp : Str → Str → Int} (t : TotalOrdOn P cmp) {l : List Str}
    (hl : ∀ x ∈ l, P x) (a : Str) (ha : P a) :
    (stableSort cmp l).filter (eqvB cmp a) = l.filter (eqvB cmp a) := by
  induction l using snoc_induction with
  | nil => rfl
  | snoc l x ih =>
    have hl' : ∀ y ∈ l, P y := fun y hy => hl y (by simp [hy])
    have hx : P x := hl x (by simp)
    rw [stableSort_snoc, insertStable_filter t (eqvB cmp a) hx (fun y hy => hl' y (mem_stableSort.mp hy))
      (stableSort_sorted t.toGoodOrdOn hl'), List.filter_append, List.filter_append, ih hl']
    intro hpx z hz hlt
    simp only [eqvB, decide_eq_true_eq, decide_eq_false_iff_not] at hpx ⊢
    rintro ⟨h1, h2⟩
    have h3 : cmp z x ≤ 0 := t.trans z a x hz ha hx h2 hpx.1
    have := t.anti z x hz hx h3
    omega

/-! ## the fold -/

theorem lastMax_eq_sortLast {P : Str → Prop} {cmp : Str → Str → Int} (t : TotalOrdOn P cmp) {l : List Str}
    (hl : ∀ x ∈ l, P x) : lastMax cmp l = sortLast cmp l := by
  cases h : lastMax cmp l with
  | none => rw [(lastMax_eq_none_iff ..).mp h]; rfl
  | some m =>
    have hm := lastMax_isLastMax t.toGoodOrdOn hl h
    exact (hm.getLast_stableSort t.refl t.anti hl (eqvB cmp m) (fun y _ => by simp [eqvB, and_comm])
      (stableSort_perm cmp l) (stableSort_sorted t.toGoodOrdOn hl) (stableSort_stable t hl m (hl m hm.mem))).symm

/-! ## the real comparator -/

section
open EupsModel.VersionCmp EupsModel.Order

theorem c10Cmp_eq_cmpN {a b : Str} (ha : ConvName a) (hb : ConvName b) : c10Cmp a b = cmpN a b := by
  simp [c10Cmp, stdCompare_cmpN (.of_conv ha) (.of_conv hb)]

theorem c10Cmp_goodOn : GoodOn ConvName c10Cmp := good_congr good_cmpN fun _ _ => c10Cmp_eq_cmpN

theorem c10Cmp_total : TotalOrdOn ConvName c10Cmp := .of_goodOn c10Cmp_goodOn

theorem c10Cmp_good : GoodOrdOn ConvName c10Cmp := c10Cmp_total.toGoodOrdOn

theorem lastMax_c10_eq_sortLast {l : List Str} (hl : ∀ x ∈ l, convName x = true) :
    lastMax c10Cmp l = sortLast c10Cmp l :=
  lastMax_eq_sortLast c10Cmp_total hl

end

/-! ## the hypotheses are needed -/

/-- everything is `≤` everything, but `"3"` is *also* strictly below `"1"`: `GoodOrdOn` without `anti` -/
def badCmp (a b : Str) : Int := if Str.toNat a = 3 ∧ Str.toNat b = 1 then -1 else 0

theorem badCmp_le (a b : Str) : badCmp a b ≤ 0 := by
  unfold badCmp; split <;> omega

theorem badCmp_good : GoodOrd badCmp where
  refl a _ := badCmp_le a a
  flip a b _ _ _ := badCmp_le b a
  trans a _ c _ _ _ _ _ := badCmp_le a c

/-- `anti` fails: `"1" ≤ "3"` and yet `"3" < "1"` -/
theorem badCmp_not_total : ¬ TotalOrdOn (fun _ => True) badCmp := fun t =>
  absurd (t.anti [49] [51] trivial trivial (by decide)) (by decide)

/-- `GoodOrdOn` alone is not enough: on `["1","2","3"]` the fold answers `"3"`, the sort `"2"` -/
theorem badCmp_lastMax_ne_sortLast : lastMax badCmp [[49], [50], [51]] ≠ sortLast badCmp [[49], [50], [51]] := by
  decide +kernel

example : lastMax badCmp [[49], [50], [51]] = some [51] ∧ sortLast badCmp [[49], [50], [51]] = some [50] := by
  decide +kernel

/-- rock-paper-scissors on the value mod 3: reflexive, antisymmetric both ways, not transitive -/
def rpsCmp (a b : Str) : Int :=
  if Str.toNat a % 3 = Str.toNat b % 3 then 0
  else if (Str.toNat b % 3 + 3 - Str.toNat a % 3) % 3 = 1 then -1 else 1

theorem rpsCmp_refl (a : Str) : rpsCmp a a ≤ 0 := by simp [rpsCmp]

theorem rpsCmp_neg (a b : Str) : rpsCmp b a = - rpsCmp a b := by
  have hx : Str.toNat a % 3 < 3 := Nat.mod_lt _ (by decide)
  have hy : Str.toNat b % 3 < 3 := Nat.mod_lt _ (by decide)
  unfold rpsCmp
  generalize Str.toNat a % 3 = x at hx ⊢
  generalize Str.toNat b % 3 = y at hy ⊢
  have h1 : x = 0 ∨ x = 1 ∨ x = 2 := by omega
  have h2 : y = 0 ∨ y = 1 ∨ y = 2 := by omega
  rcases h1 with rfl | rfl | rfl <;> rcases h2 with rfl | rfl | rfl <;> rfl

theorem rpsCmp_flip (a b : Str) (h : 0 ≤ rpsCmp a b) : rpsCmp b a ≤ 0 := by
  rw [rpsCmp_neg]; omega

theorem rpsCmp_anti (a b : Str) (h : rpsCmp a b ≤ 0) : 0 ≤ rpsCmp b a := by
  rw [rpsCmp_neg]; omega

/-- transitivity is needed too: on `["0","1","2"]` the fold answers `"2"`, the sort `"1"` -/
theorem rpsCmp_lastMax_ne_sortLast : lastMax rpsCmp [[48], [49], [50]] ≠ sortLast rpsCmp [[48], [49], [50]] := by
  decide +kernel

example : lastMax rpsCmp [[48], [49], [50]] = some [50] ∧ sortLast rpsCmp [[48], [49], [50]] = some [49] := by
  decide +kernel

/-! ## the driver's local order satisfies the order hypotheses -/

theorem cmpComps_eq_strCmp (a b : List Nat) : cmpComps a b = Str.cmp a b := by
  induction a generalizing b with
  | nil => cases b <;> rfl
  | cons x xs ih =>
    cases b with
    | nil => rfl
    | cons y ys => simp only [cmpComps, Str.cmp, ih]

theorem cmpComps_range (a b : List Nat) : cmpComps a b = -1 ∨ cmpComps a b = 0 ∨ cmpComps a b = 1 := by
  induction a generalizing b with
  | nil => cases b <;> simp [cmpComps]
  | cons x xs ih =>
    cases b with
    | nil => simp [cmpComps]
    | cons y ys =>
      simp only [cmpComps]
      split
      · simp
      · split
        · simp
        · exact ih ys

theorem simpleCmp_goodOn : Order.GoodOn (fun _ : Str => True) simpleCmp :=
  Order.good_congr (Order.good_pullback VersionCmp.good_str fun a => (splitDots [] a).map Str.toNat)
    fun _ _ _ _ => cmpComps_eq_strCmp _ _

theorem simpleCmp_good : GoodOrd simpleCmp := (TotalOrdOn.of_goodOn simpleCmp_goodOn).toGoodOrdOn

/-! ## sanity checks: `simpleCmp` ties `1.0` and `1.00`; both sides return the LAST-listed of the two -/

-- ["1.0", "1.00", "0.9"]
example : stableSort simpleCmp [[49, 46, 48], [49, 46, 48, 48], [48, 46, 57]]
    = [[48, 46, 57], [49, 46, 48], [49, 46, 48, 48]] := by decide +kernel
example : lastMax simpleCmp [[49, 46, 48], [49, 46, 48, 48], [48, 46, 57]] = some [49, 46, 48, 48]
    ∧ sortLast simpleCmp [[49, 46, 48], [49, 46, 48, 48], [48, 46, 57]] = some [49, 46, 48, 48] := by decide +kernel
-- ["1.00", "1.0", "0.9"]
example : lastMax simpleCmp [[49, 46, 48, 48], [49, 46, 48], [48, 46, 57]] = some [49, 46, 48]
    ∧ sortLast simpleCmp [[49, 46, 48, 48], [49, 46, 48], [48, 46, 57]] = some [49, 46, 48] := by decide +kernel
-- ["1.0", "0.9", "1.00", "0.10"]: 0.9 < 0.10 < 1.0 = 1.00, the tied pair in input order
example : stableSort simpleCmp [[49, 46, 48], [48, 46, 57], [49, 46, 48, 48], [48, 46, 49, 48]]
    = [[48, 46, 57], [48, 46, 49, 48], [49, 46, 48], [49, 46, 48, 48]] := by decide +kernel

end EupsModel.Vro
