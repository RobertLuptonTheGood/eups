import EupsModel.Model.DbFile
import EupsModel.Lemmas.Agree
import EupsModel.Lemmas.Cache
/-! Lemmas about the file level (`Model/DbFile.lean`): the blocks of the record files as a set of
(key, block) entries, what `upd` does to it, well-formedness of a file database and its preservation, and the
simulation: read through `abs`, what `applyF` does to any well-formed files is the `Database` call of the effect
(`applyF_dbCall`), so files that read as the database of a world still do after any command (`stepF_refines`); and the
reads: `Database.findProduct` on the files is `findDecl` on what they read as (`findProduct_eq`). -/
namespace EupsModel.DbFile
open EupsModel.Db EupsModel.Cache

section generic
variable {κ ρ : Type}

/-- one file per key, one block per flavor in a file, no file without a block -/
structure WFK (fl : ρ → Flav) (fs : List (KFile κ ρ)) : Prop where
  key : ∀ x ∈ fs, ∀ y ∈ fs, x.key = y.key → x = y
  flav : ∀ x ∈ fs, ∀ r ∈ x.recs, ∀ q ∈ x.recs, fl r = fl q → r = q
  ne : ∀ x ∈ fs, x.recs ≠ []

/-- `(k, r)`: the file with key `k` holds block `r` -/
def Entry (fs : List (KFile κ ρ)) (k : κ) (r : ρ) : Prop := ∃ x ∈ fs, x.key = k ∧ r ∈ x.recs

theorem mem_setRec (fl : ρ → Flav) (recs : List ρ) (r0 r : ρ) :
    r ∈ setRec fl recs r0 ↔ r = r0 ∨ (r ∈ recs ∧ fl r ≠ fl r0) := by
  unfold setRec
  split
  · rename_i hany
    simp only [List.any_eq_true, decide_eq_true_eq] at hany
    obtain ⟨x0, hx0, hfx0⟩ := hany
    simp only [List.mem_map]
    constructor
    · rintro ⟨x, hx, rfl⟩
      split
      · exact Or.inl rfl
      · rename_i hne; exact Or.inr ⟨hx, hne⟩
    · rintro (rfl | ⟨hr, hne⟩)
      · exact ⟨x0, hx0, by simp [hfx0]⟩
      · exact ⟨r, hr, by simp [hne]⟩
  · rename_i hany
    simp only [List.any_eq_true, decide_eq_true_eq, not_exists, not_and] at hany
    simp only [List.mem_append, List.mem_singleton]
    constructor
    · rintro (h | h)
      · exact Or.inr ⟨h, hany r h⟩
      · exact Or.inl h
    · rintro (h | ⟨h, _⟩)
      · exact Or.inr h
      · exact Or.inl h

/-- rewrite the blocks of the files whose key is selected, then drop the files left without a block: what `upd`
does to one file and the loop of `Database.undeclare` to the chain files of a product -/
def mapRecs (sel : κ → Prop) [DecidablePred sel] (g : List ρ → List ρ) (fs : List (KFile κ ρ)) : List (KFile κ ρ) :=
  (fs.map fun x => if sel x.key then { x with recs := g x.recs } else x).filter fun x => !x.recs.isEmpty

theorem entry_mapRecs (sel : κ → Prop) [DecidablePred sel] (g : List ρ → List ρ) (fs : List (KFile κ ρ)) (k : κ) (r : ρ) :
    Entry (mapRecs sel g fs) k r ↔ ∃ x ∈ fs, x.key = k ∧ r ∈ (if sel k then g x.recs else x.recs) := by
  have hne : ∀ {l : List ρ}, r ∈ l → (!l.isEmpty) = true := fun {l} h => by
    cases l with
    | nil => cases h
    | cons _ _ => rfl
  unfold mapRecs Entry
  simp only [List.mem_filter, List.mem_map]
  constructor
  · rintro ⟨y, ⟨⟨x, hx, rfl⟩, -⟩, hk, hr⟩
    by_cases hs : sel x.key
    · rw [if_pos hs] at hk hr; exact ⟨x, hx, hk, by rw [if_pos (hk ▸ hs)]; exact hr⟩
    · rw [if_neg hs] at hk hr; exact ⟨x, hx, hk, by rw [if_neg (hk ▸ hs)]; exact hr⟩
  · rintro ⟨x, hx, rfl, hr⟩
    by_cases hs : sel x.key
    · rw [if_pos hs] at hr; exact ⟨_, ⟨⟨x, hx, rfl⟩, by rw [if_pos hs]; exact hne hr⟩, by rw [if_pos hs], by rw [if_pos hs]; exact hr⟩
    · rw [if_neg hs] at hr; exact ⟨_, ⟨⟨x, hx, rfl⟩, by rw [if_neg hs]; exact hne hr⟩, by rw [if_neg hs], by rw [if_neg hs]; exact hr⟩

theorem entry_mapRecs_filter (sel : κ → Prop) [DecidablePred sel] (p : ρ → Bool) (fs : List (KFile κ ρ)) (k : κ) (r : ρ) :
    Entry (mapRecs sel (fun recs => recs.filter p) fs) k r ↔ Entry fs k r ∧ (sel k → p r = true) := by
  rw [entry_mapRecs]
  by_cases hs : sel k
  · simp only [if_pos hs, List.mem_filter]
    exact ⟨fun ⟨x, hx, hk, hr, hp⟩ => ⟨⟨x, hx, hk, hr⟩, fun _ => hp⟩, fun ⟨⟨x, hx, hk, hr⟩, hp⟩ => ⟨x, hx, hk, hr, hp hs⟩⟩
  · simp only [if_neg hs]
    exact ⟨fun h => ⟨h, fun c => absurd c hs⟩, fun h => h.1⟩

def UniqFlav (fl : ρ → Flav) (recs : List ρ) : Prop := ∀ r ∈ recs, ∀ q ∈ recs, fl r = fl q → r = q

theorem uniqFlav_setRec (fl : ρ → Flav) (recs : List ρ) (r0 : ρ) (h : UniqFlav fl recs) :
    UniqFlav fl (setRec fl recs r0) := by
  intro r hr q hq hfl
  rcases (mem_setRec fl recs r0 r).mp hr with h1 | ⟨hr, hrn⟩ <;>
    rcases (mem_setRec fl recs r0 q).mp hq with h2 | ⟨hq, hqn⟩
  · rw [h1, h2]
  · exact absurd (h1 ▸ hfl).symm hqn
  · exact absurd (h2 ▸ hfl) hrn
  · exact h r hr q hq hfl

theorem uniqFlav_filter (fl : ρ → Flav) (recs : List ρ) (p : ρ → Bool) (h : UniqFlav fl recs) :
    UniqFlav fl (recs.filter p) :=
  fun r hr q hq => h r (List.mem_filter.mp hr).1 q (List.mem_filter.mp hq).1

theorem wfk_mapRecs {fl : ρ → Flav} (sel : κ → Prop) [DecidablePred sel] {g : List ρ → List ρ} {fs : List (KFile κ ρ)}
    (hkey : ∀ x ∈ fs, ∀ y ∈ fs, x.key = y.key → x = y) (hflav : ∀ x ∈ fs, UniqFlav fl x.recs)
    (hg : ∀ recs, UniqFlav fl recs → UniqFlav fl (g recs)) : WFK fl (mapRecs sel g fs) := by
  have hk : ∀ x : KFile κ ρ, (if sel x.key then ({ x with recs := g x.recs } : KFile κ ρ) else x).key = x.key :=
    fun x => by split <;> rfl
  unfold mapRecs
  refine ⟨?_, ?_, ?_⟩
  · intro y1 hy1 y2 hy2 hkk
    simp only [List.mem_filter, List.mem_map] at hy1 hy2
    obtain ⟨⟨x1, hx1, rfl⟩, _⟩ := hy1
    obtain ⟨⟨x2, hx2, rfl⟩, _⟩ := hy2
    rw [hk, hk] at hkk
    rw [hkey x1 hx1 x2 hx2 hkk]
  · intro y hy
    simp only [List.mem_filter, List.mem_map] at hy
    obtain ⟨⟨x, hx, rfl⟩, _⟩ := hy
    split
    · exact hg _ (hflav x hx)
    · exact hflav x hx
  · intro y hy hnil
    simp only [List.mem_filter] at hy
    rw [hnil] at hy
    simp at hy

theorem mem_read {β : Type} (mk : κ → ρ → β) (fs : List (KFile κ ρ)) (y : β) :
    y ∈ fs.flatMap (fun x => x.recs.map (mk x.key)) ↔ ∃ k r, Entry fs k r ∧ y = mk k r := by
  simp only [List.mem_flatMap, List.mem_map, Entry]
  constructor
  · rintro ⟨x, hx, r, hr, rfl⟩; exact ⟨x.key, r, ⟨x, hx, rfl, hr⟩, rfl⟩
  · rintro ⟨k, r, ⟨x, hx, rfl, hr⟩, rfl⟩; exact ⟨x, hx, r, hr, rfl⟩

theorem WFK.entry_unique {fl : ρ → Flav} {fs : List (KFile κ ρ)} (h : WFK fl fs) {k : κ} {r q : ρ}
    (hr : Entry fs k r) (hq : Entry fs k q) (hf : fl r = fl q) : r = q := by
  obtain ⟨x, hx, hxk, hr⟩ := hr
  obtain ⟨y, hy, hyk, hq⟩ := hq
  cases h.key x hx y hy (hxk.trans hyk.symm)
  exact h.flav x hx r hr q hq hf

variable [DecidableEq κ]

theorem upd_eq (fs : List (KFile κ ρ)) (k : κ) (g : List ρ → List ρ) :
    upd fs k g = mapRecs (· = k) g (if fs.any (fun x => decide (x.key = k)) then fs else fs ++ [⟨k, []⟩]) := rfl

theorem mem_upd_src {fs : List (KFile κ ρ)} {k : κ} {x : KFile κ ρ} :
    x ∈ (if fs.any (fun x => decide (x.key = k)) then fs else fs ++ [⟨k, []⟩]) ↔
      x ∈ fs ∨ (x = ⟨k, []⟩ ∧ ∀ z ∈ fs, z.key ≠ k) := by
  split
  · rename_i hany
    simp only [List.any_eq_true, decide_eq_true_eq] at hany
    obtain ⟨z, hz, hzk⟩ := hany
    exact ⟨.inl, fun h => h.elim id fun h => absurd hzk (h.2 z hz)⟩
  · rename_i hnone
    simp only [List.any_eq_true, decide_eq_true_eq, not_exists, not_and] at hnone
    simp only [List.mem_append, List.mem_singleton]
    exact ⟨fun h => h.imp_right fun h => ⟨h, hnone⟩, fun h => h.imp_right fun h => h.1⟩

theorem entry_upd_filter (fs : List (KFile κ ρ)) (k : κ) (p : ρ → Bool) (k' : κ) (r : ρ) :
    Entry (upd fs k fun recs => recs.filter p) k' r ↔ Entry fs k' r ∧ (k' = k → p r = true) := by
  rw [upd_eq, entry_mapRecs_filter]
  refine and_congr_left fun _ => ⟨fun ⟨x, hx, hk, hr⟩ => ?_, fun ⟨x, hx, hk, hr⟩ => ⟨x, mem_upd_src.mpr (.inl hx), hk, hr⟩⟩
  rcases mem_upd_src.mp hx with hx | ⟨rfl, -⟩
  · exact ⟨x, hx, hk, hr⟩
  · cases hr

theorem entry_upd_setRec (fl : ρ → Flav) (fs : List (KFile κ ρ)) (k : κ) (r0 : ρ) (k' : κ) (r : ρ) :
    Entry (upd fs k fun recs => setRec fl recs r0) k' r ↔
      (k' = k ∧ r = r0) ∨ (Entry fs k' r ∧ ¬ (k' = k ∧ fl r = fl r0)) := by
  rw [upd_eq, entry_mapRecs]
  constructor
  · rintro ⟨x, hx, hk, hr⟩
    have hr' : (k' = k ∧ r = r0) ∨ (r ∈ x.recs ∧ ¬ (k' = k ∧ fl r = fl r0)) := by
      split at hr
      · rename_i h
        exact ((mem_setRec fl _ _ _).mp hr).imp (fun e => ⟨h, e⟩) fun e => ⟨e.1, fun c => e.2 c.2⟩
      · rename_i hne; exact .inr ⟨hr, fun c => hne c.1⟩
    refine hr'.imp_right fun hr' => ⟨?_, hr'.2⟩
    rcases mem_upd_src.mp hx with hx | ⟨rfl, -⟩
    · exact ⟨x, hx, hk, hr'.1⟩
    · cases hr'.1
  · rintro (⟨rfl, rfl⟩ | ⟨⟨x, hx, hk, hr⟩, hn⟩)
    · -- the file with key `k'`, or the fresh one
      have hex : ∃ x, (x ∈ fs ∨ (x = ⟨k', []⟩ ∧ ∀ z ∈ fs, z.key ≠ k')) ∧ x.key = k' := by
        by_cases h : ∃ z ∈ fs, z.key = k'
        · obtain ⟨z, hz, hzk⟩ := h; exact ⟨z, .inl hz, hzk⟩
        · exact ⟨⟨k', []⟩, .inr ⟨rfl, fun z hz hzk => h ⟨z, hz, hzk⟩⟩, rfl⟩
      obtain ⟨x, hx, hk⟩ := hex
      exact ⟨x, mem_upd_src.mpr hx, hk, by rw [if_pos rfl]; exact (mem_setRec fl _ _ _).mpr (.inl rfl)⟩
    · refine ⟨x, mem_upd_src.mpr (.inl hx), hk, ?_⟩
      split
      · rename_i h; exact (mem_setRec fl _ _ _).mpr (.inr ⟨hr, fun c => hn ⟨h, c⟩⟩)
      · exact hr

theorem wfk_upd {fl : ρ → Flav} {fs : List (KFile κ ρ)} (h : WFK fl fs) (k : κ) (g : List ρ → List ρ)
    (hg : ∀ recs, UniqFlav fl recs → UniqFlav fl (g recs)) : WFK fl (upd fs k g) := by
  rw [upd_eq]
  refine wfk_mapRecs _ (fun x1 hx1 x2 hx2 hk => ?_) (fun x hx => ?_) hg
  · rcases mem_upd_src.mp hx1 with h1 | ⟨rfl, hn1⟩ <;> rcases mem_upd_src.mp hx2 with h2 | ⟨rfl, hn2⟩
    · exact h.key x1 h1 x2 h2 hk
    · exact absurd hk (hn2 x1 h1)
    · exact absurd hk.symm (hn1 x2 h2)
    · rfl
  · rcases mem_upd_src.mp hx with hx | ⟨rfl, _⟩
    · exact h.flav x hx
    · intro r hr; cases hr

end generic

structure WFF (F : FileDb) : Prop where
  v : WFK VRec.flav F.vfiles
  c : WFK CRec.flav F.cfiles

theorem wff_empty : WFF FileDb.empty := by
  refine ⟨⟨?_, ?_, ?_⟩, ⟨?_, ?_, ?_⟩⟩ <;> intro x hx <;> simp [FileDb.empty] at hx

def declK (k : Nat × Name × Ver) (r : VRec) : Decl := ⟨k.1, k.2.1, k.2.2, r.flav, resolve k.1 r.dir, r.table⟩
def tagK (k : Nat × Name × Tag) (r : CRec) : TagRec := ⟨k.1, k.2.2, k.2.1, r.flav, r.ver⟩

theorem resolve_store (s : Nat) (d : Dir) : resolve s (store s d) = d := by
  unfold store
  split
  · rename_i h; cases d; simp only [resolve]; simp at h; rw [h]
  · rfl

theorem mem_abs_decls (F : FileDb) (d : Decl) :
    d ∈ (abs F).decls ↔ ∃ k r, Entry F.vfiles k r ∧ d = declK k r := mem_read declK F.vfiles d

theorem mem_abs_tags (F : FileDb) (t : TagRec) :
    t ∈ (abs F).tags ↔ ∃ k r, Entry F.cfiles k r ∧ t = tagK k r := mem_read tagK F.cfiles t

/-- two contents with the same declarations and the same tags -/
def SameContent (a b : Spec) : Prop := (∀ d, d ∈ a.decls ↔ d ∈ b.decls) ∧ (∀ r, r ∈ a.tags ↔ r ∈ b.tags)

theorem SameContent.refl (a : Spec) : SameContent a a := ⟨fun _ => Iff.rfl, fun _ => Iff.rfl⟩
theorem SameContent.symm {a b : Spec} (h : SameContent a b) : SameContent b a :=
  ⟨fun d => (h.1 d).symm, fun r => (h.2 r).symm⟩
theorem SameContent.trans {a b c : Spec} (h : SameContent a b) (k : SameContent b c) : SameContent a c :=
  ⟨fun d => (h.1 d).trans (k.1 d), fun r => (h.2 r).trans (k.2 r)⟩

/-- the same content is agreement on every slice: what is proved about `AgreeOnN` holds of `SameContent` -/
theorem sameContent_iff {a b : Spec} : SameContent a b ↔ ∀ s f n, AgreeOnN a b s f n :=
  ⟨fun h _ _ _ => ⟨fun d _ _ _ => h.1 d, fun r _ _ _ => h.2 r⟩,
   fun h => ⟨fun d => (h d.stack d.flav d.name).1 d rfl rfl rfl, fun r => (h r.stack r.flav r.name).2 r rfl rfl rfl⟩⟩

theorem SameContent.hasDecl {a b : Spec} (h : SameContent a b) (s : Nat) (n : Name) (v : Ver) (f : Flav) :
    a.hasDecl s n v f = b.hasDecl s n v f := (sameContent_iff.mp h s f n).hasDecl v

theorem SameContent.hasTag {a b : Spec} (h : SameContent a b) (s : Nat) (t : Tag) (n : Name) (f : Flav) :
    a.hasTag s t n f = b.hasTag s t n f := (sameContent_iff.mp h s f n).hasTag t

theorem SameContent.applyDb {a b : Spec} (h : SameContent a b) (e : Eff) :
    SameContent (EupsModel.Db.applyDb e a) (EupsModel.Db.applyDb e b) :=
  sameContent_iff.mpr fun s f n =>
    (sameContent_iff.mp h s f n).applyDb e fun s' f' n' _ => sameContent_iff.mp h s' f' n'

theorem SameContent.assign {a b : Spec} (h : SameContent a b) (s : Nat) (t : Tag) (n : Name) (f : Flav) (v : Ver) :
    SameContent (a.assign s t n f v) (b.assign s t n f v) := h.applyDb (.assign s t n f v)

theorem declK_hasKey (k : Nat × Name × Ver) (r : VRec) (s : Nat) (n : Name) (v : Ver) (f : Flav) :
    (declK k r).hasKey s n v f = true ↔ k = (s, n, v) ∧ r.flav = f := by
  obtain ⟨k1, k2, k3⟩ := k
  rw [Decl.hasKey_iff]
  exact ⟨fun ⟨a, b, c, d⟩ => ⟨by rw [← a, ← b, ← c]; exact rfl, d⟩, fun ⟨h, d⟩ => by cases h; exact ⟨rfl, rfl, rfl, d⟩⟩

theorem tagK_hasKey (k : Nat × Name × Tag) (r : CRec) (s : Nat) (t : Tag) (n : Name) (f : Flav) :
    (tagK k r).hasKey s t n f = true ↔ k = (s, n, t) ∧ r.flav = f := by
  obtain ⟨k1, k2, k3⟩ := k
  rw [TagRec.hasKey_iff]
  exact ⟨fun ⟨a, b, c, d⟩ => ⟨by rw [← a, ← b, ← c]; exact rfl, d⟩, fun ⟨h, d⟩ => by cases h; exact ⟨rfl, rfl, rfl, d⟩⟩

theorem hasFlavor_iff (F : FileDb) (s : Nat) (n : Name) (v : Ver) (f : Flav) :
    hasFlavor F s n v f = (abs F).hasDecl s n v f := by
  rw [Bool.eq_iff_iff, Spec.hasDecl_iff]
  simp only [hasFlavor, List.any_eq_true, Bool.and_eq_true, decide_eq_true_eq]
  constructor
  · rintro ⟨x, hx, hk, r, hr, hf⟩
    exact ⟨declK x.key r, (mem_abs_decls F _).mpr ⟨x.key, r, ⟨x, hx, rfl, hr⟩, rfl⟩, (declK_hasKey ..).mpr ⟨hk, hf⟩⟩
  · rintro ⟨d, hd, hk⟩
    obtain ⟨k, r, ⟨x, hx, hxk, hr⟩, rfl⟩ := (mem_abs_decls F d).mp hd
    obtain ⟨rfl, hf⟩ := (declK_hasKey ..).mp hk
    exact ⟨x, hx, hxk, r, hr, hf⟩

theorem abs_setV (F : FileDb) (d : Decl) : SameContent (abs (setV F d)) ((abs F).setDecl d) := by
  refine ⟨fun d' => ?_, fun r => Iff.rfl⟩
  have hd : declK (d.stack, d.name, d.ver) ⟨d.flav, store d.stack d.dir, d.table⟩ = d := by
    simp only [declK, resolve_store]
  simp only [mem_abs_decls, Spec.mem_setDecl, setV, entry_upd_setRec]
  constructor
  · rintro ⟨k, r, ⟨rfl, rfl⟩ | ⟨he, hn⟩, rfl⟩
    · exact .inl hd
    · exact .inr ⟨⟨k, r, he, rfl⟩, Bool.eq_false_iff.mpr fun hs => hn ((declK_hasKey ..).mp hs)⟩
  · rintro (rfl | ⟨⟨k, r, he, rfl⟩, hs⟩)
    · exact ⟨_, _, .inl ⟨rfl, rfl⟩, hd.symm⟩
    · exact ⟨k, r, .inr ⟨he, fun hc => by rw [Decl.sameKey, (declK_hasKey ..).mpr hc] at hs; cases hs⟩, rfl⟩

theorem abs_setC (F : FileDb) (s : Nat) (t : Tag) (n : Name) (f : Flav) (v : Ver) :
    SameContent (abs (setC F s t n f v)) ((abs F).setTag ⟨s, t, n, f, v⟩) := by
  refine ⟨fun d => Iff.rfl, fun r' => ?_⟩
  simp only [mem_abs_tags, Spec.mem_setTag, setC, entry_upd_setRec]
  constructor
  · rintro ⟨k, r, ⟨rfl, rfl⟩ | ⟨he, hn⟩, rfl⟩
    · exact .inl rfl
    · exact .inr ⟨⟨k, r, he, rfl⟩, Bool.eq_false_iff.mpr fun hs => hn ((tagK_hasKey ..).mp hs)⟩
  · rintro (rfl | ⟨⟨k, r, he, rfl⟩, hs⟩)
    · exact ⟨(s, n, t), ⟨f, v⟩, .inl ⟨rfl, rfl⟩, rfl⟩
    · exact ⟨k, r, .inr ⟨he, fun hc => by rw [TagRec.sameKey, (tagK_hasKey ..).mpr hc] at hs; cases hs⟩, rfl⟩

theorem abs_delC (F : FileDb) (s : Nat) (t : Tag) (n : Name) (f : Flav) :
    SameContent (abs (fUnassign F s t n f)) ((abs F).delTag s t n f) := by
  refine ⟨fun d => Iff.rfl, fun r' => ?_⟩
  simp only [mem_abs_tags, Spec.mem_delTag, fUnassign, entry_upd_filter, Bool.not_eq_true', decide_eq_false_iff_not]
  constructor
  · rintro ⟨k, r, ⟨he, hp⟩, rfl⟩
    exact ⟨⟨k, r, he, rfl⟩, Bool.eq_false_iff.mpr fun hs => hp ((tagK_hasKey ..).mp hs).1 ((tagK_hasKey ..).mp hs).2⟩
  · rintro ⟨⟨k, r, he, rfl⟩, hs⟩
    exact ⟨k, r, ⟨he, fun hk hf => by rw [(tagK_hasKey ..).mpr ⟨hk, hf⟩] at hs; cases hs⟩, rfl⟩

theorem wff_setV {F : FileDb} (h : WFF F) (d : Decl) : WFF (setV F d) :=
  ⟨wfk_upd h.v _ _ (fun recs hu => uniqFlav_setRec _ recs _ hu), h.c⟩

theorem wff_setC {F : FileDb} (h : WFF F) (s : Nat) (t : Tag) (n : Name) (f : Flav) (v : Ver) : WFF (setC F s t n f v) :=
  ⟨h.v, wfk_upd h.c _ _ (fun recs hu => uniqFlav_setRec _ recs _ hu)⟩

theorem wff_fUnassign {F : FileDb} (h : WFF F) (s : Nat) (t : Tag) (n : Name) (f : Flav) : WFF (fUnassign F s t n f) :=
  ⟨h.v, wfk_upd h.c _ _ (fun recs hu => uniqFlav_filter _ recs _ hu)⟩

theorem wff_fAssign {F : FileDb} (h : WFF F) (s : Nat) (t : Tag) (n : Name) (f : Flav) (v : Ver) :
    WFF (fAssign F s t n f v) := by
  unfold fAssign; split
  · exact wff_setC h s t n f v
  · exact h

theorem abs_fAssign (F : FileDb) (s : Nat) (t : Tag) (n : Name) (f : Flav) (v : Ver) :
    SameContent (abs (fAssign F s t n f v)) ((abs F).assign s t n f v) := by
  unfold fAssign Spec.assign
  rw [hasFlavor_iff]
  split
  · exact abs_setC F s t n f v
  · exact SameContent.refl _

theorem abs_fDeclare (F : FileDb) (d : Decl) (tag : Option Tag) :
    SameContent (abs (fDeclare F d tag)) ((abs F).addDecl d tag) := by
  cases tag with
  | none => exact abs_setV F d
  | some t =>
    have h1 := abs_setV F d
    have h2 := abs_fAssign (setV F d) d.stack t d.name d.flav d.ver
    have h3 : ((abs F).setDecl d).assign d.stack t d.name d.flav d.ver
        = ((abs F).setDecl d).setTag ⟨d.stack, t, d.name, d.flav, d.ver⟩ := by
      unfold Spec.assign; rw [Spec.hasDecl_setDecl_self]; rfl
    have h4 := h1.assign d.stack t d.name d.flav d.ver
    rw [h3] at h4
    exact h2.trans h4

theorem wff_fDeclare {F : FileDb} (h : WFF F) (d : Decl) (tag : Option Tag) : WFF (fDeclare F d tag) := by
  cases tag with
  | none => exact wff_setV h d
  | some t => exact wff_fAssign (wff_setV h d) _ _ _ _ _

theorem abs_fUndeclare (F : FileDb) (s : Nat) (n : Name) (v : Ver) (f : Flav) (hd : (abs F).hasDecl s n v f = true) :
    SameContent (abs (fUndeclare F s n v f)) ((abs F).delDecl s n v f) := by
  unfold fUndeclare
  rw [hasFlavor_iff, if_pos hd]
  refine ⟨fun d' => ?_, fun r' => ?_⟩
  · simp only [mem_abs_decls, Spec.mem_delDecl_decls, entry_upd_filter, Bool.not_eq_true', decide_eq_false_iff_not]
    constructor
    · rintro ⟨k, r, ⟨he, hp⟩, rfl⟩
      exact ⟨⟨k, r, he, rfl⟩, Bool.eq_false_iff.mpr fun hs => hp ((declK_hasKey ..).mp hs).1 ((declK_hasKey ..).mp hs).2⟩
    · rintro ⟨⟨k, r, he, rfl⟩, hs⟩
      exact ⟨k, r, ⟨he, fun hk hf => by rw [(declK_hasKey ..).mpr ⟨hk, hf⟩] at hs; cases hs⟩, rfl⟩
  · rw [mem_abs_tags, Spec.mem_delDecl_tags, mem_abs_tags]
    show (∃ k r, Entry (mapRecs (fun k => k.1 = s ∧ k.2.1 = n)
      (fun recs => recs.filter fun r => !decide (r.flav = f ∧ r.ver = v)) F.cfiles) k r ∧ r' = tagK k r) ↔ _
    simp only [entry_mapRecs_filter, Bool.not_eq_true', decide_eq_false_iff_not]
    constructor
    · rintro ⟨k, r, ⟨he, hne⟩, rfl⟩
      exact ⟨⟨k, r, he, rfl⟩, Bool.eq_false_iff.mpr fun hs =>
        have hp := TagRec.pointsAt_iff.mp hs
        hne ⟨hp.1, hp.2.1⟩ hp.2.2⟩
    · rintro ⟨⟨k, r, he, rfl⟩, hp⟩
      exact ⟨k, r, ⟨he, fun hc hfv => by rw [TagRec.pointsAt_iff.mpr ⟨hc.1, hc.2, hfv⟩] at hp; cases hp⟩, rfl⟩

theorem wfk_dropTags {cs : List CFile} (h : WFK CRec.flav cs) (s : Nat) (n : Name) (v : Ver) (f : Flav) :
    WFK CRec.flav (mapRecs (fun k : Nat × Name × Tag => k.1 = s ∧ k.2.1 = n)
      (fun recs => recs.filter fun r => !decide (r.flav = f ∧ r.ver = v)) cs) :=
  wfk_mapRecs _ h.key h.flav fun recs hu => uniqFlav_filter _ recs _ hu

theorem wff_fUndeclare {F : FileDb} (h : WFF F) (s : Nat) (n : Name) (v : Ver) (f : Flav) : WFF (fUndeclare F s n v f) := by
  unfold fUndeclare
  by_cases hc : hasFlavor F s n v f = true
  · rw [if_pos hc]
    exact ⟨wfk_upd h.v _ _ (fun recs hu => uniqFlav_filter _ recs _ hu), wfk_dropTags h.c s n v f⟩
  · rw [if_neg hc]; exact h

theorem SameContent.dbCall {a b : Spec} (h : SameContent a b) (e : Eff) :
    SameContent (Cache.dbCall e a) (Cache.dbCall e b) := by
  have hw : effWrites a e = effWrites b e := by
    cases e with
    | undeclare s n v f => exact h.hasDecl s n v f
    | assign s t n f v => exact h.hasDecl s n v f
    | unassign s t n f => exact h.hasTag s t n f
    | _ => rfl
  unfold Cache.dbCall
  rw [hw]
  split
  · exact h.applyDb e
  · exact h

theorem applyF_dbCall {F : FileDb} (h : WFF F) (e : Eff) :
    WFF (applyF e F) ∧ SameContent (abs (applyF e F)) (dbCall e (abs F)) := by
  unfold Cache.dbCall
  cases e with
  | declare d tag => exact ⟨wff_fDeclare h d tag, abs_fDeclare F d tag⟩
  | undeclare s n v f =>
    refine ⟨wff_fUndeclare h s n v f, ?_⟩
    show SameContent (abs (fUndeclare F s n v f)) (if (abs F).hasDecl s n v f = true then _ else _)
    split
    · rename_i hd
      exact abs_fUndeclare F s n v f hd
    · rename_i hd
      unfold fUndeclare
      rw [hasFlavor_iff, if_neg hd]
      exact .refl _
  | assign s t n f v =>
    refine ⟨wff_fAssign h s t n f v, ?_⟩
    show SameContent (abs (fAssign F s t n f v)) (if (abs F).hasDecl s n v f = true then _ else _)
    split
    · exact abs_fAssign F s t n f v
    · rename_i hd
      unfold fAssign
      rw [hasFlavor_iff, if_neg hd]
      exact .refl _
  | unassign s t n f =>
    refine ⟨wff_fUnassign h s t n f, ?_⟩
    show SameContent (abs (fUnassign F s t n f)) (if (abs F).hasTag s t n f = true then _ else _)
    split
    · exact abs_delC F s t n f
    · rename_i ht
      exact Spec.delTag_of_not_hasTag (c := abs F) (by simpa using ht) ▸ abs_delC F s t n f
  | rmTree _ => exact ⟨h, .refl _⟩
  | copyExtra _ => exact ⟨h, .refl _⟩

theorem stepF_refines {F : FileDb} {w : World} (hF : WFF F) (hc : SameContent (abs F) w.db) (c : WCmd) :
    WFF (stepF (F, w) c).1 ∧ SameContent (abs (stepF (F, w) c).1) (stepF (F, w) c).2.db := by
  show WFF ((stepG true w c).trace.foldl (fun F e => applyF e F) F) ∧
    SameContent (abs ((stepG true w c).trace.foldl (fun F e => applyF e F) F)) (stepG true w c).w.db
  rw [stepG_db]
  generalize (stepG true w c).trace = es
  generalize w.db = db at hc
  induction es generalizing F db with
  | nil => exact ⟨hF, hc⟩
  | cons e es ih =>
    obtain ⟨h1, h2⟩ := applyF_dbCall hF e
    exact ih h1 _ (h2.trans (hc.dbCall e))

theorem keysUnique_abs {F : FileDb} (h : WFF F) : KeysUnique (abs F) := by
  constructor
  · intro d hd e he hk
    obtain ⟨k1, r1, h1, rfl⟩ := (mem_abs_decls F d).mp hd
    obtain ⟨⟨s, n, v⟩, r2, h2, rfl⟩ := (mem_abs_decls F e).mp he
    obtain ⟨rfl, hf⟩ := (declK_hasKey k1 r1 s n v r2.flav).mp hk
    rw [h.v.entry_unique h1 h2 hf]
  · intro d hd e he hk
    obtain ⟨k1, r1, h1, rfl⟩ := (mem_abs_tags F d).mp hd
    obtain ⟨⟨s, n, t⟩, r2, h2, rfl⟩ := (mem_abs_tags F e).mp he
    obtain ⟨rfl, hf⟩ := (tagK_hasKey k1 r1 s t n r2.flav).mp hk
    rw [h.c.entry_unique h1 h2 hf]

theorem findProduct_eq {F : FileDb} (h : WFF F) (s : Nat) (n : Name) (v : Ver) (f : Flav) :
    findProduct F s n v f = (abs F).findDecl s n v f := by
  apply Option.ext
  intro d
  rw [findDecl_eq_some_iff (keysUnique_abs h), mem_abs_decls]
  unfold findProduct
  constructor
  · intro hf
    split at hf
    · cases hf
    · rename_i x hx
      have hxm := List.mem_of_find?_eq_some hx
      have hxk : x.key = (s, n, v) := by simpa using List.find?_some hx
      simp only [Option.map_eq_some_iff] at hf
      obtain ⟨r, hr, rfl⟩ := hf
      have hrm := List.mem_of_find?_eq_some hr
      have hrf : r.flav = f := by simpa using List.find?_some hr
      exact ⟨⟨x.key, r, ⟨x, hxm, rfl, hrm⟩, rfl⟩, (declK_hasKey x.key r s n v f).mpr ⟨hxk, hrf⟩⟩
  · rintro ⟨⟨k, r, ⟨x, hx, hxk, hr⟩, rfl⟩, hk⟩
    obtain ⟨rfl, hrf⟩ := (declK_hasKey ..).mp hk
    rw [find?_eq_some_of_unique (fun a ha ka => h.v.key a ha x hx ((of_decide_eq_true ka).trans hxk.symm)) hx
      (decide_eq_true hxk)]
    dsimp only
    rw [find?_eq_some_of_unique (fun a ha ka => h.v.flav x hx a ha r hr ((of_decide_eq_true ka).trans hrf.symm)) hr
      (decide_eq_true hrf)]
    simp [declOf, declK, hxk]

theorem SameContent.findDecl {a b : Spec} (h : SameContent a b) (hb : KeysUnique b) (s : Nat) (n : Name) (v : Ver)
    (f : Flav) : a.findDecl s n v f = b.findDecl s n v f :=
  findDecl_agree (sameContent_iff.mp h s f n) hb v

theorem SameContent.tagVer {a b : Spec} (h : SameContent a b) (hb : KeysUnique b) (s : Nat) (t : Tag) (n : Name)
    (f : Flav) : a.tagVer s t n f = b.tagVer s t n f :=
  tagVer_agree (sameContent_iff.mp h s f n) hb t

end EupsModel.DbFile
