import EupsModel.Lemmas.RecordLine
/-! The fields of a block (C16): the rows a writer goes through (`Spec`, `specLines`) and what reading them back stores
(`specFold`), for version and chain blocks; the records the text round trip covers (`GoodVRec`, `GoodCRec` and their
parts), all decidable since test vectors are checked by evaluation. -/
namespace EupsModel.Record

def GoodFld (x : Fld) : Prop := x = .absent ∨ ∃ v, x = .val v ∧ Clean v

theorem GoodFld.ne_pyNone {x : Fld} (h : GoodFld x) : x ≠ .pyNone := by
  rcases h with rfl | ⟨v, rfl, _⟩ <;> simp

/-- what reading the line(s) printed for a field does to a block, for either kind of block (`set` = `Info.set` / `CInfo.set`) -/
def setF {β : Type} (set : β → Str → Str → β) (j : β) (key : Str) : Fld → β
  | .val v => set j key v
  | _ => j

/-- what `setF` does to the field the row is about: a value `.val v` replaces what the field held, anything else leaves it -/
def Fld.over (old : Fld) : Fld → Fld
  | .val v => .val v
  | _ => old

theorem GoodFld.over {x : Fld} (h : GoodFld x) : Fld.over .absent x = x := by
  rcases h with rfl | ⟨_, rfl, _⟩ <;> rfl

/-- label, key, default and value of a field: a row of the table a writer goes through -/
abbrev Spec := Str × Str × Option Str × Fld

def specLines (specs : List Spec) : List Str := specs.flatMap fun (l, _, d, x) => fldLine l d x
def specFold {β : Type} (set : β → Str → Str → β) (j : β) (specs : List Spec) : β :=
  specs.foldl (fun j (s : Spec) => setF set j s.2.1 s.2.2.2) j

/-- rows of field labels (not the identity line's) whose values the round trip covers -/
def Kind.Rows {β : Type} (K : Kind β) (specs : List Spec) : Prop :=
  ∀ s ∈ specs, (LabelOK s.1 s.2.1 ∧ s.2.1 ≠ K.idKey) ∧ GoodFld s.2.2.2

def fieldSpecs (i : Info) : List Spec :=
  [(lDeclarer, kDeclarer, none, i.declarer), (lDeclared, kDeclared, none, i.declared),
   (lModifier, kModifier, none, i.modifier), (lModified, kModified, none, i.modified),
   (lProdDir, kProdDir, some sNone, i.productDir), (lUpsDir, kUpsDir, none, i.upsDir),
   (lTableFile, kTableFile, some sNone, i.tableFile)]

theorem infoLines_eq (i : Info) : infoLines i = specLines (fieldSpecs i) := by
  simp [infoLines, specLines, fieldSpecs]

structure GoodFields (i : Info) : Prop where
  declarer : GoodFld i.declarer
  declared : GoodFld i.declared
  modifier : GoodFld i.modifier
  modified : GoodFld i.modified
  productDir : GoodFld i.productDir
  upsDir : GoodFld i.upsDir
  tableFile : GoodFld i.tableFile

theorem fieldSpecs_ok (i : Info) (hi : GoodFields i) : vKind.Rows (fieldSpecs i) := by
  simp only [Kind.Rows, fieldSpecs, List.forall_mem_cons, List.not_mem_nil, false_imp_iff, implies_true, and_true]
  exact ⟨⟨⟨labelOK_declarer, by decide +kernel⟩, hi.declarer⟩, ⟨⟨labelOK_declared, by decide +kernel⟩, hi.declared⟩,
    ⟨⟨labelOK_modifier, by decide +kernel⟩, hi.modifier⟩, ⟨⟨labelOK_modified, by decide +kernel⟩, hi.modified⟩,
    ⟨⟨labelOK_prodDir, by decide +kernel⟩, hi.productDir⟩, ⟨⟨labelOK_upsDir, by decide +kernel⟩, hi.upsDir⟩,
    ⟨⟨labelOK_tableFile, by decide +kernel⟩, hi.tableFile⟩⟩

/-- each row stores its field and touches no other -/
theorem specFold_fieldSpecs (i : Info) (hi : GoodFields i) : specFold Info.set {} (fieldSpecs i) = i := by
  have h1 : ∀ (j : Info) x, setF Info.set j kDeclarer x = { j with declarer := j.declarer.over x } := fun j x => by cases x <;> rfl
  have h2 : ∀ (j : Info) x, setF Info.set j kDeclared x = { j with declared := j.declared.over x } := fun j x => by cases x <;> rfl
  have h3 : ∀ (j : Info) x, setF Info.set j kModifier x = { j with modifier := j.modifier.over x } := fun j x => by cases x <;> rfl
  have h4 : ∀ (j : Info) x, setF Info.set j kModified x = { j with modified := j.modified.over x } := fun j x => by cases x <;> rfl
  have h5 : ∀ (j : Info) x, setF Info.set j kProdDir x = { j with productDir := j.productDir.over x } := fun j x => by cases x <;> rfl
  have h6 : ∀ (j : Info) x, setF Info.set j kUpsDir x = { j with upsDir := j.upsDir.over x } := fun j x => by cases x <;> rfl
  have h7 : ∀ (j : Info) x, setF Info.set j kTableFile x = { j with tableFile := j.tableFile.over x } := fun j x => by cases x <;> rfl
  simp only [specFold, fieldSpecs, List.foldl_cons, List.foldl_nil, h1, h2, h3, h4, h5, h6, h7, hi.declarer.over, hi.declared.over,
    hi.modifier.over, hi.modified.over, hi.productDir.over, hi.upsDir.over, hi.tableFile.over]

structure GoodInfo (i : Info) : Prop where
  fields : GoodFields i
  hasDir : i.productDir ≠ .absent
  hasTable : i.tableFile ≠ .absent
  hasUps : i.upsDir ≠ .absent ∨ ∃ t, i.tableFile = .val t ∧ isRealStr t = false

theorem fixup_good (i : Info) (h : GoodInfo i) : i.fixup = i := by
  obtain ⟨a, b, c, d, e, f, g⟩ := i
  obtain ⟨_, h1, h2, h3⟩ := h
  simp only at h1 h2 h3
  unfold Info.fixup
  simp only [h1, h2, if_false]
  rcases h3 with h3 | ⟨t, ht, hr⟩
  · simp [h3]
  · simp [ht, hr]

theorem hasNone_good (i : Info) (h : GoodFields i) : i.hasNone = false := by
  simp [Info.hasNone, h.declarer.ne_pyNone, h.declared.ne_pyNone, h.modifier.ne_pyNone, h.modified.ne_pyNone,
    h.productDir.ne_pyNone, h.upsDir.ne_pyNone, h.tableFile.ne_pyNone]

/-- a flavor name the round-trip theorem covers: clean and without a qualifier (no `:`) -/
structure CleanKey (fq : Str) : Prop where
  clean : Clean fq
  no58 : 58 ∉ fq

structure GoodVRec (r : VRec) : Prop where
  name : ∃ n, r.name = some n ∧ Clean n
  version : ∃ v, r.version = some v ∧ Clean v
  nonempty : r.flavors ≠ []
  nodup : (r.flavors.map (·.1)).Nodup
  blocks : ∀ x ∈ r.flavors, CleanKey x.1 ∧ GoodInfo x.2

/-- the stamps of a chain block (its `VERSION` line is printed apart, before `QUALIFIERS`) -/
def cfieldSpecs (i : CInfo) : List Spec :=
  [(lDeclarer, kDeclarer, none, i.declarer), (lDeclared, kDeclared, none, i.declared),
   (lModifier, kModifier, none, i.modifier), (lModified, kModified, none, i.modified)]

/-- the `VERSION` row of a chain block -/
def cversionSpecs (i : CInfo) : List Spec := [(lIVersion, kVersion, none, i.version)]

theorem cInfoLines_eq (i : CInfo) : cInfoLines i = specLines (cfieldSpecs i) := by
  simp [cInfoLines, specLines, cfieldSpecs]

structure GoodCInfo (i : CInfo) : Prop where
  version : ∃ v, i.version = .val v ∧ Clean v
  declarer : GoodFld i.declarer
  declared : GoodFld i.declared
  modifier : GoodFld i.modifier
  modified : GoodFld i.modified

theorem cfieldSpecs_ok (i : CInfo) (hi : GoodCInfo i) : cKind.Rows (cfieldSpecs i) := by
  simp only [Kind.Rows, cfieldSpecs, List.forall_mem_cons, List.not_mem_nil, false_imp_iff, implies_true, and_true]
  exact ⟨⟨⟨labelOK_declarer, by decide +kernel⟩, hi.declarer⟩, ⟨⟨labelOK_declared, by decide +kernel⟩, hi.declared⟩,
    ⟨⟨labelOK_modifier, by decide +kernel⟩, hi.modifier⟩, ⟨⟨labelOK_modified, by decide +kernel⟩, hi.modified⟩⟩

theorem cversionSpecs_ok (i : CInfo) (hi : GoodCInfo i) : cKind.Rows (cversionSpecs i) :=
  fun _ hs => List.mem_singleton.mp hs ▸ ⟨⟨labelOK_iversion, (by decide +kernel : kVersion ≠ kChain)⟩, Or.inr hi.version⟩

theorem cspecFold_cfieldSpecs (i : CInfo) (hi : GoodCInfo i) :
    specFold CInfo.set (specFold CInfo.set {} (cversionSpecs i)) (cfieldSpecs i) = i := by
  have h0 : ∀ (j : CInfo) x, setF CInfo.set j kVersion x = { j with version := j.version.over x } := fun j x => by cases x <;> rfl
  have h1 : ∀ (j : CInfo) x, setF CInfo.set j kDeclarer x = { j with declarer := j.declarer.over x } := fun j x => by cases x <;> rfl
  have h2 : ∀ (j : CInfo) x, setF CInfo.set j kDeclared x = { j with declared := j.declared.over x } := fun j x => by cases x <;> rfl
  have h3 : ∀ (j : CInfo) x, setF CInfo.set j kModifier x = { j with modifier := j.modifier.over x } := fun j x => by cases x <;> rfl
  have h4 : ∀ (j : CInfo) x, setF CInfo.set j kModified x = { j with modified := j.modified.over x } := fun j x => by cases x <;> rfl
  simp only [specFold, cversionSpecs, cfieldSpecs, List.foldl_cons, List.foldl_nil, h0, h1, h2, h3, h4, GoodFld.over (Or.inr hi.version),
    hi.declarer.over, hi.declared.over, hi.modifier.over, hi.modified.over]

structure GoodCRec (r : CRec) : Prop where
  name : ∃ n, r.name = some n ∧ Clean n
  tag : ∃ t, r.tag = some t ∧ Clean t
  nonempty : r.flavors ≠ []
  nodup : (r.flavors.map (·.1)).Nodup
  blocks : ∀ x ∈ r.flavors, CleanKey x.1 ∧ GoodCInfo x.2

instance : (x : Fld) → Decidable (GoodFld x)
  | .absent => isTrue (Or.inl rfl)
  | .pyNone => isFalse (fun h => h.ne_pyNone rfl)
  | .val v => decidable_of_iff (Clean v) ⟨fun h => Or.inr ⟨v, rfl, h⟩, fun h => by
      rcases h with h | ⟨w, hw, hc⟩
      · cases h
      · cases hw; exact hc⟩

instance (i : Info) : Decidable (GoodFields i) :=
  decidable_of_iff (GoodFld i.declarer ∧ GoodFld i.declared ∧ GoodFld i.modifier ∧ GoodFld i.modified ∧
      GoodFld i.productDir ∧ GoodFld i.upsDir ∧ GoodFld i.tableFile)
    ⟨fun ⟨a, b, c, d, e, f, g⟩ => ⟨a, b, c, d, e, f, g⟩,
     fun h => ⟨h.declarer, h.declared, h.modifier, h.modified, h.productDir, h.upsDir, h.tableFile⟩⟩

instance (i : Info) : Decidable (GoodInfo i) :=
  decidable_of_iff (GoodFields i ∧ i.productDir ≠ .absent ∧ i.tableFile ≠ .absent ∧
      (i.upsDir ≠ .absent ∨ (i.tableFile.get.any fun t => !isRealStr t) = true))
    ⟨fun ⟨a, b, c, d⟩ => ⟨a, b, c, d.imp id fun h => by cases ht : i.tableFile <;> simp_all [Fld.get]⟩,
     fun h => ⟨h.fields, h.hasDir, h.hasTable, h.hasUps.imp id fun ⟨t, ht, hr⟩ => by simp [ht, Fld.get, hr]⟩⟩

instance (s : Str) : Decidable (CleanKey s) :=
  decidable_of_iff (Clean s ∧ 58 ∉ s) ⟨fun h => ⟨h.1, h.2⟩, fun h => ⟨h.clean, h.no58⟩⟩


end EupsModel.Record
