import EupsModel.Lemmas.Remove
/-! The list `_remove` returns begins with the requested product (it is the first of `deps`, and the nested call for it
is not recursive) — so `eups remove -i` asks about the requested product first. -/
namespace EupsModel.Remove
open EupsModel.Deps

theorem collectLoop_prefix {sb : Option SetupBy} {force : Bool} {top : Str × Str} {recursive : Bool}
    {recur : Prod → Seen → Except Err (List Prod × Seen)} {qs acc seen l seen'}
    (h : collectLoop sb force top recursive recur qs acc seen = .ok (l, seen')) : ∃ t, l = acc ++ t := by
  fun_induction collectLoop sb force top recursive recur qs acc seen with
  | case1 => cases h; exact ⟨[], (List.append_nil _).symm⟩
  | case2 | case3 => cases h
  | case4 q _ _ _ _ _ sub _ _ ih =>
    obtain ⟨t, ht⟩ := ih h
    exact ⟨sub ++ [q] ++ t, by rw [ht]; simp⟩
  | case5 q _ _ _ _ _ ih =>
    obtain ⟨t, ht⟩ := ih h
    exact ⟨[q] ++ t, by rw [ht]; simp⟩

theorem collect_head {db : Db} {sb : Option SetupBy} {force : Bool} {dn : Option Str} {top : Str × Str}
    {f : Nat} {name : Str} {ver : Option Str} {recursive : Bool} {seen : Seen} {l : List Prod} {seen' : Seen}
    (h : collect db sb force dn top f name ver recursive seen = .ok (l, seen')) (hd : dn ≠ some name) :
    ∃ p t, db.find name ver = some p ∧ l = p :: t := by
  rcases collect_ok h with ⟨hdn, _⟩ | ⟨k, p, rfl, hp, hc⟩
  · exact absurd hdn hd
  · split at hc
    · obtain ⟨deps, _, hl⟩ := hc
      obtain ⟨t, rfl⟩ := collectLoop_prefix hl
      exact ⟨p, _, hp, rfl⟩
    · obtain ⟨rfl, _⟩ := hc
      cases recursive <;> exact ⟨p, _, hp, rfl⟩

end EupsModel.Remove
