import EupsModel.Lemmas.SetupFrame
import EupsModel.Lemmas.SetupKeep
/-! Statements about the table of ONE declaration, through `acts_lines`: a top-level request leaves the chosen product
recorded when its *name* does not reach itself (C01 clauses 4/5); unwinding the set-up version `sd` touches only what `sd`'s
own table reaches, which with "unsetup only removes" gives the top-level keep clause (`install_keep_top_of`; C04 keep, the
complement of D21). -/
namespace EupsModel.Setup

/-- `m` is reachable from the dependency lines of the table of the declared version `d` (first edge: a line of `d`'s
own table, under any guard; further edges: lines of any declared version) -/
def ReachFrom (db : Db) (d : Decl) (m : Name) : Prop :=
  ∃ g n o j v x t kl k, (g, Act.dep n o j v x t kl) ∈ d.table ∧ Within db n k m

def NoSelfReach (db : Db) (n : Name) : Prop := ∀ k, ¬ Within db n (k + 1) n

theorem within_trans (db : Db) (a b c : Name) (k1 : Nat) (h1 : Within db a k1 b) :
    ∀ k2, Within db b k2 c → Within db a (k1 + k2) c := by
  intro k2 h2
  induction h2 with
  | root => exact h1
  | step _ hd hn hg ih => exact Within.step ih hd hn hg

theorem reachFrom_within (db : Db) (d : Decl) (hd : d ∈ db.decls) (m : Name) (h : ReachFrom db d m) :
    ∃ k, Within db d.name (k + 1) m := by
  obtain ⟨g, n, o, j, v, x, t, kl, k, hg, hw⟩ := h
  have h1 : Within db d.name 1 n := Within.step Within.root hd rfl hg
  exact ⟨k, by have := within_trans db d.name n m 1 h1 k hw; rwa [Nat.add_comm] at this⟩

theorem noSelfReach_of_nameDag (db : Db) (rank : Name → Nat) (hdag : NameDag db rank) (n : Name) : NoSelfReach db n := by
  intro k hw
  have := within_rank db rank hdag n _ _ hw
  omega

theorem line_sameFor {cfg : Cfg} {d : Decl} {m : Name} (hm : ¬ ReachFrom cfg.db d m) {n : Name} {o j : Bool}
    {v : Option VerReq} {x : Option VExpr} {t : List Str} {kl : Bool} (hmem : Act.dep n o j v x t kl ∈ d.actions cfg.exact)
    {e0 : Env} {fuel : Nat} {fwd : Bool} {k : Nat} {noRec : Bool} {vro : List VroEnt} {ver : Option VerReq}
    {vx : Option VExpr} {s s' : St} (ha : AlreadyOK cfg.db s.already) (hp : SameFor m e0 s.env)
    (h : setup cfg fuel fwd k noRec vro n ver vx s = .ok s') : SameFor m e0 s'.env := by
  obtain ⟨g, hg⟩ := mem_actions d cfg.exact _ hmem
  exact setup_subjInv cfg (within_closedAt_unbounded cfg n)
    (sameFor_subjInv cfg _ m (fun _ ⟨k, hk⟩ => hm ⟨g, n, o, j, v, x, t, kl, k, hg, hk⟩) e0).stInv ⟨0, Within.root⟩ ha hp h

theorem acts_sameFor {cfg : Cfg} {fuel : Nat} {fwd : Bool} {k : Nat} {noRec : Bool} {vro : List VroEnt} {d : Decl}
    {m : Name} (hne : m ≠ d.name) (hm : ¬ ReachFrom cfg.db d m) {e0 : Env} {s s' : St}
    (ha : AlreadyOK cfg.db s.already) (hp : SameFor m e0 s.env)
    (h : acts (setup cfg fuel) cfg fwd k noRec vro d (d.actions cfg.exact) s = .ok s') : SameFor m e0 s'.env := by
  refine acts_lines cfg (fun s => SameFor m e0 s.env) (setup cfg fuel) (setup_alOK cfg fuel) fwd k noRec vro d
    (d.actions cfg.exact) (fun _ _ h => h) ?_ ?_ s s' ha hp h
  · intro a _ s0 hp0
    exact hp0.apply fwd d.prod a s0 fun e => hne e.symm
  · intro n o j v x t kl hmem _ vro' ver' vx' s0 s1 ha0 hp0 hr
    exact line_sameFor hm hmem ha0 hp0 hr

theorem install_top_record_noSelf (cfg : Cfg) (fuel : Nat) (noRec : Bool) (vro : List VroEnt) (d : Decl)
    (reason : Option VroEnt) (hc : Canon cfg.db d) (hself : NoSelfReach cfg.db d.name) (s s' : St)
    (ha : AlreadyOK cfg.db s.already)
    (h : install (setup cfg fuel) cfg 0 noRec vro d reason s = .ok s') : s'.env.rec? d.name = some d.ver := by
  have hm : ¬ ReachFrom cfg.db d d.name :=
    fun h => (reachFrom_within cfg.db d (lookup_some cfg.db d.prod d hc).1 d.name h).elim hself
  -- the lines of `d` itself write no record; the dependencies do not reach `d.name`
  have tail : ∀ s1 : St, AlreadyOK cfg.db s1.already →
      acts (setup cfg fuel) cfg true 0 noRec vro d (d.actions cfg.exact) (record d reason s1) = .ok s' →
      s'.env.rec? d.name = some d.ver := by
    intro s1 h1 hacts
    refine acts_lines cfg (fun s => s.env.rec? d.name = some d.ver) (setup cfg fuel) (setup_alOK cfg fuel) true 0 noRec vro d
      (d.actions cfg.exact) (fun _ _ h => h) ?_ ?_ (record d reason s1) s' (alreadyOK_aset cfg.db _ h1 d reason hc)
      (record_rec?_same d reason s1) hacts
    · intro a _ s0 hp0; rw [apply_rec?]; exact hp0
    · intro n o j v x t kl hmem _ vro' ver' vx' s0 s2 ha0 hp0 hr
      rw [(line_sameFor hm hmem ha0 (SameFor.refl _ _) hr).record]
      exact hp0
  revert h
  exact install_cases _ cfg 0 noRec vro d reason s (P := fun res => res = .ok s' → s'.env.rec? d.name = some d.ver)
    (fun _ => tail s ha) (fun _ _ h0 => absurd h0 (Nat.lt_irrefl 0)) (fun _ _ _ _ h => nomatch h)
    (fun _ s1 _ _ hst => tail s1 ((setup_alOK cfg fuel).st ha hst))

/-- With `keep` in the VRO, a successful top-level `install` keeps the record (among those in `D`) of every product other
than the chosen one — except what the dependency lines of the table of the *set-up version of the requested product* (the
one that is unwound first) reach. -/
theorem install_keep_top_of (D : Name → Ver → Prop) (cfg : Cfg) (hD : ∀ m v, Decd cfg.db m v → D m v) (fuel : Nat)
    (noRec : Bool) (vro : List VroEnt) (hk : VroEnt.keep ∈ vro) (d : Decl)
    (reason : Option VroEnt) (hc : Canon cfg.db d) (s s' : St) (ha : AlreadyOK cfg.db s.already)
    (hmir : Mirror (fun m v => m ≠ d.name ∧ D m v) s)
    (h : install (setup cfg fuel) cfg 0 noRec vro d reason s = .ok s') :
    ∀ m v, m ≠ d.name → s.env.rec? m = some v → D m v →
      (∀ sd, setupProd cfg.db s.env d.name = some sd → ¬ ReachFrom cfg.db sd m) → s'.env.rec? m = some v := by
  have hal := setup_alOK cfg fuel
  -- once `d` is recorded in a state that mirrors the other records, the table keeps them
  have tail : ∀ s1 : St, AlreadyOK cfg.db s1.already → Mirror (fun m v => m ≠ d.name ∧ D m v) s1 →
      acts (setup cfg fuel) cfg true 0 noRec vro d (d.actions cfg.exact) (record d reason s1) = .ok s' →
      ∀ m v, m ≠ d.name → s1.env.rec? m = some v → D m v → s'.env.rec? m = some v := by
    intro s1 h1 hm1 hacts m v hne hr hd
    have hpost := (keep_rules D hD).table fuel hc (alreadyOK_aset cfg.db _ h1 d reason hc) hacts nofun
      hk (mirror_record D d reason s1 hm1)
    exact hpost.2.1 m v (by rw [record_rec?_other d reason s1 m hne]; exact hr) hd
  intro m v hne hr hdv hreach
  revert h
  refine install_cases _ cfg 0 noRec vro d reason s (P := fun res => res = .ok s' → s'.env.rec? m = some v)
    (fun _ h => tail s ha hmir h m v hne hr hdv) (fun _ _ h0 => absurd h0 (Nat.lt_irrefl 0)) (fun _ _ _ _ h => nomatch h) ?_
  intro sd s1 hsp _ hst hacts
  obtain ⟨_, hsdn, _⟩ := setupProd_some cfg.db s.env d.name sd hsp
  have hne' : m ≠ sd.name := by rw [hsdn]; exact hne
  have hr1 := unwound_ok hsp hst
  obtain ⟨hal1, hsub⟩ := setup_false_sub cfg hr1
  -- the set-up version `sd` is unwound first: that leaves what `sd`'s table does not reach
  have hsame : SameFor m s.env s1.env := by
    cases fuel with
    | zero => cases hr1
    | succ f =>
      rw [setup_succ_false, hsp] at hr1
      refine acts_sameFor hne' (hreach sd hsp) (s := s.unrecorded sd) ha ?_ hr1
      exact ⟨unrec_rec?_other _ _ _ hne', unrec_dirs_other _ _ _ hne', fun _ => rfl⟩
  refine tail s1 (hal.st ha hst) ?_ hacts m v hne (by rw [hsame.record]; exact hr) hdv
  intro m' v' hr' hd'
  rw [hal1]
  exact hmir m' v' (hsub.recs m' v' hr') hd'

theorem install_keep_top (cfg : Cfg) (fuel : Nat) (noRec : Bool) (vro : List VroEnt) (hk : VroEnt.keep ∈ vro) (d : Decl)
    (reason : Option VroEnt) (hc : Canon cfg.db d) (s s' : St) (ha : AlreadyOK cfg.db s.already)
    (hmir : ∀ m v, m ≠ d.name → s.env.rec? m = some v → ∃ d' r', aget s.already m = some (d', r') ∧ d'.ver = v)
    (h : install (setup cfg fuel) cfg 0 noRec vro d reason s = .ok s') :
    ∀ m v, m ≠ d.name → s.env.rec? m = some v →
      (∀ sd, setupProd cfg.db s.env d.name = some sd → ¬ ReachFrom cfg.db sd m) → s'.env.rec? m = some v :=
  fun m v hne hr => install_keep_top_of (fun _ _ => True) cfg (fun _ _ _ => trivial) fuel noRec vro hk d reason hc s s' ha
    (fun m v hr hd => hmir m v hd.1 hr) h m v hne hr trivial

end EupsModel.Setup
