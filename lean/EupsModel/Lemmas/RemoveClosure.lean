import EupsModel.Lemmas.RemoveFuel
/-! What `remove --recursive` collects: the products opened from the requested one (itself, and every declared
direct dependency bearing another name than the product it is a dependency of) together with all their
direct dependencies.  `collect` / `collectLoop` are an instance of `Walk` (`collectSys`, `collect_walk`).  At the end
what any completed call guarantees, nested ones included, in the terms of `Opened` and `Collected` (`CollectPost`). -/
namespace EupsModel.Remove
open EupsModel.Deps

theorem directDeps_expand {db : Db} (hns : NoUnsetup db) {p : Prod} {deps : List Prod}
    (h : directDeps db p true = .ok deps) : deps = p :: (db.table p).map (target db []) := by
  unfold directDeps at h
  simp only [if_true, tableMissing_false hns p, Bool.false_eq_true, if_false] at h
  cases hd : depsOf db db.fuel [] p false 0 St.empty with
  | none => simp [hd] at h
  | some r =>
    simp only [hd, Except.ok.injEq] at h
    rw [← h, depsOf_nonrec_prods hns hd]

/-- the products whose dependencies are collected, starting from `p`: `p`, and every declared direct
dependency of such a product that bears another name -/
inductive Opened (db : Db) : Prod → Prod → Prop
  | self (p : Prod) : Opened db p p
  | step {p x q : Prod} : Opened db p x → Edge db [] x q → q.real = true → q.name ≠ x.name → Opened db p q

/-- the products `remove -R` collects from `p`: the opened ones and all their direct dependencies -/
def Collected (db : Db) (p q : Prod) : Prop := Opened db p q ∨ ∃ x, Opened db p x ∧ Edge db [] x q

theorem Opened.trans {db : Db} {p x q : Prod} (h1 : Opened db p x) (h2 : Opened db x q) : Opened db p q := by
  induction h2 with
  | self => exact h1
  | step _ he hr hn ih => exact Opened.step ih he hr hn

theorem Opened.head {db : Db} {p x q : Prod} (he : Edge db [] p x) (hr : x.real = true) (hn : x.name ≠ p.name)
    (h2 : Opened db x q) : Opened db p q :=
  (Opened.step (Opened.self p) he hr hn).trans h2

theorem target_found_self {db : Db} {d : Dep} {p' : Prod}
    (hp' : db.find (target db [] d).name (target db [] d).ver = some p') : p' = target db [] d := by
  unfold target at hp' ⊢
  cases hres : resolve db [] d with
  | none =>
    simp only [hres, Option.getD_none] at hp'
    rw [← resolve_nil, hres] at hp'; cases hp'
  | some r =>
    simp only [hres, Option.getD_some] at hp' ⊢
    rw [resolve_nil] at hres
    rw [find_name hres, find_again hres] at hp'
    exact (Option.some.inj hp').symm

open Walk

/-- the walk of `collect`: an opened product is read as itself followed by what the lines of its table denote; every
one goes on the list, and a declared one bearing another name is opened -/
def collectSys (db : Db) : Sys Prod (Str × Option Str) Prod Prod where
  key := prodkey
  node := ofKey
  items x := x :: (db.table x).map (target db [])
  needs _ q f := f = q
  opens x q v := v = q ∧ q.real = true ∧ q.name ≠ x.name
  node_key := fun ⟨hv, hr, _⟩ => ofKey_prodkey (hv ▸ hr)

theorem mem_items_iff {db : Db} {x q : Prod} : q ∈ (collectSys db).items x ↔ q = x ∨ Edge db [] x q := by
  simp only [collectSys, List.mem_cons, List.mem_map, Edge]

theorem needs_iff {db : Db} {x q f : Prod} : (collectSys db).needs x q f ↔ f = q := Iff.rfl

/-- a completed call on the product `p`: it was opened now and read completely, or only listed -/
def CallSpec (db : Db) (p : Prod) (recursive : Bool) (seen : Seen) (l : List Prod) (sn : Seen) : Prop :=
  ((recursive = false ∨ prodkey p ∈ seen) ∧ (∀ q, q ∈ l ↔ q = p) ∧ sn = seen) ∨
    (recursive = true ∧ prodkey p ∉ seen ∧
      Post (collectSys db) p ((collectSys db).items p) (prodkey p :: seen) (· ∈ ([] : List Prod)) sn (· ∈ l))

theorem collectLoop_walk (db : Db) (sb : Option SetupBy) (force : Bool) (top : Str × Str) (x : Prod)
    (recur : Prod → Seen → Except Err (List Prod × Seen))
    (hrec : ∀ q sn l sn', recur q sn = .ok (l, sn') →
      ∃ p', db.find q.name q.ver = some p' ∧ CallSpec db p' (q.name != x.name) sn l sn')
    (qs acc seen l sn) (hit : ∀ q ∈ qs, q ∈ (collectSys db).items x)
    (hqs : ∀ q ∈ qs, ∀ p', db.find q.name q.ver = some p' → p' = q)
    (h : collectLoop sb force top true recur qs acc seen = .ok (l, sn)) :
      Post (collectSys db) x qs seen (· ∈ acc) sn (· ∈ l) := by
  fun_induction collectLoop sb force top true recur qs acc seen with
  | case1 => cases h; exact Post.nil ..
  | case2 | case3 => cases h
  | case5 _ _ _ _ _ hr => exact absurd rfl hr
  | case4 q qs acc seen _ _ sub sn1 hq ih =>
    obtain ⟨p', hp', C⟩ := hrec q seen sub sn1 hq
    cases hqs q (by simp) p' hp'
    have P := ih (fun y hy => hit y (by simp [hy])) (fun y hy => hqs y (by simp [hy])) h
    have hi := hit q (by simp)
    rcases C with ⟨hno, hsub, rfl⟩ | ⟨hflag, _, C⟩
    · refine Post.plain hi (fun f => ?_) ?_ P
      · simp only [List.mem_append, List.mem_singleton, hsub, or_assoc, or_self, needs_iff]
      · rintro v ⟨rfl, _, hn⟩
        exact hno.resolve_left (by simpa using hn)
    · refine Post.descend (K := (· ∈ acc)) hi ⟨rfl, find_real hp', by simpa using hflag⟩ (fun v' hv' => hv'.1) C
        (fun f => by simp) (fun f => ?_) P
      simp only [List.mem_append, List.mem_singleton, or_assoc, needs_iff]
      exact or_congr_right or_comm

/-- **What `_remove` collects**, for databases without unsetup lines and no default product -/
theorem collect_walk (db : Db) (hns : NoUnsetup db) (sb : Option SetupBy) (force : Bool) (top : Str × Str) :
    ∀ f name ver recursive seen l sn, collect db sb force none top f name ver recursive seen = .ok (l, sn) →
      ∃ p, db.find name ver = some p ∧ CallSpec db p recursive seen l sn := by
  intro f
  induction f with
  | zero => intro name ver recursive seen l sn h; simp [collect] at h
  | succ k ih =>
    intro name ver recursive seen l sn h
    rcases collect_ok h with ⟨hdn, _⟩ | ⟨k', p, hk, hp, hc⟩
    · cases hdn
    · cases hk
      refine ⟨p, hp, ?_⟩
      have hname : p.name = name := find_name hp
      split at hc
      · -- opened now: its own item opens nothing, then the lines of its table
        rename_i hex
        simp only [Bool.and_eq_true, Bool.not_eq_true', List.contains_eq_mem, decide_eq_false_iff_not] at hex
        obtain ⟨deps, hdeps, hl⟩ := hc
        cases hex.1
        cases (List.cons.inj (directDeps_expand hns hdeps)).2
        refine .inr ⟨rfl, hex.2, Post.plain (F1 := (· ∈ [p, p])) (mem_items_iff.mpr (.inl rfl)) (fun f => by simp [needs_iff])
          (fun v hv => absurd rfl hv.2.2) ?_⟩
        exact collectLoop_walk db sb force top p _
          (by intro q sn' l' sn'' hq; rw [hname]; exact ih _ _ _ _ _ _ hq)
          _ _ _ _ _ (fun _ h => List.mem_cons_of_mem _ h)
          (fun q hq p' hp' => by obtain ⟨d, _, rfl⟩ := List.mem_map.mp hq; exact target_found_self hp') hl
      · rename_i hex
        obtain ⟨rfl, rfl⟩ := hc
        exact .inl ⟨by cases recursive <;> simp_all, by cases recursive <;> simp, rfl⟩

theorem collectSys_reach {db : Db} {p w : Prod} : Reach (collectSys db) p w ↔ Opened db p w := by
  constructor
  · intro h
    induction h with
    | refl => exact .self _
    | head hi ho _ ih =>
      obtain ⟨rfl, hr, hn⟩ := ho
      rcases mem_items_iff.mp hi with rfl | he
      · exact absurd rfl hn
      · exact Opened.head he hr hn ih
  · intro h
    induction h with
    | self => exact .refl _
    | step _ he hr hn ih => exact ih.tail (mem_items_iff.mpr (.inr he)) ⟨rfl, hr, hn⟩

theorem collectSys_just {db : Db} {p q : Prod} : Just (collectSys db) p q ↔ Collected db p q := by
  simp only [Just, collectSys_reach, Collected]
  constructor
  · rintro ⟨w, i, hw, hi, rfl⟩
    rcases mem_items_iff.mp hi with rfl | he
    · exact .inl hw
    · exact .inr ⟨w, hw, he⟩
  · rintro (h | ⟨w, hw, he⟩)
    · exact ⟨q, q, h, mem_items_iff.mpr (.inl rfl), rfl⟩
    · exact ⟨w, q, hw, mem_items_iff.mpr (.inr he), rfl⟩

theorem collect_is_closure {db : Db} (hns : NoUnsetup db) {sb : Option SetupBy} {force : Bool} {top : Str × Str}
    {f : Nat} {name : Str} {ver : Option Str} {l : List Prod} {sn : Seen}
    (h : collect db sb force none top f name ver true [] = .ok (l, sn)) :
    ∃ p, db.find name ver = some p ∧ ∀ q, q ∈ l ↔ Collected db p q := by
  obtain ⟨p, hp, ⟨h | h, _⟩ | ⟨_, _, P⟩⟩ := collect_walk db hns sb force top f name ver true [] l sn h
  · cases h
  · cases h
  · refine ⟨p, hp, fun q => (P.facts_iff ?_ (fun _ h => nomatch h) q).trans collectSys_just⟩
    intro k hk
    cases List.mem_singleton.mp hk
    rw [show (collectSys db).node (prodkey p) = p from ofKey_prodkey (find_real hp)]
    exact P.items_done

theorem Opened.real {db : Db} {p x : Prod} (hp : p.real = true) (h : Opened db p x) : x.real = true := by
  cases h with
  | self => exact hp
  | step _ _ hr _ => exact hr

/-- `x`'s dependencies have been collected: each is in the list, and each declared one bearing another name
is in the visited set -/
def ClosedR (db : Db) (l : List Prod) (sn : Seen) (x : Prod) : Prop :=
  ∀ q, Edge db [] x q → q ∈ l ∧ (q.real = true → q.name ≠ x.name → prodkey q ∈ sn)

theorem closedR_of_done {db : Db} {l : List Prod} {sn : Seen} {x : Prod}
    (h : Done (collectSys db) sn (· ∈ l) x) : ClosedR db l sn x := by
  intro q he
  have hq := h q (mem_items_iff.mpr (.inr he))
  exact ⟨hq.1 q (needs_iff.mpr rfl), fun hr hn => hq.2 q ⟨rfl, hr, hn⟩⟩

/-- what a completed `collect … name ver recursive seen = ok (l, sn)` guarantees, `p` being the product found;
`closed_new` speaks only of the keys marked during this call (one marked before may still be open further up) -/
structure CollectPost (db : Db) (p : Prod) (recursive : Bool) (seen : Seen) (l : List Prod) (sn : Seen) : Prop where
  seen_mono : ∀ k ∈ seen, k ∈ sn
  self_mem : p ∈ l
  sound : ∀ q ∈ l, q = p ∨ (recursive = true ∧ Collected db p q)
  seen_sound : ∀ k ∈ sn, k ∉ seen → recursive = true ∧ (ofKey k).real = true ∧ Opened db p (ofKey k)
  opened : recursive = true → prodkey p ∈ sn
  closed_new : ∀ k ∈ sn, k ∉ seen → ClosedR db l sn (ofKey k)

/-- `CallSpec` in the terms of `Opened` and `Collected` -/
theorem collect_post {db : Db} (hns : NoUnsetup db) {sb : Option SetupBy} {force : Bool} {top : Str × Str}
    {f : Nat} {name : Str} {ver : Option Str} {recursive : Bool} {seen : Seen} {l : List Prod} {sn : Seen}
    (h : collect db sb force none top f name ver recursive seen = .ok (l, sn)) :
    ∃ p, db.find name ver = some p ∧ CollectPost db p recursive seen l sn := by
  obtain ⟨p, hp, hc⟩ := collect_walk db hns sb force top f name ver recursive seen l sn h
  refine ⟨p, hp, ?_⟩
  have hreal : p.real = true := find_real hp
  rcases hc with ⟨hno, hl, rfl⟩ | ⟨rfl, _, P⟩
  · exact { seen_mono := fun _ h => h, self_mem := (hl p).mpr rfl, sound := fun q hq => .inl ((hl q).mp hq),
            seen_sound := fun k hk hnk => absurd hk hnk,
            opened := fun hr => hno.resolve_left (by simp [hr]),
            closed_new := fun k hk hnk => absurd hk hnk }
  · have hnode : (collectSys db).node (prodkey p) = p := ofKey_prodkey hreal
    exact {
      seen_mono := fun k hk => P.seen_mono k (List.mem_cons_of_mem _ hk)
      self_mem := (P.items_done p (mem_items_iff.mpr (.inl rfl))).1 p (needs_iff.mpr rfl)
      sound := fun q hq => .inr ⟨rfl, collectSys_just.mp ((P.sound q hq).resolve_left (nomatch ·))⟩
      seen_sound := by
        intro k hk hnk
        rcases P.new k hk with h | ⟨⟨w, hw, rfl⟩, _⟩
        · rcases List.mem_cons.mp h with rfl | h
          · rw [show ofKey (prodkey p) = p from hnode]; exact ⟨rfl, hreal, .self p⟩
          · exact absurd h hnk
        · have ho := collectSys_reach.mp hw
          have hr := ho.real hreal
          change _ ∧ (ofKey (prodkey w)).real = true ∧ Opened db p (ofKey (prodkey w))
          rw [ofKey_prodkey hr]; exact ⟨rfl, hr, ho⟩
      opened := fun _ => P.seen_mono _ (List.mem_cons_self ..)
      closed_new := by
        intro k hk hnk
        rcases P.new k hk with h | h
        · rcases List.mem_cons.mp h with rfl | h
          · exact closedR_of_done (hnode ▸ P.items_done)
          · exact absurd h hnk
        · exact closedR_of_done h.2 }

end EupsModel.Remove
