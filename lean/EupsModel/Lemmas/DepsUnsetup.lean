import EupsModel.Lemmas.DepsTopo
/-! An `unsetupRequired` line takes entries away from a listing and never adds one: every product listed is reachable
through the *setup* lines of the opened tables.  And what such a line did before the repair of D32: the pinned walk on
`a 1 ↔ b 1` with `unsetupRequired(a)` in `b`'s table (corpus/C13/d32_unsetup_in_cycle.json) fails for every fuel. -/
namespace EupsModel.Deps

/-- the database with every `unsetupRequired` / `unsetupOptional` line erased -/
def Db.setupOnly (db : Db) : Db :=
  { db with decls := db.decls.map fun d => { d with deps := d.deps.filter fun x => !x.unsetup } }

theorem declared_setupOnly (db : Db) (n v : Str) : db.setupOnly.declared n v = db.declared n v := by
  simp [Db.declared, Db.setupOnly, List.any_map, Function.comp_def]

theorem find_setupOnly (db : Db) (n : Str) (v : Option Str) : db.setupOnly.find n v = db.find n v := by
  unfold Db.find
  cases v with
  | some v => simp only [declared_setupOnly]
  | none =>
    have : db.setupOnly.current = db.current := rfl
    rw [this]
    cases db.current.lookup n with
    | none => rfl
    | some v => simp only [declared_setupOnly]

theorem resolve_setupOnly (db : Db) (req : Required) (d : Dep) : resolve db.setupOnly req d = resolve db req d := by
  unfold resolve
  split <;> exact find_setupOnly db _ _

theorem target_setupOnly (db : Db) (req : Required) (d : Dep) : target db.setupOnly req d = target db req d := by
  unfold target; rw [resolve_setupOnly]

theorem table_setupOnly (db : Db) (p : Prod) :
    db.setupOnly.table p = (db.table p).filter fun x => !x.unsetup := by
  unfold Db.table
  split
  · rename_i v _ _
    -- erasing lines changes neither the name nor the version of a declaration
    simp only [Db.setupOnly, List.find?_map, Function.comp_def]
    cases db.decls.find? (fun d => d.name == p.name && d.ver == v) with
    | none => rfl
    | some d =>
      simp only [Option.map_some, List.filter_filter]
      congr 1
      funext x
      exact Bool.and_comm _ _
  · rfl

theorem mem_table_setupOnly {db : Db} {p : Prod} {d : Dep} (hd : d ∈ db.table p) (hu : d.unsetup = false) :
    d ∈ db.setupOnly.table p := by
  rw [table_setupOnly]
  exact List.mem_filter.mpr ⟨hd, by simp [hu]⟩

theorem depsLoop_sound (db : Db) (req : Required)
    (recur : Prod → Nat → St → Option (List Entry × St)) (fresh : Prod → Option (List Str))
    (top : Prod) (recursive : Bool) (depth : Nat) (hm : ∀ p, db.tableMissing p = false)
    (hrec : ∀ p dp st out st', recur p dp st = some (out, st') → ∀ e ∈ out, Listed db.setupOnly req p e.prod)
    (ds acc st out st') (ht : ∀ d ∈ ds, d ∈ db.table top)
    (ha : ∀ e ∈ acc, Listed db.setupOnly req top e.prod)
    (h : depsLoop db req recur fresh top recursive depth ds acc st = some (out, st')) :
      ∀ e ∈ out, Listed db.setupOnly req top e.prod := by
  -- the entry of a setup line of `top`'s table, with what the nested walk listed (or nothing) behind it
  have hentry : ∀ {d} {acc sub : List Entry} {e0 : Entry}, d ∈ db.table top → ¬d.unsetup = true →
      e0.prod = target db req d → (∀ e ∈ acc, Listed db.setupOnly req top e.prod) →
      (∀ e ∈ sub, Listed db.setupOnly req top e.prod) →
      ∀ e ∈ acc ++ e0 :: sub, Listed db.setupOnly req top e.prod := by
    intro d acc sub e0 hd hu he ha hsub
    have h0 : Listed db.setupOnly req top e0.prod :=
      ⟨top, .refl _, d, mem_table_setupOnly hd (by simpa using hu), by rw [target_setupOnly, he]⟩
    exact List.forall_mem_append.mpr ⟨ha, List.forall_mem_cons.mpr ⟨h0, hsub⟩⟩
  fun_induction depsLoop db req recur fresh top recursive depth ds acc st with
  -- no line left
  | case1 => cases h; exact ha
  -- unsetup: name not listed
  | case2 _ _ _ _ _ _ ih => exact ih (List.forall_mem_cons.mp ht).2 ha h
  -- unsetup: nested listing fails
  | case3 => cases h
  -- unsetup: entries filtered
  | case4 _ _ _ _ _ _ _ _ _ ih =>
    exact ih (List.forall_mem_cons.mp ht).2 (fun e he => ha e (List.mem_filter.mp he).1) h
  -- unresolved
  | case5 d _ _ _ hu _ hr _ ih =>
    obtain ⟨hdt, ht⟩ := List.forall_mem_cons.mp ht
    exact ih ht (hentry hdt hu (by rw [target, hr]; rfl) ha nofun) h
  -- table file missing: there is none
  | case6 _ _ _ _ _ _ p _ _ hmiss => simp [hm p] at hmiss
  -- nested walk fails
  | case7 => cases h
  -- nested walk returns: what it listed is listed from `top` through the line
  | case8 d _ _ _ hu _ p hr hc _ sub _ hq ih =>
    obtain ⟨hdt, ht⟩ := List.forall_mem_cons.mp ht
    have hj : d.noRec = false := by simp only [Bool.and_eq_true, Bool.not_eq_true'] at hc; exact hc.1.2
    have hx : XEdge db.setupOnly req top p :=
      ⟨d, mem_table_setupOnly hdt (by simpa using hu), hj, by rw [resolve_setupOnly]; exact hr⟩
    exact ih ht (hentry hdt hu (by rw [target, hr]; rfl) ha fun e he => Listed.of_head hx (hrec _ _ _ _ _ hq e he)) h
  -- not opened
  | case9 d _ _ _ hu _ p hr _ ih =>
    obtain ⟨hdt, ht⟩ := List.forall_mem_cons.mp ht
    exact ih ht (hentry hdt hu (by rw [target, hr]; rfl) ha nofun) h

/-- **Unsetup lines only take entries away**, whatever the guard: every entry of a completed walk is denoted by a setup
line of a table opened through setup lines. -/
theorem depsOfG_sound (db : Db) (hm : ∀ p, db.tableMissing p = false) (req : Required) :
    ∀ f g top recursive depth st out st', depsOfG db f g req top recursive depth st = some (out, st') →
      ∀ e ∈ out, Listed db.setupOnly req top e.prod := by
  intro f
  induction f with
  | zero => intro g top recursive depth st out st' h; simp [depsOfG] at h
  | succ k ih =>
    intro g top recursive depth st out st' h
    unfold depsOfG at h
    exact depsLoop_sound db req _ _ top recursive depth hm
      (fun p dp st1 out1 st1' hq => ih g p true dp st1 out1 st1' hq)
      _ _ _ _ _ (fun _ hd => hd) (by intro e he; simp at he) h

/-- the same of a listing `getDependentProducts` returns, in every mode and with any fuel -/
theorem getDependentProducts_sound {db : Db} (hm : ∀ p, db.tableMissing p = false) {fuel : Nat} {top : Prod}
    {topological cc : Bool} {out : List Entry} (h : getDependentProducts db fuel top topological cc = .ok out) :
    ∀ e ∈ out, Listed db.setupOnly [] top e.prod ∧ e.prod ≠ top := by
  obtain ⟨o, st, hd, hsrc, _⟩ := getDependentProducts_source (hm top) h
  intro e he
  obtain ⟨hv, hne⟩ := (hsrc _).mp (List.mem_map_of_mem he)
  obtain ⟨e1, he1, hp⟩ := List.mem_map.mp hv
  exact ⟨hp ▸ depsOfG_sound db hm [] _ _ _ _ _ _ _ _ hd e1 he1, hne⟩

/-! ### the pinned walk never returns from an unsetup line inside a cycle

The fresh listing of `a` that `b`'s unsetup line starts reaches `b`'s table again two levels down, where the same line
starts the same listing with two units of fuel less. -/

def nA : Str := [97]  -- "a", "b", "1"
def nB : Str := [98]
def v1 : Str := [49]
def pA : Prod := ⟨nA, some v1, true⟩
def pB : Prod := ⟨nB, some v1, true⟩
def w32 : Db :=
  { decls := [⟨nA, v1, [⟨false, false, nB, none, false, false⟩], false⟩,
              ⟨nB, v1, [⟨false, false, nA, none, false, false⟩, ⟨true, false, nA, none, false, false⟩], false⟩]
    current := [(nA, v1), (nB, v1)] }

theorem table_pA : w32.table pA = [⟨false, false, nB, none, false, false⟩] := by decide +kernel
theorem table_pB : w32.table pB = [⟨false, false, nA, none, false, false⟩, ⟨true, false, nA, none, false, false⟩] := by decide +kernel
theorem resolve_nB : resolve w32 [] ⟨false, false, nB, none, false, false⟩ = some pB := by decide +kernel
theorem resolve_nA : resolve w32 [] ⟨false, false, nA, none, false, false⟩ = some pA := by decide +kernel

/-- `a`'s table from scratch opens `b`: whatever `b`'s table does not finish, `a`'s does not -/
theorem depsOfA_none (f : Nat) (dp : Nat)
    (h : depsOfPinned w32 f [] pB true (dp + 1) { seen := [prodkey pB], nodes := [pA], edges := [] } = none) :
    depsOfPinned w32 (f + 1) [] pA true dp St.empty = none := by
  unfold depsOfPinned
  rw [table_pA, depsLoop_cons_setup _ _ _ _ _ _ _ _ _ _ _ rfl (tableMissing_false_of (by decide)), resolve_nB]
  simp only [St.empty, List.contains_nil, Bool.false_eq_true, if_false, List.nil_append, Bool.not_false, Bool.and_self,
    if_true, h]

/-- `b`'s table opens `a` first; whether or not that returns, the unsetup line then asks for the fresh listing of `a` -/
theorem loopB_none (recur : Prod → Nat → St → Option (List Entry × St)) (fresh : Prod → Option (List Str))
    (dp : Nat) (st : St) (hA : st.seen.contains (prodkey pA) = false) (hf : fresh pA = none) :
    depsLoop w32 [] recur fresh pB true dp (w32.table pB) [] st = none := by
  rw [table_pB, depsLoop_cons_setup _ _ _ _ _ _ _ _ _ _ _ rfl (tableMissing_false_of (by decide)), resolve_nA]
  simp only [hA, Bool.not_false, Bool.and_self, if_true]
  cases recur pA (dp + 1) { st with seen := prodkey pA :: st.seen } with
  | none => rfl
  | some r =>
    have hfind : List.find? (fun e : Entry => e.prod.name == nA) (⟨pA, false, some dp⟩ :: r.1) = some ⟨pA, false, some dp⟩ :=
      List.find?_cons_of_pos (by rfl)
    have hreal : (pA.real && !false) = true := rfl
    simp only [depsLoop, if_true, List.nil_append, hfind, hreal, hf]

theorem pinned_none : ∀ (f dp : Nat), depsOfPinned w32 f [] pA true dp St.empty = none := by
  intro f
  induction f using Nat.strongRecOn with
  | _ f ih =>
    intro dp
    match f with
    | 0 => rfl
    | 1 => exact depsOfA_none 0 dp rfl
    | k + 2 =>
      refine depsOfA_none (k + 1) dp ?_
      unfold depsOfPinned
      exact loopB_none _ _ _ _ (by decide) (by rw [ih k (by omega) 0]; rfl)

end EupsModel.Deps
