import EupsModel.Lemmas.ManifestText
/-! `DistribServer`: the cache of parsed tag lists and the cache of fetched files.  Both are a state that only saves work
(`answers_eq_spec`): under the cache's invariant (`CacheOk`, `CacheSound`) one request is answered as a fresh object
answers it and the invariant is kept (`serve1_spec`, `getFile_sound`). -/
namespace EupsModel.Manifest

/-- A state that only saves work: if from every `ok` state the answer is `spec` of the request and `ok` is kept, every
history run from an `ok` state is answered `spec`, request by request.  `run` is given by its two equations, which hold
by `rfl` for `serve` and `getFiles`. -/
theorem answers_eq_spec {σ ρ α : Type} {step : σ → ρ → α × σ} {ok : σ → Prop} {spec : ρ → α}
    (h : ∀ s r, ok s → (step s r).1 = spec r ∧ ok (step s r).2)
    {run : σ → List ρ → List α} (hnil : ∀ s, run s [] = [])
    (hcons : ∀ s r rs, run s (r :: rs) = (step s r).1 :: run (step s r).2 rs) :
    ∀ rs s, ok s → run s rs = rs.map spec := by
  intro rs
  induction rs with
  | nil => intro s _; exact hnil s
  | cons r rs ih => intro s hs; rw [hcons, (h s r hs).1, ih _ (h s r hs).2]; rfl

def CacheOk (files : List (Str × Str)) (c : TagCache) : Prop :=
  ∀ k t, cacheGet c k = some t → parseList files k.1 k.2 = .ok t

theorem cacheOk_nil (files : List (Str × Str)) : CacheOk files [] := by
  intro k t h; simp [cacheGet] at h

def freshAnswer (files : List (Str × Str)) (r : Req) : Ans :=
  match parseList files r.tag r.flavor with
  | .error e => .err e
  | .ok t => answerFrom r t

theorem serve1_spec (files : List (Str × Str)) (c : TagCache) (r : Req) (hc : CacheOk files c) :
    (serve1 false files c r).1 = freshAnswer files r ∧ CacheOk files (serve1 false files c r).2 := by
  unfold serve1 getTaggedProductList freshAnswer
  simp only [cacheKey, Bool.false_eq_true, if_false]
  cases hg : cacheGet c (r.tag, r.flavor) with
  | some t =>
    have hpl := hc (r.tag, r.flavor) t hg
    simp only at hpl
    rw [hpl]
    exact ⟨rfl, hc⟩
  | none =>
    cases hp : parseList files r.tag r.flavor with
    | error e => exact ⟨rfl, hc⟩
    | ok t =>
      refine ⟨rfl, ?_⟩
      intro k t' hk
      simp only [cacheGet] at hk
      by_cases hkk : (r.tag, r.flavor) = k
      · simp only [hkk, if_true, Option.some.injEq] at hk
        subst hk; subst hkk
        exact hp
      · simp only [hkk, if_false] at hk
        exact hc k t' hk

theorem serve1_fresh (files : List (Str × Str)) (r : Req) : (serve1 false files [] r).1 = freshAnswer files r :=
  (serve1_spec files [] r (cacheOk_nil files)).1

theorem cacheAfter_ok (files : List (Str × Str)) (c : TagCache) (history : List Req) (hc : CacheOk files c) :
    CacheOk files (cacheAfter false files c history) := by
  induction history generalizing c with
  | nil => exact hc
  | cons r rs ih => exact ih _ (serve1_spec files c r hc).2

theorem serve_eq_fresh (files : List (Str × Str)) (c : TagCache) (reqs : List Req) (hc : CacheOk files c) :
    serve false files c reqs = reqs.map (freshAnswer files) :=
  answers_eq_spec (serve1_spec files) (fun _ => rfl) (fun _ _ _ => rfl) reqs c hc

def CacheSound (server : List (Str × Str)) (s : FileSrv) : Prop :=
  ∀ x ∈ s.cache, ∃ c, assocGet server x.1 = some c ∧ assocGet s.files x.2 = some c

/-- `hdest` is what the repaired `cacheFile` establishes before it looks anything up -/
theorem CacheSound.write {server : List (Str × Str)} {s : FileSrv} {path dest c : Str} (cache' : List (Str × Str))
    (h : CacheSound server s) (hc : assocGet server path = some c) (hdest : ∀ x ∈ s.cache, x.2 = dest → x.1 = path)
    (hsub : ∀ x ∈ cache', x = (path, dest) ∨ x ∈ s.cache) :
    CacheSound server { cache := cache', files := assocSet s.files dest c } := by
  intro x hx
  rcases hsub x hx with rfl | hx'
  · exact ⟨c, hc, assocGet_assocSet_same _ _ _⟩
  · by_cases hxd : x.2 = dest
    · exact ⟨c, hdest x hx' hxd ▸ hc, hxd ▸ assocGet_assocSet_same _ _ _⟩
    · obtain ⟨c', hs', hf'⟩ := h x hx'
      exact ⟨c', hs', (assocGet_assocSet_other hxd).trans hf'⟩

theorem getFile_sound (server : List (Str × Str)) (s : FileSrv) (path dest : Str) (h : CacheSound server s) :
    (getFile false server s path dest).1 = (assocGet server path).elim .notFound .content ∧
      CacheSound server (getFile false server s path dest).2 := by
  have h1 : CacheSound server { s with cache := s.cache.filter fun p => !(p.2 == dest && p.1 != path) } :=
    fun x hx => h x (List.mem_filter.mp hx).1
  have hdest : ∀ x ∈ s.cache.filter (fun p => !(p.2 == dest && p.1 != path)), x.2 = dest → x.1 = path := by
    intro x hx hd
    simpa [hd] using (List.mem_filter.mp hx).2
  unfold getFile
  simp only [Bool.false_eq_true, if_false]
  cases hc : assocGet (s.cache.filter fun p => !(p.2 == dest && p.1 != path)) path with
  | some f =>
    obtain ⟨c, hs, hf⟩ := h1 (path, f) (assocGet_mem hc)
    replace hs : assocGet server path = some c := hs
    replace hf : assocGet s.files f = some c := hf
    by_cases hfd : f = dest
    · subst hfd
      simp only [beq_self_eq_true, if_true, hf, hs]
      exact ⟨rfl, h1⟩
    · have : (f == dest) = false := by simpa using hfd
      simp only [this, Bool.false_eq_true, if_false, hf, hs]
      exact ⟨rfl, h1.write _ hs hdest fun x hx => Or.inr hx⟩
  | none =>
    cases hsrv : assocGet server path with
    | none => exact ⟨rfl, h1⟩
    | some c => exact ⟨rfl, h1.write _ hsrv hdest fun _ => mem_assocSet⟩

theorem getFiles_sound (server : List (Str × Str)) (s : FileSrv) (reqs : List (Str × Str)) (h : CacheSound server s) :
    getFiles false server s reqs = reqs.map fun r => (assocGet server r.1).elim .notFound .content :=
  -- `r` with its type: left to unification, `(getFile …).1` meets an unassigned `step` and `getFile` is unfolded
  answers_eq_spec (step := fun s (r : Str × Str) => getFile false server s r.1 r.2)
    (fun s r => getFile_sound server s r.1 r.2) (fun _ => rfl) (fun _ _ _ => rfl) reqs s h

end EupsModel.Manifest
