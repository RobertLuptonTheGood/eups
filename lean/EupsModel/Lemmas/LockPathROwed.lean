import EupsModel.Lemmas.LockPathR
/-! C09, repaired protocol, several stacks — nothing is abandoned: a process is engaged with a stack only while its
control state still owes that stack a release (`Owe`), and no `giveLocks` call ever ends in an exception (`norf`,
`CtlOk`). For a call these are `LockPathGen.Branch.owes` and `.ok`; for a signal they are shown here.  No hypothesis on
the configuration (paths may even repeat elements). -/
namespace EupsModel.LockPathR
open EupsModel.Lock (Pid Kind Err mem_take_of_mem_take_succ)
open EupsModel.LockR

/-- stacks to which the control state still owes a release (or on which it is working) -/
def owed : Ctl → List Dir → List Dir
  | .acq k, path => path.take (k + 1)
  | .unw j k _, path => (path.take k).drop j
  | .body n _, path => path.take n
  | .rel j n _ _, path => (path.take n).drop j
  | .fin _, _ => []

def Owe (S : PSt) : Prop :=
  ∀ p d, engaged ((S.comp d).pc p) = true → d ∈ owed (S.ctl p) (S.path p)

def okOut : Out → Prop
  | .failedRel _ => False
  | _ => True

/-- the control state is well formed, the exit handler is registered, and no release has failed -/
def CtlOk : Ctl → Prop
  | .acq _ => True
  | .unw j k _ => j < k
  | .body _ reg => reg = true
  | .rel j n _ o => j < n ∧ okOut o
  | .fin o => okOut o

structure PInv (S : PSt) : Prop where
  inv  : ∀ d, Inv (S.comp d)
  norf : ∀ d q e, (S.comp d).pc q ≠ .failedRel e
  ok   : ∀ p, CtlOk (S.ctl p)
  owe  : Owe S

theorem pinv_minit (kind : Pid → Kind) (lp : Pid → Option Pid) (tries : Pid → Nat) (path : Pid → List Dir)
    (explicit : Pid → Bool) : PInv (minit kind lp tries path explicit) := by
  refine ⟨fun _ => inv_init kind lp tries, ?_, ?_, ?_⟩
  · intro d q e; simp [minit, init]
  · intro p; simp only [minit]; split <;> simp [CtlOk]
  · intro p d he; simp [minit, init, engaged] at he

theorem ok_of {S S' : PSt} {i : Pid} (hok : ∀ p, CtlOk (S.ctl p)) (hctl : ∀ q, q ≠ i → S'.ctl q = S.ctl q)
    (h : CtlOk (S'.ctl i)) : ∀ p, CtlOk (S'.ctl p) := by
  intro p
  by_cases hp : p = i
  · subst hp; exact h
  · rw [hctl p hp]; exact hok p

theorem owed_view (c : Ctl) (path : List Dir) : owed c path = LockPathGen.owed (view c) path := by cases c <;> rfl

theorem ctlOk_view (c : Ctl) : CtlOk c ↔ LockPathGen.Ok okOut (view c) := by cases c <;> exact Iff.rfl

theorem PBranch.noFail {S : PSt} {i : Pid} {d : Dir} {s' : St} {c c' : LockPathGen.Ctl Out} (hb : PBranch S i c d s' c')
    (h : PInv S) (e : Err) : ¬ seen i s' (.failedRel e) := by
  obtain ⟨n, hn⟩ := hb.isRun
  exact fun hs => noRelFail_run _ _ (h.inv d) (h.norf d) i e (hn ▸ hs)

theorem ok_mstep (S : PSt) (i : Pid) (h : PInv S) : ∀ p, CtlOk ((mstep S i).ctl p) := by
  obtain ⟨d, s', c', hb, he⟩ := mstep_branch S i
  rw [he]
  refine ok_of h.ok (fun q hq => setCtl_ctl_other _ _ _ _ hq) ?_
  rw [setCtl_ctl_same, ctlOk_view]
  exact hb.ok id (hb.noFail h) trivial (fun _ => trivial) ((ctlOk_view _).1 (h.ok i))

theorem seen_gone {i : Pid} {s : St} (h : seen i s .done ∨ ∃ e, seen i s (.failedAcq e)) : engaged (s.pc i) = false := by
  rcases h with h | ⟨e, h⟩ <;> rw [show s.pc i = _ from h] <;> rfl

theorem owe_mstep (S : PSt) (i : Pid) (h : PInv S) : Owe (mstep S i) := by
  obtain ⟨d, s', c', hb, he⟩ := mstep_branch S i
  have e : Effect S (mstep S i) i := mstep_effect S i
  have howes := hb.owes (busy := fun s => engaged (s.pc i)) id (hb.noFail h) seen_gone
    ((ctlOk_view _).1 (h.ok i)) (fun x hx => owed_view _ _ ▸ h.owe i x hx)
  intro p x hen
  rw [e.path]
  by_cases hp : p = i
  · subst hp
    rw [he] at hen ⊢
    rw [setCtl_ctl_same, owed_view]; exact howes x hen
  · rw [e.ctlOther p hp]; rw [e.pc_other p hp] at hen; exact h.owe p x hen

theorem pinv_mstep (S : PSt) (i : Pid) (h : PInv S) : PInv (mstep S i) :=
  have e := mstep_effect S i
  ⟨e.inv h.inv, e.noRelFail h.inv h.norf, ok_mstep S i h, owe_mstep S i h⟩

theorem pinv_mrun (S : PSt) (sched : List Pid) (h : PInv S) : PInv (mrun S sched) :=
  Lock.foldl_keeps (P := PInv) pinv_mstep sched h

theorem pinv_mintr (S : PSt) (i : Pid) (h : PInv S) : PInv (mintr S i) := by
  obtain ⟨c', hb, he⟩ := mintr_branch S i
  rw [he]
  have hok := h.ok i
  -- only the control state of `i` changes: what it was engaged with and owed before must be owed after
  have lift : (∀ d, engaged ((S.comp d).pc i) = true → d ∈ owed (S.ctl i) (S.path i) → d ∈ owed c' (S.path i)) →
      Owe (setCtl S i c') := by
    intro hsub p d he
    have := h.owe p d he
    by_cases hp : p = i
    · subst hp
      rw [setCtl_ctl_same]; exact hsub d he this
    · rw [setCtl_ctl_other _ _ _ _ hp]; exact this
  -- about to call `mkdir` on element `k`: the process is not engaged with that stack, so it owes the earlier ones only
  have atRest : ∀ {k}, S.ctl i = .acq k → atRestAcq S i k = true → ∀ d, engaged ((S.comp d).pc i) = true →
      d ∈ owed (S.ctl i) (S.path i) → d ∈ (S.path i).take k := by
    intro k hc hr d he hd
    obtain ⟨d0, hg, hne⟩ := atRestAcq_spec hr
    rw [hc] at hd
    exact mem_take_of_mem_take_succ hg hd (fun e => by rw [e, hne] at he; cases he)
  refine ⟨h.inv, h.norf, ok_of h.ok (fun q hq => setCtl_ctl_other _ _ _ _ hq) ?_, ?_⟩
  · rw [setCtl_ctl_same]
    cases hb with
    | ignored => exact hok
    | bodyNone | acqFirst => trivial
    | body _ hn | acq _ _ hn => exact ⟨Nat.pos_of_ne_zero hn, trivial⟩
    | rel hc => rw [hc] at hok; exact ⟨hok.1, trivial⟩
  · cases hb with
    | ignored => rw [setCtl_self]; exact h.owe
    | bodyNone hc => exact lift (fun d _ hd => by rw [hc] at hd; cases hd)
    | body hc | rel hc => exact lift (fun d _ hd => by rwa [hc] at hd)
    | acqFirst hc hr => exact lift (fun d he hd => by have := atRest hc hr d he hd; cases this)
    | acq hc hr => exact lift (atRest hc hr)

theorem pinv_mrunE (S : PSt) (evs : List MEv) (h : PInv S) : PInv (mrunE S evs) := by
  refine Lock.foldl_keeps (P := PInv) (fun S e h => ?_) evs h
  cases e with
  | call i => exact pinv_mstep S i h
  | intr i => exact pinv_mintr S i h

theorem PInv.finished_clear {S : PSt} (h : PInv S) {p : Pid} (hf : finished (S.ctl p) = true) (d : Dir) :
    engaged ((S.comp d).pc p) = false := by
  cases he : engaged ((S.comp d).pc p) with
  | false => rfl
  | true =>
    have := h.owe p d he
    cases hc : S.ctl p with
    | fin o => rw [hc] at this; cases this
    | _ => rw [hc] at hf; cases hf

theorem PInv.not_failedRel {S : PSt} (h : PInv S) (p : Pid) (e : Err) : S.ctl p ≠ .fin (.failedRel e) :=
  fun hc => by have := h.ok p; rw [hc] at this; exact this

end EupsModel.LockPathR
