import EupsModel.Lemmas.LockList
/-! C09, pinned protocol — `Lock.step` program counter by program counter: as rewriting lemmas, and as a relation
(`Branch`) with one constructor per path through `step` and the test that selects it: an invariant proof is `cases` on the
branch taken. -/
namespace EupsModel.Lock
variable {s : St} {i : Pid}

@[simp] theorem setPC_dir (s : St) (i : Pid) (v : PC) : (setPC s i v).dir = s.dir := rfl
@[simp] theorem setPC_files (s : St) (i : Pid) (v : PC) : (setPC s i v).files = s.files := rfl
@[simp] theorem setPC_kind (s : St) (i : Pid) (v : PC) : (setPC s i v).kind = s.kind := rfl
@[simp] theorem setPC_lp (s : St) (i : Pid) (v : PC) : (setPC s i v).lp = s.lp := rfl
@[simp] theorem setPC_pc (s : St) (i : Pid) (v : PC) : (setPC s i v).pc = upd s.pc i v := rfl

theorem step_mkdir {left : Nat} (h : s.pc i = .mkdir left) :
    step s i = if s.dir then (if s.kind i = .ex then setPC s i (.scanAll left) else setPC s i .existsChk)
      else { s with dir := true, pc := upd s.pc i .scan } := by
  unfold step; simp only [h]
  cases s.kind i <;> simp

theorem step_scanAll {left : Nat} (h : s.pc i = .scanAll left) :
    step s i = if parentHolds (s.lp i) s.files then setPC s i .scan else setPC s i (.scanMsg left) := by
  unfold step; simp only [h]

theorem step_scanMsg_zero (h : s.pc i = .scanMsg 0) : step s i = setPC s i (.failedAcq .runtime) := by
  unfold step; simp only [h]

theorem step_scanMsg_succ {n : Nat} (h : s.pc i = .scanMsg (n + 1)) : step s i = setPC s i (.mkdir n) := by
  unfold step; simp only [h]

theorem step_existsChk (h : s.pc i = .existsChk) :
    step s i = if s.dir then setPC s i .scan else setPC s i .unlocked := by
  unfold step; simp only [h]

theorem step_scan (h : s.pc i = .scan) :
    step s i = if (exFiles s.files).length = 0 then setPC s i .create
      else if (exFiles s.files).length = 1 then setPC s i .scan2
      else setPC s i (.failedAcq .runtime) := by
  unfold step; simp only [h]

theorem step_scan2 (h : s.pc i = .scan2) :
    step s i = match (exFiles s.files).head? with
      | none => setPC s i (.failedAcq .index)
      | some f => if s.lp i = some f.2 then setPC s i .create else setPC s i (.failedAcq .runtime) := by
  unfold step; simp only [h]; rfl

theorem step_create (h : s.pc i = .create) :
    step s i = if s.dir then
        (if s.files.contains (s.kind i, i) then setPC s i .hold
         else { s with files := (s.kind i, i) :: s.files, pc := upd s.pc i .hold })
      else setPC s i (.failedAcq .enoent) := by
  unfold step; simp only [h]

theorem step_hold (h : s.pc i = .hold) : step s i = setPC s i .isdir := by
  unfold step; simp only [h]

theorem step_unlocked (h : s.pc i = .unlocked) : step s i = setPC s i .done := by
  unfold step; simp only [h]

theorem step_isdir (h : s.pc i = .isdir) :
    step s i = if s.dir then setPC s i .rexists else setPC s i .done := by
  unfold step; simp only [h]

theorem step_rexists (h : s.pc i = .rexists) :
    step s i = if s.files.contains (s.kind i, i) then setPC s i .remove else setPC s i .count := by
  unfold step; simp only [h]

theorem step_remove (h : s.pc i = .remove) :
    step s i = if s.files.contains (s.kind i, i) then
        { s with files := s.files.filter (· != (s.kind i, i)), pc := upd s.pc i .count }
      else setPC s i (.failedRel .enoent) := by
  unfold step; simp only [h]

theorem step_count (h : s.pc i = .count) :
    step s i = if s.dir then (if s.files.isEmpty then setPC s i .rmdir else setPC s i .done)
      else setPC s i (.failedRel .stopIter) := by
  unfold step; simp only [h]

theorem step_rmdir (h : s.pc i = .rmdir) :
    step s i = if s.dir then
        (if s.files.isEmpty then { s with dir := false, pc := upd s.pc i .done }
         else setPC s i (.failedRel .enotempty))
      else setPC s i (.failedRel .enoent) := by
  unfold step; simp only [h]

theorem step_done (h : s.pc i = .done) : step s i = s := by
  unfold step; simp only [h]

theorem step_failedAcq {e : Err} (h : s.pc i = .failedAcq e) : step s i = s := by
  unfold step; simp only [h]

theorem step_failedRel {e : Err} (h : s.pc i = .failedRel e) : step s i = s := by
  unfold step; simp only [h]

theorem upd_self (f : Pid → PC) (i : Pid) : upd f i (f i) = f := fupd_self f i

theorem related_symm {s : St} {i j : Pid} (h : related s i j) : related s j i := Or.symm h

def terminated : PC → Bool
  | .done | .failedAcq _ | .failedRel _ => true
  | _ => false

/-- `Branch s p v d fs`: the call of `p` in `s` takes it to `v` and leaves directory flag `d` and lock files `fs`. -/
inductive Branch (s : St) (p : Pid) : PC → Bool → List (Kind × Pid) → Prop
  | mkdirNew {l} : s.pc p = .mkdir l → s.dir = false → Branch s p .scan true s.files
  | mkdirEx {l} : s.pc p = .mkdir l → s.dir = true → s.kind p = .ex → Branch s p (.scanAll l) s.dir s.files
  | mkdirSh {l} : s.pc p = .mkdir l → s.dir = true → s.kind p = .sh → Branch s p .existsChk s.dir s.files
  | scanParent {l} : s.pc p = .scanAll l → parentHolds (s.lp p) s.files = true → Branch s p .scan s.dir s.files
  | scanOther {l} : s.pc p = .scanAll l → parentHolds (s.lp p) s.files = false →
      Branch s p (.scanMsg l) s.dir s.files
  | msgLast : s.pc p = .scanMsg 0 → Branch s p (.failedAcq .runtime) s.dir s.files
  | msgRetry {n} : s.pc p = .scanMsg (n + 1) → Branch s p (.mkdir n) s.dir s.files
  | dirThere : s.pc p = .existsChk → s.dir = true → Branch s p .scan s.dir s.files
  | dirGone : s.pc p = .existsChk → s.dir = false → Branch s p .unlocked s.dir s.files
  | scanNone : s.pc p = .scan → (exFiles s.files).length = 0 → Branch s p .create s.dir s.files
  | scanOne : s.pc p = .scan → (exFiles s.files).length = 1 → Branch s p .scan2 s.dir s.files
  | scanMany : s.pc p = .scan → (exFiles s.files).length ≠ 0 → (exFiles s.files).length ≠ 1 →
      Branch s p (.failedAcq .runtime) s.dir s.files
  | scan2Gone : s.pc p = .scan2 → (exFiles s.files).head? = none → Branch s p (.failedAcq .index) s.dir s.files
  | scan2Parent {f} : s.pc p = .scan2 → (exFiles s.files).head? = some f → s.lp p = some f.2 →
      Branch s p .create s.dir s.files
  | scan2Other {f} : s.pc p = .scan2 → (exFiles s.files).head? = some f → s.lp p ≠ some f.2 →
      Branch s p (.failedAcq .runtime) s.dir s.files
  | createNew : s.pc p = .create → s.dir = true → (s.kind p, p) ∉ s.files →
      Branch s p .hold s.dir ((s.kind p, p) :: s.files)
  | createOld : s.pc p = .create → s.dir = true → (s.kind p, p) ∈ s.files → Branch s p .hold s.dir s.files
  | createGone : s.pc p = .create → s.dir = false → Branch s p (.failedAcq .enoent) s.dir s.files
  | bodyEnds : s.pc p = .hold → Branch s p .isdir s.dir s.files
  | unlockedEnds : s.pc p = .unlocked → Branch s p .done s.dir s.files
  | isdirYes : s.pc p = .isdir → s.dir = true → Branch s p .rexists s.dir s.files
  | isdirNo : s.pc p = .isdir → s.dir = false → Branch s p .done s.dir s.files
  | existsYes : s.pc p = .rexists → (s.kind p, p) ∈ s.files → Branch s p .remove s.dir s.files
  | existsNo : s.pc p = .rexists → (s.kind p, p) ∉ s.files → Branch s p .count s.dir s.files
  | removeOk : s.pc p = .remove → (s.kind p, p) ∈ s.files →
      Branch s p .count s.dir (s.files.filter (· != (s.kind p, p)))
  | removeGone : s.pc p = .remove → (s.kind p, p) ∉ s.files → Branch s p (.failedRel .enoent) s.dir s.files
  | countZero : s.pc p = .count → s.dir = true → s.files = [] → Branch s p .rmdir s.dir s.files
  | countSome : s.pc p = .count → s.dir = true → s.files ≠ [] → Branch s p .done s.dir s.files
  | countGone : s.pc p = .count → s.dir = false → Branch s p (.failedRel .stopIter) s.dir s.files
  | rmdirOk : s.pc p = .rmdir → s.dir = true → s.files = [] → Branch s p .done false s.files
  | rmdirFull : s.pc p = .rmdir → s.dir = true → s.files ≠ [] → Branch s p (.failedRel .enotempty) s.dir s.files
  | rmdirGone : s.pc p = .rmdir → s.dir = false → Branch s p (.failedRel .enoent) s.dir s.files
  | idle : terminated (s.pc p) = true → Branch s p (s.pc p) s.dir s.files

theorem step_branch (s : St) (p : Pid) :
    ∃ v d fs, Branch s p v d fs ∧ step s p = ⟨d, fs, s.kind, s.lp, upd s.pc p v⟩ := by
  have no : ∀ {b : Bool}, ¬ b = true → b = false := by simp
  have mem : ∀ {f : Kind × Pid}, s.files.contains f = true ↔ f ∈ s.files := List.contains_iff_mem
  have nil : s.files.isEmpty = true ↔ s.files = [] := List.isEmpty_iff
  fun_cases step s p  -- one case per path through `step`, in the order of its text
  next hpc hd hk => exact ⟨_, _, _, .mkdirEx hpc hd hk, rfl⟩
  next hpc hd hk => exact ⟨_, _, _, .mkdirSh hpc hd hk, rfl⟩
  next hpc hd => exact ⟨_, _, _, .mkdirNew hpc (no hd), rfl⟩
  next hpc hp => exact ⟨_, _, _, .scanParent hpc hp, rfl⟩
  next hpc hp => exact ⟨_, _, _, .scanOther hpc (no hp), rfl⟩
  next hpc => exact ⟨_, _, _, .msgLast hpc, rfl⟩
  next hpc => exact ⟨_, _, _, .msgRetry hpc, rfl⟩
  next hpc hd => exact ⟨_, _, _, .dirThere hpc hd, rfl⟩
  next hpc hd => exact ⟨_, _, _, .dirGone hpc (no hd), rfl⟩
  next hpc h0 => exact ⟨_, _, _, .scanNone hpc h0, rfl⟩
  next hpc h0 h1 => exact ⟨_, _, _, .scanOne hpc h1, rfl⟩
  next hpc h0 h1 => exact ⟨_, _, _, .scanMany hpc h0 h1, rfl⟩
  next hpc hh => exact ⟨_, _, _, .scan2Gone hpc hh, rfl⟩
  next hpc f hh hl => exact ⟨_, _, _, .scan2Parent hpc hh hl, rfl⟩
  next hpc f hh hl => exact ⟨_, _, _, .scan2Other hpc hh hl, rfl⟩
  next hpc hd hc => exact ⟨_, _, _, .createOld hpc hd (mem.1 hc), rfl⟩
  next hpc hd hc => exact ⟨_, _, _, .createNew hpc hd (mt mem.2 hc), rfl⟩
  next hpc hd => exact ⟨_, _, _, .createGone hpc (no hd), rfl⟩
  next hpc => exact ⟨_, _, _, .bodyEnds hpc, rfl⟩
  next hpc => exact ⟨_, _, _, .unlockedEnds hpc, rfl⟩
  next hpc hd => exact ⟨_, _, _, .isdirYes hpc hd, rfl⟩
  next hpc hd => exact ⟨_, _, _, .isdirNo hpc (no hd), rfl⟩
  next hpc hc => exact ⟨_, _, _, .existsYes hpc (mem.1 hc), rfl⟩
  next hpc hc => exact ⟨_, _, _, .existsNo hpc (mt mem.2 hc), rfl⟩
  next hpc hc => exact ⟨_, _, _, .removeOk hpc (mem.1 hc), rfl⟩
  next hpc hc => exact ⟨_, _, _, .removeGone hpc (mt mem.2 hc), rfl⟩
  next hpc hd he => exact ⟨_, _, _, .countZero hpc hd (nil.1 he), rfl⟩
  next hpc hd he => exact ⟨_, _, _, .countSome hpc hd (mt nil.2 he), rfl⟩
  next hpc hd => exact ⟨_, _, _, .countGone hpc (no hd), rfl⟩
  next hpc hd he => exact ⟨_, _, _, .rmdirOk hpc hd (nil.1 he), rfl⟩
  next hpc hd he => exact ⟨_, _, _, .rmdirFull hpc hd (mt nil.2 he), rfl⟩
  next hpc hd => exact ⟨_, _, _, .rmdirGone hpc (no hd), rfl⟩
  all_goals exact ⟨_, _, _, .idle (by simp [*, terminated]), by rw [upd_self]⟩

@[simp] theorem step_kind (s : St) (i : Pid) : (step s i).kind = s.kind := by
  obtain ⟨_, _, _, _, he⟩ := step_branch s i
  rw [he]

@[simp] theorem step_lp (s : St) (i : Pid) : (step s i).lp = s.lp := by
  obtain ⟨_, _, _, _, he⟩ := step_branch s i
  rw [he]

@[simp] theorem run_kind (s : St) (sched : List Pid) : (run s sched).kind = s.kind :=
  foldl_keeps (P := fun s' : St => s'.kind = s.kind) (fun s' i h => (step_kind s' i).trans h) sched rfl

@[simp] theorem run_lp (s : St) (sched : List Pid) : (run s sched).lp = s.lp :=
  foldl_keeps (P := fun s' : St => s'.lp = s.lp) (fun s' i h => (step_lp s' i).trans h) sched rfl

theorem step_pc_other (s : St) (i j : Pid) (h : j ≠ i) : (step s i).pc j = s.pc j := by
  obtain ⟨_, _, _, _, he⟩ := step_branch s i
  rw [he]; exact upd_other _ _ _ _ h

theorem run_replicate_pc_other (s : St) (i j : Pid) (n : Nat) (h : j ≠ i) :
    (run s (List.replicate n i)).pc j = s.pc j := by
  induction n generalizing s with
  | zero => rfl
  | succ n ih => rw [List.replicate_succ, run_cons, ih, step_pc_other s i j h]

end EupsModel.Lock
