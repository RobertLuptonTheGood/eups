import EupsModel.Lemmas.PathAlg
/-! Sequences of path-variable actions at the list level: a table contributes a sequence of
`envPrepend` / `envAppend` actions to one variable; unsetup runs the same actions in unsetup mode.
Both have a normal form (`uniq_unsetupAll`, `uniq_setupAll`; an empty table does not de-duplicate, hence the `uniq`);
inverse and idempotence follow from the two. -/
namespace EupsModel.PathAlg
variable {α : Type} [DecidableEq α]

/-- the contributions of a whole table to one variable: (append?, value) in table order -/
def setupAll (acts : List (Bool × α)) (old : List α) : List α :=
  acts.foldl (fun l a => applyL a.1 true [a.2] l) old
/-- the same actions in unsetup mode (in any order: here table order) -/
def unsetupAll (acts : List (Bool × α)) (l : List α) : List α :=
  acts.foldl (fun l a => applyL a.1 false [a.2] l) l

theorem filter_notin_snoc (v : α) (vs l : List α) :
    (l.filter (fun x => decide (x ∉ vs))).filter (· != v) = l.filter (fun x => decide (x ∉ vs ++ [v])) := by
  rw [List.filter_filter]
  apply List.filter_congr
  intro x _
  by_cases h : x = v <;> simp [h]

theorem filter_notin_self (vs l : List α) (h : ∀ v ∈ vs, v ∉ l) :
    l.filter (fun x => decide (x ∉ vs)) = l := by
  apply List.filter_eq_self.mpr
  intro a ha
  simp
  intro e; exact h a e ha

@[simp] theorem unsetupAll_nil (l : List α) : unsetupAll ([] : List (Bool × α)) l = l := rfl

theorem unsetupAll_cons (a : Bool × α) (acts : List (Bool × α)) (l : List α) :
    unsetupAll (a :: acts) l = unsetupAll acts ((uniq l).filter (· != a.2)) := by
  simp [unsetupAll, applyL_remove_single]

theorem unsetupAll_nodup (acts : List (Bool × α)) (l : List α) (hne : acts ≠ []) : (unsetupAll acts l).Nodup :=
  foldl_nodup _ (fun _ _ => applyL_nodup _ _ _ _) acts hne l

/-- Unsetup of a whole table: what is left are the first occurrences of the elements that no action names. -/
theorem uniq_unsetupAll (acts : List (Bool × α)) (l : List α) :
    uniq (unsetupAll acts l) = (uniq l).filter (fun x => decide (x ∉ acts.map (·.2))) := by
  induction acts generalizing l with
  | nil => simp only [unsetupAll_nil, List.map_nil, filter_notin_nil]
  | cons a rest ih => rw [unsetupAll_cons, ih, ← filter_uniq, uniq_idem, filter_ne_notin]; rfl

theorem unsetupAll_eq (acts : List (Bool × α)) (l : List α) (hne : acts ≠ []) :
    unsetupAll acts l = (uniq l).filter (fun x => decide (x ∉ acts.map (·.2))) := by
  rw [← uniq_unsetupAll, uniq_of_nodup _ (unsetupAll_nodup acts l hne)]

theorem unsetupAll_congr (acts acts' : List (Bool × α)) (l : List α)
    (h : ∀ x, x ∈ acts.map (·.2) ↔ x ∈ acts'.map (·.2)) : unsetupAll acts l = unsetupAll acts' l := by
  have nil : ∀ {a b : List (Bool × α)}, (∀ x, x ∈ a.map (·.2) → x ∈ b.map (·.2)) → b = [] → a = [] := by
    intro a b hab hb
    subst hb
    cases a with
    | nil => rfl
    | cons p r => exact absurd (hab p.2 (by simp)) (by simp)
  by_cases hne : acts = []
  · rw [hne, nil (fun x => (h x).mpr) hne]
  · rw [unsetupAll_eq _ _ hne, unsetupAll_eq _ _ (fun e => hne (nil (fun x => (h x).mp) e))]
    exact List.filter_congr fun x _ => by simp only [h x]

theorem unsetupAll_reverse (acts : List (Bool × α)) (l : List α) :
    unsetupAll acts.reverse l = unsetupAll acts l :=
  unsetupAll_congr _ _ l (by simp)

/-- the kind of the action (prepend / append) plays no role on unsetup -/
theorem unsetupAll_kind (acts acts' : List (Bool × α)) (l : List α)
    (h : acts.map (·.2) = acts'.map (·.2)) : unsetupAll acts l = unsetupAll acts' l :=
  unsetupAll_congr _ _ l (by simp [h])

/-- one action on the pair (front part, back part) contributed so far: a prepend of `v` puts `v` at the
very front, an append puts it at the very end; `v` is deleted elsewhere -/
def fbStep (s : List α × List α) (a : Bool × α) : List α × List α :=
  if a.1 then (s.1.filter (· != a.2), s.2.filter (· != a.2) ++ [a.2])
  else (a.2 :: s.1.filter (· != a.2), s.2.filter (· != a.2))

/-- what a table puts in front of the prior elements … -/
def front (acts : List (Bool × α)) : List α := (acts.foldl fbStep ([], [])).1
/-- … and behind them; both depend on the actions only -/
def back (acts : List (Bool × α)) : List α := (acts.foldl fbStep ([], [])).2

@[simp] theorem front_nil : front ([] : List (Bool × α)) = [] := rfl
@[simp] theorem back_nil : back ([] : List (Bool × α)) = [] := rfl

@[simp] theorem setupAll_nil (old : List α) : setupAll ([] : List (Bool × α)) old = old := rfl

theorem setupAll_cons (a : Bool × α) (acts : List (Bool × α)) (old : List α) :
    setupAll (a :: acts) old = setupAll acts (applyL a.1 true [a.2] old) := rfl

theorem setupAll_append (acts acts' : List (Bool × α)) (old : List α) :
    setupAll (acts ++ acts') old = setupAll acts' (setupAll acts old) := by
  simp [setupAll, List.foldl_append]

theorem setupAll_snoc (a : Bool × α) (acts : List (Bool × α)) (old : List α) :
    setupAll (acts ++ [a]) old = applyL a.1 true [a.2] (setupAll acts old) := by
  rw [setupAll_append]; rfl

theorem setupAll_nodup (acts : List (Bool × α)) (old : List α) (hne : acts ≠ []) :
    (setupAll acts old).Nodup :=
  foldl_nodup _ (fun _ _ => applyL_nodup _ _ _ _) acts hne old

theorem front_snoc_prepend (acts : List (Bool × α)) (v : α) :
    front (acts ++ [(false, v)]) = v :: (front acts).filter (· != v) := by
  simp [front, List.foldl_append, fbStep]

theorem back_snoc_prepend (acts : List (Bool × α)) (v : α) :
    back (acts ++ [(false, v)]) = (back acts).filter (· != v) := by
  simp [back, List.foldl_append, fbStep]

theorem front_snoc_append (acts : List (Bool × α)) (v : α) :
    front (acts ++ [(true, v)]) = (front acts).filter (· != v) := by
  simp [front, List.foldl_append, fbStep]

theorem back_snoc_append (acts : List (Bool × α)) (v : α) :
    back (acts ++ [(true, v)]) = (back acts).filter (· != v) ++ [v] := by
  simp [back, List.foldl_append, fbStep]

/-- Setup of a whole table: the table's own elements in front and behind, between them the first occurrences of
the prior elements that no action names, in their order.  By induction from the last action, which wins. -/
theorem uniq_setupAll (acts : List (Bool × α)) (old : List α) :
    uniq (setupAll acts old)
      = front acts ++ (uniq old).filter (fun x => decide (x ∉ acts.map (·.2))) ++ back acts := by
  rw [← List.reverse_reverse acts]
  induction acts.reverse with
  | nil => simp only [List.reverse_nil, setupAll_nil, front_nil, back_nil, List.map_nil, filter_notin_nil,
      List.nil_append, List.append_nil]
  | cons a l ih =>
    obtain ⟨app, v⟩ := a
    rw [List.reverse_cons, setupAll_snoc, uniq_applyL, applyL_setup_single, ih, List.map_append, List.map_cons,
      List.map_nil, ← filter_notin_snoc]
    cases app
    · simp [front_snoc_prepend, back_snoc_prepend, List.filter_append]
    · simp [front_snoc_append, back_snoc_append, List.filter_append]

theorem setupAll_eq (acts : List (Bool × α)) (old : List α) (hne : acts ≠ []) :
    setupAll acts old
      = front acts ++ (uniq old).filter (fun x => decide (x ∉ acts.map (·.2))) ++ back acts := by
  rw [← uniq_setupAll, uniq_of_nodup _ (setupAll_nodup acts old hne)]

theorem mem_setupAll (acts : List (Bool × α)) (old : List α) (x : α) :
    x ∈ setupAll acts old ↔ x ∈ acts.map (·.2) ∨ x ∈ old := by
  induction acts generalizing old with
  | nil => simp
  | cons a rest ih => rw [setupAll_cons, ih, applyL_setup_mem_iff]; simp [or_left_comm, or_assoc]

theorem setupAll_others (acts : List (Bool × α)) (old vs : List α) (h : ∀ a ∈ acts, a.2 ∈ vs) :
    (uniq (setupAll acts old)).filter (fun x => decide (x ∉ vs))
      = (uniq old).filter (fun x => decide (x ∉ vs)) :=
  foldl_invariant (P := fun l => (uniq l).filter _ = (uniq old).filter _) rfl fun l a ha hl => by
    rw [uniq_applyL, filter_applyL _ _ _ _ _ (by simpa using h a ha), hl]

theorem unsetupAll_setupAll_filter (acts : List (Bool × α)) (old : List α) (hne : acts ≠ []) :
    unsetupAll acts (setupAll acts old)
      = (uniq old).filter (fun x => decide (x ∉ acts.map (·.2))) := by
  rw [unsetupAll_eq _ _ hne]
  exact setupAll_others acts old _ (fun a ha => List.mem_map.mpr ⟨a, ha, rfl⟩)

theorem unsetupAll_setupAll (acts : List (Bool × α)) (old : List α) (hne : acts ≠ [])
    (h : ∀ a ∈ acts, a.2 ∉ old) :
    unsetupAll acts (setupAll acts old) = uniq old := by
  rw [unsetupAll_setupAll_filter _ _ hne]
  apply filter_notin_self
  intro v hv hm
  obtain ⟨a, ha, rfl⟩ := List.mem_map.mp hv
  exact h a ha ((mem_uniq old _).mp hm)

theorem unsetupAll_reverse_setupAll (acts : List (Bool × α)) (old : List α) (hne : acts ≠ [])
    (h : ∀ a ∈ acts, a.2 ∉ old) :
    unsetupAll acts.reverse (setupAll acts old) = uniq old := by
  rw [unsetupAll_reverse]; exact unsetupAll_setupAll acts old hne h

theorem setupAll_idem (acts : List (Bool × α)) (old : List α) :
    setupAll acts (setupAll acts old) = setupAll acts old := by
  by_cases hne : acts = []
  · subst hne; rfl
  · rw [setupAll_eq acts (setupAll acts old) hne,
      setupAll_others acts old _ (fun a ha => List.mem_map.mpr ⟨a, ha, rfl⟩), ← setupAll_eq acts old hne]

theorem prepend_append (a b : α) (hab : a ≠ b) (old : List α) :
    applyL true true [b] (applyL false true [a] old)
      = a :: (uniq old).filter (fun x => x != a && x != b) ++ [b] := by
  rw [applyL_append_single b, uniq_applyL, applyL_prepend_single]
  simp [hab, List.filter_filter, Bool.and_comm]

theorem remove_remove_comm (app app2 : Bool) (a b : α) (l : List α) :
    applyL app2 false [a] (applyL app false [b] l)
      = applyL app false [b] (applyL app2 false [a] l) := by
  rw [applyL_remove_single, uniq_applyL, applyL_remove_single, applyL_remove_single, uniq_applyL,
    applyL_remove_single]
  simp [List.filter_filter, Bool.and_comm]

/-- the hypothesis `hnd` of `C12.append_multi_last` is needed for the appended value to stand at the end as written: a
piece written twice is there once -/
theorem applyL_append_vals_dup_witness :
    applyL true true [1, 1] [2] ≠ ([2] : List Nat).filter (fun x => decide (x ∉ [1, 1])) ++ [1, 1] := by
  decide

/-- beside `C12.prepend_multi_reversed_witness_pinned`: on the same value the repaired loop keeps the order written -/
theorem prepend_multi_in_order : applyL false true [1, 2] [3] = [1, 2, 3] := by decide

example : setupAll [(false, 5), (true, 6), (false, 7)] [1, 2, 1, 6, 2] = [7, 5, 1, 2, 6] := by decide +kernel
example : front [(false, 5), (true, 6), (false, 7)] = [7, 5] := by decide +kernel
example : back [(false, 5), (true, 6), (false, 7)] = [6] := by decide +kernel
example : front [(false, 5), (true, 5)] = ([] : List Nat) ∧ back [(false, 5), (true, 5)] = [5] := by decide +kernel
example : unsetupAll [(false, 5), (true, 6), (false, 7)]
    (setupAll [(false, 5), (true, 6), (false, 7)] [1, 2, 1, 3, 2]) = [1, 2, 3] := by decide +kernel
example : unsetupAll [(false, 5), (true, 6)] (setupAll [(false, 5), (true, 6)] [1, 6, 1]) = [1] := by decide +kernel
example : unsetupAll [(true, 2), (false, 1)] [1, 3, 1, 2, 3, 4] = [3, 4] := by decide +kernel
example : applyL true true [4, 5] [1, 4, 1, 2] = [1, 2, 4, 5] := by decide +kernel
example : applyL false true [4, 5] [1, 4, 1, 2] = [4, 5, 1, 2] := by decide +kernel
example : applyL false false [4, 1] [1, 4, 1, 2, 2] = [2] := by decide +kernel
example : applyL false true [2] (applyL false true [1] [3, 1, 3, 2]) = [2, 1, 3] := by decide +kernel

end EupsModel.PathAlg
