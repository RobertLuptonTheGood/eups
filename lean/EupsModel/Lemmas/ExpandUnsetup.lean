import EupsModel.Lemmas.ExpandRead
import EupsModel.Lemmas.List
/-! The repair of D73 at the level of the text: a line `unsetupRequired(args)` / `unsetupOptional(args)` is, for every
argument text without double quote and `#`, kept by the reader exactly as written and registers no product.
Code points below: 10 newline, 34 `"`, 35 `#`, 40 `(`, 41 `)`, 110 `n`, 117 `u`. -/
namespace EupsModel.Expand

def unName (opt : Bool) : Str := [117, 110] ++ cmdName opt

theorem lastIdx_none {c : Nat} {l : Str} (h : c ∉ l) : lastIdx c l = none := by
  induction l with
  | nil => rfl
  | cons a r ih =>
    have ha : a ≠ c := fun e => h (by simp [e])
    have hr : c ∉ r := fun m => h (by simp [m])
    simp [lastIdx, ih hr, ha]

theorem lastIdx_append {c : Nat} (xs : Str) {ys : Str} (hy : c ∉ ys) : lastIdx c (xs ++ c :: ys) = some xs.length := by
  induction xs with
  | nil => simp [lastIdx, lastIdx_none hy]
  | cons a r ih => simp [lastIdx, ih]

theorem bodyMatch_plain {args : Str} (hq : 34 ∉ args) :
    bodyMatch (args ++ [41, 10]) = some (args, args.length + 1) := by
  unfold bodyMatch
  simp only [takeWhile_all (all_ne (show cQuote ∉ args ++ [41, 10] by simp [cQuote, hq])), List.drop_length]
  have hl : lastIdx cRpar (args ++ [41, 10]) = some args.length :=
    lastIdx_append (c := cRpar) args (ys := [10]) (by decide)
  simp only [hl]
  simp

theorem matchSetupAt_plain (opt : Bool) {args : Str} (hq : 34 ∉ args) :
    matchSetupAt (cmdName opt ++ [40] ++ args ++ [41, 10]) = some ⟨opt, args, 14 + (args.length + 1), false⟩ := by
  have hhead : ∀ r, (args ++ [41, 10]) ≠ 34 :: r := by
    intro r e
    cases args with
    | nil => simp at e
    | cons a tl =>
      simp only [List.cons_append, List.cons.injEq] at e
      exact hq (by simp [e.1])
  have hb := bodyMatch_plain hq
  have e : cmdName opt ++ [40] ++ args ++ [41, 10] = (if opt then sOptP else sReqP) ++ (args ++ [41, 10]) := by
    cases opt <;> simp [sReqP_eq, sOptP_eq, cmdName_eq]
  rw [e]
  unfold matchSetupAt
  -- `hhead` rules out the branch of the pattern with an opening quote
  cases opt <;> simp [sReqP_eq, sOptP_eq, hb]

/-- the line `unsetupX(args)` followed by a newline: `u`, then `tailOf`, then the newline -/
def tailOf (opt : Bool) (args : Str) : Str := 110 :: (cmdName opt ++ [40] ++ args ++ [41])
def unsetupLine (opt : Bool) (args : Str) : Str := 117 :: (tailOf opt args ++ [10])

theorem cmdName_length (opt : Bool) : (cmdName opt).length = 13 := by cases opt <;> (rw [cmdName_eq]; rfl)

theorem matchRexAt_unsetupLine (opt : Bool) {args : Str} (hq : 34 ∉ args) :
    matchRexAt (unsetupLine opt args) = some ⟨false, args, (tailOf opt args).length + 1, true⟩ := by
  have e : unsetupLine opt args = 117 :: 110 :: (cmdName opt ++ [40] ++ args ++ [41, 10]) := by
    simp [unsetupLine, tailOf, List.append_assoc]
  have hlen : (tailOf opt args).length + 1 = 14 + (args.length + 1) + 2 := by
    simp only [tailOf, List.length_cons, List.length_append, cmdName_length, List.length_nil]
    omega
  rw [e, hlen]
  unfold matchRexAt
  simp only [matchSetupAt_plain opt hq, Option.map_some]

theorem subGo_skip (A : Answers) (o : Opts) : ∀ (xs ys : Str), subGo A o xs.length (xs ++ ys) = subGo A o 0 ys := by
  intro xs
  induction xs with
  | nil => intro ys; rfl
  | cons a r ih => intro ys; simp only [List.length_cons, List.cons_append, subGo]; exact ih ys

theorem take_len_append (xs ys : Str) : (xs ++ ys).take xs.length = xs := List.take_left

theorem classify_unsetupLine (A : Answers) (o : Opts) (opt : Bool) {args : Str} (hq : 34 ∉ args) (hh : 35 ∉ args) :
    classify A o (unsetupLine opt args) = .ok (.setup (unsetupLine opt args) none) := by
  have hm : matchRexAt (117 :: (tailOf opt args ++ [10])) = some ⟨false, args, (tailOf opt args).length + 1, true⟩ :=
    matchRexAt_unsetupLine opt hq
  have h35 : cHash ∉ 117 :: tailOf opt args := by
    have hc : ∀ opt, cHash ∉ cmdName opt := by simp only [cmdName_eq]; decide +kernel
    simpa [tailOf, cHash, hh] using hc opt
  have hblank : isBlankOrComment (unsetupLine opt args) = false := by
    simp [isBlankOrComment, lstrip, unsetupLine, Str.isSpace, cHash]
  have hstrip : stripComment (unsetupLine opt args) = unsetupLine opt args := by
    have hrev : (unsetupLine opt args).reverse = 10 :: (117 :: tailOf opt args).reverse := by
      simp [unsetupLine, List.reverse_append]
    unfold stripComment
    simp only [hrev, List.reverse_reverse, takeWhile_all (all_ne h35), beq_self_eq_true, if_true]
  have hsub : subAll A o (unsetupLine opt args) = .ok (unsetupLine opt args) := by
    unfold subAll
    show subGo A o 0 (117 :: (tailOf opt args ++ [10])) = _
    have hrest : subGo A o (tailOf opt args).length (tailOf opt args ++ [10]) = .ok [10] := by
      rw [subGo_skip]; rfl
    simp only [subGo, hm, if_true, Nat.add_sub_cancel, hrest, bind, Except.bind, pure, Except.pure]
    have : List.take ((tailOf opt args).length + 1) (117 :: (tailOf opt args ++ [10])) = 117 :: tailOf opt args := by
      simp [List.take_succ_cons]
    rw [this]; simp [unsetupLine]
  have hsearch : searchRex (unsetupLine opt args) = some ⟨false, args, (tailOf opt args).length + 1, true⟩ := by
    show searchRex (117 :: (tailOf opt args ++ [10])) = _
    unfold searchRex
    simp only [hm]
  unfold classify
  simp [hblank, hstrip, hsub, hsearch, bind, Except.bind, pure, Except.pure]

end EupsModel.Expand
