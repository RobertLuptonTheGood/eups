import EupsModel.Lemmas.LockR
/-! C09, repaired protocol — what the lock GRANTS (refusing everybody would be safe too).  The two procedures run alone:
`giveLocks` (`give_solo`) and an acquisition attempt (`attempt`).  In any state with the other processes at rest the lock
directory holds exactly the holders' files (`atRest_of_inv`), and the attempt is granted exactly when the request is
compatible with every holder but the parent, as in the pinned protocol's `phase_attempt` (Lemmas/LockAtomic.lean).  A
grant (`grant_*`) says only that the requester ends in `hold`; a refusal (`refuse_*`) and `give_solo` give the whole state.
And every process makes a bounded number of calls, whatever the others do (`measure`): the retry loop (`create` finds the
lock directory removed → `mkdir` again) is counted against `ntry`. -/
namespace EupsModel.LockR
open EupsModel.Lock (Pid Kind Err exFiles parentHolds AtRest Compat)

/-- resting points: not in the middle of `takeLocks` or `giveLocks` (the `sleep` between two attempts is one) -/
def quiet : PC → Bool
  | .mkdir _ | .hold | .done | .failedAcq _ | .failedRel _ | .killed => true
  | _ => false

theorem hold_of_quiet_engaged {pc : PC} (hq : quiet pc = true) (he : engaged pc = true) : pc = .hold := by
  cases pc <;> first | rfl | (cases hq; done) | (cases he; done)

theorem nodup_step (s : St) (p : Pid) (hn : s.files.Nodup) : (step s p).files.Nodup := by
  obtain ⟨v, d, fs, hb, he⟩ := step_branch s p
  rw [he]
  cases hb with
  | createNew _ _ hnf => exact List.nodup_cons.2 ⟨hnf, hn⟩
  | removeOk => exact hn.filter _
  | _ => exact hn

theorem nodup_run (s : St) (sched : List Pid) (hn : s.files.Nodup) : (run s sched).files.Nodup :=
  Lock.foldl_keeps (P := fun s : St => s.files.Nodup) nodup_step sched hn

/-- where a refused request ends: an exclusive one with attempts left sleeps before its next `mkdir`, any other raises -/
def refusedPC : Kind → Nat → PC
  | .ex, m + 1 => .mkdir m
  | _, _ => .failedAcq .runtime

/-- the calls of a granted request: `mkdir`, `create`, the listing — and the parent test when an exclusive request finds
the directory -/
def grantCalls (s : St) (i : Pid) : Nat := if s.dir = true ∧ s.kind i = .ex then 4 else 3

section rest
variable {s : St} {i : Pid} {l : Nat}

theorem atRest_of_inv (h : Inv s) (hn : s.files.Nodup) (hq : ∀ j, j ≠ i → quiet (s.pc j) = true)
    (hpc : s.pc i = .mkdir l) : AtRest (· = .hold) s.kind s.dir s.files s.pc := by
  refine ⟨fun k j => ⟨fun hm => ?_, fun ⟨hj, hk⟩ => hk ▸ h.acct.own_of hj rfl⟩, hn, ⟨fun hd => ?_, h.inDir⟩⟩
  · have ho := h.owner _ hm
    have hne : j ≠ i := by intro e; rw [e, hpc] at ho; cases ho.2
    exact ⟨hold_of_quiet_engaged (hq j hne) (hasFile_engaged ho.2), ho.1.symm⟩
  · obtain ⟨q, hq'⟩ := h.resp hd
    have hne : q ≠ i := by intro e; rw [e, hpc] at hq'; cases hq'
    exact List.ne_nil_of_mem (h.acct.own_of (hold_of_quiet_engaged (hq q hne) hq') rfl)

theorem grant_free (hpc : s.pc i = .mkdir l) (hd : s.dir = false) (hf : s.files = []) :
    (run s [i, i, i]).pc i = .hold := by
  cases hk : s.kind i <;>
    simp [run, step, hpc, hd, hf, hk, setPC, others, lookList, exFiles]

theorem grant_sh (hpc : s.pc i = .mkdir l) (hk : s.kind i = .sh) (hd : s.dir = true)
    (ho : (others i (s.lp i) (exFiles s.files)).isEmpty = true) : (run s [i, i, i]).pc i = .hold := by
  have ho' : (others i (s.lp i) (exFiles ((Kind.sh, i) :: s.files))).isEmpty = true := by simpa [exFiles] using ho
  by_cases hnf : (Kind.sh, i) ∈ s.files <;>
    simp [run, step, hpc, hd, hk, setPC, lookList, hnf, ho, ho']

theorem grant_reenter {k : Kind} {q : Pid} (hpc : s.pc i = .mkdir l) (hd : s.dir = true)
    (hf : s.files = [(k, q)]) (hl : s.lp i = some q) (hne : q ≠ i) :
    (run s (List.replicate (grantCalls s i) i)).pc i = .hold := by
  have hne' : ¬ (i = q) := fun e => hne e.symm
  cases hk : s.kind i <;> cases k <;>
    simp [grantCalls, List.replicate, run, step, hpc, hd, hf, hk, hl, setPC, others, lookList, exFiles, parentHolds, hne']

/-- `giveLocks` run alone from its first call, whichever it is (`a`): the release, a withdrawal, the signal handler's pass -/
theorem give_solo {a : After} (hpc : s.pc i = .isdir a) (hd : s.dir = true) (hm : (s.kind i, i) ∈ s.files) :
    run s [i, i, i, i] =
      { s with dir := !(s.files.filter (· != (s.kind i, i))).isEmpty, files := s.files.filter (· != (s.kind i, i)),
               pc := upd s.pc i (afterPC a) } := by
  by_cases he : s.files.filter (· != (s.kind i, i)) = [] <;>
    simp [run, step, hpc, hd, hm, he, setPC]

theorem interrupt_solo (h : Inv s) (hi : s.pc i = .hold) :
    inBody ((interrupt s i).pc i) = false ∧ (run (interrupt s i) [i, i, i, i]).pc i = .killed ∧
    (s.kind i, i) ∉ (run (interrupt s i) [i, i, i, i]).files := by
  have hf : (s.kind i, i) ∈ s.files := h.acct.own_of hi rfl
  have e : interrupt s i = setPC s i (.isdir .die) := by simp [interrupt, hi]
  rw [e, give_solo (s := setPC s i (.isdir .die)) (upd_same _ _ _) (h.inDir (List.ne_nil_of_mem hf)) hf]
  exact ⟨by simp [setPC, inBody], upd_same _ _ _, by simp [setPC, List.mem_filter]⟩

/-- eight calls: announced (mkdir, create), seen (look, its message), withdrawn (`give_solo`) -/
theorem refuse_shared {q : Pid} (hpc : s.pc i = .mkdir l) (hk : s.kind i = .sh) (hd : s.dir = true)
    (hq : (Kind.ex, q) ∈ s.files) (hqi : q ≠ i) (hlp : s.lp i ≠ some q) (hnf : (Kind.sh, i) ∉ s.files) :
    run s [i, i, i, i, i, i, i, i] = setPC s i (.failedAcq .runtime) := by
  have hoth : (others i (s.lp i) (exFiles ((Kind.sh, i) :: s.files))).isEmpty = false :=
    others_nonempty (f := (Kind.ex, q)) (by simp [exFiles, hq]) hqi hlp
  have h4 : run s [i, i, i, i] = { s with files := (.sh, i) :: s.files, pc := upd s.pc i (.isdir .refuse) } := by
    simp [run, step, hpc, hk, hd, hnf, setPC, lookList, hoth]
  have hem : s.files.isEmpty = false := by
    cases hf : s.files with
    | nil => rw [hf] at hq; cases hq
    | cons => rfl
  rw [show [i, i, i, i, i, i, i, i] = [i, i, i, i] ++ [i, i, i, i] from rfl, run_append, h4,
    give_solo (s := { s with files := (.sh, i) :: s.files, pc := upd s.pc i (.isdir .refuse) }) (upd_same _ _ _) hd
      (by simp [hk])]
  simp [hk, List.filter_bne_eq_self_of_not_mem hnf, hem, hd, afterPC, setPC]

/-- three calls: mkdir, the listing, the listing for the message -/
theorem refuse_exclusive (hpc : s.pc i = .mkdir l) (hk : s.kind i = .ex) (hd : s.dir = true)
    (hp : parentHolds (s.lp i) s.files = false) :
    run s [i, i, i] = setPC s i (refusedPC .ex l) := by
  cases l <;> simp [run, step, hpc, hk, hd, hp, setPC, refusedPC]

def refuseCalls : Kind → Nat
  | .ex => 3
  | .sh => 8

/-- No hypothesis on the other processes: they may be in the middle of anything. -/
theorem refuse_of_file {k : Kind} {q : Pid} (hpc : s.pc i = .mkdir l) (hd : s.dir = true) (hqf : (k, q) ∈ s.files)
    (hqi : q ≠ i) (hlp : s.lp i ≠ some q) (hex : s.kind i = .ex ∨ k = .ex) (hnf : (Kind.sh, i) ∉ s.files) :
    run s (List.replicate (refuseCalls (s.kind i)) i) = setPC s i (refusedPC (s.kind i) l) := by
  cases hk : s.kind i with
  | ex =>
    refine refuse_exclusive hpc hk hd ?_
    cases hph : parentHolds (s.lp i) s.files with
    | false => rfl
    | true =>
      -- the one file would be the parent's, but `q`'s file is there and `q` is not the parent
      obtain ⟨k', r, hf, hl⟩ := Lock.parentHolds_iff.mp hph
      rw [hf, List.mem_singleton, Prod.mk.injEq] at hqf
      exact absurd (by rw [hl, hqf.2]) hlp
  | sh =>
    have hkq : k = .ex := hex.resolve_left (by rw [hk]; nofun)
    exact (refuse_shared hpc hk hd (hkq ▸ hqf) hqi hlp hnf).trans (by cases l <;> rfl)

def compat (s : St) (i : Pid) : Prop := Compat (· = .hold) s.kind s.pc (s.kind i) (s.lp i)

/-- What an acquisition attempt made alone decides, the others at rest: the lock is granted exactly when the request is
compatible with every holder but the parent; a refused requester leaves no trace. -/
theorem attempt (h : AtRest (· = .hold) s.kind s.dir s.files s.pc) (hpc : s.pc i = .mkdir l) :
    (compat s i ∧ (run s (List.replicate (grantCalls s i) i)).pc i = .hold) ∨
    (¬ compat s i ∧ run s (List.replicate (refuseCalls (s.kind i)) i) = setPC s i (refusedPC (s.kind i) l)) := by
  unfold compat
  have hni : ∀ k, (k, i) ∉ s.files := fun k hm => by have := ((h.mem k i).1 hm).1; rw [hpc] at this; cases this
  cases hd : s.dir with
  | false =>
    have hf := h.files_nil_of_noDir hd
    exact .inl ⟨fun j hj _ => absurd hj (h.noHolder hd j),
      by simpa [grantCalls, hd, List.replicate] using grant_free hpc hd hf⟩
  | true =>
    cases hk : s.kind i with
    | ex =>
      rw [h.compat_ex]
      cases hp : parentHolds (s.lp i) s.files with
      | true =>
        obtain ⟨k, q, hf, hl⟩ := Lock.parentHolds_iff.mp hp
        have hqi : q ≠ i := fun e => hni k (by rw [hf, e]; simp)
        exact .inl ⟨.inr rfl, grant_reenter hpc hd hf hl hqi⟩
      | false =>
        exact .inr ⟨by simp [hd], by simpa [refuseCalls, List.replicate] using refuse_exclusive hpc hk hd hp⟩
    | sh =>
      rw [h.compat_sh]
      cases ho : (others i (s.lp i) (exFiles s.files)).isEmpty with
      | true =>
        refine .inl ⟨fun f hf => Classical.byContradiction fun hl => ?_,
          by simpa [grantCalls, hk, List.replicate] using grant_sh hpc hk hd ho⟩
        have := others_nonempty hf (fun e : f.2 = i => hni f.1 (e ▸ (Lock.mem_exFiles.1 hf).1)) hl
        rw [ho] at this; cases this
      | false =>
        obtain ⟨f, hf⟩ := List.isEmpty_eq_false_iff_exists_mem.1 ho
        obtain ⟨hfx, hfi, hfl⟩ := mem_others.1 hf
        obtain ⟨hfm, hfe⟩ := Lock.mem_exFiles.1 hfx
        exact .inr ⟨fun hall => hfl (hall f hfx), hk ▸ refuse_of_file hpc hd hfm hfi hfl (.inr hfe) (hni _)⟩

theorem attempt_grants (h : AtRest (· = .hold) s.kind s.dir s.files s.pc) (hpc : s.pc i = .mkdir l)
    (hc : compat s i) : (run s (List.replicate (grantCalls s i) i)).pc i = .hold :=
  (attempt h hpc).elim And.right fun r => absurd hc r.1

end rest

def afterMeasure : After → Nat
  | .fin => 0
  | .retry n => 10 * n + 9
  | .refuse => 0
  | .die => 0

/-- an upper bound for the calls still to come; an attempt is at most ten calls (`mkdir`, `create`, the listing, its
message, the four calls of the withdrawal, …), hence `10 * l` for `l` attempts left -/
def measure : PC → Nat
  | .mkdir l => 10 * l + 9
  | .scanAll l => 10 * l + 8
  | .scanMsg l => 10 * l + 7
  | .create l => 10 * l + 7
  | .look l => 10 * l + 6
  | .lookMsg l => 10 * l + 5
  | .hold => 5
  | .isdir a => afterMeasure a + 4
  | .rexists a => afterMeasure a + 3
  | .remove a => afterMeasure a + 2
  | .rmdir a => afterMeasure a + 1
  | .done => 0
  | .failedAcq _ => 0
  | .failedRel _ => 0
  | .killed => 0

theorem measure_afterPC (a : After) : measure (afterPC a) = afterMeasure a := by
  cases a <;> simp [afterPC, measure, afterMeasure]

theorem measure_step (s : St) (p : Pid) (h : terminated (s.pc p) = false) :
    measure ((step s p).pc p) < measure (s.pc p) := by
  obtain ⟨v, d, fs, hb, he⟩ := step_branch s p
  rw [he]; simp only [upd_same]
  cases hb with
  | idle ht => rw [h] at ht; cases ht
  | isdirNo hpc | rmdirOk hpc | rmdirRefused hpc =>
    rw [hpc, measure_afterPC]; simp only [measure]; omega
  | _ hpc => rw [hpc]; simp only [measure, afterMeasure]; omega

theorem measure_interrupt (s : St) (p : Pid) : measure ((interrupt s p).pc p) ≤ measure (s.pc p) := by
  obtain ⟨v, hb, he⟩ := interrupt_branch s p
  rw [he]; simp only [upd_same]
  cases hb with
  | intrBody hpc | intrGive hpc => rw [hpc]; simp only [measure, afterMeasure]; omega
  | intrRest hpc => rw [hpc]; simp only [measure]; omega
  | ignored => exact Nat.le_refl _

/-- number of entries of `sched` that are calls of a not yet terminated process `p` — the calls `p` really makes -/
def callsOf (p : Pid) : St → List Pid → Nat
  | _, [] => 0
  | s, i :: r => (if i = p ∧ terminated (s.pc p) = false then 1 else 0) + callsOf p (step s i) r

theorem calls_bounded (p : Pid) (s : St) (sched : List Pid) :
    callsOf p s sched + measure ((run s sched).pc p) ≤ measure (s.pc p) := by
  induction sched generalizing s with
  | nil => simp [callsOf]
  | cons i r ih =>
    have := ih (step s i)
    simp only [callsOf, run_cons]
    by_cases hip : i = p
    · subst hip
      by_cases ht : terminated (s.pc i) = false
      · have hd := measure_step s i ht
        simp [ht]; omega
      · have ht' : terminated (s.pc i) = true := by simpa using ht
        have hs : step s i = s := step_terminated ht'
        simp [ht']; rw [hs] at this ⊢; omega
    · rw [step_pc_other s i p (fun e => hip e.symm)] at this
      simp [hip]; omega

end EupsModel.LockR
