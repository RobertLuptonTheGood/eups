import EupsModel.Lemmas.TableStr
import EupsModel.Lemmas.Text
/-! C11, argument clause: the argument tokeniser of `_read` (`parseArgs`) on an argument list as written.  In the
repaired tree it strips the outer quotes, runs three rewriting passes (`pipe`: `\"` protected, then blanks and commas
between quotes), splits at blanks and commas and undoes the protection (`parseArgs_pipe`).  The passes are followed
through one argument or separator at a time (`Text.Maps`: `pipe_arg`, `pipe_blank`) and the list is put together once
(`pipe_args`).
Code points: 32 blank, 44 `,`, 34 `"`, 92 `\`; 1, 2, 3 stand for blank, `"`, comma. -/
namespace EupsModel.TableParse
open EupsModel.Cond EupsModel.C11Spec

def argSep (c : Nat) : Bool := c == 44 || c == 32

theorem splitArgs_eq (cur s : Str) : splitArgs cur s = (Text.onHead cur (Text.pieces argSep s)).filter (!·.isEmpty) :=
  Text.acc_tokens ⟨fun _ => rfl, fun _ _ _ => rfl⟩ cur s

theorem splitArgs_nil (s : Str) : splitArgs [] s = Text.tokens argSep s :=
  Text.acc_tokens_nil ⟨fun _ => rfl, fun _ _ _ => rfl⟩ s

theorem splitArgs_mem : ∀ (s cur t : Str), t ∈ splitArgs cur s → ∀ c ∈ t, c ∈ cur ∨ c ∈ s := by
  intro s cur t ht c hc
  rw [splitArgs_eq] at ht
  exact Text.mem_onHead_pieces (List.mem_filter.mp ht).1 hc

theorem sepOK_blank {s : Str} (h : sepOK s = true) : Text.Blank argSep s ∧ s ≠ [] := by
  simp only [sepOK, Bool.and_eq_true, Bool.not_eq_true', List.isEmpty_eq_false_iff] at h
  exact ⟨fun c hc => by simpa [argSep, Bool.or_comm] using List.all_eq_true.mp h.2 c hc, h.1⟩

theorem padOK_blank {s : Str} (h : padOK s = true) : Text.Blank argSep s := fun c hc => by
  have : c = 32 := by simpa using List.all_eq_true.mp h c hc
  rw [this]; rfl

theorem stripOuter_head {strict : Bool} {w : Str} (h : w.head? ≠ some 34) : stripOuter strict w = w := by
  cases w with
  | nil => rfl
  | cons c cs =>
    have : c ≠ 34 := fun e => h (by simp [e])
    unfold stripOuter
    split
    · rename_i r heq; cases heq; exact absurd rfl this
    · rfl

theorem stripOuter_quoted (u : Str) : stripOuter false (34 :: u ++ [34]) = u := by
  simp [stripOuter, List.getLast?_append, List.dropLast_append_of_ne_nil]

theorem stripOuter_inner {r : Str} (hr : r.dropLast.contains 34 = true) : stripOuter true (34 :: r) = 34 :: r := by
  unfold stripOuter
  simp only [Bool.true_and, hr, if_true]
  split <;> rfl

theorem mq_noq {f : Nat → Nat} {s : Str} (hs : 34 ∉ s) : Text.Maps (mapQuoted true f none) s s := fun x => by
  induction s with
  | nil => rfl
  | cons c cs ih =>
    obtain ⟨hc, hcs⟩ := List.ne_and_not_mem_of_not_mem_cons hs
    simp [mapQuoted, hc.symm, ih hcs]

theorem mq_run {f : Nat → Nat} {w : Str} (hw : 34 ∉ w) (run x : Str) :
    mapQuoted true f (some run) (w ++ x) = mapQuoted true f (some (run ++ w)) x := by
  induction w generalizing run with
  | nil => simp
  | cons c cs ih =>
    obtain ⟨hc, hcs⟩ := List.ne_and_not_mem_of_not_mem_cons hw
    simp [mapQuoted, hc.symm, ih hcs]

theorem mq_quoted {f : Nat → Nat} {v : Str} (hv : 34 ∉ v) :
    Text.Maps (mapQuoted true f none) (34 :: v ++ [34]) (34 :: v.map f ++ [34]) := fun x => by
  have h1 : mapQuoted true f none (34 :: (v ++ 34 :: x)) = mapQuoted true f (some []) (v ++ 34 :: x) := by simp [mapQuoted]
  have : mapQuoted true f none (34 :: (v ++ 34 :: x)) = 34 :: (v.map f ++ 34 :: mapQuoted true f none x) := by
    rw [h1, mq_run hv]; simp [mapQuoted]
  simpa [List.append_assoc] using this

def q2 (c : Nat) : Nat := if c == 34 then 2 else c

theorem rg_free {s : Str} (hs : 92 ∉ s) : Text.Maps (replGo [92, 34] [2] 0) s s := replGo_free hs

theorem rg_esc {v : Str} (hv : 92 ∉ v) : Text.Maps (replGo [92, 34] [2] 0) (escQ v) (v.map q2) := fun x => by
  induction v with
  | nil => rfl
  | cons c cs ih =>
    obtain ⟨hc, hcs⟩ := List.ne_and_not_mem_of_not_mem_cons hv
    have ih' := ih hcs
    by_cases h34 : c = 34
    · subst h34
      have : escQ (34 :: cs) ++ x = 92 :: 34 :: (escQ cs ++ x) := by simp [escQ]
      rw [this]
      simp [replGo, List.isPrefixOf, ih', q2]
    · have e1 : escQ (c :: cs) ++ x = c :: (escQ cs ++ x) := by simp [escQ, h34]
      have e2 : List.isPrefixOf [92, 34] (c :: (escQ cs ++ x)) = false := by simp [List.isPrefixOf, hc]
      rw [e1]
      simp [replGo, e2, ih', q2, h34]

/-- the two `mapQuoted` passes on a character between quotes -/
def f4 (c : Nat) : Nat := if c == 32 then 1 else c
def f5 (c : Nat) : Nat := if c == 44 then 3 else c

theorem f4_34 (c : Nat) (h : f4 c = 34) : c = 34 := by unfold f4 at h; split at h <;> omega
theorem f5_34 (c : Nat) (h : f5 c = 34) : c = 34 := by unfold f5 at h; split at h <;> omega
theorem q2_ne34 (c : Nat) : q2 c ≠ 34 := by unfold q2; split <;> simp_all

theorem unprot_q2 {c : Nat} (h : c ≠ 92 ∧ c ≠ 1 ∧ c ≠ 2 ∧ c ≠ 3) : unprotect (f5 (f4 (q2 c))) = c := by
  unfold q2 f4 f5 unprotect
  by_cases a : c = 34
  · subst a; decide
  · by_cases b : c = 32
    · subst b; decide
    · by_cases d : c = 44
      · subst d; decide
      · simp [a, b, d, h.2.1, h.2.2.1, h.2.2.2]

theorem f54_word (c : Nat) : argSep (f5 (f4 c)) = false := by
  by_cases h : c = 32
  · subst h; decide
  · by_cases h' : c = 44
    · subst h'; decide
    · simp [f4, f5, argSep, h, h']

def pipe : Str → Str := mapQuoted true f5 none ∘ mapQuoted true f4 none ∘ replGo [92, 34] [2] 0

theorem repaired_d20 : repaired.d20 = true := rfl
theorem repaired_d32 : repaired.d32 = true := rfl
theorem repaired_d33 : repaired.d33 = true := rfl

theorem parseArgs_pipe (s : Str) : parseArgs repaired s =
    (splitArgs [] (pipe (stripOuter true s))).map fun t => (stripOuter false t).map unprotect := rfl

theorem pipe_free {s : Str} (h92 : 92 ∉ s) (h34 : 34 ∉ s) : Text.Maps pipe s s :=
  ((rg_free h92).comp (mq_noq h34)).comp (mq_noq h34)

theorem pipe_blank {s : Str} (h : Text.Blank argSep s) : Text.Maps pipe s s :=
  pipe_free (fun m => absurd (h 92 m) (by decide)) (fun m => absurd (h 34 m) (by decide))

theorem warg_plain {a : WArg} (h : a.ok = true) (hq : a.quoted = false) :
    a.val ≠ [] ∧ ∀ c ∈ a.val, Str.isSpace c = false ∧ c ≠ 44 ∧ c ≠ 34 ∧ c ≠ 92 ∧ c ≠ 1 ∧ c ≠ 2 ∧ c ≠ 3 := by
  simp only [WArg.ok, hq, Bool.false_eq_true, if_false, plainVal, Bool.and_eq_true, Bool.not_eq_true',
    List.isEmpty_eq_false_iff] at h
  exact ⟨h.1, fun c hc => by simpa [Bool.and_eq_true, and_assoc] using List.all_eq_true.mp h.2 c hc⟩

theorem warg_quoted {a : WArg} (h : a.ok = true) (hq : a.quoted = true) : ∀ c ∈ a.val, c ≠ 92 ∧ c ≠ 1 ∧ c ≠ 2 ∧ c ≠ 3 := by
  simp only [WArg.ok, hq, if_true, quotedVal] at h
  exact fun c m => by simpa [Bool.and_eq_true, and_assoc] using List.all_eq_true.mp h c m

theorem text_head {a : WArg} (h : a.ok = true) (hq : a.quoted = false) (x : Str) : (a.text ++ x).head? ≠ some 34 := by
  obtain ⟨hne, hc⟩ := warg_plain h hq
  cases hv : a.val with
  | nil => exact absurd hv hne
  | cons c cs => simpa [WArg.text, hq, hv] using (hc c (by rw [hv]; exact List.mem_cons_self ..)).2.2.1

/-- an argument as the splitter sees it: between the quotes `"`, blank and comma are replaced by their stand-ins -/
def mid (a : WArg) : Str := if a.quoted then 34 :: ((a.val.map q2).map f4).map f5 ++ [34] else a.val

theorem pipe_arg {a : WArg} (h : a.ok = true) : Text.Maps pipe a.text (mid a) := by
  cases hq : a.quoted with
  | false =>
    have hc := (warg_plain h hq).2
    have e : mid a = a.val := by simp [mid, hq]
    have et : a.text = a.val := by simp [WArg.text, hq]
    rw [e, et]
    exact pipe_free (fun m => (hc 92 m).2.2.2.1 rfl) (fun m => (hc 34 m).2.2.1 rfl)
  | true =>
    have q34 : 34 ∉ a.val.map q2 := fun m => by obtain ⟨c, _, e⟩ := List.mem_map.mp m; exact q2_ne34 c e
    have h1 : Text.Maps (replGo [92, 34] [2] 0) a.text (34 :: a.val.map q2 ++ [34]) := by
      simpa [WArg.text, hq] using rg_free (s := [34]) (by decide)
        |>.append (rg_esc fun m => (warg_quoted h hq 92 m).1 rfl)
        |>.append (rg_free (s := [34]) (by decide))
    have h3 : 34 ∉ (a.val.map q2).map f4 := fun m => by
      obtain ⟨c, hc, e⟩ := List.mem_map.mp m; exact q34 (f4_34 c e ▸ hc)
    have e : mid a = 34 :: ((a.val.map q2).map f4).map f5 ++ [34] := by simp [mid, hq]
    rw [e]
    exact (h1.comp (mq_quoted q34)).comp (mq_quoted h3)

theorem mid_word {a : WArg} (h : a.ok = true) : Text.Word argSep (mid a) := by
  cases hq : a.quoted with
  | false =>
    obtain ⟨hne, hc⟩ := warg_plain h hq
    simp only [mid, hq, Bool.false_eq_true, if_false]
    refine ⟨hne, fun c m => ?_⟩
    have := hc c m
    have h32 : c ≠ 32 := fun e => by rw [e] at this; exact absurd this.1 (by decide)
    simp [argSep, this.2.1, h32]
  | true =>
    simp only [mid, hq, if_true, List.map_map]
    refine ⟨by simp, fun c m => ?_⟩
    simp only [List.cons_append, List.mem_cons, List.mem_append, List.mem_map, List.mem_nil_iff, or_false] at m
    rcases m with rfl | ⟨d, _, rfl⟩ | rfl
    · rfl
    · exact f54_word _
    · rfl

theorem mid_val {a : WArg} (h : a.ok = true) : (stripOuter false (mid a)).map unprotect = a.val := by
  cases hq : a.quoted with
  | false =>
    obtain ⟨_, hc⟩ := warg_plain h hq
    have hh : a.val.head? ≠ some 34 := by simpa [WArg.text, hq] using text_head h hq []
    simp only [mid, hq, Bool.false_eq_true, if_false, stripOuter_head hh]
    exact map_eq_self fun c m => by
      have := hc c m
      simp [unprotect, this.2.2.2.2.1, this.2.2.2.2.2.1, this.2.2.2.2.2.2]
  | true =>
    simp only [mid, hq, if_true, stripOuter_quoted, List.map_map]
    exact map_eq_self fun c m => unprot_q2 (warg_quoted h hq c m)

theorem pipe_args {pad1 pad2 : Str} {first : WArg} {rest : List (Str × WArg)} (h1 : Text.Blank argSep pad1)
    (h2 : Text.Blank argSep pad2) (hf : first.ok = true) (hr : ∀ p ∈ rest, sepOK p.1 = true ∧ p.2.ok = true) :
    pipe (argsText pad1 first rest pad2) = pad1 ++ mid first ++ rest.flatMap (fun p => p.1 ++ mid p.2) ++ pad2 :=
  (pipe_blank h1
    |>.append (pipe_arg hf)
    |>.append (Text.Maps.flatMap fun p hp => (pipe_blank (sepOK_blank (hr p hp).1).1).append (pipe_arg (hr p hp).2))
    |>.append (pipe_blank h2)).whole rfl

theorem escQ_contains {v : Str} (h : v.contains 34 = true) : (escQ v).contains 34 = true := by
  simp only [List.contains_iff_mem] at h ⊢
  simp only [escQ, List.mem_flatMap]
  exact ⟨34, h, by simp⟩

theorem stripOuter_args {pad1 pad2 : Str} {first : WArg} {rest : List (Str × WArg)} (h1 : Text.Blank argSep pad1)
    (hf : first.ok = true) (hr : ∀ p ∈ rest, sepOK p.1 = true) (hw : wholeQuoted pad1 first rest pad2 = false) :
    stripOuter true (argsText pad1 first rest pad2) = argsText pad1 first rest pad2 := by
  cases hp : pad1 with
  | cons c cs =>
    have : c ≠ 34 := fun e => absurd (h1 c (by rw [hp]; exact List.mem_cons_self ..)) (by rw [e]; decide)
    exact stripOuter_head (by simp [argsText, this])
  | nil =>
    cases hq : first.quoted with
    | false =>
      exact stripOuter_head (by
        simpa only [argsText, List.nil_append, List.append_assoc] using
          text_head hf hq (rest.flatMap (fun p => p.1 ++ p.2.text) ++ pad2))
    | true =>
      have e : argsText [] first rest pad2 =
          34 :: (escQ first.val ++ [34] ++ (rest.flatMap (fun p => p.1 ++ p.2.text) ++ pad2)) := by
        simp [argsText, WArg.text, hq, List.append_assoc]
      rw [e]
      apply stripOuter_inner
      by_cases ht : rest.flatMap (fun p => p.1 ++ p.2.text) ++ pad2 = []
      · obtain ⟨hrest, hpad⟩ : rest = [] ∧ pad2 = [] := by
          cases rest with
          | nil => exact ⟨rfl, by simpa using ht⟩
          | cons p ps =>
            simp only [List.flatMap_cons, List.append_assoc, List.append_eq_nil_iff] at ht
            exact absurd ht.1 (sepOK_blank (hr p (List.mem_cons_self ..))).2
        have hc : first.val.contains 34 = true := by
          simpa [wholeQuoted, hp, hpad, hrest, hq] using hw
        rw [ht, List.append_nil, List.dropLast_concat]
        exact escQ_contains hc
      · rw [List.dropLast_append_of_ne_nil ht]
        simp

/-- before the first and after the last argument any run of blanks and commas may stand -/
theorem parseArgs_written {pad1 pad2 : Str} {first : WArg} {rest : List (Str × WArg)} (h1 : Text.Blank argSep pad1)
    (h2 : Text.Blank argSep pad2) (hf : first.ok = true) (hr : ∀ p ∈ rest, sepOK p.1 = true ∧ p.2.ok = true)
    (hw : wholeQuoted pad1 first rest pad2 = false) :
    parseArgs repaired (argsText pad1 first rest pad2) = first.val :: rest.map (·.2.val) := by
  have hs : Text.Spaced argSep (rest.map fun p => (p.1, mid p.2)) pad2 :=
    ⟨fun q hq => by
      obtain ⟨p, hp, rfl⟩ := List.mem_map.mp hq
      exact ⟨(sepOK_blank (hr p hp).1).1, (sepOK_blank (hr p hp).1).2, mid_word (hr p hp).2⟩, h2⟩
  have hsplit := Text.tokens_line h1 (mid_word hf) hs
  rw [List.flatMap_map] at hsplit
  rw [parseArgs_pipe, stripOuter_args h1 hf (fun p hp => (hr p hp).1) hw, pipe_args h1 h2 hf hr, splitArgs_nil]
  simp only [List.append_assoc, hsplit, List.map_cons, List.map_map, Function.comp_def, mid_val hf, List.cons.injEq,
    true_and]
  exact List.map_congr_left fun p hp => mid_val (hr p hp).2

theorem parseArgs_pad {pad : Str} (hb : Text.Blank argSep pad) : parseArgs repaired pad = [] := by
  have h1 : stripOuter true pad = pad := stripOuter_head (by
    cases pad with
    | nil => simp
    | cons c cs => simpa using fun e : c = 34 => absurd (hb c (List.mem_cons_self ..)) (by rw [e]; decide))
  rw [parseArgs_pipe, h1, (pipe_blank hb).whole rfl, splitArgs_nil, Text.tokens_blank hb]; rfl

theorem escQ_noquote {v : Str} (h : 34 ∉ v) : escQ v = v := by
  induction v with
  | nil => rfl
  | cons c cs ih =>
    obtain ⟨hc, hcs⟩ := List.ne_and_not_mem_of_not_mem_cons h
    have := ih hcs
    simp only [escQ, beq_iff_eq] at this
    simp [escQ, hc.symm, this]

theorem parseArgs_whole {v : Str} (h34 : 34 ∉ v) (hv : ∀ c ∈ v, c ≠ 92 ∧ c ≠ 1 ∧ c ≠ 2 ∧ c ≠ 3) :
    parseArgs repaired (34 :: v ++ [34]) = splitArgs [] v := by
  have h1 : stripOuter true (34 :: v ++ [34]) = v := by
    simp [stripOuter, List.getLast?_append, List.dropLast_append_of_ne_nil, h34]
  rw [parseArgs_pipe, h1, (pipe_free (fun m => (hv 92 m).1 rfl) h34).whole rfl]
  refine map_eq_self fun t ht => ?_
  have hm : ∀ c ∈ t, c ∈ v := fun c hc => (splitArgs_mem v [] t ht c hc).resolve_left (by simp)
  have hh : t.head? ≠ some 34 := by
    cases t with
    | nil => simp
    | cons c cs => simpa using fun e : c = 34 => h34 (e ▸ hm c (List.mem_cons_self ..))
  rw [stripOuter_head hh]
  exact map_eq_self fun c hc => by
    have := hv c (hm c hc)
    simp [unprotect, this.2.1, this.2.2.1, this.2.2.2]

theorem parseArgs_whole_list {v : Str} (hq : quotedVal v = true) (h34 : v.contains 34 = false) :
    parseArgs repaired (argsText [] ⟨v, true⟩ [] []) = splitArgs [] v := by
  have h34' : 34 ∉ v := fun m => by rw [List.contains_iff_mem.mpr m] at h34; cases h34
  have : argsText [] ⟨v, true⟩ [] [] = 34 :: v ++ [34] := by simp [argsText, WArg.text, escQ_noquote h34']
  rw [this]
  exact parseArgs_whole h34' (warg_quoted (a := ⟨v, true⟩) (by simpa [WArg.ok] using hq) rfl)

theorem parseArgs_wargs {a : WArgs} (h : a.ok = true) : parseArgs repaired a.text = a.vals := by
  cases a with
  | none pad => exact parseArgs_pad (padOK_blank h)
  | some p1 f r p2 =>
    simp only [WArgs.ok, Bool.and_eq_true] at h
    obtain ⟨⟨⟨h1, h2⟩, hf⟩, hr⟩ := h
    have hr' : ∀ p ∈ r, sepOK p.1 = true ∧ p.2.ok = true := fun p hp => by
      have := List.all_eq_true.mp hr p hp; simpa using this
    cases hw : wholeQuoted p1 f r p2 with
    | false => simp only [WArgs.text, WArgs.vals, hw]; exact parseArgs_written (padOK_blank h1) (padOK_blank h2) hf hr' hw
    | true =>
      simp only [wholeQuoted, Bool.and_eq_true, List.isEmpty_iff, Bool.not_eq_true'] at hw
      obtain ⟨⟨⟨⟨e1, e2⟩, e3⟩, hq⟩, h34⟩ := hw
      subst e1 e2 e3
      have hqv : quotedVal f.val = true := by simpa [WArg.ok, hq] using hf
      obtain ⟨v, q⟩ := f
      subst hq
      simp only [WArgs.text, WArgs.vals, wholeQuoted, h34, List.isEmpty_nil, Bool.and_self, Bool.not_false, if_true]
      exact parseArgs_whole_list hqv h34

end EupsModel.TableParse
