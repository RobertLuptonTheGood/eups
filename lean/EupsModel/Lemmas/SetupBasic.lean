import EupsModel.Model.Setup
import EupsModel.Lemmas.PathAlg
/-! Association lists, path variables after `addPath` / `removePath` (through `Lemmas/PathAlg`), database lookups, and what
one write leaves alone. -/
namespace EupsModel.Setup

section AList
variable {κ β : Type} [DecidableEq κ]

theorem aget_aunset_same (l : List (κ × β)) (k : κ) : aget (aunset l k) k = none := by
  induction l with
  | nil => rfl
  | cons p r ih => by_cases h : p.1 = k <;> simp_all [aunset, aget]

theorem aget_aunset_other (l : List (κ × β)) (k k2 : κ) (h : k2 ≠ k) : aget (aunset l k) k2 = aget l k2 := by
  induction l with
  | nil => rfl
  | cons p r ih => by_cases h1 : p.1 = k <;> by_cases h2 : p.1 = k2 <;> simp_all [aunset, aget]

theorem aget_aset_same (l : List (κ × β)) (k : κ) (v : β) : aget (aset l k v) k = some v := by
  simp [aset, aget]

theorem aget_aset_other (l : List (κ × β)) (k k2 : κ) (v : β) (h : k2 ≠ k) : aget (aset l k v) k2 = aget l k2 := by
  have : k ≠ k2 := fun e => h e.symm
  simp [aset, aget, this, aget_aunset_other l k k2 h]

theorem aget_aunset_some (l : List (κ × β)) (k k2 : κ) (x : β) (h : aget (aunset l k) k2 = some x) :
    aget l k2 = some x ∧ k2 ≠ k := by
  by_cases hk : k2 = k
  · subst hk; rw [aget_aunset_same] at h; cases h
  · rw [aget_aunset_other l k k2 hk] at h; exact ⟨h, hk⟩

theorem aget_mem (l : List (κ × β)) (k : κ) (v : β) (h : aget l k = some v) : (k, v) ∈ l := by
  fun_induction aget l k <;> simp_all

end AList

@[simp] theorem addPath_recs (e : Env) (var : Str) (xs : List Elem) (b : Bool) : (e.addPath var xs b).recs = e.recs := rfl
@[simp] theorem addPath_dirs (e : Env) (var : Str) (xs : List Elem) (b : Bool) : (e.addPath var xs b).dirs = e.dirs := rfl
@[simp] theorem addPath_vars (e : Env) (var : Str) (xs : List Elem) (b : Bool) : (e.addPath var xs b).vars = e.vars := rfl
@[simp] theorem removePath_recs (e : Env) (var : Str) (xs : List Elem) : (e.removePath var xs).recs = e.recs := rfl
@[simp] theorem removePath_dirs (e : Env) (var : Str) (xs : List Elem) : (e.removePath var xs).dirs = e.dirs := rfl
@[simp] theorem removePath_vars (e : Env) (var : Str) (xs : List Elem) : (e.removePath var xs).vars = e.vars := rfl
@[simp] theorem addPath_rec? (e : Env) (var : Str) (xs : List Elem) (b : Bool) (n : Name) :
    (e.addPath var xs b).rec? n = e.rec? n := rfl
@[simp] theorem removePath_rec? (e : Env) (var : Str) (xs : List Elem) (n : Name) :
    (e.removePath var xs).rec? n = e.rec? n := rfl

theorem pathOf_addPath_same (e : Env) (var : Str) (xs : List Elem) (b : Bool) :
    (e.addPath var xs b).pathOf var = PathAlg.applyL b true xs (e.pathOf var) := by
  simp [Env.addPath, Env.pathOf, aget_aset_same]

theorem pathOf_removePath_same (e : Env) (var : Str) (xs : List Elem) :
    (e.removePath var xs).pathOf var = PathAlg.applyL false false xs (e.pathOf var) := by
  simp [Env.removePath, Env.pathOf, aget_aset_same]

theorem pathOf_addPath_other (e : Env) (var var2 : Str) (xs : List Elem) (b : Bool) (h : var2 ≠ var) :
    (e.addPath var xs b).pathOf var2 = e.pathOf var2 := by
  simp [Env.addPath, Env.pathOf, aget_aset_other _ _ _ _ h]

theorem pathOf_removePath_other (e : Env) (var var2 : Str) (xs : List Elem) (h : var2 ≠ var) :
    (e.removePath var xs).pathOf var2 = e.pathOf var2 := by
  simp [Env.removePath, Env.pathOf, aget_aset_other _ _ _ _ h]

theorem mem_pathOf_addPath (e : Env) (var var2 : Str) (xs : List Elem) (y : Elem) (b : Bool) :
    y ∈ (e.addPath var xs b).pathOf var2 ↔ (var2 = var ∧ y ∈ xs) ∨ y ∈ e.pathOf var2 := by
  by_cases hv : var2 = var
  · subst hv
    rw [pathOf_addPath_same, PathAlg.mem_applyL]
    by_cases hy : y ∈ xs <;> simp [hy]
  · rw [pathOf_addPath_other e var var2 xs b hv]; simp [hv]

theorem mem_pathOf_removePath (e : Env) (var var2 : Str) (xs : List Elem) (y : Elem) :
    y ∈ (e.removePath var xs).pathOf var2 ↔ y ∈ e.pathOf var2 ∧ (var2 = var → y ∉ xs) := by
  by_cases hv : var2 = var
  · subst hv; rw [pathOf_removePath_same, PathAlg.mem_applyL]; simp
  · rw [pathOf_removePath_other e var var2 xs hv]; simp [hv]

theorem lookup_some (db : Db) (p : Prod) (d : Decl) (h : db.lookup p = some d) :
    d ∈ db.decls ∧ d.name = p.1 ∧ d.ver = p.2 := by
  unfold Db.lookup at h
  have h1 := List.mem_of_find?_eq_some h
  have h2 := List.find?_some h
  simp at h2
  exact ⟨h1, h2.1, h2.2⟩

def Canon (db : Db) (d : Decl) : Prop := db.lookup d.prod = some d

theorem lookup_canon (db : Db) (p : Prod) (d : Decl) (h : db.lookup p = some d) : Canon db d ∧ d.prod = p := by
  obtain ⟨_, h1, h2⟩ := lookup_some db p d h
  have hp : d.prod = p := by unfold Decl.prod; rw [h1, h2]
  exact ⟨by unfold Canon; rw [hp]; exact h, hp⟩

theorem setupProd_of_rec {db : Db} {e : Env} {n : Name} {v : Ver} (h : e.rec? n = some v) :
    setupProd db e n = db.lookup (n, v) := by
  unfold setupProd; rw [h]

theorem setupProd_of_none {db : Db} {e : Env} {n : Name} (h : e.rec? n = none) : setupProd db e n = none := by
  unfold setupProd; rw [h]

theorem setupProd_some (db : Db) (e : Env) (n : Name) (d : Decl) (h : setupProd db e n = some d) :
    Canon db d ∧ d.name = n ∧ e.rec? n = some d.ver := by
  unfold setupProd at h
  split at h
  · rename_i v hv
    obtain ⟨hc, hp⟩ := lookup_canon db (n, v) d h
    have h1 : d.name = n := congrArg Prod.fst hp
    have h2 : d.ver = v := congrArg Prod.snd hp
    exact ⟨hc, h1, by rw [hv, h2]⟩
  · cases h

theorem mem_actions (d : Decl) (exact : Bool) (a : Act) (h : a ∈ d.actions exact) : ∃ g, (g, a) ∈ d.table := by
  unfold Decl.actions at h
  simp only [List.mem_map, List.mem_filter] at h
  obtain ⟨⟨g, a'⟩, ⟨hm, _⟩, rfl⟩ := h
  exact ⟨g, hm⟩

theorem canon_table_mem (db : Db) (d : Decl) (hc : Canon db d) (exact : Bool) (a : Act) (ha : a ∈ d.actions exact) :
    d ∈ db.decls ∧ ∃ g, (g, a) ∈ d.table :=
  ⟨(lookup_some db d.prod d hc).1, mem_actions d exact a ha⟩

theorem all_lines {db : Db} {p : Decl → Guard × Act → Bool} (h : (db.decls.all fun d => d.table.all (p d)) = true)
    {d : Decl} (hd : d ∈ db.decls) {ga : Guard × Act} (hg : ga ∈ d.table) : p d ga = true :=
  List.all_eq_true.1 (List.all_eq_true.1 h d hd) ga hg

@[simp] theorem apply_already (fwd : Bool) (p : Prod) (a : Act) (s : St) : (a.apply fwd p s).already = s.already := by
  cases a <;> cases fwd <;> rfl

theorem apply_rec? (fwd : Bool) (p : Prod) (a : Act) (s : St) (m : Name) :
    (a.apply fwd p s).env.rec? m = s.env.rec? m := by
  cases a <;> cases fwd <;> rfl

theorem apply_dirs (fwd : Bool) (p : Prod) (a : Act) (s : St) : (a.apply fwd p s).env.dirs = s.env.dirs := by
  cases a <;> cases fwd <;> rfl

@[simp] theorem record_rec?_same (d : Decl) (r : Option VroEnt) (s : St) : (record d r s).env.rec? d.name = some d.ver :=
  aget_aset_same ..

theorem record_rec?_other (d : Decl) (r : Option VroEnt) (s : St) (m : Name) (h : m ≠ d.name) :
    (record d r s).env.rec? m = s.env.rec? m :=
  aget_aset_other _ _ _ _ h

theorem record_dirs_other (d : Decl) (r : Option VroEnt) (s : St) (m : Name) (h : m ≠ d.name) :
    aget (record d r s).env.dirs m = aget s.env.dirs m :=
  aget_aset_other _ _ _ _ h

theorem record_already_other (d : Decl) (r : Option VroEnt) (s : St) (m : Name) (h : m ≠ d.name) :
    aget (record d r s).already m = aget s.already m :=
  aget_aset_other _ _ _ _ h

theorem unrec_rec?_other (e : Env) (n m : Name) (h : m ≠ n) :
    ({ e with dirs := aunset e.dirs n, recs := aunset e.recs n } : Env).rec? m = e.rec? m :=
  aget_aunset_other _ _ _ h

theorem unrec_dirs_other (e : Env) (n m : Name) (h : m ≠ n) :
    aget ({ e with dirs := aunset e.dirs n, recs := aunset e.recs n } : Env).dirs m = aget e.dirs m :=
  aget_aunset_other _ _ _ h

end EupsModel.Setup
