import EupsModel.Lemmas.SetupRun
/-! A schema for invariants indexed by the *subjects* of the requests a run can make (`setup_subjInv`: one instance of each
rule set of `Lemmas/SetupRun.lean`): C01 clause (a), the C04 frame and depth clauses (on the environment), the C04 alias clause
(on the alias table) and "a request changes records only of its own name and of names of smaller rank" are instances.  Last,
`acts_lines`, for what is no instance. -/
namespace EupsModel.Setup

/-- `S k n`: a request for the name `n` may be made at depth `k`.  Closed under the dependency lines that
`Action.execute` does not cut off at that depth. -/
def ClosedAt (cfg : Cfg) (S : Nat → Name → Prop) : Prop :=
  ∀ d ∈ cfg.db.decls, ∀ k, S k d.name → cfg.maxDepth ≠ some k →
    ∀ g n o j v x t kl, (g, Act.dep n o j v x t kl) ∈ d.table → S (k + 1) n

theorem ClosedAt.dep {cfg : Cfg} {S : Nat → Name → Prop} (h : ClosedAt cfg S) {d : Decl} (hc : Canon cfg.db d) {k : Nat}
    (hS : S k d.name) {nr : Bool} (hgo : (nr || decide (cfg.maxDepth = some k)) = false) {n : Name} {o j : Bool}
    {v : Option VerReq} {x : Option VExpr} {t : List Str} {kl : Bool}
    (hm : Act.dep n o j v x t kl ∈ d.actions cfg.exact) : S (k + 1) n := by
  obtain ⟨hd, g, hg⟩ := canon_table_mem cfg.db d hc cfg.exact _ hm
  exact h d hd k hS (of_decide_eq_false (Bool.or_eq_false_iff.1 hgo).2) g n o j v x t kl hg

theorem closedAt_true (cfg : Cfg) : ClosedAt cfg (fun _ _ => True) := fun _ _ _ _ _ _ _ _ _ _ _ _ _ _ => trivial

/-- an environment invariant kept by everything done on behalf of a subject -/
structure SubjInv (cfg : Cfg) (S : Nat → Name → Prop) (P : Env → Prop) : Prop where
  apply : ∀ (fwd : Bool) (k : Nat) (d : Decl) (a : Act) (s : St), Canon cfg.db d → a ∈ d.actions cfg.exact → S k d.name →
    P s.env → P (a.apply fwd d.prod s).env
  record : ∀ (k : Nat) (d : Decl) (r : Option VroEnt) (s : St), Canon cfg.db d → S k d.name → P s.env → P (record d r s).env
  unrec : ∀ (k : Nat) (d : Decl) (e : Env), Canon cfg.db d → S k d.name → P e →
    P { e with dirs := aunset e.dirs d.name, recs := aunset e.recs d.name }

/-- the same for a predicate on the state that looks only at what `popStack("env")` restores: the environment, the aliases
and the marks for `unset -f` (`frame`) -/
structure StInv (cfg : Cfg) (S : Nat → Name → Prop) (I : St → Prop) : Prop where
  apply : ∀ (fwd : Bool) (k : Nat) (d : Decl) (a : Act) (s : St), Canon cfg.db d → a ∈ d.actions cfg.exact → S k d.name →
    I s → I (a.apply fwd d.prod s)
  record : ∀ (k : Nat) (d : Decl) (r : Option VroEnt) (s : St), Canon cfg.db d → S k d.name → I s → I (record d r s)
  unrec : ∀ (k : Nat) (d : Decl) (s : St), Canon cfg.db d → S k d.name → I s → I (s.unrecorded d)
  frame : ∀ s s' : St, s'.env = s.env → s'.aliases = s.aliases → s'.unaliased = s.unaliased → I s → I s'

theorem SubjInv.stInv {cfg : Cfg} {S : Nat → Name → Prop} {P : Env → Prop} (h : SubjInv cfg S P) :
    StInv cfg S (fun s => P s.env) :=
  ⟨h.apply, h.record, fun k d s => h.unrec k d s.env, fun _ _ he _ _ hp => he ▸ hp⟩

theorem StInv.restored {cfg : Cfg} {S : Nat → Name → Prop} {I : St → Prop} (hI : StInv cfg S I) {s s1 : St} (hp : I s) :
    I (s.restored s1) :=
  hI.frame s _ rfl rfl rfl hp

theorem Chosen.frame {cfg : Cfg} {S : Nat → Name → Prop} {I : St → Prop} (hI : StInv cfg S I) {k : Nat} {vro : List VroEnt}
    {n : Name} {ver : Option VerReq} {vexpr : Option VExpr} {s : St} {d : Decl} {reason : Option VroEnt} {s0 : St}
    (h : Chosen cfg k vro n ver vexpr s d reason s0) (hp : I s) : I s0 :=
  hI.frame s _ h.env h.aliases.1 h.aliases.2 hp

theorem StInv.unRules {cfg : Cfg} {S : Nat → Name → Prop} {I : St → Prop} (hcl : ClosedAt cfg S) (hI : StInv cfg S I) :
    UnRules cfg (fun k _ n s s' => S k n → I s → I s') (fun k _ d _ s s' => S k d.name → I s → I s') where
  nil := fun _ hp => hp
  line := fun _ _ _ hc hm _ ih hS hp => ih hS (hI.apply _ _ _ _ _ hc hm hS hp)
  skip := fun _ ih => ih
  absent := fun _ ih => ih
  ok := fun hc hm hgo _ hq ih hS hp => ih hS (hq (hcl.dep hc hS hgo hm) hp)
  unwind := fun _ _ hc hn _ ih hS hp => ih (hn ▸ hS) (hI.unrec _ _ _ hc (hn ▸ hS) hp)

theorem StInv.fwdRules {cfg : Cfg} {S : Nat → Name → Prop} {I : St → Prop} (hcl : ClosedAt cfg S) (hI : StInv cfg S I) :
    FwdRules cfg (fun k _ _ n s res => S k n → I s → ∀ s', res = .ok s' → I s')
      (fun k _ _ d _ s res => S k d.name → I s → ∀ s', res = .ok s' → I s') where
  nil := fun _ hp _ h => by cases h; exact hp
  line := fun _ _ _ hc hm _ ih hS hp => ih hS (hI.apply _ _ _ _ _ hc hm hS hp)
  skip := fun _ ih => ih
  ok := fun _ hc _ hm hgo _ hq ih hS hp => ih hS (hq (hcl.dep hc hS hgo hm) hp _ rfl)
  raise := fun _ _ _ _ _ h => nomatch h
  cont := fun _ _ ih hS hp => ih hS (hI.restored hp)
  notFound := fun _ _ _ h => nomatch h
  raised := fun _ _ _ h => nomatch h
  same := fun hch _ _ _ hp _ h => by cases h; exact hch.frame hI hp
  fresh := fun hch _ ih hS hp => ih (hch.name ▸ hS) (hI.record _ _ _ _ hch.canon (hch.name ▸ hS) (hch.frame hI hp))
  replace := fun _ hch _ _ hr ih hS hp =>
    ih (hch.name ▸ hS) (hI.record _ _ _ _ hch.canon (hch.name ▸ hS)
      ((StInv.unRules hcl hI).run _ hr hS (hch.frame hI hp)))

theorem setup_subjInv (cfg : Cfg) {S : Nat → Name → Prop} {I : St → Prop} (hcl : ClosedAt cfg S) (hI : StInv cfg S I)
    {fuel : Nat} {fwd : Bool} {k : Nat} {noRec : Bool} {vro : List VroEnt} {n : Name} {ver : Option VerReq}
    {vexpr : Option VExpr} {s s' : St} (hS : S k n) (ha : AlreadyOK cfg.db s.already) (hp : I s)
    (h : setup cfg fuel fwd k noRec vro n ver vexpr s = .ok s') : I s' := by
  cases fwd with
  | false => exact (StInv.unRules hcl hI).run fuel h hS hp
  | true => exact (StInv.fwdRules hcl hI).run fuel ha h nofun hS hp s' rfl

theorem run_stInv (db : Db) (fuel : Nat) (fwd : Bool) (r : Request) (e : Env) (s' : St) (S : Nat → Name → Prop)
    (I : St → Prop) (hcl : ClosedAt (r.cfg db) S) (hI : StInv (r.cfg db) S I) (hS : S 0 r.name) (hp : I (St.init e))
    (h : (if fwd then runSetup db fuel r e else runUnsetup db fuel r e) = .ok s') : I s' :=
  setup_subjInv (r.cfg db) hcl hI hS (alreadyOK_init db e) hp ((run_eq db fuel fwd r e).symm.trans h)

theorem run_subjInv (db : Db) (fuel : Nat) (fwd : Bool) (r : Request) (e : Env) (s' : St) (S : Nat → Name → Prop)
    (P : Env → Prop) (hcl : ClosedAt (r.cfg db) S) (hP : SubjInv (r.cfg db) S P) (hS : S 0 r.name) (hp : P e)
    (h : (if fwd then runSetup db fuel r e else runUnsetup db fuel r e) = .ok s') : P s'.env :=
  run_stInv db fuel fwd r e s' S (fun s => P s.env) hcl hP.stInv hS hp h

/-- A Hoare rule for one table, for any recursive call.  It serves the statements about the table of ONE declaration, which
are no instances of the subject schema: that closes over every declared version of a subject's name. -/
theorem acts_lines (cfg : Cfg) (I : St → Prop) (rec : Rec) (hal : AlOK cfg rec) (fwd : Bool) (k : Nat)
    (noRec : Bool) (vro : List VroEnt) (d : Decl) (l : List Act)
    (hrest : ∀ s s1 : St, I s → I (s.restored s1))
    (happly : ∀ a ∈ l, ∀ s : St, I s → I (a.apply fwd d.prod s))
    (hline : ∀ n o j v x t kl, Act.dep n o j v x t kl ∈ l → (noRec || decide (cfg.maxDepth = some k)) = false →
      ∀ vro' ver' vx' (s s' : St), AlreadyOK cfg.db s.already → I s →
        rec fwd (k + 1) j vro' n ver' vx' s = .ok s' → I s') :
    ∀ s s', AlreadyOK cfg.db s.already → I s → acts rec cfg fwd k noRec vro d l s = .ok s' → I s' := by
  intro s s' ha hp h
  refine acts_induct rec cfg fwd k noRec vro d l
    (A := fun _ s res => AlreadyOK cfg.db s.already → I s → res = .ok s' → I s')
    ?_ ?_ ?_ ?_ ?_ ?_ ?_ l (fun _ h => h) s ha hp h
  · intro s _ hp h; cases h; exact hp
  · intro a rest s hmem _ ih ha hp; exact ih (by rw [apply_already]; exact ha) (happly a hmem s hp)
  · intro n o j v x t kl rest s _ ih; exact ih
  · intro n o j v x t kl rest s s1 hmem hgo hr ih ha hp
    exact ih (hal.st ha (congrArg Res.st? hr)) (hline n o j v x t kl hmem hgo _ _ _ s s1 ha hp hr)
  · intro n o j v x t kl rest s _ _ _ _ h; cases h
  · intro n j v x t kl rest s s1 _ _ _ _ _ h; cases h
  · intro n o j v x t kl rest s s1 _ _ _ hr ih ha hp
    exact ih (hal.st (s' := s1) ha (Res.st?_of_fail hr)) (hrest s s1 hp)

end EupsModel.Setup
