import EupsModel.Lemmas.LockR
/-! C09, repaired protocol — no spurious refusals among requests of one kind, under EVERY schedule.  Readers among
themselves only ever pass through `smooth` program counters (`SInv`); updaters among themselves, none re-entering a parent's
lock, are turned away at the `mkdir` gate or not at all (`XInv`). -/
namespace EupsModel.LockR
open EupsModel.Lock (Pid Kind Err exFiles parentHolds)

/-- program counters a shared request goes through when it is never refused -/
def smooth : PC → Bool
  | .mkdir _ | .create _ | .look _ | .hold | .isdir .fin | .rexists .fin | .remove .fin | .rmdir .fin | .done => true
  | .failedAcq .enoent => true      -- the directory was removed under it and it had no attempt left
  | _ => false

/-- All requests shared: nobody has been refused or has withdrawn (`smooth`). -/
structure SInv (s : St) : Prop where
  allSh : ∀ i, s.kind i = .sh
  allSmooth : ∀ i, smooth (s.pc i) = true
  inv : Inv s

theorem sinv_init (kind : Pid → Kind) (lp : Pid → Option Pid) (tries : Pid → Nat) (hk : ∀ i, kind i = .sh) :
    SInv (init kind lp tries) :=
  ⟨hk, fun _ => rfl, inv_init kind lp tries⟩

theorem SInv.exFiles_nil {s : St} (h : SInv s) : exFiles s.files = [] :=
  Lock.exFiles_eq_nil (fun f hf => by rw [(h.inv.owner f hf).1, h.allSh])

theorem sinv_step (s : St) (p : Pid) (h : SInv s) : SInv (step s p) := by
  have hinv' := inv_step s p h.inv
  have hsp := h.allSmooth p
  obtain ⟨v, d, fs, hb, he⟩ := step_branch s p
  rw [he] at hinv' ⊢
  refine ⟨h.allSh, Lock.forall_upd (P := fun _ x => smooth x = true) ?_ (fun i _ => h.allSmooth i), hinv'⟩
  cases hb with
  | mkdirEx _ _ hex => rw [h.allSh] at hex; cases hex
  | scanParent hpc | scanOther hpc | msgLast hpc | msgRetry hpc | withdrawRetry hpc | withdrawRefuse hpc =>
    rw [hpc] at hsp; cases hsp
  | lookBusy _ hbusy =>
    -- a shared request looks at the exclusive files, and there are none
    rw [h.allSh, show lookList .sh s.files = [] from h.exFiles_nil] at hbusy; cases hbusy
  | removeGone hpc hnf => exact absurd (h.inv.acct.own_of hpc rfl) hnf
  | @isdirYes a hpc | @isdirNo a hpc | @existsYes a hpc | @existsNo a hpc | @removeOk a hpc | @rmdirOk a hpc
  | @rmdirRefused a hpc =>
    rw [hpc] at hsp; cases a <;> first | rfl | cases hsp
  | idle => exact hsp
  | _ => rfl

theorem sinv_run (s : St) (sched : List Pid) (h : SInv s) : SInv (run s sched) :=
  Lock.foldl_keeps (P := SInv) sinv_step sched h

/-- program counters an exclusive request goes through when it never has to withdraw: turned away only at the gate -/
def gated : PC → Bool
  | .lookMsg _ => false
  | .isdir a | .rexists a | .remove a | .rmdir a => a == .fin
  | .failedRel _ | .killed => false
  | _ => true

/-- All requests exclusive, no parents: the lock directory is a gate for `engaged` (at most one process is engaged with
it, it exists exactly while one is), and nobody has had to withdraw (`gated`). -/
structure XInv (s : St) : Prop where
  allEx : ∀ i, s.kind i = .ex
  noLp  : ∀ i, s.lp i = none
  allGated : ∀ i, gated (s.pc i) = true
  gate  : Lock.Gate engaged s.dir s.pc
  inv   : Inv s

theorem xinv_init (kind : Pid → Kind) (lp : Pid → Option Pid) (tries : Pid → Nat)
    (hk : ∀ i, kind i = .ex) (hl : ∀ i, lp i = none) : XInv (init kind lp tries) :=
  ⟨hk, hl, fun _ => rfl, ⟨fun _ _ h => (nomatch h), nofun, fun ⟨_, h⟩ => (nomatch h)⟩, inv_init kind lp tries⟩

theorem xinv_step (s : St) (p : Pid) (h : XInv s) : XInv (step s p) := by
  have hinv' := inv_step s p h.inv
  obtain ⟨v, d, fs, hb, he⟩ := step_branch s p
  rw [he] at hinv' ⊢
  -- the premise on `d`: the directory flag afterwards is the one `Gate.move` prescribes
  have key : ∀ {a}, s.pc p = a → (engaged v = true → engaged a = true ∨ s.dir = false) →
      d = (engaged v || (!engaged a && s.dir)) → gated v = true → XInv ⟨d, fs, s.kind, s.lp, upd s.pc p v⟩ :=
    fun hpc hin hd hg =>
      ⟨h.allEx, h.noLp, Lock.forall_upd (P := fun _ x => gated x = true) hg (fun i _ => h.allGated i),
        h.gate.move hpc hin hd, hinv'⟩
  have hgp := h.allGated p
  have dir : ∀ {a}, s.pc p = a → engaged a = true → s.dir = true := fun hpc hen => h.gate.dirIff.mpr ⟨p, hpc ▸ hen⟩
  have stay : ∀ {a}, s.pc p = a → engaged a = true → d = s.dir → engaged v = true → gated v = true →
      XInv ⟨d, fs, s.kind, s.lp, upd s.pc p v⟩ :=
    fun hpc hen hd hv hg => key hpc (fun _ => .inl hen) (by rw [hd, hv, hen]; exact dir hpc hen) hg
  have fin : ∀ {a w}, s.pc p = w → gated w = (a == After.fin) → a = .fin :=
    fun hpc hw => by rw [hpc, hw] at hgp; exact eq_of_beq hgp
  cases hb with
  | mkdirNew hpc hd => exact key hpc (fun _ => .inr hd) rfl rfl
  | mkdirEx hpc | scanOther hpc | msgLast hpc | msgRetry hpc => exact key hpc nofun rfl rfl
  | mkdirSh _ _ hsh => rw [h.allEx] at hsh; cases hsh
  | scanParent _ hph => rw [h.noLp] at hph; cases hph
  | createNew hpc | lookFree hpc | bodyEnds hpc => exact stay hpc rfl rfl rfl rfl
  | createOld hpc _ hf => exact absurd hf (h.inv.acct.noFile hpc rfl)
  | createLast hpc hd | createRetry hpc hd | isdirNo hpc hd => rw [dir hpc rfl] at hd; cases hd
  | lookBusy hpc hbusy =>
    -- every lock file is `p`'s own: nobody else is engaged
    have hall : ∀ f ∈ s.files, f.2 = p := fun f hf =>
      h.gate.uniq f.2 p (hasFile_engaged (h.inv.owner f hf).2) (by rw [hpc]; rfl)
    have : (others p (s.lp p) (lookList (s.kind p) s.files)).isEmpty = true := by
      rw [h.allEx, List.isEmpty_iff]
      exact List.filter_eq_nil_iff.2 (fun f hf => by simp [hall f hf])
    rw [this] at hbusy; cases hbusy
  | withdrawRetry hpc | withdrawRefuse hpc => rw [hpc] at hgp; cases hgp
  | isdirYes hpc | existsYes hpc | removeOk hpc => cases fin hpc rfl; exact stay hpc rfl rfl rfl rfl
  | existsNo hpc hnf | removeGone hpc hnf => exact absurd (h.inv.acct.own_of hpc rfl) hnf
  | rmdirOk hpc => cases fin hpc rfl; exact key hpc nofun rfl rfl
  | rmdirRefused hpc hc =>
    -- the directory is not empty: somebody else's file — but `p` is the only one engaged
    have hen : engaged (s.pc p) = true := by rw [hpc]; rfl
    obtain ⟨q, hq⟩ := h.inv.acct.exists_hasFile (hc.resolve_left (fun hd => by rw [dir hpc rfl] at hd; cases hd))
    rw [h.gate.uniq q p (hasFile_engaged hq) hen, hpc] at hq; cases hq
  | idle => rw [upd_self]; exact h

theorem xinv_run (s : St) (sched : List Pid) (h : XInv s) : XInv (run s sched) :=
  Lock.foldl_keeps (P := XInv) xinv_step sched h

end EupsModel.LockR
