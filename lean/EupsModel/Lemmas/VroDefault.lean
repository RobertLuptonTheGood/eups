import EupsModel.Lemmas.VroSelectGen
/-! `selectVRO` under the default configuration (hooks.py: one dictionary entry `default`, a fresh instance; registered tags):
the VRO it leaves is a closed formula, `inexF inexact (uniqFirst (placed keep tags postTags))` (`selectVRO_default_eq`) —
`makeVroExact` has nothing to move in it, and `_kindlySetPreferredTags` accepts it as it is.  `selectVRO_placed_eq` says the
same of an instance `c'` that differs from such a configuration in state only, whose dictionary list may already hold the
tags: the second call of `eups vro` is that case. -/
namespace EupsModel.Vro

/-! ## the entries of `placed` -/

/-- the eight kinds of entry of `placed`; case splits on this lemma go through them in the order they stand -/
theorem mem_placed {keep : Bool} {tags postTags : List Str} {x : Str} :
    x ∈ placed keep tags postTags ↔
      (keep = true ∧ x = kKeep) ∨ x = kTypeExact ∨ x = kCommandLine ∨ x ∈ tags ∨ x = kVersion ∨ x = kVersionExpr ∨
        x ∈ postTags ∨ x = kCurrent := by
  cases keep <;> simp [placed, keepPart]

theorem noWarn_placed {c : VroCfg} {keep : Bool} {tags postTags : List Str}
    (ht : ∀ t ∈ tags, GoodTag c t) (hp : ∀ t ∈ postTags, GoodTag c t) : NoWarn (placed keep tags postTags) := by
  intro x hx
  rcases mem_placed.mp hx with ⟨_, rfl⟩ | rfl | rfl | h | rfl | rfl | h | rfl
  · decide
  · decide
  · decide
  · exact (ht x h).isWarn
  · decide
  · decide
  · exact (hp x h).isWarn
  · decide

theorem kindlyOne_of_mem_placed {c : VroCfg} (d : DefaultCfg c) {keep : Bool} {tags postTags : List Str}
    (ht : ∀ t ∈ tags, GoodTag c t) (hp : ∀ t ∈ postTags, GoodTag c t) {x : Str}
    (h : x ∈ placed keep tags postTags) : kindlyOne c x = .ok true := by
  rcases mem_placed.mp h with ⟨_, rfl⟩ | rfl | rfl | h | rfl | rfl | h | rfl
  · exact fixed_kindly (by decide)
  · exact fixed_kindly (by decide)
  · exact fixed_kindly (by decide)
  · exact (ht x h).kindly
  · exact fixed_kindly (by decide)
  · exact fixed_kindly (by decide)
  · exact (hp x h).kindly
  · exact (goodTag_current d).kindly

/-! ## `makeVroExact` on a list whose moved entries already stand at the end -/

theorem any_dropWhile_append (p q : Str → Bool) (K M : List Str) (hK : ∀ x ∈ K, p x = true)
    (hM : ∀ x ∈ M, q x = false) : ((K ++ M).dropWhile p).any q = false := by
  rw [List.dropWhile_append_of_pos hK]
  exact List.any_eq_false.mpr fun x hx => by simp [hM x ((List.dropWhile_suffix p).subset hx)]

theorem makeVroExact_split (c : VroCfg) (cmd K M : List Str) (hu : c.userVRO = false)
    (hK : ∀ x ∈ K, movedByExact c cmd x = false) (hM : ∀ x ∈ M, movedByExact c cmd x = true)
    (hun : uniqFirst M = M) : makeVroExact c cmd (K ++ M) = K ++ M := by
  have f1 : (K ++ M).filter (movedByExact c cmd) = M := by
    rw [List.filter_append, List.filter_eq_nil_iff.mpr (by intro x hx; simp [hK x hx]),
      List.filter_eq_self.mpr hM]
    rfl
  have f2 : (K ++ M).filter (fun e => !movedByExact c cmd e) = K := by
    rw [List.filter_append, List.filter_eq_self.mpr (by intro x hx; simp [hK x hx]),
      List.filter_eq_nil_iff.mpr (by intro x hx; simp [hM x hx])]
    simp
  have f3 : ((K ++ M).dropWhile (fun e => !movedByExact c cmd e)).any (fun e => !movedByExact c cmd e) = false :=
    any_dropWhile_append _ _ K M (by intro x hx; simp [hK x hx]) (by intro x hx; simp [hM x hx])
  unfold makeVroExact
  simp only [hu, Bool.false_eq_true, if_false, f1, f2, f3, hun]
  cases M <;> simp

/-! ## the list with the tags placed: `makeVroExact` leaves its deduplicated form alone -/

theorem placed_split (keep : Bool) (tags post : List Str) :
    placed keep tags post =
      (keepPart keep ++ [kTypeExact, kCommandLine] ++ tags ++ [kVersion, kVersionExpr]) ++ (post ++ [kCurrent]) := by
  simp [placed]

/-- In `uniqFirst (placed ..)` the entries `--exact` would move — the -T tags not given with -t, and
`current` — already stand at the end, once each. -/
theorem makeVroExact_placed {c : VroCfg} (d : DefaultCfg c) (keep : Bool) {tags post : List Str}
    (ht : ∀ t ∈ tags, GoodTag c t) (hp : ∀ t ∈ post, GoodTag c t) :
    makeVroExact c tags (uniqFirst (placed keep tags post)) = uniqFirst (placed keep tags post) := by
  rw [placed_split, uniqFirst_append]
  apply makeVroExact_split c tags _ _ d.user
  · intro x hx
    have hxH := (mem_uniqFirst x _).mp hx
    simp only [List.mem_append, List.mem_cons, List.not_mem_nil, or_false] at hxH
    rcases hxH with ((hx | hx) | hx) | hx
    · rw [eq_keep_of_mem_keepPart hx]; exact fixed_not_moved d.disjoint tags (by simp [fixedWords])
    · rcases hx with rfl | rfl <;> exact fixed_not_moved d.disjoint tags (by simp [fixedWords])
    · rw [(ht x hx).moved]; simp [hx]
    · rcases hx with rfl | rfl <;> exact fixed_not_moved d.disjoint tags (by simp [fixedWords])
  · intro x hx
    obtain ⟨hxT, hxS⟩ := List.mem_filter.mp hx
    have hnt : x ∉ tags := fun hm => by simp [hm] at hxS
    have gx : GoodTag c x := by
      rcases List.mem_append.mp ((mem_uniqFirst x _).mp hxT) with h | h
      · exact hp x h
      · have : x = kCurrent := by simpa using h
        rw [this]; exact goodTag_current d
    rw [gx.moved]; simp [hnt]
  · rw [uniqFirst_filter, uniqFirst_idem]

/-! ## configurations that differ only in state (`exact`, `cmdTags`, dictionary, `prevPreferred`) -/

theorem makeVroExact_congr {c c' : VroCfg} (hu : c'.userVRO = c.userVRO) (hg : c'.globalTags = c.globalTags)
    (cmd l : List Str) : makeVroExact c' cmd l = makeVroExact c cmd l := by
  have hm : movedByExact c' cmd = movedByExact c cmd := by
    funext e
    simp only [movedByExact, VroCfg.recognized, VroCfg.isGlobal, hg]
  simp only [makeVroExact, hm, hu]

theorem kindlyOne_congr {c c' : VroCfg} (hg : c'.globalTags = c.globalTags) (t : Str) :
    kindlyOne c' t = kindlyOne c t := by
  simp only [kindlyOne, VroCfg.recognized, hg]

/-! ## what `selectVRO` leaves -/

theorem cleanVro_noWarn {c : VroCfg} (hu : c.userVRO = false) (cmd : List Str) (inexact : Bool) {l : List Str}
    (hl : NoWarn l) :
    cleanVro c cmd inexact l = inexF inexact (if c.exact then makeVroExact c cmd (uniqFirst l) else uniqFirst l) := by
  unfold cleanVro inexF
  simp only [hu, Bool.false_eq_true, if_false, dedupe_nil_eq hl,
    mergeWarnings_noWarn _ (fun x hx => hl x ((mem_uniqFirst x l).mp hx))]

/-- `c'`: the instance in some state of the default configuration `c`; `b`: its dictionary's list, which with the tags placed
(`v3`) holds the entries of `placed ..` and repetitions of them -/
theorem selectVRO_placed_eq {c c' : VroCfg} (dc : DefaultCfg c) (hu : c'.userVRO = c.userVRO)
    (hg : c'.globalTags = c.globalTags) (a : VroArgs)
    (ht : ∀ t ∈ a.tags, GoodTag c t) (hp : ∀ t ∈ a.postTags, GoodTag c t) {b v3 : List Str}
    (hd : c'.vroDict = [(kDefault, .flat b)]) (hcmd : c'.cmdTags = [] ∨ c'.cmdTags = a.tags)
    (hpl : placeTags c'.keep b a.tags a.postTags = .ok v3)
    (hv3 : uniqFirst v3 = uniqFirst (placed c.keep a.tags a.postTags)) :
    selectVRO c' a = .ok
      { vro := inexF a.inexact (uniqFirst (placed c.keep a.tags a.postTags)),
        exact := c'.exact || (inexF a.inexact (uniqFirst (placed c.keep a.tags a.postTags))).contains kTypeExact,
        cmdTags := a.tags, dict' := [(kDefault, .flat v3)] } := by
  have hu' := hu.trans dc.user
  have hcmd' : cmdOf c' a = a.tags := cmdOf_eq c' fun h => hcmd.elim id (·.trans h)
  have hnw : NoWarn v3 := fun x hx =>
    noWarn_placed ht hp x ((mem_uniqFirst x _).mp (hv3 ▸ (mem_uniqFirst x v3).mpr hx))
  have hne : inexF a.inexact (uniqFirst (placed c.keep a.tags a.postTags)) ≠ [] := List.ne_nil_of_mem
    (mem_inexF.mpr ⟨(mem_uniqFirst kVersion _).mpr (by simp [placed]), fun _ => by decide⟩)
  have hk : kindly c' (cleanVro c' (cmdOf c' a) a.inexact v3)
      = .ok (inexF a.inexact (uniqFirst (placed c.keep a.tags a.postTags))) := by
    -- the repetitions go, `makeVroExact` finds nothing to move, `_kindlySetPreferredTags` accepts every entry
    rw [hcmd', cleanVro_noWarn hu' a.tags a.inexact hnw, hv3, makeVroExact_congr hu hg,
      makeVroExact_placed dc c.keep ht hp, ite_self, kindly_all_ok, if_neg (by simpa using hne)]
    intro x hx
    rw [kindlyOne_congr hg]
    exact kindlyOne_of_mem_placed dc ht hp ((mem_uniqFirst x _).mp (mem_inexF.mp hx).1)
  rw [selectVRO_eq c' a hu' (chooseBase_flat c' a hu' b hd fun t h => (ht t h).notDefault) hpl hk, hcmd']

theorem selectVRO_default_eq (c : VroCfg) (dc : DefaultCfg c) (a : VroArgs)
    (ht : ∀ t ∈ a.tags, GoodTag c t) (hp : ∀ t ∈ a.postTags, GoodTag c t) :
    selectVRO c a = .ok
      { vro := inexF a.inexact (uniqFirst (placed c.keep a.tags a.postTags)),
        exact := c.exact || (inexF a.inexact (uniqFirst (placed c.keep a.tags a.postTags))).contains kTypeExact,
        cmdTags := a.tags, dict' := [(kDefault, .flat (placed c.keep a.tags a.postTags))] } :=
  selectVRO_placed_eq dc rfl rfl a ht hp dc.dict (.inl dc.cmd) (placeTags_default c.keep a.tags a.postTags) rfl

end EupsModel.Vro
