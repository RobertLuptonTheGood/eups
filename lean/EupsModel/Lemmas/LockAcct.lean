import EupsModel.Lemmas.LockList
/-! C09 — what the invariants of both single-directory protocols share, stated for the map `fupd pc p v` of program
counters after `p` has moved to `v`, which the `upd` of either protocol unfolds to: how a pointwise and a pairwise clause
survive the move; the accounting of the lock directory (`Acct`), the directory as a gate (`Gate`), the store between
phases (`AtRest`). Conventions of the region: where an invariant has an `update`, it allows any new store; its `move`
leaves the lock files alone and names the mover's program counter (`hpc`: what is asked of the old and the new counter is
then mostly `rfl`); what a step needs of `kind` and `lp` (all exclusive, no parents, flat) is a clause of the invariant,
kept for free since a step leaves both alone. -/
namespace EupsModel.Lock
variable {β : Type}

theorem forall_upd {pc : Pid → β} {p : Pid} {v : β} {P : Pid → β → Prop} (hv : P p v) (h : ∀ q, q ≠ p → P q (pc q))
    (q : Pid) : P q (fupd pc p v q) := by
  by_cases hq : q = p
  · rw [hq, fupd_same]; exact hv
  · rw [fupd_other pc v hq]; exact h q hq

/-- A clause "distinct processes `a` in class `A` and `b` in class `B` satisfy `Q a b`" after `p` has moved to `v`: for a
pair with `p`, either `p` was in its class already or it is enough to look at `p` entering it against everybody in the
other.  What does not change with the move (kinds, parents) belongs into `Q`. -/
theorem pair_upd {pc : Pid → β} {p : Pid} {v : β} {A B : β → Prop} {Q : Pid → Pid → Prop}
    (h : ∀ a b, a ≠ b → A (pc a) → B (pc b) → Q a b)
    (h1 : A v → ∀ b, b ≠ p → B (pc b) → A (pc p) ∨ Q p b)
    (h2 : B v → ∀ a, a ≠ p → A (pc a) → B (pc p) ∨ Q a p)
    (a b : Pid) (hab : a ≠ b) (ha : A (fupd pc p v a)) (hb : B (fupd pc p v b)) : Q a b := by
  by_cases hap : a = p
  · subst hap
    have hb := fupd_other pc v (Ne.symm hab) ▸ hb
    exact (h1 (fupd_same pc a v ▸ ha) b (Ne.symm hab) hb).elim (fun hold => h a b hab hold hb) id
  · have ha' := fupd_other pc v hap ▸ ha
    by_cases hbp : b = p
    · subst hbp
      exact (h2 (fupd_same pc b v ▸ hb) a hap ha').elim (fun hold => h a b hab ha' hold) id
    · exact h a b hab ha' (fupd_other pc v hbp ▸ hb)

theorem sym_pair_upd {pc : Pid → β} {p : Pid} {v : β} {A : β → Prop} {Q : Pid → Pid → Prop}
    (hsym : ∀ a b, Q a b → Q b a) (h : ∀ a b, a ≠ b → A (pc a) → A (pc b) → Q a b)
    (hnew : A v → ∀ j, j ≠ p → A (pc j) → Q p j) :
    ∀ a b, a ≠ b → A (fupd pc p v a) → A (fupd pc p v b) → Q a b :=
  pair_upd h (fun hv j hj hjA => .inr (hnew hv j hj hjA)) (fun hv j hj hjA => .inr (hsym _ _ (hnew hv j hj hjA)))

/-- Every lock file belongs to a process whose program counter says it has one, and the other way round; files are in a
directory; while the directory exists some process is responsible for it (it will remove the directory, or see somebody
else's file, whose owner is then responsible). -/
structure Acct (hasFile resp : β → Bool) (kind : Pid → Kind) (dir : Bool) (files : List (Kind × Pid)) (pc : Pid → β) :
    Prop where
  own   : ∀ i, hasFile (pc i) = true → (kind i, i) ∈ files
  owner : ∀ f ∈ files, f.1 = kind f.2 ∧ hasFile (pc f.2) = true
  inDir : files ≠ [] → dir = true
  resp  : dir = true → ∃ q, resp (pc q) = true

namespace Acct
variable {hasFile resp : β → Bool} {kind : Pid → Kind} {dir : Bool} {files : List (Kind × Pid)} {pc : Pid → β}

theorem own_of (h : Acct hasFile resp kind dir files pc) {p : Pid} {a : β} (hpc : pc p = a) (ha : hasFile a = true) :
    (kind p, p) ∈ files :=
  h.own p (hpc ▸ ha)

theorem noFile (h : Acct hasFile resp kind dir files pc) {p : Pid} {k : Kind} {a : β} (hpc : pc p = a)
    (ha : hasFile a = false) : (k, p) ∉ files := by
  intro hm
  have := (h.owner _ hm).2
  simp [hpc, ha] at this

theorem exists_hasFile (h : Acct hasFile resp kind dir files pc) (hf : files ≠ []) : ∃ q, hasFile (pc q) = true := by
  cases files with
  | nil => exact absurd rfl hf
  | cons x xs => exact ⟨x.2, (h.owner x List.mem_cons_self).2⟩

theorem files_nil_of_noDir (h : Acct hasFile resp kind dir files pc) (hd : dir = false) : files = [] := by
  cases files with
  | nil => rfl
  | cons x xs => have := h.inDir nofun; rw [hd] at this; cases this

theorem clean (h : Acct hasFile resp kind dir files pc) (hq : ∀ i, resp (pc i) = false) : dir = false ∧ files = [] := by
  have hd : dir = false := by
    cases hd : dir with
    | false => rfl
    | true =>
      obtain ⟨q, hq'⟩ := h.resp hd
      rw [hq q] at hq'; cases hq'
  exact ⟨hd, h.files_nil_of_noDir hd⟩

theorem update (h : Acct hasFile resp kind dir files pc) (p : Pid) (v : β) (d' : Bool) (fs' : List (Kind × Pid))
    (hother : ∀ f : Kind × Pid, f.2 ≠ p → (f ∈ fs' ↔ f ∈ files))
    (hown1 : hasFile v = true → (kind p, p) ∈ fs')
    (hown2 : ∀ f ∈ fs', f.2 = p → f.1 = kind p ∧ hasFile v = true)
    (hdir : fs' ≠ [] → d' = true)
    (hresp : d' = true → resp v = true ∨ ∃ q, q ≠ p ∧ resp (pc q) = true) :
    Acct hasFile resp kind d' fs' (fupd pc p v) := by
  refine ⟨?_, fun f hf => ?_, hdir, fun hd => ?_⟩
  · exact forall_upd (P := fun i x => hasFile x = true → (kind i, i) ∈ fs') hown1
      (fun i hip hi => (hother _ hip).2 (h.own i hi))
  · by_cases hfp : f.2 = p
    · have := hown2 f hf hfp
      exact ⟨hfp ▸ this.1, by rw [hfp, fupd_same]; exact this.2⟩
    · rw [fupd_other pc v hfp]; exact h.owner f ((hother f hfp).1 hf)
  · rcases hresp hd with hv | ⟨q, hqp, hq⟩
    · exact ⟨p, by rw [fupd_same]; exact hv⟩
    · exact ⟨q, by rw [fupd_other pc v hqp]; exact hq⟩

theorem mine (h : Acct hasFile resp kind dir files pc) {p : Pid} {f : Kind × Pid} (hf : f ∈ files) (hfp : f.2 = p) :
    f = (kind p, p) :=
  Prod.ext (hfp ▸ (h.owner f hf).1) hfp

theorem create (h : Acct hasFile resp kind dir files pc) (p : Pid) (v : β) (hd : dir = true) (hnf : (kind p, p) ∉ files)
    (hv : hasFile v = true) (hr : resp v = true) : Acct hasFile resp kind dir ((kind p, p) :: files) (fupd pc p v) := by
  refine h.update p v dir _ (fun f hfp => ?_) (fun _ => List.mem_cons_self) ?_ (fun _ => hd) (fun _ => .inl hr)
  · exact List.mem_cons.trans (or_iff_right (fun e => hfp (e ▸ rfl)))
  · intro f hm hfp
    rcases List.mem_cons.1 hm with e | hm
    · exact e ▸ ⟨rfl, hv⟩
    · exact absurd (h.mine hm hfp ▸ hm) hnf

theorem remove (h : Acct hasFile resp kind dir files pc) (p : Pid) (v : β) (hf : (kind p, p) ∈ files)
    (hv : hasFile v = false) (hr : resp v = true) :
    Acct hasFile resp kind dir (files.filter (· != (kind p, p))) (fupd pc p v) := by
  refine h.update p v dir _ (fun f hfp => ?_) (fun e => by rw [hv] at e; cases e) ?_
    (fun _ => h.inDir (List.ne_nil_of_mem hf)) (fun _ => .inl hr)
  · have hne : f ≠ (kind p, p) := fun e => hfp (e ▸ rfl)
    simp [List.mem_filter, hne]
  · -- a file of `p` is of `p`'s kind, and that one has been removed
    intro f hm hfp
    have hm' := List.mem_filter.1 hm
    simp [h.mine hm'.1 hfp] at hm'

/-- why somebody is responsible after `p` has gone from `a` to `v`, should the directory exist then -/
inductive Resp (hasFile resp : β → Bool) (dir : Bool) (files : List (Kind × Pid)) (d' : Bool) (a v : β) : Prop
  | noDir : d' = false → Resp hasFile resp dir files d' a v
  | self : resp v = true → Resp hasFile resp dir files d' a v
  /-- `p` was not responsible, so the process that was is somebody else -/
  | bystander : d' = dir → resp a = false → Resp hasFile resp dir files d' a v
  /-- there is a file and it is not `p`'s: its owner is responsible -/
  | fileOwner : d' = dir → files ≠ [] → hasFile a = false → Resp hasFile resp dir files d' a v

theorem move (h : Acct hasFile resp kind dir files pc) (hfr : ∀ b, hasFile b = true → resp b = true) {p : Pid} {a v : β}
    (hpc : pc p = a) (d' : Bool) (hfile : hasFile v = hasFile a) (hdir : files ≠ [] → d' = true)
    (hresp : Resp hasFile resp dir files d' a v) : Acct hasFile resp kind d' files (fupd pc p v) := by
  subst hpc
  refine h.update p v d' files (fun _ _ => Iff.rfl) (fun hv => h.own p (hfile ▸ hv)) ?_ hdir ?_
  · intro f hf hfp
    have ho := h.owner f hf
    rw [hfp] at ho
    exact ⟨ho.1, hfile ▸ ho.2⟩
  · intro hd
    cases hresp with
    | noDir hf => rw [hd] at hf; cases hf
    | self hv => exact .inl hv
    | bystander hdd hne =>
      obtain ⟨q, hq⟩ := h.resp (hdd ▸ hd)
      exact .inr ⟨q, (by intro e; subst e; rw [hne] at hq; cases hq), hq⟩
    | fileOwner _ hfs hnf =>
      obtain ⟨q, hq⟩ := h.exists_hasFile hfs
      exact .inr ⟨q, (by intro e; subst e; rw [hnf] at hq; cases hq), hfr _ hq⟩

end Acct

/-- The lock directory as a gate (`mkdir` is a test-and-set): at most one process is `inside`, and the directory exists
exactly while one is. -/
structure Gate (inside : β → Bool) (dir : Bool) (pc : Pid → β) : Prop where
  uniq   : ∀ i j, inside (pc i) = true → inside (pc j) = true → i = j
  dirIff : dir = true ↔ ∃ i, inside (pc i) = true

namespace Gate
variable {inside : β → Bool} {dir : Bool} {pc : Pid → β}

theorem alone (h : Gate inside dir pc) {p : Pid} (hin : inside (pc p) = true ∨ dir = false) (j : Pid) (hj : j ≠ p) :
    inside (pc j) = false := by
  cases hjj : inside (pc j) with
  | false => rfl
  | true =>
    rcases hin with hi | hdir
    · exact absurd (h.uniq j p hjj hi) hj
    · have := h.dirIff.mpr ⟨j, hjj⟩; rw [hdir] at this; cases this

theorem move (h : Gate inside dir pc) {p : Pid} {a v : β} (hpc : pc p = a) {d' : Bool}
    (hin : inside v = true → inside a = true ∨ dir = false) (hd : d' = (inside v || (!inside a && dir))) :
    Gate inside d' (fupd pc p v) := by
  subst hpc hd
  refine ⟨fun x y hx hy => ?_, ?_⟩
  · -- if one of the two is `p`, it has come in, and then everybody else is outside (`alone`)
    by_cases hxp : x = p <;> by_cases hyp : y = p
    · rw [hxp, hyp]
    · rw [hxp, fupd_same] at hx; rw [fupd_other pc v hyp, h.alone (hin hx) y hyp] at hy; cases hy
    · rw [hyp, fupd_same] at hy; rw [fupd_other pc v hxp, h.alone (hin hy) x hxp] at hx; cases hx
    · rw [fupd_other pc v hxp] at hx; rw [fupd_other pc v hyp] at hy; exact h.uniq x y hx hy
  · cases hv : inside v with
    | true => exact ⟨fun _ => ⟨p, by rw [fupd_same]; exact hv⟩, fun _ => rfl⟩
    | false =>
      cases ha : inside (pc p) with
      | true =>
        refine ⟨nofun, fun ⟨j, hj⟩ => ?_⟩
        by_cases hjp : j = p
        · rw [hjp, fupd_same, hv] at hj; cases hj
        · rw [fupd_other pc v hjp] at hj; exact absurd (h.uniq j p hj ha) hjp
      | false =>
        show dir = true ↔ _
        rw [h.dirIff]
        constructor
        · rintro ⟨j, hj⟩
          have hjp : j ≠ p := by intro e; rw [e, ha] at hj; cases hj
          exact ⟨j, by rw [fupd_other pc v hjp]; exact hj⟩
        · rintro ⟨j, hj⟩
          by_cases hjp : j = p
          · rw [hjp, fupd_same, hv] at hj; cases hj
          · rw [fupd_other pc v hjp] at hj; exact ⟨j, hj⟩

end Gate

/-- Between phases the lock directory holds exactly the holders' files; what either protocol tests of a request (the
right-hand sides of `compat_ex`, `compat_sh`) is then whether it is compatible with every holder but the parent. -/
structure AtRest (hold : β → Prop) (kind : Pid → Kind) (dir : Bool) (files : List (Kind × Pid)) (pc : Pid → β) :
    Prop where
  mem    : ∀ k i, (k, i) ∈ files ↔ (hold (pc i) ∧ kind i = k)
  nodup  : files.Nodup
  dirIff : dir = true ↔ files ≠ []

def Compat (hold : β → Prop) (kind : Pid → Kind) (pc : Pid → β) (k : Kind) (lp : Option Pid) : Prop :=
  ∀ j, hold (pc j) → (k = .ex ∨ kind j = .ex) → lp = some j

namespace AtRest
variable {hold : β → Prop} {kind : Pid → Kind} {dir : Bool} {files : List (Kind × Pid)} {pc : Pid → β}

theorem free (h : AtRest hold kind dir files pc) (hfree : ∀ j, ¬ hold (pc j)) : dir = false ∧ files = [] := by
  have hf : files = [] := List.eq_nil_iff_forall_not_mem.2 fun x hx => hfree x.2 ((h.mem x.1 x.2).1 hx).1
  exact ⟨by cases hd : dir with | false => rfl | true => exact absurd hf (h.dirIff.1 hd), hf⟩

theorem files_nil_of_noDir (h : AtRest hold kind dir files pc) (hd : dir = false) : files = [] :=
  Classical.byContradiction fun hne => by rw [h.dirIff.2 hne] at hd; cases hd

theorem noHolder (h : AtRest hold kind dir files pc) (hd : dir = false) (j : Pid) : ¬ hold (pc j) := fun hj => by
  have := (h.mem _ j).2 ⟨hj, rfl⟩
  rw [h.files_nil_of_noDir hd] at this; cases this

theorem single_of_parent (h : AtRest hold kind dir files pc) {lp : Option Pid} {L : List (Kind × Pid)}
    (hL : ∀ x ∈ L, x ∈ files) (hnd : L.Nodup) (hne : L ≠ []) (hc : ∀ x ∈ L, lp = some x.2) :
    ∃ k j, L = [(k, j)] ∧ lp = some j := by
  obtain ⟨x, hx⟩ := List.exists_mem_of_ne_nil _ hne
  refine ⟨x.1, x.2, eq_singleton_of_forall_eq hnd hx (fun y hy => ?_), hc x hx⟩
  have e : y.2 = x.2 := Option.some.inj ((hc y hy).symm.trans (hc x hx))
  exact Prod.ext (by rw [← ((h.mem _ _).1 (hL y hy)).2, ← ((h.mem _ _).1 (hL x hx)).2, e]) e

theorem compat_ex (h : AtRest hold kind dir files pc) (lp : Option Pid) :
    Compat hold kind pc .ex lp ↔ dir = false ∨ parentHolds lp files = true := by
  constructor
  · intro hg
    cases hd : dir with
    | false => exact .inl rfl
    | true =>
      obtain ⟨k, j, hf, hl⟩ := h.single_of_parent (lp := lp) (fun _ hx => hx) h.nodup (h.dirIff.1 hd)
        (fun x hx => hg x.2 ((h.mem _ _).1 hx).1 (.inl rfl))
      exact .inr (parentHolds_iff.2 ⟨k, j, hf, hl⟩)
  · rintro (hd | hp) j hj _
    · exact absurd hj (h.noHolder hd j)
    · obtain ⟨k, q, hf, hl⟩ := parentHolds_iff.1 hp
      have := (h.mem _ j).2 ⟨hj, rfl⟩
      rw [hf] at this; simp at this
      rw [hl, this.2]

theorem compat_sh (h : AtRest hold kind dir files pc) (lp : Option Pid) :
    Compat hold kind pc .sh lp ↔ ∀ f ∈ exFiles files, lp = some f.2 := by
  constructor
  · intro hg f hf
    obtain ⟨hm, he⟩ := mem_exFiles.1 hf
    have := (h.mem f.1 f.2).1 hm
    exact hg f.2 this.1 (.inr (this.2.trans he))
  · intro hall j hj hor
    have hk : kind j = .ex := hor.resolve_left nofun
    exact hall (.ex, j) (mem_exFiles.2 ⟨(h.mem _ j).2 ⟨hj, hk⟩, rfl⟩)

end AtRest

end EupsModel.Lock
