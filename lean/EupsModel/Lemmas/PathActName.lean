import EupsModel.Lemmas.PathAct
/-! The product's own `${<NAME>_DIR}` (repair of D124: the reference is matched literally, whatever characters the
name holds). -/
namespace EupsModel.PathAct
open EupsModel EupsModel.PathAlg

/-- `PRODUCT`: what every macro of the earlier steps starts with after `${` -/
def sPRODUCT : Str := [80,82,79,68,85,67,84]

theorem isPrefixOf_third (a b : Nat) (ps ys : Str) (hy : sPRODUCT.isPrefixOf ys = false) :
    (a :: b :: (sPRODUCT ++ ps)).isPrefixOf (a :: b :: ys) = false := by
  have := isPrefixOf_append_false sPRODUCT ps ys hy
  simp only [List.isPrefixOf, beq_self_eq_true, Bool.true_and]
  exact this

theorem pdirAt_third (ys : Str) (hy : sPRODUCT.isPrefixOf ys = false) : pdirAt (36 :: 123 :: ys) = none := by
  have a := isPrefixOf_third 36 123 [95,68,73,82,125] ys hy  -- `_DIR}`
  have b := isPrefixOf_third 36 123 [95,68,73,82,95,69,88,84,82,65,125] ys hy  -- `_DIR_EXTRA}`
  -- the two optional forms start `$?`
  simp only [sPRODUCT, List.cons_append, List.nil_append] at a b
  have c : ([36,63,123,80,82,79,68,85,67,84,95,68,73,82,125] : Str).isPrefixOf (36 :: 123 :: ys) = false := by
    simp [List.isPrefixOf]
  have d : ([36,63,123,80,82,79,68,85,67,84,95,68,73,82,95,69,88,84,82,65,125] : Str).isPrefixOf (36 :: 123 :: ys)
      = false := by
    simp [List.isPrefixOf]
  unfold pdirAt
  rw [mDIR_eq, mDIRopt_eq, mEXTRA_eq, mEXTRAopt_eq, a, b, c, d]
  rfl

theorem expandMacros_name_dir (p : ProdInfo) (d tail : Str) (hd : p.dir = some d) (hne : d ≠ [])
    (hd36 : 36 ∉ d) (ht : 36 ∉ tail) (hn36 : 36 ∉ p.name)
    (hP : sPRODUCT.isPrefixOf (upper p.name ++ Str.ofString "_DIR}" ++ tail) = false) :
    expandMacros p (mNameDir p.name ++ tail) = d ++ tail := by
  have hnm : 36 ∉ upper p.name ∧ 36 ∉ Str.ofString "_DIR}" :=
    ⟨upper_not_mem 36 (by decide) p.name hn36, by decide⟩
  have htext : mNameDir p.name ++ tail = [] ++ 36 :: (123 :: (upper p.name ++ Str.ofString "_DIR}") ++ tail) := by
    simp [mNameDir, List.append_assoc]
  have hbody : 36 ∉ 123 :: (upper p.name ++ Str.ofString "_DIR}") ++ tail := by
    simp only [List.cons_append, List.mem_cons, List.mem_append, not_or]
    exact ⟨by decide, hnm, ht⟩
  have hdir : truthy p.dir = some d := by rw [hd, truthy_some_ne d hne]
  -- `${PRODUCTS}` and the PRODUCT_DIR forms do not stand at it
  rw [expandMacros_pipeline,
    substRun_one_dollar_none htext (dollar_products _) (by simp) hbody
      (NoneAt.cons (by rw [mPRODUCTS_eq]; simpa [sPRODUCT] using isPrefixOf_third 36 123 [83,125] _ hP) -- `S}`
        (NoneAt.nil _)),
    expandPdir_one_dollar_none p htext (by simp) hbody (pdirAt_third _ hP)]
  unfold tailTable
  rw [hdir]
  -- it is the head of the table that follows, and what it leaves has no `$`
  calc substRun _ (mNameDir p.name ++ tail)
      = substRun _ (d ++ tail) :=
        substRun_one_dollar_at (before := []) htext Dollar.nil (by simp) ht (by simpa using hnm) (NoneAt.nil _)
    _ = d ++ tail := substRun_no_dollar _ _ (dollar_tail p).tail (by simp [hd36, ht])

def cxx : ProdInfo :=
  ⟨some (Str.ofString "/st"), some (Str.ofString "/opt/c"), [], false, Str.ofString "c++",
   some (Str.ofString "F"), some (Str.ofString "1"), Str.ofString "/opt/c/ups"⟩

example : expandMacros cxx (Str.ofString "${C++_DIR}/bin") = Str.ofString "/opt/c/bin" := by
  unfold cxx; decide_lit
example : expandMacros cxx (Str.ofString "${C_DIR}/lib") = Str.ofString "${C_DIR}/lib" := by
  unfold cxx; decide_lit
example : 36 ∉ cxx.name ∧ sPRODUCT.isPrefixOf (upper cxx.name ++ Str.ofString "_DIR}" ++ Str.ofString "/bin") = false := by
  unfold cxx; decide_lit
/-- a product `python` (starts with `p`) satisfies the hypothesis too -/
example : sPRODUCT.isPrefixOf (upper (Str.ofString "python") ++ Str.ofString "_DIR}" ++ Str.ofString "/lib") = false := by
  decide_lit

end EupsModel.PathAct
