import EupsModel.Lemmas.DbPlan
/-! Dry runs against real runs (C15): what the command run with `noaction` *reports* (`Db.wouldDo`, the messages the
harness compares with the output of `Eups(noaction=True)`) against what it *does* when run for real (the trace of
`Db.run`, read through `Eff.msg`): `run_report`, `run_dry_outcome`.  Both runs take the same decision (`Lemmas/DbPlan`),
so both theorems are statements about the action decided on (`Act.exec_report`, `Act.exec_dry_fst`).  The purge of a tag
inside `declare` has no message of its own ("Assigning tag" stands for the move). -/
namespace EupsModel.Db

def Cmd.isDeclare : Cmd → Bool
  | .declare _ => true
  | _ => false

/-- the message that announces an effect; `inDeclare`: the effect belongs to a `declare`, whose purge of the old
occurrences of the tag is not announced separately -/
def Eff.msg (inDeclare : Bool) : Eff → List Msg
  | .declare d tag => [.declaring d.stack tag]
  | .assign _ t _ _ _ => [.assigning t]
  | .unassign _ t _ _ => if inDeclare then [] else [.untag t]
  | .undeclare s _ v _ => [.removing v s]
  | .rmTree d => [.rmrf d]
  | .copyExtra x => [.copy x.path]

/-- the effects of a command, as announcements -/
def msgs (inDeclare : Bool) (es : List Eff) : List Msg := es.flatMap (Eff.msg inDeclare)

@[simp] theorem msgs_nil (d : Bool) : msgs d [] = [] := rfl
@[simp] theorem msgs_append (d : Bool) (a b : List Eff) : msgs d (a ++ b) = msgs d a ++ msgs d b := by
  simp [msgs]
@[simp] theorem msgs_singleton (d : Bool) (e : Eff) : msgs d [e] = Eff.msg d e := by simp [msgs]

/-- `q` continues `p` by effects that read as the messages `ms` (`d`: they belong to a `declare`) -/
def Ext (d : Bool) (p q : Proc) (ms : List Msg) : Prop := ∃ es, q.tr = p.tr ++ es ∧ msgs d es = ms

theorem Ext.refl (d : Bool) (p : Proc) : Ext d p p [] := ⟨[], by simp, rfl⟩

theorem Ext.trans {d : Bool} {p q r : Proc} {a b : List Msg} (h : Ext d p q a) (k : Ext d q r b) :
    Ext d p r (a ++ b) := by
  obtain ⟨es, he, hm⟩ := h
  obtain ⟨fs, hf, hn⟩ := k
  exact ⟨es ++ fs, by rw [hf, he, List.append_assoc], by rw [msgs_append, hm, hn]⟩

theorem Ext.emit (d : Bool) (p : Proc) (e : Eff) : Ext d p (p.emit e) (Eff.msg d e) :=
  ⟨[e], rfl, msgs_singleton d e⟩

theorem Ext.cast {d : Bool} {p q : Proc} {a b : List Msg} (h : Ext d p q a) (e : a = b) : Ext d p q b := e ▸ h

theorem Emits.ext_nil {Q : Eff → Prop} {d : Bool} {p q : Proc} (h : Emits Q p q) (hQ : ∀ e, Q e → Eff.msg d e = []) :
    Ext d p q [] := by
  obtain ⟨es, rfl, he⟩ := h
  exact ⟨es, rfl, List.flatMap_eq_nil_iff.mpr fun e k => hQ e (he e k)⟩

theorem doUnassign_ext (f : Flav) (t : Tag) (n : Name) (s : Nat) (p : Proc) :
    Ext false p (doUnassign f t n s false p).2 [.untag t] := by
  rw [doUnassign_false]
  exact Ext.emit false p _

theorem assignTag_ext (d : Bool) (f : Flav) (t : Tag) (n : Name) (v : Ver) (stacks : List Nat) (p : Proc) :
    Ext d p (assignTag f t n v stacks p).2 (if (assignTag f t n v stacks p).1 = .ok then [.assigning t] else []) := by
  rw [assignTag_eq]
  cases hx : planAssign f n v stacks p with
  | error o => rw [planAssign_error hx]; exact Ext.refl _ _
  | ok s => exact Ext.emit d p _

theorem saveExtras_ext (d : Bool) (a : DeclareArgs) (target : Nat) (l : List (Str × Nat)) (p : Proc) :
    Ext d p (saveExtras a target l p) (l.map fun e => Msg.copy e.1) := by
  induction l generalizing p with
  | nil => exact Ext.refl _ _
  | cons e es ih =>
    simp only [saveExtras, List.map_cons]
    exact ((Ext.emit d p _).trans (ih _)).cast rfl

theorem declareFinish_report (nst : Nat) (a : DeclareArgs) (h : a.noaction = false) (r : Resolved) (tag : Option Tag)
    (rd : Redeclare) (p : Proc) :
    ∃ ms rest, Ext true p (declareFinish nst a r tag rd p).2 ms ∧ declareSays r tag rd = ms ++ rest ∧
      ((declareFinish nst a r tag rd p).1 = .ok → rest = []) := by
  unfold declareFinish declareCore declareSays
  simp only [h, Bool.not_false, Bool.and_true, Bool.false_eq_true, if_false]
  have h1 : Ext true p (if rd == .write then p.emit (.declare ⟨r.target, a.name, a.ver, a.self, r.d, r.table⟩ tag) else p)
      (if rd == .write then [.declaring r.target tag] else []) := by
    split
    · exact Ext.emit true p _
    · exact Ext.refl _ _
  generalize (if rd == .write then p.emit (.declare ⟨r.target, a.name, a.ver, a.self, r.d, r.table⟩ tag) else p) = p1 at h1
  cases tag with
  | none =>
    dsimp only
    refine ⟨_, [], h1.trans (saveExtras_ext true a r.target r.saveList p1), by simp, fun _ => rfl⟩
  | some t =>
    dsimp only
    have h2 : Ext true p1 _ [] := (purgeAll_emits nst a.self t a.name (allStacks nst) p1).ext_nil fun _ ⟨_, he⟩ => he ▸ rfl
    generalize purgeAll nst a.self t a.name (allStacks nst) p1 = p2 at h2
    have h3 := assignTag_ext true a.self t a.name a.ver [r.target] p2
    rcases ho : assignTag a.self t a.name a.ver [r.target] p2 with ⟨o, p3⟩
    rw [ho] at h3
    dsimp only at h3
    cases o with
    | ok =>
      dsimp only
      simp only [if_true] at h3
      refine ⟨_, [], (h1.trans (h2.trans h3)).trans (saveExtras_ext true a r.target r.saveList p3), by simp, fun _ => rfl⟩
    | _ =>
      simp only [reduceCtorEq, if_false] at h3
      exact ⟨_, _, h1.trans (h2.trans h3), by simp; rfl, fun k => by simp at k⟩

theorem removeVersion_ext (a : UndeclareArgs) (h : a.noaction = false) (v : Ver) (s : Nat) (p : Proc) :
    Ext false p (removeVersion a v s p).2 (if (removeVersion a v s p).1 = .ok then [.removing v s] else []) := by
  unfold removeVersion
  simp only [h, Bool.false_eq_true, if_false]
  split
  · simp only [reduceCtorEq, if_false]; exact Ext.refl _ _
  · simp only [if_true]; exact Ext.emit false p _

theorem untagFirst_ext (nst : Nat) (a : UndeclareArgs) (h : a.noaction = false) (v : Ver) (s : Nat) (p : Proc) :
    Ext false p (untagFirst nst a v s p)
      (match a.tag with
       | some t => if saysUntag nst a.self t a.name (some v) (some s) p.mem then [.untag t] else []
       | none => []) := by
  unfold untagFirst
  cases a.tag with
  | none => exact Ext.refl _ _
  | some t =>
    dsimp only
    rw [h, (unassignTag_plan ..).1, (unassignTag_plan nst a.self t a.name (some v) (some s) false p).2]
    cases planUnassign nst a.self t a.name (some v) (some s) p.mem with
    | error o => exact Ext.refl _ _
    | ok s' => exact doUnassign_ext a.self t a.name s' p

def Act.inDeclare : Act → Bool
  | .declare .. => true
  | _ => false

/-- **A real run does what the decision said, as far as it gets** (`rest`: what it no longer gets to when `Database`
finds nothing to undeclare, the tag cannot be assigned, the directory is gone). -/
theorem Act.exec_report (nst : Nat) (act : Act) (p : Proc) :
    ∃ ms rest, Ext act.inDeclare p (act.exec nst false p).2 ms ∧ act.says nst p.mem = ms ++ rest ∧
      ((act.exec nst false p).1 = .ok → rest = []) := by
  cases act with
  | untag f t n s => exact ⟨_, [], doUnassign_ext f t n s p, (List.append_nil _).symm, fun _ => rfl⟩
  | assign s t n f v => exact ⟨_, [], Ext.emit false p _, (List.append_nil _).symm, fun _ => rfl⟩
  | declare a r tag rd => exact declareFinish_report nst { a with noaction := false } rfl r tag rd p
  | unversion a v s rm =>
    obtain ⟨self, name, ver0, stack, tag, vat, na, force, setup⟩ := a
    have h1 := untagFirst_ext nst ⟨self, name, ver0, stack, tag, vat, false, force, setup⟩ rfl v s p
    have h2 := removeVersion_ext ⟨self, name, ver0, stack, tag, vat, false, force, setup⟩ rfl v s
      (untagFirst nst ⟨self, name, ver0, stack, tag, vat, false, force, setup⟩ v s p)
    simp only [Act.exec, Act.says, Act.inDeclare]
    generalize removeVersion ⟨self, name, ver0, stack, tag, vat, false, force, setup⟩ v s
      (untagFirst nst ⟨self, name, ver0, stack, tag, vat, false, force, setup⟩ v s p) = r at h2 ⊢
    obtain ⟨o, p1⟩ := r
    dsimp only at h1 h2 ⊢
    cases o with
    | ok =>
      rw [if_pos rfl] at h2
      cases rm with
      | none => exact ⟨_, [], h1.trans h2, (List.append_nil _).symm, fun _ => rfl⟩
      | some dt =>
        obtain ⟨dir, there⟩ := dt
        cases there with
        | true =>
          exact ⟨_, [], (h1.trans h2).trans (Ext.emit false p1 (.rmTree dir)),
            by rw [List.append_nil, List.append_assoc]; rfl, fun _ => rfl⟩
        | false => exact ⟨_, [.rmrf dir], h1.trans h2, by rw [List.append_assoc]; rfl, fun k => by simp at k⟩
    | _ =>
      rw [if_neg (by simp)] at h2
      cases rm <;> exact ⟨_, _, (h1.trans h2).cast (List.append_nil _), rfl, fun k => by simp at k⟩

theorem Act.exec_dry_fst (nst : Nat) (act : Act) (p : Proc) : (act.exec nst true p).1 = .ok := by
  cases act with
  | untag f t n s => exact doUnassign_fst ..
  | assign s t n f v => rfl
  | declare a r tag rd =>
    rw [Act.exec, declareFinish_fst]
    unfold declareCore
    cases tag <;> rfl
  | unversion a v s rm => cases rm <;> rfl

theorem plan_inDeclare {nst : Nat} {c : Cmd} {p : Proc} {act : Act} (h : plan nst c p = .ok act) :
    act.inDeclare = c.isDeclare := by
  cases c with
  | declare a => obtain ⟨z, -, rfl⟩ := map_eq_ok_iff.mp h; rfl
  | undeclare a =>
    rcases planUndeclare_cases nst a p.mem with ⟨t, _, _, hc⟩ | ⟨ver, _, _, hc⟩ <;>
      (rw [plan, hc] at h; obtain ⟨z, -, rfl⟩ := map_eq_ok_iff.mp h; rfl)
  | assignTag f t n v st => obtain ⟨z, -, rfl⟩ := map_eq_ok_iff.mp h; rfl
  | unassignTag f t n v st na => obtain ⟨z, -, rfl⟩ := map_eq_ok_iff.mp h; rfl
  | remove f n v rc na fo su =>
    unfold plan planRemove at h
    dsimp only at h
    split at h
    · cases h
    · split at h
      · cases h
      · obtain ⟨z, -, rfl⟩ := map_eq_ok_iff.mp h; rfl
  | query f => cases h

theorem run_report (nst : Nat) (c : Cmd) (hc : c.dryable = true) (p : Proc) :
    ∃ es rest, (run nst (c.withNoaction false) p).2.tr = p.tr ++ es ∧
      wouldDo nst c p = msgs c.isDeclare es ++ rest ∧ ((run nst (c.withNoaction false) p).1 = .ok → rest = []) := by
  rw [run_plan, wouldDo_plan nst c hc]
  cases hp : plan nst c p with
  | error o => exact ⟨[], [], (List.append_nil _).symm, rfl, fun _ => rfl⟩
  | ok act =>
    obtain ⟨_, rest, ⟨es, he, rfl⟩, k, h3⟩ := act.exec_report nst p
    exact ⟨es, rest, he, plan_inDeclare hp ▸ k, h3⟩

theorem wouldDo_withNoaction (nst : Nat) (b : Bool) (c : Cmd) (p : Proc) :
    wouldDo nst (c.withNoaction b) p = wouldDo nst c p := by
  cases c <;> rfl

theorem run_dry_outcome (nst : Nat) (c : Cmd) (p : Proc) (h : (run nst (c.withNoaction true) p).1 ≠ .ok) :
    (run nst (c.withNoaction false) p).1 = (run nst (c.withNoaction true) p).1 := by
  rw [run_plan, run_plan] at *
  cases hp : plan nst c p with
  | error o => rfl
  | ok act => rw [hp] at h; exact absurd (act.exec_dry_fst nst p) h

theorem run_real_ok_dry_ok (nst : Nat) (c : Cmd) (p : Proc) (h : (run nst (c.withNoaction false) p).1 = .ok) :
    (run nst (c.withNoaction true) p).1 = .ok :=
  Classical.byContradiction fun k => k ((run_dry_outcome nst c p k).symm.trans h)

end EupsModel.Db
