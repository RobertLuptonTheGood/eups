import EupsModel.Model.Manifest
import EupsModel.Lemmas.Text
/-! What the lemmas for C18 share.  Python values as the model has them: truthiness of an optional string, dictionaries
as association lists in insertion order.  The text layer of the two file formats: a *word* (`Tok`, which is
`Text.Word isWs` and is handed to the lemmas of `Lemmas/Text.lean` as such) is a non-empty string without white space, a
padded column followed by a blank reads back as its word (`tokens_col`); a text written line by line from newline-free
lines (`NoNl`) reads back as those lines, and a file is header, comment block, entry lines (`lines_file`,
`skip_comments`; a line that starts with a word not headed by `#` is no comment, `isBlankOrComment_entry`).
Code points: 10, 13 = LF, CR; 32 = blank; 35 = `#`. -/
namespace EupsModel.Manifest

theorem falsy_some {s : Str} (h : s ≠ []) : falsy (some s) = false := by simpa [falsy] using h

theorem assocGet_assocSet_same {β : Type} (l : List (Str × β)) (k : Str) (v : β) :
    assocGet (assocSet l k v) k = some v := by
  fun_induction assocSet l k v <;> simp_all [assocGet]

theorem assocGet_assocSet_other {β : Type} {l : List (Str × β)} {k k2 : Str} {v : β} (hne : k2 ≠ k) :
    assocGet (assocSet l k v) k2 = assocGet l k2 := by
  fun_induction assocSet l k v <;> simp_all [assocGet, Ne.symm hne]

theorem assocSet_keys_new {β : Type} {l : List (Str × β)} {k : Str} {v : β} (h : k ∉ l.map (·.1)) :
    (assocSet l k v).map (·.1) = l.map (·.1) ++ [k] := by
  fun_induction assocSet l k v <;> simp_all

theorem assocGet_mem {β : Type} {l : List (Str × β)} {k : Str} {x : β} (h : assocGet l k = some x) : (k, x) ∈ l := by
  fun_induction assocGet l k <;> simp_all

theorem mem_assocSet {β : Type} {l : List (Str × β)} {k : Str} {v : β} {x : Str × β} (h : x ∈ assocSet l k v) :
    x = (k, v) ∨ x ∈ l := by
  fun_induction assocSet l k v with
  | case1 => simpa using h
  | case2 => exact (List.mem_cons.mp h).imp id (List.mem_cons_of_mem _)
  | case3 _ _ _ _ ih =>
    rcases List.mem_cons.mp h with rfl | h
    · exact Or.inr (List.mem_cons_self ..)
    · exact (ih h).imp id (List.mem_cons_of_mem _)

def Tok (t : Str) : Prop := t ≠ [] ∧ ∀ c ∈ t, isWs c = false

instance (t : Str) : Decidable (Tok t) := by unfold Tok; exact inferInstance

theorem isWs_space : isWs 32 = true := by decide

theorem Tok.isEmpty {t : Str} (h : Tok t) : t.isEmpty = false := by simpa using h.1

/-- what makes a written line come back as one line -/
def NoNl (l : Str) : Prop := ∀ c ∈ l, c ≠ 10 ∧ c ≠ 13

instance (l : Str) : Decidable (NoNl l) := by unfold NoNl; exact inferInstance

theorem noNl_append {a b : Str} : NoNl (a ++ b) ↔ NoNl a ∧ NoNl b := List.forall_mem_append

theorem noNl_space : NoNl [32] := by decide

theorem noNl_padTo (n : Nat) (t : Str) : NoNl (padTo n t) ↔ NoNl t := by
  rw [padTo, noNl_append, and_iff_left]
  intro c hc
  rw [List.eq_of_mem_replicate hc]
  decide

theorem Tok.noNl {t : Str} (h : Tok t) : NoNl t := by
  intro c hc
  have := h.2 c hc
  constructor <;> rintro rfl <;> exact absurd this (by decide)

theorem tok_sNone : Tok sNone := ⟨by decide, by decide⟩
theorem tok_sNoneCap : Tok sNoneCap := ⟨by decide, by decide⟩
theorem tok_unknown : Tok sUNKNOWN := ⟨by decide, by decide⟩
theorem tok_generic : Tok sGeneric := ⟨by decide, by decide⟩

theorem tok_getD {x : Option Str} {d : Str} (h : ∀ s, x = some s → Tok s) (hd : Tok d) : Tok (x.getD d) := by
  cases x with
  | none => exact hd
  | some s => exact h s rfl

theorem words_eq (s : Str) : words s = Text.tokens isWs s :=
  Text.acc_tokens_nil (f := fun w s => wordsAux s w) ⟨fun _ => rfl, fun _ _ _ => rfl⟩ s

theorem blank_pad (n : Nat) : Text.Blank isWs (List.replicate n 32) := fun _ hx => List.eq_of_mem_replicate hx ▸ isWs_space

theorem tokens_col (n : Nat) (t rest : Str) (ht : Tok t) :
    Text.tokens isWs (padTo n t ++ ([32] ++ rest)) = t :: Text.tokens isWs rest := by
  rw [padTo, List.append_assoc, ← List.append_assoc _ [32], ← List.replicate_succ']
  exact Text.tokens_word_gap ht (blank_pad _) (by simp) rest

theorem words_pad_only (n : Nat) : wordsAux (List.replicate n 32) [] = [] :=
  (words_eq _).trans (Text.tokens_blank (blank_pad n))

theorem padTo_eq (n : Nat) (s : Str) : padTo n s = s ++ List.replicate (n - s.length) 32 := rfl

theorem lines_unlines (ls : List Str) (h : ∀ l ∈ ls, ∀ c ∈ l, c ≠ 10) : lines (unlines ls) = ls := by
  -- `linesAux` as a reader of lines: at a newline it gives out the line read, at the end the line begun, if any
  have h0 : ∀ cur, linesAux [] cur = if cur.isEmpty then [] else [cur] := fun _ => rfl
  have h1 : ∀ cur c cs, linesAux (c :: cs) cur = if c == 10 then cur :: linesAux cs [] else linesAux cs (cur ++ [c]) :=
    fun _ _ _ => rfl
  have hfree : ∀ l ∈ ls, Text.Free (· == 10) l := fun l hl x hx => by simpa using h l hl x hx
  simpa [lines, unlines] using
    Text.acc_terminated (f := fun cur s => linesAux s cur) (emit := fun l _ => l) h0 h1 (c := 10) rfl ls hfree

theorem univNewlines_id (s : Str) (h : ∀ c ∈ s, c ≠ 13) : univNewlines s = s := by
  unfold univNewlines
  induction s with
  | nil => rfl
  | cons c r ih =>
    have hc : c ≠ 13 := h c (by simp)
    have := ih (fun x hx => h x (by simp [hx]))
    simp [univAux, hc, this]

theorem mem_unlines (ls : List Str) (c : Nat) : c ∈ unlines ls ↔ ∃ l ∈ ls, c ∈ l ∨ c = 10 := by
  simp [unlines]

theorem lines_univ_unlines (ls : List Str) (h : ∀ l ∈ ls, NoNl l) : lines (univNewlines (unlines ls)) = ls := by
  rw [univNewlines_id, lines_unlines ls fun l hl c hc => (h l hl c hc).1]
  intro c hc
  obtain ⟨l, hl, hcl | rfl⟩ := (mem_unlines ls c).mp hc
  · exact (h l hl c hcl).2
  · decide

theorem lines_file (h : Str) (cs es : List Str) (hh : NoNl h) (hc : ∀ l ∈ cs, NoNl l) (he : ∀ l ∈ es, NoNl l) :
    lines (univNewlines (unlines (h :: cs ++ es))) = h :: cs ++ es := by
  refine lines_univ_unlines _ fun l hl => ?_
  rcases List.mem_cons.mp hl with rfl | hl
  · exact hh
  · exact (List.mem_append.mp hl).elim (hc l) (he l)

theorem skip_comments {β : Type} (f : List Str → β) (hf : ∀ l ls, isBlankOrComment l = true → f (l :: ls) = f ls)
    (cs rest : List Str) (h : ∀ l ∈ cs, isBlankOrComment l = true) : f (cs ++ rest) = f rest := by
  induction cs with
  | nil => rfl
  | cons l q ih => exact (hf l _ (h l (by simp))).trans (ih fun x hx => h x (by simp [hx]))

theorem dropWs_nonws (c : Nat) (r : Str) (h : isWs c = false) : dropWs (c :: r) = c :: r := by
  simp [dropWs, h]

theorem isBlankOrComment_entry (a rest : Str) (ha : Tok a) (hc : a.head? ≠ some 35) :
    isBlankOrComment (a ++ rest) = false := by
  cases a with
  | nil => exact absurd rfl ha.1
  | cons c r =>
    have hw : isWs c = false := ha.2 c (by simp)
    have hne : c ≠ 35 := by intro e; apply hc; simp [e]
    simp [isBlankOrComment, dropWs, hw, hne]

end EupsModel.Manifest
