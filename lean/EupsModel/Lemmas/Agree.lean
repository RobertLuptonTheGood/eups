import EupsModel.Lemmas.Db
/-! Extensional agreement of two contents on a (stack, flavor) slice, and the commutation lemma of C07: the
write-through of an effect on an in-memory stack that agrees with the database agrees with the database
after the effect — in the slice the effect works in (`commute`), and in every other because neither side is touched there
(`applyDb_off_slice`, `applyMemG_off_slice`; together `commute_all`).  Two contents that agree on a slice answer `findDecl`
and `tagVer` alike there (`findDecl_agree`, `tagVer_agree`). -/
namespace EupsModel.Db

/-- `a` and `b` hold the same declarations and tags of product `n` in stack `s`, flavor `f` -/
def AgreeOnN (a b : Spec) (s : Nat) (f : Flav) (n : Name) : Prop :=
  (∀ d : Decl, d.stack = s → d.flav = f → d.name = n → (d ∈ a.decls ↔ d ∈ b.decls)) ∧
  (∀ r : TagRec, r.stack = s → r.flav = f → r.name = n → (r ∈ a.tags ↔ r ∈ b.tags))

def AgreeOn (a b : Spec) (s : Nat) (f : Flav) : Prop := ∀ n, AgreeOnN a b s f n

theorem AgreeOnN.refl (a : Spec) (s : Nat) (f : Flav) (n : Name) : AgreeOnN a a s f n :=
  ⟨fun _ _ _ _ => Iff.rfl, fun _ _ _ _ => Iff.rfl⟩

theorem AgreeOnN.symm {a b : Spec} {s : Nat} {f : Flav} {n : Name} (h : AgreeOnN a b s f n) : AgreeOnN b a s f n :=
  ⟨fun d h1 h2 h3 => (h.1 d h1 h2 h3).symm, fun r h1 h2 h3 => (h.2 r h1 h2 h3).symm⟩

theorem AgreeOnN.trans {a b c : Spec} {s : Nat} {f : Flav} {n : Name} (h : AgreeOnN a b s f n)
    (k : AgreeOnN b c s f n) : AgreeOnN a c s f n :=
  ⟨fun d h1 h2 h3 => (h.1 d h1 h2 h3).trans (k.1 d h1 h2 h3),
   fun r h1 h2 h3 => (h.2 r h1 h2 h3).trans (k.2 r h1 h2 h3)⟩

theorem any_congr {α : Type} {p : α → Bool} {a b : List α} (h : ∀ x, p x = true → (x ∈ a ↔ x ∈ b)) :
    a.any p = b.any p := by
  rw [Bool.eq_iff_iff, List.any_eq_true, List.any_eq_true]
  exact exists_congr fun x => and_congr_left (h x)

/-- `AgreeOnN` orders its slice (stack, flavor, product), the model its keys (stack, product, version or tag, flavor):
here, and in `AgreeOnN.tag` for tags, the two orders meet — a record with a key of the slice is in both contents or in
neither. -/
theorem AgreeOnN.decl {a b : Spec} {s : Nat} {f : Flav} {n : Name} (h : AgreeOnN a b s f n) {v : Ver} (x : Decl)
    (hx : x.hasKey s n v f = true) : x ∈ a.decls ↔ x ∈ b.decls :=
  have k := Decl.hasKey_iff.mp hx
  h.1 x k.1 k.2.2.2 k.2.1

theorem AgreeOnN.tag {a b : Spec} {s : Nat} {f : Flav} {n : Name} (h : AgreeOnN a b s f n) {t : Tag} (x : TagRec)
    (hx : x.hasKey s t n f = true) : x ∈ a.tags ↔ x ∈ b.tags :=
  have k := TagRec.hasKey_iff.mp hx
  h.2 x k.1 k.2.2.2 k.2.2.1

theorem AgreeOnN.hasDecl {a b : Spec} {s : Nat} {f : Flav} {n : Name} (h : AgreeOnN a b s f n) (v : Ver) :
    a.hasDecl s n v f = b.hasDecl s n v f := any_congr h.decl

theorem AgreeOnN.hasTag {a b : Spec} {s : Nat} {f : Flav} {n : Name} (h : AgreeOnN a b s f n) (t : Tag) :
    a.hasTag s t n f = b.hasTag s t n f := any_congr h.tag

theorem AgreeOnN.applyDb_of_fires {a b : Spec} {s : Nat} {f : Flav} {n : Name} (h : AgreeOnN a b s f n) (e : Eff)
    (hf : e.fires a = e.fires b) : AgreeOnN (applyDb e a) (applyDb e b) s f n :=
  ⟨fun x h1 h2 h3 => by rw [mem_applyDb_decls, mem_applyDb_decls, h.1 x h1 h2 h3],
   fun x h1 h2 h3 => by rw [mem_applyDb_tags, mem_applyDb_tags, hf, h.2 x h1 h2 h3]⟩

theorem AgreeOnN.assign {a b : Spec} {s : Nat} {f : Flav} {n : Name} (h : AgreeOnN a b s f n)
    (s' : Nat) (t : Tag) (n' : Name) (f' : Flav) (v : Ver)
    (hk : a.hasDecl s' n' v f' = b.hasDecl s' n' v f') :
    AgreeOnN (a.assign s' t n' f' v) (b.assign s' t n' f' v) s f n :=
  h.applyDb_of_fires (.assign s' t n' f' v) hk

theorem AgreeOnN.noDanglingN {a b : Spec} {s : Nat} {f : Flav} {n : Name} (h : AgreeOnN a b s f n)
    (hb : NoDanglingN b s f n) : NoDanglingN a s f n := by
  intro r hr h1 h2 h3
  rw [h.hasDecl]
  exact hb r ((h.2 r h1 h2 h3).mp hr) h1 h2 h3

/-- `ProductStack.removeProduct` (with the D1 repair) is extensionally `delDecl` on a content without
dangling tags in the product: the family-deletion clause removes nothing more -/
theorem memRemove_agree (m : Spec) (s : Nat) (n : Name) (v : Ver) (f : Flav) {s' : Nat} {f' : Flav} {n' : Name}
    (hnd : NoDanglingN m s f n) : AgreeOnN (memRemove true m s n v f) (m.delDecl s n v f) s' f' n' := by
  unfold memRemove
  by_cases hd : m.hasDecl s n v f = true
  · simp only [hd, Bool.not_true, Bool.false_eq_true, if_false, if_true]
    split
    · exact AgreeOnN.refl _ _ _ _
    · rename_i hnone
      refine ⟨fun x _ _ _ => Iff.rfl, fun r h1 h2 h3 => ?_⟩
      simp only [Spec.delDecl, List.mem_filter]
      refine ⟨fun h => h.1, fun h => ⟨h, Bool.not_eq_true' _ ▸ Bool.eq_false_iff.mpr fun hr => hnone ?_⟩⟩
      -- a remaining tag of the family would point at a remaining version: there is none
      simp only [Bool.and_eq_true, beq_iff_eq] at hr
      obtain ⟨⟨e1, e2⟩, e3⟩ := hr
      obtain ⟨x, hx, hk⟩ := Spec.hasDecl_iff.mp (hnd r h.1 e1 e3 e2)
      have hk' := Decl.hasKey_iff.mp hk
      rw [List.any_eq_true]
      refine ⟨x, List.mem_filter.mpr ⟨hx, Bool.not_eq_true' _ ▸ Bool.eq_false_iff.mpr fun hxk => ?_⟩,
        by simp [hk'.1, hk'.2.1, hk'.2.2.2]⟩
      -- x is not the removed version, else the tag would have been removed
      have hp : r.pointsAt s n v f = true :=
        TagRec.pointsAt_iff.mpr ⟨e1, e2, e3, hk'.2.2.1 ▸ (Decl.hasKey_iff.mp hxk).2.2.1⟩
      rw [hp] at h; exact Bool.noConfusion h.2
  · have hd' : m.hasDecl s n v f = false := by simpa using hd
    simp only [hd', Bool.not_false, if_true]
    rw [Spec.delDecl_of_not_hasDecl hd' hnd]
    exact .refl ..

/-- the slice (stack, flavor, product) an effect works in -/
def Eff.slice : Eff → Option (Nat × Flav × Name)
  | .declare d _ => some (d.stack, d.flav, d.name)
  | .undeclare s n _ f => some (s, f, n)
  | .assign s _ n f _ => some (s, f, n)
  | .unassign s _ n f => some (s, f, n)
  | .rmTree _ => none
  | .copyExtra _ => none

theorem Within.slice_flav {n : Name} {f : Flav} {vs : Ver → Prop} {ts : Tag → Prop} {e : Eff}
    (h : Within n f vs ts e) : ∀ k, e.slice = some k → k.2.1 = f := by
  intro k hk
  cases e with
  | rmTree _ => cases hk
  | copyExtra _ => cases hk
  | _ => cases hk; exact h.2.1

/-- `hown`: `assign` looks its version up in the slice it works in -/
theorem AgreeOnN.applyDb {a b : Spec} {s : Nat} {f : Flav} {n : Name} (h : AgreeOnN a b s f n) (e : Eff)
    (hown : ∀ s' f' n', e.slice = some (s', f', n') → AgreeOnN a b s' f' n') :
    AgreeOnN (applyDb e a) (applyDb e b) s f n := by
  refine h.applyDb_of_fires e ?_
  cases e with
  | assign s' t n' f' v => exact (hown s' f' n' rfl).hasDecl v
  | _ => rfl

/-- `removeProduct` is the only write-through written differently from its `Database` call -/
theorem applyMem_agree (e : Eff) (m : Spec) {s : Nat} {f : Flav} {n : Name}
    (hnd : ∀ s' f' n', e.slice = some (s', f', n') → NoDanglingN m s' f' n') :
    AgreeOnN (applyMem e m) (applyDb e m) s f n := by
  cases e with
  | undeclare s' n' v f' => exact memRemove_agree m s' n' v f' (hnd s' f' n' rfl)
  | _ => exact .refl _ _ _ _

/-- **Commutation**, given agreement on the slice the effect works in (`hown`); `commute_all` (`C07_commute`) needs
none. -/
theorem commute (e : Eff) (m db : Spec) (hdb : NoDangling db) (s : Nat) (f : Flav) (n : Name)
    (h : AgreeOnN m db s f n)
    (hown : ∀ s' f' n', e.slice = some (s', f', n') → AgreeOnN m db s' f' n') :
    AgreeOnN (applyMem e m) (applyDb e db) s f n :=
  (applyMem_agree e m fun s' f' n' k => (hown s' f' n' k).noDanglingN (hdb.toN s' f' n')).trans
    (h.applyDb e hown)

theorem touches_slice (e : Eff) :
    (∀ x : Decl, e.touchesDecl x = true → e.slice = some (x.stack, x.flav, x.name)) ∧
    (∀ x : TagRec, e.touchesTag x = true → e.slice = some (x.stack, x.flav, x.name)) := by
  cases e with
  | declare d tag =>
    cases tag <;>
      simp +contextual [Eff.touchesDecl, Eff.touchesTag, Eff.slice, Decl.sameKey_iff, TagRec.hasKey_iff]
  | _ => simp +contextual [Eff.touchesDecl, Eff.touchesTag, Eff.slice, Decl.hasKey_iff, TagRec.hasKey_iff,
      TagRec.pointsAt_iff]

theorem applyDb_off_slice (e : Eff) (c : Spec) {s : Nat} {f : Flav} {n : Name} (h : e.slice ≠ some (s, f, n)) :
    AgreeOnN (applyDb e c) c s f n :=
  ⟨fun x h1 h2 h3 => applyDb_frame_decl e c x fun ht => h (by rw [(touches_slice e).1 x ht, h1, h2, h3]),
   fun x h1 h2 h3 => applyDb_frame_tag e c x fun ht => h (by rw [(touches_slice e).2 x ht, h1, h2, h3])⟩

/-- `removeProduct` filters declarations and tags by tests that only entries of its slice fail -/
theorem memRemove_off_slice (fixed : Bool) (m : Spec) (s : Nat) (n : Name) (v : Ver) (f : Flav) {s' : Nat} {f' : Flav}
    {n' : Name} (h : ¬ (s' = s ∧ f' = f ∧ n' = n)) : AgreeOnN (memRemove fixed m s n v f) m s' f' n' := by
  have keep : ∀ {α : Type} (l : List α) (p : α → Bool) (x : α), p x = false → (x ∈ l.filter (fun y => !p y) ↔ x ∈ l) :=
    fun l p x h => by rw [List.mem_filter, h]; exact and_iff_left rfl
  have hd : ∀ x : Decl, x.stack = s' → x.flav = f' → x.name = n' → x.hasKey s n v f = false := fun x h1 h2 h3 =>
    Bool.eq_false_iff.mpr fun hk =>
      have k := Decl.hasKey_iff.mp hk
      h ⟨h1.symm.trans k.1, h2.symm.trans k.2.2.2, h3.symm.trans k.2.1⟩
  have ht1 : ∀ x : TagRec, x.stack = s' → x.flav = f' → x.name = n' → x.pointsAt s n v f = false := fun x h1 h2 h3 =>
    Bool.eq_false_iff.mpr fun hk =>
      have k := TagRec.pointsAt_iff.mp hk
      h ⟨h1.symm.trans k.1, h2.symm.trans k.2.2.1, h3.symm.trans k.2.1⟩
  have ht2 : ∀ x : TagRec, x.stack = s' → x.flav = f' → x.name = n' →
      (x.stack == s && x.name == n && x.flav == f) = false := fun x h1 h2 h3 =>
    Bool.eq_false_iff.mpr fun hk => by
      simp only [Bool.and_eq_true, beq_iff_eq] at hk
      exact h ⟨h1.symm.trans hk.1.1, h2.symm.trans hk.2, h3.symm.trans hk.1.2⟩
  have htag1 : ∀ x : TagRec, x.stack = s' → x.flav = f' → x.name = n' →
      (x ∈ (if fixed = true then m.tags.filter (fun y => !(y.pointsAt s n v f)) else m.tags) ↔ x ∈ m.tags) := by
    intro x h1 h2 h3
    split
    · exact keep _ _ x (ht1 x h1 h2 h3)
    · exact Iff.rfl
  unfold memRemove
  by_cases h1 : (!(m.hasDecl s n v f)) = true
  · rw [if_pos h1]; exact .refl ..
  · rw [if_neg h1]
    dsimp only
    split
    · exact ⟨fun x h1 h2 h3 => keep _ _ x (hd x h1 h2 h3), htag1⟩
    · exact ⟨fun x h1 h2 h3 => keep _ _ x (hd x h1 h2 h3),
        fun x h1 h2 h3 => (keep _ _ x (ht2 x h1 h2 h3)).trans (htag1 x h1 h2 h3)⟩

theorem applyMemG_off_slice (fixed : Bool) (e : Eff) (c : Spec) {s : Nat} {f : Flav} {n : Name}
    (h : e.slice ≠ some (s, f, n)) : AgreeOnN (applyMemG fixed e c) c s f n := by
  cases e with
  | undeclare s' n' v f' => exact memRemove_off_slice fixed c s' n' v f' fun ⟨h1, h2, h3⟩ => h (by rw [h1, h2, h3]; rfl)
  | declare d tag => exact applyDb_off_slice (.declare d tag) c h
  | assign s' t n' f' v => exact applyDb_off_slice (.assign s' t n' f' v) c h
  | unassign s' t n' f' => exact applyDb_off_slice (.unassign s' t n' f') c h
  | _ => exact .refl ..

theorem commute_all (e : Eff) (m db : Spec) (hdb : NoDangling db) (s : Nat) (f : Flav) (n : Name)
    (h : AgreeOnN m db s f n) : AgreeOnN (applyMem e m) (applyDb e db) s f n := by
  by_cases hs : e.slice = some (s, f, n)
  · exact commute e m db hdb s f n h (by intro s' f' n' hk; rw [hs] at hk; cases hk; exact h)
  · exact (applyMemG_off_slice true e m hs).trans (h.trans (applyDb_off_slice e db hs).symm)

theorem commute_fails_pinned :
    let m : Spec := ⟨[⟨0, [112], [49], [76], ⟨0, []⟩, .default⟩, ⟨0, [112], [50], [76], ⟨0, []⟩, .default⟩],
                     [⟨0, current, [112], [76], [49]⟩]⟩
    (applyMemPinned (.undeclare 0 [112] [49] [76]) m).hasTag 0 current [112] [76] = true ∧
    (applyDb (.undeclare 0 [112] [49] [76]) m).hasTag 0 current [112] [76] = false := by decide +kernel

theorem findDecl_eq_some_iff {c : Spec} (h : KeysUnique c) (s : Nat) (n : Name) (v : Ver) (f : Flav) (d : Decl) :
    c.findDecl s n v f = some d ↔ d ∈ c.decls ∧ d.hasKey s n v f = true :=
  ⟨findDecl_some, fun ⟨hd, hk⟩ =>
    find?_eq_some_of_unique (fun x hx kx => h.decl x hx d hd (Decl.sameKey_of_hasKey kx hk)) hd hk⟩

theorem find?_congr {α : Type} {p : α → Bool} {a b : List α} (h : ∀ x, p x = true → (x ∈ a ↔ x ∈ b))
    (hu : ∀ x ∈ b, ∀ y ∈ b, p x = true → p y = true → x = y) : a.find? p = b.find? p := by
  cases hb : b.find? p with
  | none => exact List.find?_eq_none.mpr fun x hx hp => List.find?_eq_none.mp hb x ((h x hp).mp hx) hp
  | some y =>
    have hy := List.find?_some hb
    have hyb := List.mem_of_find?_eq_some hb
    exact find?_eq_some_of_unique (fun x hx px => hu x ((h x px).mp hx) y hyb px hy) ((h y hy).mpr hyb) hy

theorem findDecl_agree {a b : Spec} {s : Nat} {f : Flav} {n : Name} (h : AgreeOnN a b s f n) (hb : KeysUnique b)
    (v : Ver) : a.findDecl s n v f = b.findDecl s n v f :=
  find?_congr h.decl fun x hx y hy kx ky => hb.decl x hx y hy (Decl.sameKey_of_hasKey kx ky)

theorem tagVer_agree {a b : Spec} {s : Nat} {f : Flav} {n : Name} (h : AgreeOnN a b s f n) (hb : KeysUnique b)
    (t : Tag) : a.tagVer s t n f = b.tagVer s t n f := by
  unfold Spec.tagVer
  congr 1
  exact find?_congr h.tag fun x hx y hy kx ky => hb.tag x hx y hy (TagRec.sameKey_of_hasKey kx ky)

end EupsModel.Db
