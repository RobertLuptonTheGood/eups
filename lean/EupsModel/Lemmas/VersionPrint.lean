import EupsModel.Lemmas.VersionLex
/-! C10: what the names `p`, `p-e`, `p+f`, `p-e+f` split into (`lex`: `_splitVersion`, applied again to the parts), for
pieces without `-`/`+` that are not of the `VVVm#`/`VVVp#` spelling. -/
namespace EupsModel.VersionCmp
open EupsModel

/-- one piece of a name: non-empty, no `-`/`+`, and not ending in `m<digits>` / `p<digits>` -/
def Piece (s : Str) : Prop := s ≠ [] ∧ PmFree s ∧ mpSuffix s = none

theorem hyphens_append (a b : Str) : hyphens (a ++ b) = hyphens a + hyphens b := by
  simp [hyphens, List.filter_append]

theorem hyphens_cons_minus (s : Str) : hyphens (45 :: s) = hyphens s + 1 := by simp [hyphens]
theorem hyphens_cons_plus (s : Str) : hyphens (43 :: s) = hyphens s := by simp [hyphens]

/-- a secondary or tertiary part that is a single piece, or is not there -/
def partOf : Option Str → Lexed
  | none => .absent
  | some s => .node s .absent .absent

theorem splitVersion_piece {s : Str} (h : Piece s) : splitVersion s = .ok (s, none, none) := by
  obtain ⟨hne, hp, hmp⟩ := h
  have h1 := takeWhile_all hp
  have h2 := dropWhile_all hp
  cases s with
  | nil => exact absurd rfl hne
  | cons c cs =>
    have hh : ¬ hyphens (c :: cs) ≥ 2 := by rw [hyphens_pmFree hp]; omega
    simp only [splitVersion, hh, if_false, hp c (by simp), Bool.not_true, Bool.false_eq_true, h1, h2, optRun,
      Option.isNone_none, Bool.and_self, if_true, hmp]

theorem lexF_piece {s : Str} (h : Piece s) (fuel : Nat) : lexF (fuel + 1) s = .ok (.node s .absent .absent) := by
  have := splitVersion_piece h
  cases s with
  | nil => exact absurd rfl h.1
  | cons c cs => exact lexF_node this (lexF.eq_1 _) (lexF.eq_1 _)

theorem lex_piece {s : Str} (h : Piece s) : lex s = .ok (.node s .absent .absent) := lexF_piece h _

theorem lexF_partOf {o : Option Str} (h : ∀ s, o = some s → Piece s) (fuel : Nat) :
    lexF (fuel + 1) (o.getD []) = .ok (partOf o) := by
  cases o with
  | none => rfl
  | some s => exact lexF_piece (h s rfl) fuel

/-- `_splitVersion` on a primary part followed by `-…`/`+…` text in which the pattern finds a part: the runs
`optRun` captures are the secondary and tertiary parts -/
theorem lex_append {p rest r r' : Str} {e f : Option Str} (hp : p ≠ [] ∧ PmFree p)
    (hr : ∃ c cs, rest = c :: cs ∧ notPM c = false) (hh : hyphens rest < 2)
    (h1 : optRun 45 rest = (e, r)) (h2 : optRun 43 r = (f, r')) (hsome : e.isSome ∨ f.isSome)
    (he : ∀ s, e = some s → Piece s) (hf : ∀ s, f = some s → Piece s) :
    lex (p ++ rest) = .ok (.node p (partOf e) (partOf f)) := by
  obtain ⟨c, cs, rfl, hc⟩ := hr
  obtain ⟨t1, t2⟩ := span_append_cons c cs hp.2 hc
  have hhy : ¬ hyphens (p ++ c :: cs) ≥ 2 := by rw [hyphens_append, hyphens_pmFree hp.2]; omega
  have hif : (e.isNone && f.isNone) = false := by cases e <;> cases f <;> simp_all
  obtain ⟨a, as, rfl⟩ := List.exists_cons_of_ne_nil hp.1
  rw [List.cons_append] at t1 t2 hhy ⊢
  have hsv : splitVersion (a :: (as ++ c :: cs)) = .ok (a :: as, e, f) := by
    simp only [splitVersion, hhy, if_false, hp.2 a (by simp), Bool.not_true, Bool.false_eq_true, t1, t2, h1, h2, hif]
  exact lexF_node hsv (lexF_partOf he _) (lexF_partOf hf _)

theorem optRun_hit (lead : Nat) (e : Str) (c : Nat) (rest : Str) (he : e ≠ []) (hp : PmFree e) (hc : notPM c = false) :
    optRun lead (lead :: (e ++ c :: rest)) = (some e, c :: rest) := by
  obtain ⟨h1, h2⟩ := span_append_cons c rest hp hc
  simp only [optRun, beq_self_eq_true, if_true, h1, h2]
  cases e with
  | nil => exact absurd rfl he
  | cons a as => simp

theorem optRun_hit_end (lead : Nat) (e : Str) (he : e ≠ []) (hp : PmFree e) :
    optRun lead (lead :: e) = (some e, []) := by
  simp only [optRun, beq_self_eq_true, if_true, takeWhile_all hp, dropWhile_all hp]
  cases e with
  | nil => exact absurd rfl he
  | cons a as => simp

theorem lex_pre_post {p e f : Str} (hp : p ≠ [] ∧ PmFree p) (he : Piece e) (hf : Piece f) :
    lex (p ++ 45 :: (e ++ 43 :: f)) =
      .ok (.node p (.node e .absent .absent) (.node f .absent .absent)) :=
  lex_append hp ⟨_, _, rfl, rfl⟩
    (by rw [hyphens_cons_minus, hyphens_append, hyphens_cons_plus, hyphens_pmFree he.2.1, hyphens_pmFree hf.2.1]; omega)
    (optRun_hit 45 e 43 f he.1 he.2.1 rfl) (optRun_hit_end 43 f hf.1 hf.2.1) (Or.inl rfl)
    (fun _ h => by cases h; exact he) (fun _ h => by cases h; exact hf)

theorem lex_pre {p e : Str} (hp : p ≠ [] ∧ PmFree p) (he : Piece e) :
    lex (p ++ 45 :: e) = .ok (.node p (.node e .absent .absent) .absent) :=
  lex_append hp ⟨_, _, rfl, rfl⟩ (by rw [hyphens_cons_minus, hyphens_pmFree he.2.1]; omega)
    (optRun_hit_end 45 e he.1 he.2.1) (f := none) rfl (Or.inl rfl) (fun _ h => by cases h; exact he) (fun _ h => nomatch h)

theorem lex_post {p f : Str} (hp : p ≠ [] ∧ PmFree p) (hf : Piece f) :
    lex (p ++ 43 :: f) = .ok (.node p .absent (.node f .absent .absent)) :=
  lex_append hp ⟨_, _, rfl, rfl⟩ (by rw [hyphens_cons_plus, hyphens_pmFree hf.2.1]; omega)
    (e := none) (by simp [optRun]) (optRun_hit_end 43 f hf.1 hf.2.1) (Or.inr rfl) (fun _ h => nomatch h)
    (fun _ h => by cases h; exact hf)

end EupsModel.VersionCmp
