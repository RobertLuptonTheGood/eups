import EupsModel.Model.LockR
import EupsModel.Lemmas.LockAcct
/-! C09, repaired protocol — `LockR.step` as a relation, and the invariant behind `C09_mutex` and `C09_no_residue`, for
EVERY configuration and EVERY schedule: `Inv` lists the clauses of exclusion (`MInv`) and of the accounting of the lock
directory (`Accounted`) in one structure (`Inv.toMInv`, `Inv.acct`; back: `Inv.of`), and each of the two is inductive by
itself.

Why `excl` is preserved needs no history: a requester becomes a holder by a listing taken while its own file is
already there; every holder's file is there as well (`own`); so the listing shows an incompatible unrelated holder
and the requester does not pass. -/
namespace EupsModel.LockR
open EupsModel.Lock (Pid Kind Err exFiles parentHolds Acct)

theorem upd_self (f : Pid → PC) (i : Pid) : upd f i (f i) = f := Lock.fupd_self f i

@[simp] theorem upd_upd (f : Pid → PC) (i : Pid) (a b : PC) : upd (upd f i a) i b = upd f i b := by
  funext j; by_cases h : j = i <;> simp [upd, h]

def terminated : PC → Bool
  | .done | .failedAcq _ | .failedRel _ | .killed => true
  | _ => false

/-- `Branch s p v d fs`: the call of `p` in `s` takes it to `v` and leaves directory flag `d` and lock files `fs`. -/
inductive Branch (s : St) (p : Pid) : PC → Bool → List (Kind × Pid) → Prop
  | mkdirNew {l} : s.pc p = .mkdir l → s.dir = false → Branch s p (.create l) true s.files
  | mkdirEx {l} : s.pc p = .mkdir l → s.dir = true → s.kind p = .ex → Branch s p (.scanAll l) s.dir s.files
  | mkdirSh {l} : s.pc p = .mkdir l → s.dir = true → s.kind p = .sh → Branch s p (.create l) s.dir s.files
  | scanParent {l} : s.pc p = .scanAll l → parentHolds (s.lp p) s.files = true →
      Branch s p (.create l) s.dir s.files
  | scanOther {l} : s.pc p = .scanAll l → parentHolds (s.lp p) s.files = false →
      Branch s p (.scanMsg l) s.dir s.files
  | msgLast : s.pc p = .scanMsg 0 → Branch s p (.failedAcq .runtime) s.dir s.files
  | msgRetry {n} : s.pc p = .scanMsg (n + 1) → Branch s p (.mkdir n) s.dir s.files
  | createNew {l} : s.pc p = .create l → s.dir = true → (s.kind p, p) ∉ s.files →
      Branch s p (.look l) s.dir ((s.kind p, p) :: s.files)
  | createOld {l} : s.pc p = .create l → s.dir = true → (s.kind p, p) ∈ s.files → Branch s p (.look l) s.dir s.files
  | createLast : s.pc p = .create 0 → s.dir = false → Branch s p (.failedAcq .enoent) s.dir s.files
  | createRetry {n} : s.pc p = .create (n + 1) → s.dir = false → Branch s p (.mkdir n) s.dir s.files
  | lookFree {l} : s.pc p = .look l → (others p (s.lp p) (lookList (s.kind p) s.files)).isEmpty = true →
      Branch s p .hold s.dir s.files
  | lookBusy {l} : s.pc p = .look l → (others p (s.lp p) (lookList (s.kind p) s.files)).isEmpty = false →
      Branch s p (.lookMsg l) s.dir s.files
  | withdrawRetry {n} : s.pc p = .lookMsg (n + 1) → s.kind p = .ex → Branch s p (.isdir (.retry n)) s.dir s.files
  | withdrawRefuse {l} : s.pc p = .lookMsg l → (s.kind p = .sh ∨ l = 0) → Branch s p (.isdir .refuse) s.dir s.files
  | bodyEnds : s.pc p = .hold → Branch s p (.isdir .fin) s.dir s.files
  | isdirYes {a} : s.pc p = .isdir a → s.dir = true → Branch s p (.rexists a) s.dir s.files
  | isdirNo {a} : s.pc p = .isdir a → s.dir = false → Branch s p (afterPC a) s.dir s.files
  | existsYes {a} : s.pc p = .rexists a → (s.kind p, p) ∈ s.files → Branch s p (.remove a) s.dir s.files
  | existsNo {a} : s.pc p = .rexists a → (s.kind p, p) ∉ s.files → Branch s p (.rmdir a) s.dir s.files
  | removeOk {a} : s.pc p = .remove a → (s.kind p, p) ∈ s.files →
      Branch s p (.rmdir a) s.dir (s.files.filter (· != (s.kind p, p)))
  | removeGone {a} : s.pc p = .remove a → (s.kind p, p) ∉ s.files → Branch s p (.failedRel .enoent) s.dir s.files
  | rmdirOk {a} : s.pc p = .rmdir a → s.dir = true → s.files = [] → Branch s p (afterPC a) false s.files
  | rmdirRefused {a} : s.pc p = .rmdir a → (s.dir = false ∨ s.files ≠ []) → Branch s p (afterPC a) s.dir s.files
  | idle : terminated (s.pc p) = true → Branch s p (s.pc p) s.dir s.files

theorem step_branch (s : St) (p : Pid) :
    ∃ v d fs, Branch s p v d fs ∧ step s p = ⟨d, fs, s.kind, s.lp, upd s.pc p v⟩ := by
  have no : ∀ {b : Bool}, ¬ b = true → b = false := by simp
  have mem : ∀ {f : Kind × Pid}, s.files.contains f = true ↔ f ∈ s.files := List.contains_iff_mem
  fun_cases step s p  -- one case per path through `step`, in the order of its text
  next hpc hd hk => exact ⟨_, _, _, .mkdirEx hpc hd hk, rfl⟩
  next hpc hd hk => exact ⟨_, _, _, .mkdirSh hpc hd hk, rfl⟩
  next hpc hd => exact ⟨_, _, _, .mkdirNew hpc (no hd), rfl⟩
  next hpc hp => exact ⟨_, _, _, .scanParent hpc hp, rfl⟩
  next hpc hp => exact ⟨_, _, _, .scanOther hpc (no hp), rfl⟩
  next hpc => exact ⟨_, _, _, .msgLast hpc, rfl⟩
  next hpc => exact ⟨_, _, _, .msgRetry hpc, rfl⟩
  next hpc hd hc => exact ⟨_, _, _, .createOld hpc hd (mem.1 hc), rfl⟩
  next hpc hd hc => exact ⟨_, _, _, .createNew hpc hd (mt mem.2 hc), rfl⟩
  next hd hpc => exact ⟨_, _, _, .createLast hpc (no hd), rfl⟩
  next hd _ hpc => exact ⟨_, _, _, .createRetry hpc (no hd), rfl⟩
  next hpc he => exact ⟨_, _, _, .lookFree hpc he, rfl⟩
  next hpc he => exact ⟨_, _, _, .lookBusy hpc (no he), rfl⟩
  next hk hpc => exact ⟨_, _, _, .withdrawRetry hpc hk, rfl⟩
  next l hpc hn =>
    refine ⟨_, _, _, .withdrawRefuse hpc ?_, rfl⟩
    cases hk : s.kind p
    · exact .inl rfl
    · cases l
      · exact .inr rfl
      · exact (hn _ hk rfl).elim
  next hpc => exact ⟨_, _, _, .bodyEnds hpc, rfl⟩
  next hpc hd => exact ⟨_, _, _, .isdirYes hpc hd, rfl⟩
  next hpc hd => exact ⟨_, _, _, .isdirNo hpc (no hd), rfl⟩
  next hpc hc => exact ⟨_, _, _, .existsYes hpc (mem.1 hc), rfl⟩
  next hpc hc => exact ⟨_, _, _, .existsNo hpc (mt mem.2 hc), rfl⟩
  next hpc hc => exact ⟨_, _, _, .removeOk hpc (mem.1 hc), rfl⟩
  next hpc hc => exact ⟨_, _, _, .removeGone hpc (mt mem.2 hc), rfl⟩
  next hpc hc =>
    have hc' : s.dir = true ∧ s.files = [] := by simpa using hc
    exact ⟨_, _, _, .rmdirOk hpc hc'.1 hc'.2, rfl⟩
  next hpc hc =>
    refine ⟨_, _, _, .rmdirRefused hpc ?_, rfl⟩
    cases hd : s.dir
    · exact .inl rfl
    · exact .inr (by simpa [hd] using hc)
  all_goals exact ⟨_, _, _, .idle (by simp [*, terminated]), by rw [upd_self]⟩

theorem step_kind (s : St) (p : Pid) : (step s p).kind = s.kind := by
  obtain ⟨_, _, _, _, he⟩ := step_branch s p
  rw [he]

theorem step_lp (s : St) (p : Pid) : (step s p).lp = s.lp := by
  obtain ⟨_, _, _, _, he⟩ := step_branch s p
  rw [he]

theorem step_pc_other (s : St) (p j : Pid) (h : j ≠ p) : (step s p).pc j = s.pc j := by
  obtain ⟨_, _, _, _, he⟩ := step_branch s p
  rw [he]; exact upd_other _ _ _ _ h

/-! ### the three schedulers

`run` schedules calls, `runE` calls and signals, `runK` calls, signals and kills: the poorer two are `runK` on the events
they have, and a signal or a kill is a move of one process like a call (`KBranch`). -/

def Ev.toK : Ev → KEv
  | .call i => .call i
  | .intr i => .intr i

theorem stepE_eq_stepK (s : St) (e : Ev) : stepE s e = stepK s e.toK := by cases e <;> rfl

theorem runE_eq_runK (s : St) (evs : List Ev) : runE s evs = runK s (evs.map Ev.toK) := by
  simp only [runE, runK, List.foldl_map]
  congr 1; funext s e; exact stepE_eq_stepK s e

theorem run_eq_runE (s : St) (sched : List Pid) : run s sched = runE s (sched.map .call) := by
  simp only [run, runE, List.foldl_map]; rfl

theorem run_eq_runK (s : St) (sched : List Pid) : run s sched = runK s (sched.map .call) := by
  simp only [run, runK, List.foldl_map]; rfl

/-- `KBranch s e p v d fs`: event `e` takes its process `p` to `v` and leaves directory flag `d` and lock files `fs`.  A
call is a `Branch`; a signal starts the handler's release (in the command body, or taking over a `giveLocks` about to
start), ends a process that has nothing in this directory, or is not modelled (`ignored`); a kill stops the process where
it stands. -/
inductive KBranch (s : St) : KEv → Pid → PC → Bool → List (Kind × Pid) → Prop
  | call {p v d fs} : Branch s p v d fs → KBranch s (.call p) p v d fs
  | intrBody {p} : s.pc p = .hold → KBranch s (.intr p) p (.isdir .die) s.dir s.files
  | intrGive {p} : s.pc p = .isdir .fin → KBranch s (.intr p) p (.isdir .die) s.dir s.files
  | intrRest {p l} : s.pc p = .mkdir l → KBranch s (.intr p) p .killed s.dir s.files
  | ignored {p} : KBranch s (.intr p) p (s.pc p) s.dir s.files
  | kill {p} : KBranch s (.kill p) p .killed s.dir s.files

theorem interrupt_branch (s : St) (p : Pid) :
    ∃ v, KBranch s (.intr p) p v s.dir s.files ∧ interrupt s p = ⟨s.dir, s.files, s.kind, s.lp, upd s.pc p v⟩ := by
  unfold interrupt
  split  -- `hold`, `isdir fin`, `mkdir _`, any other
  next h => exact ⟨_, .intrBody h, rfl⟩
  next h => exact ⟨_, .intrGive h, rfl⟩
  next h => exact ⟨_, .intrRest h, rfl⟩
  · exact ⟨_, .ignored, by rw [upd_self]⟩

theorem stepK_branch (s : St) (e : KEv) :
    ∃ p v d fs, KBranch s e p v d fs ∧ stepK s e = ⟨d, fs, s.kind, s.lp, upd s.pc p v⟩ := by
  cases e with
  | call p =>
    obtain ⟨v, d, fs, hb, he⟩ := step_branch s p
    exact ⟨p, v, d, fs, .call hb, he⟩
  | intr p =>
    obtain ⟨v, hb, he⟩ := interrupt_branch s p
    exact ⟨p, v, _, _, hb, he⟩
  | kill p => exact ⟨p, _, _, _, .kill, rfl⟩

theorem stepK_kind (s : St) (e : KEv) : (stepK s e).kind = s.kind := by
  obtain ⟨_, _, _, _, _, he⟩ := stepK_branch s e
  rw [he]

theorem stepK_lp (s : St) (e : KEv) : (stepK s e).lp = s.lp := by
  obtain ⟨_, _, _, _, _, he⟩ := stepK_branch s e
  rw [he]

@[simp] theorem runK_kind (s : St) (evs : List KEv) : (runK s evs).kind = s.kind :=
  Lock.foldl_keeps (P := fun s' : St => s'.kind = s.kind) (fun s' e h => (stepK_kind s' e).trans h) evs rfl

@[simp] theorem runK_lp (s : St) (evs : List KEv) : (runK s evs).lp = s.lp :=
  Lock.foldl_keeps (P := fun s' : St => s'.lp = s.lp) (fun s' e h => (stepK_lp s' e).trans h) evs rfl

theorem run_replicate_pc_other (s : St) (p j : Pid) (n : Nat) (h : j ≠ p) :
    (run s (List.replicate n p)).pc j = s.pc j := by
  induction n generalizing s with
  | zero => rfl
  | succ n ih => rw [List.replicate_succ, run_cons, ih, step_pc_other s p j h]

@[simp] theorem run_kind (s : St) (sched : List Pid) : (run s sched).kind = s.kind := by
  rw [run_eq_runK, runK_kind]

@[simp] theorem run_lp (s : St) (sched : List Pid) : (run s sched).lp = s.lp := by
  rw [run_eq_runK, runK_lp]

@[simp] theorem runE_kind (s : St) (evs : List Ev) : (runE s evs).kind = s.kind := by
  rw [runE_eq_runK, runK_kind]

theorem not_related_run {s : St} {i j : Pid} (h : s.lp i ≠ some j ∧ s.lp j ≠ some i) (sched : List Pid) :
    ¬ related (run s sched) i j := fun r => by rw [related, run_lp] at r; exact r.elim h.1 h.2

theorem step_terminated {s : St} {p : Pid} (h : terminated (s.pc p) = true) : step s p = s := by
  obtain ⟨_, _, _, hb, he⟩ := step_branch s p
  rw [he]
  cases hb with
  | idle => rw [upd_self]
  | _ hpc => rw [hpc] at h; cases h

@[simp] theorem hasFile_afterPC (a : After) : hasFile (afterPC a) = false := by cases a <;> rfl
@[simp] theorem engaged_afterPC (a : After) : engaged (afterPC a) = false := by cases a <;> rfl
theorem afterPC_ne_hold (a : After) : afterPC a ≠ .hold := by cases a <;> simp [afterPC]
theorem afterPC_ne_failedRel (a : After) (e : Err) : afterPC a ≠ .failedRel e := by cases a <;> nofun

theorem hasFile_engaged {pc : PC} (h : hasFile pc = true) : engaged pc = true := by
  cases pc <;> first | rfl | cases h

theorem inBody_hasFile {pc : PC} (h : inBody pc = true) : hasFile pc = true := by
  cases pc <;> first | rfl | cases h

/-- The part of the invariant that exclusion rests on — a holder's lock file is in the directory (`own`), two unrelated
holders are both shared (`excl`) — is inductive by itself, even when processes are killed outright. -/
structure MInv (s : St) : Prop where
  own  : ∀ i, hasFile (s.pc i) = true → (s.kind i, i) ∈ s.files
  excl : ∀ i j, i ≠ j → s.pc i = .hold → s.pc j = .hold → ¬ related s i j →
           (s.kind i = .ex ∨ s.kind j = .ex) → False

theorem MInv.update {s : St} (h : MInv s) (p : Pid) (v : PC) (d' : Bool) (fs' : List (Kind × Pid))
    (hkeep : ∀ f : Kind × Pid, f.2 ≠ p → f ∈ s.files → f ∈ fs')
    (hown : hasFile v = true → (s.kind p, p) ∈ fs')
    (hmx : v = .hold → ∀ j, j ≠ p → s.pc j = .hold → ¬ related s p j →
            (s.kind p = .ex ∨ s.kind j = .ex) → False) :
    MInv { s with dir := d', files := fs', pc := upd s.pc p v } := by
  refine ⟨Lock.forall_upd (P := fun i x => hasFile x = true → (s.kind i, i) ∈ fs') hown
    (fun i hip hi => hkeep _ hip (h.own i hi)), ?_⟩
  · -- the clause is symmetric in the two holders, so a pair with `p` is `hmx`
    exact Lock.sym_pair_upd (A := (· = PC.hold))
      (Q := fun i j => ¬ related s i j → (s.kind i = .ex ∨ s.kind j = .ex) → False)
      (fun _ _ q hr hk => q (fun r => hr (Or.symm r)) (Or.symm hk)) h.excl hmx

theorem MInv.mutex {s : St} (h : MInv s) : Mutex s := by
  intro i j hij hnr hi hk
  cases hj : s.pc j with
  | hold => exact (h.excl i j hij hi hj hnr (.inl hk)).elim
  | _ => rfl

theorem MInv.holders_shared {s : St} (h : MInv s) {i j : Pid} (hij : i ≠ j) (hi : s.pc i = .hold) (hj : s.pc j = .hold)
    (hnr : ¬ related s i j) : s.kind i = .sh ∧ s.kind j = .sh := by
  constructor
  · cases hki : s.kind i with
    | sh => rfl
    | ex => exact (h.excl i j hij hi hj hnr (.inl hki)).elim
  · cases hkj : s.kind j with
    | sh => rfl
    | ex => exact (h.excl i j hij hi hj hnr (.inr hkj)).elim

theorem mem_others {i : Pid} {lp : Option Pid} {l : List (Kind × Pid)} {f : Kind × Pid} :
    f ∈ others i lp l ↔ f ∈ l ∧ f.2 ≠ i ∧ lp ≠ some f.2 := by
  simp [others]

theorem others_nonempty {i : Pid} {lp : Option Pid} {l : List (Kind × Pid)} {f : Kind × Pid}
    (hf : f ∈ l) (h1 : f.2 ≠ i) (h2 : lp ≠ some f.2) : (others i lp l).isEmpty = false :=
  List.isEmpty_eq_false_iff_exists_mem.2 ⟨f, mem_others.2 ⟨hf, h1, h2⟩⟩

theorem look_excl {s : St} {p : Pid} {f : Kind × Pid}
    (he : (others p (s.lp p) (lookList (s.kind p) s.files)).isEmpty = true) (hf : f ∈ s.files) (hfp : f.2 ≠ p)
    (hlp : s.lp p ≠ some f.2) (hk : s.kind p = .ex ∨ f.1 = .ex) : False := by
  have hl : f ∈ lookList (s.kind p) s.files := by
    cases hkp : s.kind p with
    | ex => exact hf
    | sh => exact List.mem_filter.2 ⟨hf, by rw [hk.resolve_left (by rw [hkp]; nofun)]; rfl⟩
  have := others_nonempty hl hfp hlp
  rw [he] at this; cases this

theorem MInv.move {s : St} (h : MInv s) {p : Pid} {a v : PC} (hpc : s.pc p = a) (d' : Bool)
    (hown : hasFile v = true → hasFile a = true)
    (hmx : v = .hold → ∀ j, j ≠ p → s.pc j = .hold → ¬ related s p j →
            (s.kind p = .ex ∨ s.kind j = .ex) → False) : MInv ⟨d', s.files, s.kind, s.lp, upd s.pc p v⟩ :=
  h.update p v d' s.files (fun _ _ hf => hf) (fun hv => h.own p (hpc ▸ hown hv)) hmx

theorem minv_step (s : St) (p : Pid) (h : MInv s) : MInv (step s p) := by
  obtain ⟨v, d, fs, hb, he⟩ := step_branch s p
  rw [he]
  cases hb with
  | mkdirNew hpc => exact h.move hpc true nofun nofun
  | mkdirEx hpc | mkdirSh hpc | scanParent hpc | scanOther hpc | msgLast hpc | msgRetry hpc | createLast hpc
  | createRetry hpc | existsNo hpc | removeGone hpc =>
    exact h.move hpc s.dir nofun nofun
  | createOld hpc _ hf => exact h.update p _ s.dir s.files (fun _ _ hf => hf) (fun _ => hf) nofun
  | createNew hpc =>
    exact h.update p _ s.dir _ (fun _ _ hf => List.mem_cons_of_mem _ hf) (fun _ => List.mem_cons_self) nofun
  | lookFree hpc hnone =>
    exact h.move hpc s.dir (fun _ => rfl)
      (fun _ j hjp hj hrel hk => look_excl hnone (h.own j (by rw [hj]; rfl)) hjp (fun e => hrel (.inl e)) hk)
  | lookBusy hpc | withdrawRetry hpc | withdrawRefuse hpc | bodyEnds hpc | isdirYes hpc | existsYes hpc =>
    exact h.move hpc s.dir (fun _ => rfl) nofun
  | removeOk hpc =>
    refine h.update p _ s.dir _ (fun f hfp hf => ?_) nofun nofun
    exact List.mem_filter.2 ⟨hf, by simpa using fun e : f = (s.kind p, p) => hfp (e ▸ rfl)⟩
  | isdirNo hpc | rmdirRefused hpc =>
    exact h.move hpc s.dir (by simp) (fun e => absurd e (afterPC_ne_hold _))
  | rmdirOk hpc => exact h.move hpc false (by simp) (fun e => absurd e (afterPC_ne_hold _))
  | idle => rw [upd_self]; exact h

theorem minv_stepK (s : St) (e : KEv) (h : MInv s) : MInv (stepK s e) := by
  obtain ⟨p, v, d, fs, hb, he⟩ := stepK_branch s e
  cases hb with
  | call => exact minv_step s _ h
  | intrBody hpc | intrGive hpc => rw [he]; exact h.move hpc s.dir (fun _ => rfl) nofun
  | intrRest hpc => rw [he]; exact h.move hpc s.dir nofun nofun
  | ignored => rw [he, upd_self]; exact h
  | kill => rw [he]; exact h.move rfl s.dir nofun nofun

theorem minv_runK (s : St) (evs : List KEv) (h : MInv s) : MInv (runK s evs) :=
  Lock.foldl_keeps (P := MInv) minv_stepK evs h

/-- The accounting of the lock directory (`Acct`, with `engaged` for "responsible"): the other part of the invariant,
inductive by itself under calls and signals; not under kills (the file of a killed process has no owner). -/
def Accounted (s : St) : Prop := Acct hasFile engaged s.kind s.dir s.files s.pc

theorem Accounted.move {s : St} (h : Accounted s) {p : Pid} {a v : PC} (hpc : s.pc p = a) (d' : Bool)
    (hfile : hasFile v = hasFile a) (hdir : s.files ≠ [] → d' = true)
    (hresp : Acct.Resp hasFile engaged s.dir s.files d' a v) : Accounted ⟨d', s.files, s.kind, s.lp, upd s.pc p v⟩ :=
  Acct.move h (fun _ => hasFile_engaged) hpc d' hfile hdir hresp

/-- four branches the code has (`createOld`, `isdirNo`, `existsNo`, `removeGone`) cannot be taken: the caller's file is there
exactly when its program counter says so -/
theorem acct_step (s : St) (p : Pid) (h : Accounted s) : Accounted (step s p) := by
  obtain ⟨v, d, fs, hb, he⟩ := step_branch s p
  rw [he]
  cases hb with
  | mkdirNew hpc hd => exact h.move hpc true rfl (fun _ => rfl) (.self rfl)
  | mkdirEx hpc | scanOther hpc | msgLast hpc | msgRetry hpc => exact h.move hpc s.dir rfl h.inDir (.bystander rfl rfl)
  | mkdirSh hpc | scanParent hpc | lookFree hpc | lookBusy hpc | withdrawRetry hpc | withdrawRefuse hpc | bodyEnds hpc
  | isdirYes hpc | existsYes hpc =>
    exact h.move hpc s.dir rfl h.inDir (.self rfl)
  | createNew hpc hd hnf => exact h.create p _ hd hnf rfl rfl
  | createOld hpc _ hf => exact absurd hf (h.noFile hpc rfl)
  | createLast hpc hd | createRetry hpc hd => exact h.move hpc s.dir rfl h.inDir (.noDir hd)
  | isdirNo hpc hd => exact absurd (h.inDir (List.ne_nil_of_mem (h.own_of hpc rfl))) (by simp [hd])
  | existsNo hpc hnf | removeGone hpc hnf => exact absurd (h.own_of hpc rfl) hnf
  | removeOk hpc hf => exact h.remove p _ hf rfl rfl
  | rmdirOk hpc hd hfs => exact h.move hpc false (hasFile_afterPC _) (fun hne => absurd hfs hne) (.noDir rfl)
  | rmdirRefused hpc hc =>
    exact h.move hpc s.dir (hasFile_afterPC _) h.inDir (hc.elim .noDir (fun hne => .fileOwner rfl hne rfl))
  | idle => rw [upd_self]; exact h

theorem acct_stepE (s : St) (e : Ev) (h : Accounted s) : Accounted (stepE s e) := by
  cases e with
  | call i => exact acct_step s i h
  | intr i =>
    obtain ⟨v, hb, he⟩ := interrupt_branch s i
    show Accounted (interrupt s i)
    rw [he]
    cases hb with
    | intrBody hpc | intrGive hpc => exact h.move hpc s.dir rfl h.inDir (.self rfl)
    | intrRest hpc => exact h.move hpc s.dir rfl h.inDir (.bystander rfl rfl)
    | ignored => rw [upd_self]; exact h

structure Inv (s : St) : Prop where
  own   : ∀ i, hasFile (s.pc i) = true → (s.kind i, i) ∈ s.files
  owner : ∀ f ∈ s.files, f.1 = s.kind f.2 ∧ hasFile (s.pc f.2) = true
  inDir : s.files ≠ [] → s.dir = true
  resp  : s.dir = true → ∃ q, engaged (s.pc q) = true
  excl  : ∀ i j, i ≠ j → s.pc i = .hold → s.pc j = .hold → ¬ related s i j →
            (s.kind i = .ex ∨ s.kind j = .ex) → False

theorem inv_init (kind : Pid → Kind) (lp : Pid → Option Pid) (tries : Pid → Nat) :
    Inv (init kind lp tries) := by
  constructor <;> simp [init, hasFile]

namespace Inv
variable {s : St}

theorem toMInv (h : Inv s) : MInv s := ⟨h.own, h.excl⟩

theorem acct (h : Inv s) : Accounted s := ⟨h.own, h.owner, h.inDir, h.resp⟩

theorem of (m : MInv s) (a : Accounted s) : Inv s := ⟨m.own, a.owner, a.inDir, a.resp, m.excl⟩

theorem update (h : Inv s) (p : Pid) (v : PC) (d' : Bool) (fs' : List (Kind × Pid))
    (hother : ∀ f : Kind × Pid, f.2 ≠ p → (f ∈ fs' ↔ f ∈ s.files))
    (hown1 : hasFile v = true → (s.kind p, p) ∈ fs')
    (hown2 : ∀ f ∈ fs', f.2 = p → f.1 = s.kind p ∧ hasFile v = true)
    (hdir : fs' ≠ [] → d' = true)
    (hresp : d' = true → engaged v = true ∨ ∃ q, q ≠ p ∧ engaged (s.pc q) = true)
    (hmx : v = .hold → ∀ j, j ≠ p → s.pc j = .hold → ¬ related s p j →
            (s.kind p = .ex ∨ s.kind j = .ex) → False) :
    Inv { s with dir := d', files := fs', pc := upd s.pc p v } :=
  .of (h.toMInv.update p v d' fs' (fun f hfp hf => (hother f hfp).2 hf) hown1 hmx)
    (h.acct.update p v d' fs' hother hown1 hown2 hdir hresp)

theorem clean (h : Inv s) (hq : ∀ i, engaged (s.pc i) = false) : s.dir = false ∧ s.files = [] :=
  h.acct.clean hq

end Inv

theorem inv_step (s : St) (p : Pid) (h : Inv s) : Inv (step s p) :=
  .of (minv_step s p h.toMInv) (acct_step s p h.acct)

theorem inv_stepE (s : St) (e : Ev) (h : Inv s) : Inv (stepE s e) :=
  .of (stepE_eq_stepK s e ▸ minv_stepK s e.toK h.toMInv) (acct_stepE s e h.acct)

theorem inv_runE (s : St) (evs : List Ev) (h : Inv s) : Inv (runE s evs) :=
  Lock.foldl_keeps (P := Inv) inv_stepE evs h

theorem inv_run (s : St) (sched : List Pid) (h : Inv s) : Inv (run s sched) :=
  run_eq_runE s sched ▸ inv_runE s _ h

theorem inv_reach (kind : Pid → Kind) (lp : Pid → Option Pid) (tries : Pid → Nat) (sched : List Pid) :
    Inv (run (init kind lp tries) sched) :=
  inv_run _ sched (inv_init kind lp tries)

/-- `giveLocks` never raises: its own lock file cannot vanish between `exists` and `remove` -/
theorem noRelFail_step (s : St) (p : Pid) (h : MInv s) (hn : ∀ i e, s.pc i ≠ .failedRel e) :
    ∀ i e, (step s p).pc i ≠ .failedRel e := by
  obtain ⟨v, d, fs, hb, he⟩ := step_branch s p
  rw [he]
  refine Lock.forall_upd (P := fun _ x => ∀ e, x ≠ PC.failedRel e) (fun e => ?_) (fun i _ => hn i)
  cases hb with
  | removeGone hpc hnf => exact absurd (h.own p (by rw [hpc]; rfl)) hnf
  | isdirNo | rmdirOk | rmdirRefused => exact afterPC_ne_failedRel _ e
  | idle => exact hn p e
  | _ => nofun

theorem noRelFail_stepE (s : St) (ev : Ev) (h : MInv s) (hn : ∀ i e, s.pc i ≠ .failedRel e) :
    ∀ i e, (stepE s ev).pc i ≠ .failedRel e := by
  cases ev with
  | call p => exact noRelFail_step s p h hn
  | intr p =>
    obtain ⟨v, hb, he⟩ := interrupt_branch s p
    show ∀ i e, (interrupt s p).pc i ≠ _
    rw [he]
    refine Lock.forall_upd (P := fun _ x => ∀ e, x ≠ PC.failedRel e) (fun e => ?_) (fun i _ => hn i)
    cases hb with
    | ignored => exact hn p e
    | _ => nofun

theorem noRelFail_runE (s : St) (evs : List Ev) (h : Inv s) (hn : ∀ i e, s.pc i ≠ .failedRel e) :
    ∀ i e, (runE s evs).pc i ≠ .failedRel e :=
  (Lock.foldl_keeps (P := fun s => Inv s ∧ ∀ i e, s.pc i ≠ .failedRel e)
    (fun s ev h => ⟨inv_stepE s ev h.1, noRelFail_stepE s ev h.1.toMInv h.2⟩) evs ⟨h, hn⟩).2

theorem noRelFail_run (s : St) (sched : List Pid) (h : Inv s) (hn : ∀ i e, s.pc i ≠ .failedRel e) :
    ∀ i e, (run s sched).pc i ≠ .failedRel e :=
  run_eq_runE s sched ▸ noRelFail_runE s _ h hn

end EupsModel.LockR
