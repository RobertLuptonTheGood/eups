import EupsModel.Model.Vro
import EupsModel.Lemmas.Order
/-! The lookups along the path (`Model/Vro.lean`): the first stack that answers (`firstStack`, behind `lookupVersion` and
`lookupTag`), the `setup` pseudo-tag, the versions a stack declares and their last maximum (`lastMax`), and `latest`, the
maximum over all stacks. -/
namespace EupsModel.Vro

/-! ## the first stack that answers -/

theorem forall_lt_cons {s : Stack} {rest : Db} {k : Nat} {Q : Stack → Prop} :
    (∀ j st', j < k + 1 → (s :: rest)[j]? = some st' → Q st') ↔
      Q s ∧ ∀ j st', j < k → rest[j]? = some st' → Q st' := by
  constructor
  · intro h
    exact ⟨h 0 s (Nat.succ_pos k) rfl, fun j st' hj hg => h (j + 1) st' (Nat.succ_lt_succ hj) hg⟩
  · rintro ⟨h0, h⟩ j st' hj hg
    cases j with
    | zero => cases hg; exact h0
    | succ j => exact h j st' (Nat.lt_of_succ_lt_succ hj) hg

theorem firstStack_some_iff {α : Type} (f : Stack → Option α) (i0 : Nat) (db : Db) (i : Nat) (a : α) :
    firstStack f i0 db = some (i, a) ↔
      ∃ k st, i = i0 + k ∧ db[k]? = some st ∧ f st = some a ∧
        ∀ j st', j < k → db[j]? = some st' → f st' = none := by
  constructor
  · intro h
    fun_induction firstStack f i0 db
    case case1 => cases h  -- no stack left
    case case2 i0 s _ _ hs =>  -- this stack answers
      cases h
      exact ⟨0, s, rfl, rfl, hs, fun j _ hj => absurd hj (Nat.not_lt_zero j)⟩
    case case3 hs ih =>  -- it does not
      obtain ⟨k, st, rfl, hk, hf, hmin⟩ := ih h
      exact ⟨k + 1, st, by omega, hk, hf, forall_lt_cons.mpr ⟨hs, hmin⟩⟩
  · rintro ⟨k, st, rfl, hk, hf, hmin⟩
    induction db generalizing i0 k with
    | nil => cases hk
    | cons s rest ih =>
      rw [firstStack]
      cases k with
      | zero => cases hk; rw [hf]; rfl
      | succ k =>
        obtain ⟨hs, hmin'⟩ := forall_lt_cons.mp hmin
        rw [hs]
        simp only
        rw [ih (i0 + 1) k hk hmin']
        congr 2
        omega

theorem firstStack_none_iff {α : Type} (f : Stack → Option α) (i0 : Nat) (db : Db) :
    firstStack f i0 db = none ↔ ∀ st ∈ db, f st = none := by
  fun_induction firstStack f i0 db <;> simp [*]

/-- for `firstStack (fun st => if b st then some () else none)`, "the first stack in which `b` holds" -/
theorem ite_unit_eq_some {b : Bool} {u : Unit} : (if b then some () else none) = some u ↔ b = true := by
  cases b <;> simp

theorem ite_unit_eq_none {b : Bool} : (if b then some () else none) = none ↔ b = false := by
  cases b <;> simp

/-! ## the versions a stack declares, and their last maximum -/

theorem mem_insertStr (v x : Str) (l : List Str) : x ∈ insertStr v l ↔ x = v ∨ x ∈ l := by
  induction l with
  | nil => simp [insertStr]
  | cons y ys ih =>
    rw [insertStr]
    split
    · exact List.mem_cons
    · rw [List.mem_cons, ih, List.mem_cons, or_left_comm]

theorem mem_sortStr (x : Str) (l : List Str) : x ∈ sortStr l ↔ x ∈ l := by
  induction l with
  | nil => simp [sortStr]
  | cons y ys ih => simp only [sortStr, mem_insertStr, ih, List.mem_cons]

theorem mem_versionsOf (st : Stack) (n f v : Str) : v ∈ versionsOf st n f ↔ declared st n v f = true := by
  simp only [versionsOf, mem_sortStr, declared, List.mem_map, List.mem_filter, List.any_eq_true,
    Bool.and_eq_true, beq_iff_eq]
  constructor
  · rintro ⟨d, ⟨hd, hn, hf⟩, rfl⟩
    exact ⟨d, hd, ⟨hn, rfl⟩, hf⟩
  · rintro ⟨d, hd, ⟨hn, hv⟩, hf⟩
    exact ⟨d, ⟨hd, hn, hf⟩, hv⟩

theorem lastMaxGo_mem (cmp : Str → Str → Int) (best : Str) (l : List Str) :
    lastMaxGo cmp best l = best ∨ lastMaxGo cmp best l ∈ l := by
  induction l generalizing best with
  | nil => simp [lastMaxGo]
  | cons v vs ih =>
    simp only [lastMaxGo]
    rcases ih (if 0 ≤ cmp v best then v else best) with h | h
    · rw [h]
      split
      · simp
      · simp
    · exact Or.inr (List.mem_cons_of_mem _ h)

theorem lastMaxGo_isLastMax {P : Str → Prop} {cmp : Str → Str → Int} (g : GoodOrdOn P cmp) {seen l : List Str} {b : Str}
    (hP : ∀ y ∈ seen ++ l, P y) (hb : Order.IsLastMax cmp b seen) :
    Order.IsLastMax cmp (lastMaxGo cmp b l) (seen ++ l) := by
  induction l generalizing seen b with
  | nil => rw [List.append_nil]; exact hb
  | cons x xs ih =>
    have e : seen ++ x :: xs = (seen ++ [x]) ++ xs := by simp
    rw [e] at hP ⊢
    exact ih hP (hb.snoc g.flip g.trans (fun y hy => hP y (by simp [hy])) (hP x (by simp)))

theorem lastMax_isLastMax {P : Str → Prop} {cmp : Str → Str → Int} (g : GoodOrdOn P cmp) {l : List Str} {m : Str}
    (hP : ∀ y ∈ l, P y) (h : lastMax cmp l = some m) : Order.IsLastMax cmp m l := by
  cases l with
  | nil => cases h
  | cons x xs => cases h; exact lastMaxGo_isLastMax g (seen := [x]) hP (Order.IsLastMax.singleton x)

theorem lastMax_some_iff (cmp : Str → Str → Int) (l : List Str) : (lastMax cmp l).isSome ↔ l ≠ [] := by
  cases l <;> simp [lastMax]

theorem lastMax_eq_none_iff (cmp : Str → Str → Int) (l : List Str) : lastMax cmp l = none ↔ l = [] := by
  rw [← Option.not_isSome_iff_eq_none, lastMax_some_iff, Decidable.not_not]

theorem lastMax_mem {cmp : Str → Str → Int} {l : List Str} {m : Str} (h : lastMax cmp l = some m) : m ∈ l := by
  cases l with
  | nil => simp [lastMax] at h
  | cons v vs =>
    simp only [lastMax, Option.some.injEq] at h
    subst h
    rcases lastMaxGo_mem cmp v vs with h | h
    · rw [h]; simp
    · exact List.mem_cons_of_mem _ h

theorem lastMax_max {P : Str → Prop} {cmp : Str → Str → Int} (g : GoodOrdOn P cmp) {l : List Str} {m : Str}
    (h : lastMax cmp l = some m) (hl : ∀ x ∈ l, P x) : ∀ x ∈ l, cmp x m ≤ 0 :=
  (lastMax_isLastMax g hl h).le (g.refl m (hl m (lastMax_mem h)))

theorem declIn_of_declared {P : Str → Prop} {db : Db} (hP : DeclIn P db) {st : Stack} (hst : st ∈ db)
    {n v f : Str} (hd : declared st n v f = true) : P v := by
  simp only [declared, List.any_eq_true, Bool.and_eq_true, beq_iff_eq] at hd
  obtain ⟨d, hdm, ⟨_, hv⟩, _⟩ := hd
  exact hv ▸ hP st hst d hdm

/-! ## explicit version, tag and `setup` lookups -/

theorem prod_eq_iff {a b : Str} {c : Nat} {p : Prod} :
    Prod.mk a b c = p ↔ p.version = a ∧ p.flavor = b ∧ p.stack = c := by
  constructor
  · rintro ⟨⟩; exact ⟨rfl, rfl, rfl⟩
  · rintro ⟨rfl, rfl, rfl⟩; rfl

theorem lookupVersion_some_iff (db : Db) (n v f : Str) (p : Prod) :
    lookupVersion db n v f = some p ↔
      p.version = v ∧ p.flavor = f ∧
      (∃ st, db[p.stack]? = some st ∧ declared st n v f = true) ∧
      ∀ j st', j < p.stack → db[j]? = some st' → declared st' n v f = false := by
  unfold lookupVersion
  simp only [Option.map_eq_some_iff, Prod.exists, firstStack_some_iff, ite_unit_eq_some, ite_unit_eq_none, Nat.zero_add]
  constructor
  · rintro ⟨i, _, ⟨k, st, rfl, hg, hd, hm⟩, rfl⟩
    exact ⟨rfl, rfl, ⟨st, hg, hd⟩, hm⟩
  · rintro ⟨h1, h2, ⟨st, hg, hd⟩, hm⟩
    exact ⟨p.stack, (), ⟨p.stack, st, rfl, hg, hd, hm⟩, prod_eq_iff.mpr ⟨h1, h2, rfl⟩⟩

theorem lookupVersion_none_iff (db : Db) (n v f : Str) :
    lookupVersion db n v f = none ↔ ∀ st ∈ db, declared st n v f = false := by
  unfold lookupVersion
  simp only [Option.map_eq_none_iff, firstStack_none_iff, ite_unit_eq_none]

theorem lookupTag_some_iff (db : Db) (t n f : Str) (p : Prod) :
    lookupTag db t n f = some p ↔
      p.flavor = f ∧
      (∃ st, db[p.stack]? = some st ∧ tagHere st t n f = some p.version) ∧
      ∀ j st', j < p.stack → db[j]? = some st' → tagHere st' t n f = none := by
  unfold lookupTag
  simp only [Option.map_eq_some_iff, Prod.exists, firstStack_some_iff, Nat.zero_add]
  constructor
  · rintro ⟨i, v, ⟨k, st, rfl, hg, hd, hm⟩, rfl⟩
    exact ⟨rfl, ⟨st, hg, hd⟩, hm⟩
  · rintro ⟨h2, ⟨st, hg, hd⟩, hm⟩
    exact ⟨p.stack, p.version, ⟨p.stack, st, rfl, hg, hd, hm⟩, prod_eq_iff.mpr ⟨rfl, h2, rfl⟩⟩

theorem tagHere_some_iff (st : Stack) (t n f v : Str) :
    tagHere st t n f = some v ↔ tagVersion st t n f = some v ∧ declared st n v f = true := by
  unfold tagHere
  cases tagVersion st t n f with
  | none => simp
  | some w =>
    simp only [Option.ite_none_right_eq_some, Option.some.injEq]
    constructor
    · rintro ⟨hd, rfl⟩; exact ⟨rfl, hd⟩
    · rintro ⟨rfl, hd⟩; exact ⟨hd, rfl⟩

theorem tagHere_none_iff (st : Stack) (t n f : Str) :
    tagHere st t n f = none ↔ ∀ v, ¬ (tagVersion st t n f = some v ∧ declared st n v f = true) := by
  simp only [Option.eq_none_iff_forall_ne_some, ne_eq, tagHere_some_iff]

theorem lookupTag_none_iff (db : Db) (t n f : Str) :
    lookupTag db t n f = none ↔ ∀ st ∈ db, tagHere st t n f = none := by
  unfold lookupTag
  rw [Option.map_eq_none_iff, firstStack_none_iff]

theorem lookupSetup_some_iff (C : Ctx) (r : Req) (p : Prod) :
    lookupSetup C r = some p ↔
      ∃ s, r.setupEnv = some s ∧ s.flavor = r.flavor ∧ p.version = s.version ∧ p.flavor = r.flavor ∧
        ((kLocal.isPrefixOf s.version = true ∧ p.stack = s.stack.getD C.db.length) ∨
         (kLocal.isPrefixOf s.version = false ∧ ∃ i st, s.stack = some i ∧ p.stack = i ∧ C.dbLatest[i]? = some st ∧
            declared st r.name s.version r.flavor = true)) := by
  unfold lookupSetup
  cases r.setupEnv with
  | none => simp
  | some s =>
    simp only [Option.some.injEq, exists_eq_left']
    by_cases hf : s.flavor = r.flavor
    · simp only [hf, bne_self_eq_false, Bool.false_eq_true, if_false, true_and]
      cases hl : kLocal.isPrefixOf s.version
      · cases hs : s.stack with
        | none => simp
        | some i =>
          cases hg : C.dbLatest[i]? with
          | none => simp [hg]
          | some st => by_cases hd : declared st r.name s.version r.flavor = true <;> simp [hg, hd, prod_eq_iff]
      · simp [prod_eq_iff]
    · simp [hf]

theorem lookupSetup_flavor {C : Ctx} {r : Req} {p : Prod} (h : lookupSetup C r = some p) : p.flavor = r.flavor := by
  obtain ⟨_, _, _, _, hf, _⟩ := (lookupSetup_some_iff ..).mp h
  exact hf

/-! ## `latest` -/

theorem latestGo_flavor {cmp : Str → Str → Int} {n f : Str} {i : Nat} {out : Option Prod} {db : Db} {p : Prod}
    (hout : ∀ q, out = some q → q.flavor = f) (h : latestGo cmp n f i out db = some p) : p.flavor = f := by
  fun_induction latestGo cmp n f i out db
  case case1 => exact hout p h  -- no stack left
  case case2 ih => exact ih hout h  -- the stack declares nothing
  case case3 ih => exact ih (by rintro _ ⟨⟩; rfl) h  -- the first candidate
  case case4 ih => exact ih (by rintro _ ⟨⟩; rfl) h  -- a later version than the candidate
  case case5 ih => exact ih hout h  -- not a later one

/-- what `latestGo` knows after the first `i` stacks of `full` -/
def LatestInv (cmp : Str → Str → Int) (full : Db) (n f : Str) (i : Nat) (out : Option Prod) : Prop :=
  match out with
  | none => ∀ (j : Nat) (st : Stack) (w : Str), j < i → full[j]? = some st → declared st n w f = false
  | some o =>
    o.flavor = f ∧ (∃ st, full[o.stack]? = some st ∧ declared st n o.version f = true) ∧
    ∀ (j : Nat) (st : Stack) (w : Str), j < i → full[j]? = some st → declared st n w f = true →
      cmp w o.version ≤ 0

theorem forall_lt_succ_stack {full : Db} {i : Nat} {st : Stack} (hget : full[i]? = some st) {Q : Stack → Str → Prop}
    (h1 : ∀ j st' w, j < i → full[j]? = some st' → Q st' w) (h2 : ∀ w, Q st w) :
    ∀ j st' w, j < i + 1 → full[j]? = some st' → Q st' w := by
  intro j st' w hj hg
  rcases Nat.lt_succ_iff_lt_or_eq.mp hj with hj | rfl
  · exact h1 j st' w hj hg
  · rw [hget] at hg; cases hg; exact h2 w

theorem latestGo_inv {P : Str → Prop} {cmp : Str → Str → Int} (g : GoodOrdOn P cmp) (full : Db) (hP : DeclIn P full)
    (n f : Str) (pre rest : Db) (hfull : full = pre ++ rest) (out : Option Prod)
    (hinv : LatestInv cmp full n f pre.length out) :
    LatestInv cmp full n f full.length (latestGo cmp n f pre.length out rest) := by
  induction rest generalizing pre out with
  | nil =>
    have : full.length = pre.length := by rw [hfull]; simp
    rw [this]; exact hinv
  | cons st rest ih =>
    have hget : full[pre.length]? = some st := by rw [hfull]; simp
    have hPd : ∀ {j : Nat} {st' : Stack} {w : Str}, full[j]? = some st' → declared st' n w f = true → P w :=
      fun hg hd => declIn_of_declared hP (List.mem_of_getElem? hg) hd
    -- the rest of the path, once the invariant holds with this stack included
    have step : ∀ out', LatestInv cmp full n f (pre.length + 1) out' →
        LatestInv cmp full n f full.length (latestGo cmp n f (pre.length + 1) out' rest) := by
      intro out' h
      have := ih (pre ++ [st]) (by rw [hfull]; simp) out' (by simpa using h)
      simpa using this
    simp only [latestGo]
    cases hm : lastMax cmp (versionsOf st n f) with
    | none =>
      -- the stack declares nothing for (n, f)
      have hno : ∀ w, declared st n w f = false := fun w => Bool.eq_false_iff.mpr fun hd => by
        have hw := (mem_versionsOf st n f w).mpr hd
        rw [(lastMax_eq_none_iff ..).mp hm] at hw
        cases hw
      apply step
      cases out with
      | none => exact forall_lt_succ_stack hget (Q := fun st' w => declared st' n w f = false) hinv hno
      | some o =>
        exact ⟨hinv.1, hinv.2.1, forall_lt_succ_stack hget (Q := fun st' w => declared st' n w f = true → cmp w o.version ≤ 0)
          hinv.2.2 (fun w hd => by rw [hno w] at hd; cases hd)⟩
    | some v =>
      have hv : declared st n v f = true := (mem_versionsOf st n f v).mp (lastMax_mem hm)
      have hmax : ∀ w, declared st n w f = true → cmp w v ≤ 0 :=
        fun w hw => lastMax_max g hm
          (fun y hy => hPd hget ((mem_versionsOf st n f y).mp hy)) w ((mem_versionsOf st n f w).mpr hw)
      -- the invariant for "v from this stack is the new answer"
      have hnew : (∀ (j : Nat) (st' : Stack) (w : Str), j < pre.length → full[j]? = some st' →
          declared st' n w f = true → cmp w v ≤ 0) →
          LatestInv cmp full n f (pre.length + 1) (some ⟨v, f, pre.length⟩) :=
        fun hearlier => ⟨rfl, ⟨st, hget, hv⟩, forall_lt_succ_stack hget hearlier hmax⟩
      cases out with
      | none =>
        exact step _ (hnew (fun j st' w hj hgetj hd => by rw [hinv j st' w hj hgetj] at hd; cases hd))
      | some o =>
        obtain ⟨h1, ⟨sto, hgo, hdo⟩, h3⟩ := hinv
        simp only
        split
        · next hgt =>
          exact step _ (hnew (fun j st' w hj hgetj hd =>
            g.trans _ _ _ (hPd hgetj hd) (hPd hgo hdo) (hPd hget hv) (h3 j st' w hj hgetj hd)
              (g.flip _ _ (hPd hget hv) (hPd hgo hdo) (by omega))))
        · next hgt =>
          exact step _ ⟨h1, ⟨sto, hgo, hdo⟩, forall_lt_succ_stack hget h3 (fun w hd =>
            g.trans _ _ _ (hPd hget hd) (hPd hget hv) (hPd hgo hdo) (hmax w hd) (by omega))⟩

theorem lookupLatest_inv {P : Str → Prop} {cmp : Str → Str → Int} (g : GoodOrdOn P cmp) {db : Db}
    (hP : DeclIn P db) (n f : Str) : LatestInv cmp db n f db.length (lookupLatest cmp db n f) :=
  latestGo_inv g db hP n f [] db rfl none (by intro j st w hj; cases hj)

theorem lookupLatest_some {P : Str → Prop} {cmp : Str → Str → Int} (g : GoodOrdOn P cmp) {db : Db}
    (hP : DeclIn P db) {n f : Str} {p : Prod} (h : lookupLatest cmp db n f = some p) :
    p.flavor = f ∧ (∃ st, db[p.stack]? = some st ∧ declared st n p.version f = true) ∧
    ∀ (j : Nat) (st : Stack) (w : Str), db[j]? = some st → declared st n w f = true → cmp w p.version ≤ 0 := by
  have := lookupLatest_inv g hP n f
  rw [h] at this
  obtain ⟨h1, h2, h3⟩ := this
  refine ⟨h1, h2, fun j st w hget hd => h3 j st w ?_ hget hd⟩
  obtain ⟨hj, _⟩ := List.getElem?_eq_some_iff.mp hget
  exact hj

theorem lookupLatest_none {P : Str → Prop} {cmp : Str → Str → Int} (g : GoodOrdOn P cmp) {db : Db}
    (hP : DeclIn P db) {n f : Str} (h : lookupLatest cmp db n f = none) : ∀ st ∈ db, ∀ w, declared st n w f = false := by
  have := lookupLatest_inv g hP n f
  rw [h] at this
  intro st hst w
  obtain ⟨j, hj, hget⟩ := List.mem_iff_getElem.mp hst
  exact this j st w hj (by simp [List.getElem?_eq_getElem hj, hget])

end EupsModel.Vro
