import EupsModel.Lemmas.List
/-! The Python text helpers that the models each write out for themselves, once: `pieces sep s` is the list of pieces of
`s` between separator characters, empty ones kept (`s.split(c)`, `re.split("[…]", s)`); `tokens sep s` is its non-empty
pieces (`s.split()`); `join`, `stripR` (`rstrip`; `lstrip` is `List.dropWhile`) and `replace` go with them.  A model's
own copy is identified with these by `acc_pieces` / `acc_tokens`: a function that carries the piece being read and obeys
the two equations of a splitter (`IsPieces`, `IsTokens`; they hold by `rfl`) IS that splitter, with what it carries put
in front of the first piece.  Readers of lines that give out something else at a separator or at the end are covered by
`acc_terminated`.  `Maps` is the law by which a rewriting pass treats one piece of its input. -/
namespace EupsModel.Text
variable {α : Type} {sep p : α → Bool}

/-- separators only -/
def Blank (sep : α → Bool) (b : List α) : Prop := ∀ x ∈ b, sep x = true
/-- no separator -/
def Free (sep : α → Bool) (l : List α) : Prop := ∀ x ∈ l, sep x = false
/-- non-empty, no separator inside -/
def Word (sep : α → Bool) (w : List α) : Prop := w ≠ [] ∧ Free sep w
/-- empty or headed by a separator: what may follow a word -/
def Gap (sep : α → Bool) (r : List α) : Prop := ∀ x ∈ r.head?, sep x = true

/-- `all_ne` for the test `· == c` -/
theorem free_of_not_mem [BEq α] [LawfulBEq α] {c : α} {l : List α} (h : c ∉ l) : Free (· == c) l :=
  fun _ hx => beq_eq_false_iff_ne.mpr fun e => h (e ▸ hx)

/-! ## pieces -/

/-- `cur` put in front of the first piece -/
def onHead (cur : List α) : List (List α) → List (List α)
  | [] => []
  | q :: qs => (cur ++ q) :: qs

@[simp] theorem onHead_cons (cur q : List α) (qs : List (List α)) : onHead cur (q :: qs) = (cur ++ q) :: qs := rfl

@[simp] theorem onHead_nil (l : List (List α)) : onHead [] l = l := by cases l <;> rfl

@[simp] theorem onHead_onHead (a b : List α) (l : List (List α)) : onHead a (onHead b l) = onHead (a ++ b) l := by
  cases l <;> simp [onHead]

/-- the pieces of a text between separator characters; empty pieces are kept, so there is always one -/
def pieces (sep : α → Bool) : List α → List (List α)
  | [] => [[]]
  | x :: xs => if sep x then [] :: pieces sep xs else onHead [x] (pieces sep xs)

theorem pieces_ne_nil (s : List α) : pieces sep s ≠ [] := by
  induction s with
  | nil => simp [pieces]
  | cons x xs ih =>
    unfold pieces
    split
    · simp
    · cases h : pieces sep xs with
      | nil => exact absurd h ih
      | cons => simp

theorem pieces_append {l : List α} (hl : Free sep l) (r : List α) : pieces sep (l ++ r) = onHead l (pieces sep r) := by
  induction l with
  | nil => simp
  | cons x xs ih => simp [pieces, hl x (by simp), ih fun y hy => hl y (by simp [hy])]

theorem pieces_cons_sep {c : α} (hc : sep c = true) (r : List α) : pieces sep (c :: r) = [] :: pieces sep r := by
  simp [pieces, hc]

theorem pieces_free {l : List α} (hl : Free sep l) : pieces sep l = [l] := by
  simpa [pieces] using pieces_append hl []

theorem pieces_cut {l : List α} (hl : Free sep l) {c : α} (hc : sep c = true) (r : List α) :
    pieces sep (l ++ c :: r) = l :: pieces sep r := by
  simp [pieces_append hl, pieces_cons_sep hc]

theorem flatten_onHead (a : List α) {l : List (List α)} (h : l ≠ []) : (onHead a l).flatten = a ++ l.flatten := by
  cases l with
  | nil => exact absurd rfl h
  | cons => simp

theorem flatten_pieces (s : List α) : (pieces sep s).flatten = s.filter (!sep ·) := by
  induction s with
  | nil => rfl
  | cons c cs ih => by_cases hc : sep c <;> simp [pieces, hc, ih, flatten_onHead _ (pieces_ne_nil cs)]

theorem mem_onHead_pieces {cur s q : List α} (hq : q ∈ onHead cur (pieces sep s)) {x : α} (hx : x ∈ q) :
    x ∈ cur ∨ x ∈ s := by
  have : x ∈ (onHead cur (pieces sep s)).flatten := List.mem_flatten.mpr ⟨q, hq, hx⟩
  rw [flatten_onHead _ (pieces_ne_nil s), flatten_pieces, List.mem_append, List.mem_filter] at this
  exact this.imp_right (·.1)

/-- the two equations of a splitter that carries the piece being read -/
def IsPieces (sep : α → Bool) (f : List α → List α → List (List α)) : Prop :=
  (∀ cur, f cur [] = [cur]) ∧ ∀ cur c cs, f cur (c :: cs) = if sep c then cur :: f [] cs else f (cur ++ [c]) cs

/-- such a function is `pieces`, with what it carries in front of the first piece -/
theorem acc_pieces {f : List α → List α → List (List α)} (h : IsPieces sep f) (cur s : List α) :
    f cur s = onHead cur (pieces sep s) := by
  induction s generalizing cur with
  | nil => simp [h.1, pieces]
  | cons c cs ih =>
    rw [h.2, pieces]
    split
    · simp [ih]
    · simp [ih]

/-! ## readers of lines

`f cur s` reads `s` with `cur` already read; at a separator `c` it gives out `emit cur c`, at the end `fin cur`. -/
section reader
variable {β : Type} {f : List α → List α → List β} {emit : List α → α → β} {fin : List α → List β}

theorem acc_cut (h1 : ∀ cur c cs, f cur (c :: cs) = if sep c then emit cur c :: f [] cs else f (cur ++ [c]) cs)
    {l : List α} (hl : Free sep l) {c : α} (hc : sep c = true) (cur r : List α) :
    f cur (l ++ c :: r) = emit (cur ++ l) c :: f [] r := by
  induction l generalizing cur with
  | nil => simp [h1, hc]
  | cons x xs ih => simp [h1, hl x (by simp), ih (fun y hy => hl y (by simp [hy]))]

/-- a text of terminated lines is read back line by line -/
theorem acc_terminated (h0 : ∀ cur, f cur [] = fin cur)
    (h1 : ∀ cur c cs, f cur (c :: cs) = if sep c then emit cur c :: f [] cs else f (cur ++ [c]) cs)
    {c : α} (hc : sep c = true) (ls : List (List α)) (h : ∀ l ∈ ls, Free sep l) :
    f [] (ls.flatMap (· ++ [c])) = ls.map (emit · c) ++ fin [] := by
  induction ls with
  | nil => simp [h0]
  | cons l r ih =>
    rw [List.flatMap_cons, List.append_assoc, List.singleton_append, acc_cut h1 (h l (by simp)) hc,
      ih fun x hx => h x (by simp [hx])]
    simp

end reader

/-! ## joining -/

def join (d : List α) : List (List α) → List α
  | [] => []
  | [x] => x
  | x :: y :: rest => x ++ d ++ join d (y :: rest)

theorem join_cons {d x : List α} {l : List (List α)} (h : l ≠ []) : join d (x :: l) = x ++ d ++ join d l := by
  cases l with
  | nil => exact absurd rfl h
  | cons => rfl

theorem join_terminated (c : α) {ls : List (List α)} (hne : ls ≠ []) : join [c] ls ++ [c] = ls.flatMap (· ++ [c]) := by
  induction ls with
  | nil => exact absurd rfl hne
  | cons l r ih =>
    cases r with
    | nil => simp [join]
    | cons l' r' => rw [join_cons (by simp), List.append_assoc, ih (by simp)]; simp

theorem pieces_terminated {c : α} (hc : sep c = true) (ls : List (List α)) (h : ∀ l ∈ ls, Free sep l) :
    pieces sep (ls.flatMap (· ++ [c])) = ls ++ [[]] := by
  induction ls with
  | nil => rfl
  | cons l r ih =>
    rw [List.flatMap_cons, List.append_assoc, List.singleton_append, pieces_cut (h l (by simp)) hc,
      ih fun x hx => h x (by simp [hx]), List.cons_append]

theorem pieces_join {c : α} (hc : sep c = true) {ls : List (List α)} (hne : ls ≠ []) (h : ∀ l ∈ ls, Free sep l) :
    pieces sep (join [c] ls) = ls := by
  induction ls with
  | nil => exact absurd rfl hne
  | cons l r ih =>
    cases r with
    | nil => exact pieces_free (h l (by simp))
    | cons l' r' =>
      rw [join_cons (by simp), List.append_assoc, List.singleton_append, pieces_cut (h l (by simp)) hc,
        ih (by simp) fun x hx => h x (by simp [hx])]

/-! ## tokens -/

/-- the non-empty pieces: the maximal runs of non-separators -/
def tokens (sep : α → Bool) (s : List α) : List (List α) := (pieces sep s).filter (!·.isEmpty)

theorem Blank.nil : Blank sep [] := nofun

theorem Gap.nil : Gap sep [] := by simp [Gap]

theorem Gap.cons {c : α} (hc : sep c = true) (r : List α) : Gap sep (c :: r) := by simpa [Gap] using hc

theorem Blank.toGap {b : List α} (h : Blank sep b) : Gap sep b := fun x hx => h x (List.mem_of_mem_head? hx)

theorem Blank.gap {b : List α} (h : Blank sep b) (hne : b ≠ []) (r : List α) : Gap sep (b ++ r) := by
  cases b with
  | nil => exact absurd rfl hne
  | cons c cs => exact h.toGap

theorem tokens_nil : tokens sep [] = [] := rfl

theorem tokens_blank_append {b : List α} (hb : Blank sep b) (r : List α) : tokens sep (b ++ r) = tokens sep r := by
  induction b with
  | nil => rfl
  | cons c cs ih =>
    rw [List.cons_append, tokens, pieces_cons_sep (hb c (by simp))]
    exact ih fun x hx => hb x (by simp [hx])

theorem tokens_blank {b : List α} (hb : Blank sep b) : tokens sep b = [] := by
  simpa [tokens_nil] using tokens_blank_append hb []

theorem tokens_word_append {w : List α} (hw : Word sep w) {r : List α} (hr : Gap sep r) :
    tokens sep (w ++ r) = w :: tokens sep r := by
  have hne : w.isEmpty = false := by simpa using hw.1
  cases r with
  | nil => simp [tokens, pieces_free hw.2, hne, pieces]
  | cons c cs =>
    have hc := hr c (by simp)
    simp [tokens, pieces_cut hw.2 hc, pieces_cons_sep hc, hne]

theorem tokens_word {w : List α} (hw : Word sep w) : tokens sep w = [w] := by
  simpa [tokens_nil] using tokens_word_append hw Gap.nil

theorem tokens_word_blank {w b : List α} (hw : Word sep w) (hb : Blank sep b) : tokens sep (w ++ b) = [w] := by
  rw [tokens_word_append hw hb.toGap, tokens_blank hb]

theorem tokens_word_gap {w g : List α} (hw : Word sep w) (hg : Blank sep g) (hne : g ≠ []) (r : List α) :
    tokens sep (w ++ (g ++ r)) = w :: tokens sep r := by
  rw [tokens_word_append hw (hg.gap hne r), tokens_blank_append hg]

/-- words with blanks in front of each, and blanks at the end -/
def Spaced (sep : α → Bool) (ws : List (List α × List α)) (pad : List α) : Prop :=
  (∀ q ∈ ws, Blank sep q.1 ∧ q.1 ≠ [] ∧ Word sep q.2) ∧ Blank sep pad

section spaced
variable {ws : List (List α × List α)} {pad : List α}

theorem Spaced.tail {q : List α × List α} (h : Spaced sep (q :: ws) pad) : Spaced sep ws pad :=
  ⟨fun q' hq => h.1 q' (List.mem_cons_of_mem _ hq), h.2⟩

theorem Spaced.gap (h : Spaced sep ws pad) : Gap sep ((ws.flatMap fun q => q.1 ++ q.2) ++ pad) := by
  cases ws with
  | nil => simpa using h.2.toGap
  | cons q r => simpa using (h.1 q (by simp)).1.gap (h.1 q (by simp)).2.1 _

theorem tokens_spaced (h : Spaced sep ws pad) : tokens sep ((ws.flatMap fun q => q.1 ++ q.2) ++ pad) = ws.map (·.2) := by
  induction ws with
  | nil => simpa using tokens_blank h.2
  | cons q r ih =>
    obtain ⟨hb, -, hw⟩ := h.1 q (by simp)
    rw [List.flatMap_cons, List.append_assoc, List.append_assoc, tokens_blank_append hb,
      tokens_word_append hw h.tail.gap, ih h.tail]
    rfl

/-- a printed line: blanks, a word, more words each behind blanks, blanks -/
theorem tokens_line {pad1 first : List α} (h1 : Blank sep pad1) (hf : Word sep first) (h : Spaced sep ws pad) :
    tokens sep (pad1 ++ (first ++ ((ws.flatMap fun q => q.1 ++ q.2) ++ pad))) = first :: ws.map (·.2) := by
  rw [tokens_blank_append h1, tokens_word_append hf h.gap, tokens_spaced h]

end spaced

/-- the two equations of a splitter for words that carries the word being read -/
def IsTokens (sep : α → Bool) (f : List α → List α → List (List α)) : Prop :=
  (∀ cur, f cur [] = if cur.isEmpty then [] else [cur]) ∧ ∀ cur c cs, f cur (c :: cs)
    = if sep c then (if cur.isEmpty then f [] cs else cur :: f [] cs) else f (cur ++ [c]) cs

/-- such a function gives the non-empty pieces, with what it carries in front of the first piece -/
theorem acc_tokens {f : List α → List α → List (List α)} (h : IsTokens sep f) (cur s : List α) :
    f cur s = (onHead cur (pieces sep s)).filter (!·.isEmpty) := by
  induction s generalizing cur with
  | nil => cases cur <;> simp [h.1, pieces]
  | cons c cs ih =>
    rw [h.2, pieces]
    split
    · cases cur <;> simp [ih]
    · simp [ih]

theorem acc_tokens_nil {f : List α → List α → List (List α)} (h : IsTokens sep f) (s : List α) :
    f [] s = tokens sep s := by
  simp [acc_tokens h, tokens]

/-- with a word begun, the text goes on as if that word stood in front of it -/
theorem acc_tokens_cur {f : List α → List α → List (List α)} (h : IsTokens sep f) {cur : List α} (hc : Free sep cur)
    (s : List α) : f cur s = tokens sep (cur ++ s) := by
  rw [acc_tokens h, tokens, pieces_append hc]

/-- the same for a function that carries the word reversed -/
theorem acc_tokens_rev {g : List α → List α → List (List α)}
    (h0 : ∀ cur, g cur [] = if cur.isEmpty then [] else [cur.reverse])
    (h1 : ∀ cur c cs, g cur (c :: cs)
      = if sep c then (if cur.isEmpty then g [] cs else cur.reverse :: g [] cs) else g (c :: cur) cs) (s : List α) :
    g [] s = tokens sep s := by
  simpa using acc_tokens_nil (sep := sep) (f := fun cur s => g cur.reverse s) ⟨by simp [h0], by simp [h1]⟩ s

/-! ## strip -/

def stripR (p : α → Bool) (s : List α) : List α := (s.reverse.dropWhile p).reverse

theorem stripR_append_blank (k : List α) {b : List α} (hb : Blank p b) : stripR p (k ++ b) = stripR p k := by
  simp [stripR, List.dropWhile_append_of_pos (l₁ := b.reverse) (by simpa [Blank] using hb)]

theorem stripR_blank {b : List α} (hb : Blank p b) : stripR p b = [] := by
  simpa [stripR] using stripR_append_blank [] hb

/-- what stands in front stays when the stripping stops inside `r` or at the last character of `a` -/
theorem stripR_prepend (a : List α) {r : List α} (h : stripR p r ≠ [] ∨ ∀ c ∈ a.getLast?, p c = false) :
    stripR p (a ++ r) = a ++ stripR p r := by
  simp only [stripR, List.reverse_append, List.dropWhile_append]
  split
  next he =>
    -- all of `r` goes
    have ha : ∀ c ∈ a.getLast?, p c = false := h.resolve_left (by simpa [stripR] using he)
    rw [dropWhile_head (by simpa [List.head?_reverse] using ha)]
    simpa using he
  next => simp

theorem stripR_of_last {k : List α} (hk : ∀ c ∈ k.getLast?, p c = false) : stripR p k = k := by
  simpa [stripR] using stripR_prepend (r := []) k (.inr hk)

theorem stripR_cons {c : α} (hc : p c = false) (r : List α) : stripR p (c :: r) = c :: stripR p r :=
  stripR_prepend [c] (.inr (by simpa using hc))

theorem stripR_append {w : List α} (hw : Free p w) (r : List α) : stripR p (w ++ r) = w ++ stripR p r :=
  stripR_prepend w (.inr fun c hc => hw c (List.mem_of_getLast? hc))

theorem stripR_append_of_ne_nil (a : List α) {r : List α} (h : stripR p r ≠ []) : stripR p (a ++ r) = a ++ stripR p r :=
  stripR_prepend a (.inl h)

/-- what goes is a run of blanks, and what stays does not end in one -/
theorem stripR_spec (s : List α) : (∃ b, s = stripR p s ++ b ∧ Blank p b) ∧ ∀ c ∈ (stripR p s).getLast?, p c = false := by
  refine ⟨⟨(s.reverse.takeWhile p).reverse, ?_, fun x hx => mem_takeWhile_pos (List.mem_reverse.mp hx)⟩, ?_⟩
  · rw [stripR, ← List.reverse_append, List.takeWhile_append_dropWhile, List.reverse_reverse]
  · intro c hc
    rw [stripR, List.getLast?_reverse] at hc
    have := List.head?_dropWhile_not p s.reverse
    rw [Option.mem_def.mp hc] at this
    exact this

theorem stripR_idem (s : List α) : stripR p (stripR p s) = stripR p s := stripR_of_last (stripR_spec s).2

/-! ## literal replacement (`s.replace(pat, rep)`: left to right, non-overlapping) -/
section literal
variable [BEq α]

/-- `skip`: characters of a match still to be dropped -/
def replGo (pat rep : List α) : Nat → List α → List α
  | _, [] => []
  | skip + 1, _ :: xs => replGo pat rep skip xs
  | 0, x :: xs => if pat.isPrefixOf (x :: xs) then rep ++ replGo pat rep (pat.length - 1) xs else x :: replGo pat rep 0 xs

def replace (pat rep s : List α) : List α := replGo pat rep 0 s

theorem replGo_skip (pat rep ds rest : List α) : replGo pat rep ds.length (ds ++ rest) = replGo pat rep 0 rest := by
  induction ds with
  | nil => rfl
  | cons y ys ih => simpa [replGo] using ih

variable [LawfulBEq α]

/-- a stretch without the first character of the pattern is passed on -/
theorem replace_free {d : α} {pat' t : List α} (rep : List α) (ht : d ∉ t) (x : List α) :
    replace (d :: pat') rep (t ++ x) = t ++ replace (d :: pat') rep x := by
  induction t with
  | nil => rfl
  | cons c cs ih =>
    have hc : (d == c) = false := beq_eq_false_iff_ne.mpr fun e => ht (e ▸ List.mem_cons_self ..)
    simpa [replace, replGo, List.isPrefixOf, hc] using ih fun m => ht (List.mem_cons_of_mem _ m)

theorem replace_absent {pat rep s : List α} {d : α} (hp : pat.head? = some d) (h : d ∉ s) : replace pat rep s = s := by
  obtain ⟨pat', rfl⟩ := List.head?_eq_some_iff.mp hp
  simpa [replace, replGo] using replace_free rep h []

theorem replace_prefix {pat : List α} (hp : pat ≠ []) (rep rest : List α) :
    replace pat rep (pat ++ rest) = rep ++ replace pat rep rest := by
  cases pat with
  | nil => exact absurd rfl hp
  | cons c ps =>
    have := isPrefixOf_append_self (c :: ps) rest
    rw [replace, replace, List.cons_append] at *
    rw [replGo, if_pos this]
    simpa using congrArg (rep ++ ·) (replGo_skip (c :: ps) rep ps rest)

end literal

section maps
variable {β γ : Type} {P : List α → List β}

/-- `Maps P s s'`: the pass `P` turns the piece `s`, whatever follows it, into `s'` and goes on behind it.  Pieces are
put together by `Maps.append` and passes by `Maps.comp`, so a pipeline of passes is followed through one piece at a
time and lifted over a whole text once. -/
def Maps (P : List α → List β) (s : List α) (s' : List β) : Prop := ∀ x, P (s ++ x) = s' ++ P x

theorem Maps.nil (P : List α → List β) : Maps P [] [] := fun _ => rfl

theorem Maps.append {a b : List α} {a' b' : List β} (h1 : Maps P a a') (h2 : Maps P b b') : Maps P (a ++ b) (a' ++ b') :=
  fun x => by rw [List.append_assoc, h1, h2, List.append_assoc]

theorem Maps.comp {Q : List β → List γ} {s : List α} {s' : List β} {s'' : List γ} (h1 : Maps P s s') (h2 : Maps Q s' s'') :
    Maps (Q ∘ P) s s'' := fun x => by simp only [Function.comp, h1 x, h2 (P x)]

theorem Maps.flatMap {ι : Type} {f : ι → List α} {g : ι → List β} {xs : List ι} (h : ∀ x ∈ xs, Maps P (f x) (g x)) :
    Maps P (xs.flatMap f) (xs.flatMap g) := flatMap_rel (R := Maps P) (Maps.nil P) Maps.append h

theorem Maps.whole {s : List α} {s' : List β} (h : Maps P s s') (h0 : P [] = []) : P s = s' := by
  simpa [h0] using h []

end maps

end EupsModel.Text
