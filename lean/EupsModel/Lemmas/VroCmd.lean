import EupsModel.Lemmas.VroDefault
/-! `eups vro ARGS` reports the VRO `setup ARGS` resolves with (default configuration): the second
`selectVRO` of `selectVROTwice`, which starts from the dictionary list the first call modified in
place, leaves the same VRO as a single call. -/
namespace EupsModel.Vro

/-! ## the tags placed a second time -/

/-- the list the second `selectVRO` of `eups vro` builds: the dictionary's list already holds `keep`
and the -t tags, and they are put in once more -/
def placedTwice (keep : Bool) (tags post : List Str) : List Str :=
  keepPart keep ++ keepPart keep ++ [kTypeExact, kCommandLine] ++ tags ++ tags ++ [kVersion, kVersionExpr] ++ post
    ++ [kCurrent]

theorem placeTags_again {c : VroCfg} (keep : Bool) {tags : List Str} (post : List Str)
    (ht : ∀ t ∈ tags, GoodTag c t) :
    placeTags keep (placed keep tags []) tags post = .ok (placedTwice keep tags post) := by
  have e : placed keep tags [] = keepPart keep ++ [kTypeExact, kCommandLine] ++ tags ++ [kVersion, kVersionExpr, kCurrent] := by
    simp [placed]
  rw [e, placeTags_head keep (keepPart keep) tags tags post]
  · rfl
  · intro x hx
    have h1 : (x == kCommandLine) = false := by
      apply Bool.eq_false_iff.mpr; intro h
      exact (ht x hx).ne_pseudo (k := kCommandLine) (by decide) (by simpa using h)
    simp [h1, (ht x hx).isType]

theorem uniqFirst_placedTwice (keep : Bool) (tags post : List Str) :
    uniqFirst (placedTwice keep tags post) = uniqFirst (placed keep tags post) := by
  have e1 : placedTwice keep tags post = keepPart keep ++ keepPart keep ++
      ([kTypeExact, kCommandLine] ++ tags ++ tags ++ [kVersion, kVersionExpr] ++ post ++ [kCurrent]) := by
    simp [placedTwice]
  have e2 : keepPart keep ++ ([kTypeExact, kCommandLine] ++ tags ++ tags ++ [kVersion, kVersionExpr] ++ post ++ [kCurrent])
      = (keepPart keep ++ [kTypeExact, kCommandLine] ++ tags) ++ tags ++ ([kVersion, kVersionExpr] ++ post ++ [kCurrent]) := by
    simp
  rw [e1, uniqFirst_dup _ _ _ (fun x hx => hx), e2, uniqFirst_dup _ tags _ (fun x hx => by simp [hx])]
  simp [placed]

/-! ## `eups vro` = `setup` -/

/-- the state a first `selectVRO` with the same -t tags left behind -/
def afterFirst (c : VroCfg) (tags : List Str) (e : Bool) (pp : List Str) : VroCfg :=
  { c with vroDict := [(kDefault, .flat (placed c.keep tags []))], exact := e, cmdTags := tags, prevPreferred := pp }

theorem selectVRO_second (c : VroCfg) (dc : DefaultCfg c) (a : VroArgs) (e : Bool) (pp : List Str)
    (ht : ∀ t ∈ a.tags, GoodTag c t) (hp : ∀ t ∈ a.postTags, GoodTag c t) :
    selectVRO (afterFirst c a.tags e pp) a = .ok
      { vro := inexF a.inexact (uniqFirst (placed c.keep a.tags a.postTags)),
        exact := e || (inexF a.inexact (uniqFirst (placed c.keep a.tags a.postTags))).contains kTypeExact,
        cmdTags := a.tags, dict' := [(kDefault, .flat (placedTwice c.keep a.tags a.postTags))] } :=
  selectVRO_placed_eq (c' := afterFirst c a.tags e pp) dc rfl rfl a ht hp rfl (.inr rfl) (placeTags_again c.keep a.postTags ht)
    (uniqFirst_placedTwice c.keep a.tags a.postTags)

theorem selectVROTwice_vro_eq (c : VroCfg) (dc : DefaultCfg c) (a : VroArgs)
    (ht : ∀ t ∈ a.tags, GoodTag c t) (hp : ∀ t ∈ a.postTags, GoodTag c t) :
    (selectVROTwice c a).map (·.vro) = (selectVRO c a).map (·.vro) := by
  have h1 := selectVRO_default_eq c dc { a with versionName := false, inexact := false, postTags := [] } ht
    (fun t h => by cases h)
  have hS := selectVRO_default_eq c dc a ht hp
  unfold selectVROTwice
  rw [h1, hS]
  exact congrArg (Except.map (·.vro)) (selectVRO_second c dc a _ _ ht hp)

/-! ## the two commands -/

/-- what the two commands receive after `_processDefaultTags` is made of good tags -/
def GoodCli (c : VroCfg) (d : DefaultTags) (k : CliCmd) : Prop :=
  let tp := processDefaultTags c.userVRO d (cliTags k.toks) (cliPostInOrder k.toks)
  (∀ t ∈ tp.1, GoodTag c t) ∧ (∀ t ∈ tp.2, GoodTag c t)

theorem vroCmd_eq_setupCmdVro (c : VroCfg) (dc : DefaultCfg c) (d : DefaultTags) (k : CliCmd)
    (hg : GoodCli c d k) :
    (vroCmd c d k).map (·.vro) = (setupCmdVro c d k).map (·.vro) := by
  obtain ⟨h1, h2⟩ := hg
  unfold vroCmd setupCmdVro
  exact selectVROTwice_vro_eq { c with exact := k.exact } (defaultCfg_exact dc k.exact) _
    (fun t h => goodTag_exact (h1 t h) k.exact) (fun t h => goodTag_exact (h2 t h) k.exact)

/-! ## an example configuration, and the two command lines on which the pinned `eups vro` (before fixes D90, D91) disagrees with `setup` -/

/-- the configuration of hooks.py with global tags `current stable beta`, a fresh instance -/
def cmdCfg : VroCfg := gCfg [(kDefault, .flat defaultBase)] false false [kCurrent, gStable, gBeta] []
def noDefaultTags : DefaultTags := ⟨[], []⟩

theorem cmdCfg_default : DefaultCfg cmdCfg := ⟨rfl, rfl, rfl, by decide, disjoint_of_forall (by decide)⟩

theorem cmdCfg_good {l : List Str} (h : ∀ t ∈ l, t ∈ [kCurrent, gStable, gBeta]) : ∀ t ∈ l, GoodTag cmdCfg t := by
  intro t ht
  have := h t ht
  simp only [List.mem_cons, List.not_mem_nil, or_false] at this
  rcases this with rfl | rfl | rfl <;> exact ⟨by decide, by decide, by decide, by decide⟩

/-- `eups vro -t None p` -/
def cmdNone : CliCmd := { toks := [.tag kNone], version := false, exact := false, dbz := none }
/-- `eups vro -c -T beta p 1.0` -/
def cmdCurrentBeta : CliCmd := { toks := [.current, .postTag gBeta], version := true, exact := false, dbz := none }

/-- the pinned command (`C03_vro_cmd_pinned_witness`) is not covered by the theorem because its *first* call is given `None`,
which is not a registered tag (the hypothesis `GoodCli` is about what both calls of the fixed command receive) -/
example : ¬ GoodTag cmdCfg kNone := fun g => by
  have := g.global
  revert this; decide

/-! ## non-vacuity -/

/-- `-t beta -c -T stable p 1.0` -/
def cmdBetaCurrentStable (exact : Bool) : CliCmd :=
  { toks := [.tag gBeta, .current, .postTag gStable], version := true, exact := exact, dbz := none }

theorem goodCli_of_eq {c : VroCfg} {d : DefaultTags} {k : CliCmd} {T P : List Str}
    (h : processDefaultTags c.userVRO d (cliTags k.toks) (cliPostInOrder k.toks) = (T, P))
    (hT : ∀ t ∈ T, GoodTag c t) (hP : ∀ t ∈ P, GoodTag c t) : GoodCli c d k := by
  unfold GoodCli
  rw [h]
  exact ⟨hT, hP⟩

theorem goodCli_betaCurrentStable (e : Bool) : GoodCli cmdCfg noDefaultTags (cmdBetaCurrentStable e) :=
  goodCli_of_eq (T := [gBeta]) (P := [kCurrent, gStable]) rfl
    (cmdCfg_good (by decide)) (cmdCfg_good (by decide))

example : (vroCmd cmdCfg noDefaultTags (cmdBetaCurrentStable false)).map (·.vro)
    = .ok [kTypeExact, kCommandLine, gBeta, kVersion, kVersionExpr, kCurrent, gStable] := by decide +kernel
example : (vroCmd cmdCfg noDefaultTags (cmdBetaCurrentStable true)).map (·.vro)
    = .ok [kTypeExact, kCommandLine, gBeta, kVersion, kVersionExpr, kCurrent, gStable] := by decide +kernel
example (e : Bool) : (vroCmd cmdCfg noDefaultTags (cmdBetaCurrentStable e)).map (·.vro)
    = (setupCmdVro cmdCfg noDefaultTags (cmdBetaCurrentStable e)).map (·.vro) :=
  vroCmd_eq_setupCmdVro _ cmdCfg_default _ _ (goodCli_betaCurrentStable e)

/-- default tags `pre := [beta]`: `-t None` switches them off (nothing is left to check) ... -/
def betaDefault : DefaultTags := ⟨[gBeta], []⟩

theorem goodCli_none : GoodCli cmdCfg betaDefault cmdNone :=
  goodCli_of_eq (T := []) (P := []) rfl (fun t h => by cases h) (fun t h => by cases h)

example : (vroCmd cmdCfg betaDefault cmdNone).map (·.vro)
    = .ok [kTypeExact, kCommandLine, kVersion, kVersionExpr, kCurrent] := by decide +kernel

/-- ... and without `-t` / `-T` they are used -/
def cmdPlain : CliCmd := { toks := [], version := false, exact := false, dbz := none }

theorem goodCli_plain : GoodCli cmdCfg betaDefault cmdPlain :=
  goodCli_of_eq (T := [gBeta]) (P := []) rfl
    (cmdCfg_good (by decide)) (cmdCfg_good (by decide))

example : (vroCmd cmdCfg betaDefault cmdPlain).map (·.vro)
    = .ok [kTypeExact, kCommandLine, gBeta, kVersion, kVersionExpr, kCurrent] := by decide +kernel

/-- `--keep` on the instance: the first call leaves `keep` in the dictionary's list, the second puts
another one in front; the duplicate is dropped -/
example : (selectVROTwice { cmdCfg with keep := true } (gArgs [gBeta] [gStable] none)).map (·.vro)
    = .ok [kKeep, kTypeExact, kCommandLine, gBeta, kVersion, kVersionExpr, gStable, kCurrent] := by decide +kernel

end EupsModel.Vro
