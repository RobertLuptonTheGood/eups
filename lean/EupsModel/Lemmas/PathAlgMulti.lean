import EupsModel.Lemmas.PathAlg
import EupsModel.Lemmas.Str
/-! `split`/`join` for literal delimiters of any length (`":"`, `"::"`), and `envPrepend` in one statement
(`envPrepend_core`): by what `expand` makes of the text between the delimiters written around the value (`core`); on
well-formed values it is `join ∘ applyL ∘ split` on the pieces with the written delimiters put back (`reattach`,
`envPrepend_flagged`, `envPrepend_flagged_vals`). -/
namespace EupsModel.PathAlg

theorem splitGo_cons_ne (c x : Nat) (ds cur xs : Str) (h : x ≠ c) :
    splitGo (c :: ds) 0 cur (x :: xs) = splitGo (c :: ds) 0 (x :: cur) xs := by
  simp [splitGo, isPrefixOf_head_ne c x ds xs h]

theorem splitGo_skip (d ds cur rest : Str) :
    splitGo d ds.length cur (ds ++ rest) = splitGo d 0 cur rest := by
  induction ds with
  | nil => simp
  | cons y ys ih => simp [splitGo, ih]

theorem splitGo_sep (c : Nat) (ds cur rest : Str) :
    splitGo (c :: ds) 0 cur ((c :: ds) ++ rest) = cur.reverse :: splitGo (c :: ds) 0 [] rest := by
  have hp : (c :: ds).isPrefixOf (c :: (ds ++ rest)) = true :=
    isPrefixOf_append_self (c :: ds) rest
  rw [List.cons_append, splitGo, if_pos hp]
  simp only [List.length_cons, Nat.add_sub_cancel]
  rw [splitGo_skip]

theorem splitGo_pre_multi (c : Nat) (ds t rest cur : Str) (h : c ∉ t) :
    splitGo (c :: ds) 0 cur (t ++ rest) = splitGo (c :: ds) 0 (t.reverse ++ cur) rest := by
  induction t generalizing cur with
  | nil => simp
  | cons x xs ih =>
    obtain ⟨hx, hxs⟩ := List.ne_and_not_mem_of_not_mem_cons h
    rw [List.cons_append, splitGo_cons_ne c x ds cur _ hx.symm, ih _ hxs]
    simp

/-- `d.join(l).split(d) == l` needs no more than that no piece holds the FIRST character of the delimiter -/
theorem split_join_multi (c : Nat) (ds : Str) (l : List Str) (hne : l ≠ []) (h : ∀ e ∈ l, c ∉ e) :
    split (c :: ds) (join (c :: ds) l) = l := by
  unfold split
  induction l with
  | nil => exact absurd rfl hne
  | cons x rest ih =>
    cases rest with
    | nil =>
      have := splitGo_pre_multi c ds x [] [] (h x (by simp))
      simp only [List.append_nil] at this
      simp [join, this, splitGo_nil]
    | cons y rest' =>
      have hx : c ∉ x := h x (by simp)
      have ih' := ih (by simp) (fun e he => h e (by simp [he]))
      simp only [join, List.append_assoc]
      rw [splitGo_pre_multi c ds x _ [] hx]
      simp only [List.append_nil]
      rw [splitGo_sep, ih']
      simp

/-- … and does need it: `["a:", "b"]` joins with `"::"` to `"a:::b"`, which Python (and the model) splits at the
first `"::"` into `["a", ":b"]` -/
theorem split_join_multi_witness_ne :
    split [58, 58] (join [58, 58] [[97, 58], [98]]) ≠ [[97, 58], [98]] := by decide

example : split [58, 58] (Str.ofString "/a::/b::/c") = [Str.ofString "/a", Str.ofString "/b", Str.ofString "/c"] := by
  decide_lit

example : GoodPieceD [58, 58] (Str.ofString "/opt/bin") := by unfold GoodPieceD; decide_lit
example : ¬ GoodPieceD [58, 58] (Str.ofString "a:") := by unfold GoodPieceD; decide_lit

theorem split_nil (d : Str) : split d [] = [[]] := by simp [split, splitGo]

theorem split_join_oldD (d : Str) (hd : d ≠ []) (l : List Str) (hne : l ≠ [])
    (h : ∀ e ∈ l, OldPieceD d e) : split d (join d l) = l := by
  cases d with
  | nil => exact absurd rfl hd
  | cons c ds => exact split_join_multi c ds l hne (fun e he => (h e he).2 c (by simp))

theorem split_join_filter_oldD (d : Str) (hd : d ≠ []) (l : List Str) (h : ∀ e ∈ l, OldPieceD d e) :
    (split d (join d l)).filter (fun el => decide (el ≠ [])) = l := by
  cases l with
  | nil => simp [join, split_nil]
  | cons a rest =>
    rw [split_join_oldD d hd _ (by simp) h]
    apply List.filter_eq_self.mpr
    intro e he
    simpa using (h e he).1

theorem not_mem_join_multi (d : Str) (x : Nat) (l : List Str) (hx : x ∉ d) (h : ∀ e ∈ l, x ∉ e) :
    x ∉ join d l := by
  induction l with
  | nil => simp [join]
  | cons a rest ih =>
    cases rest with
    | nil => simpa [join] using h a (by simp)
    | cons b rest' =>
      have := ih (fun e he => h e (by simp [he]))
      simp only [join, List.mem_append, not_or]
      exact ⟨⟨h a (by simp), hx⟩, this⟩

theorem no_dollar_join_goodD (d : Str) (hd36 : 36 ∉ d) (l : List Str) (h : ∀ e ∈ l, GoodPieceD d e) :
    36 ∉ join d l :=
  not_mem_join_multi d 36 l hd36 (fun e he => (h e he).2.2)

theorem startsWith_cons_not_mem (d : Str) (hd : d ≠ []) (x : Nat) (post : Str) (hx : x ∉ d) :
    startsWith (x :: post) d = false := by
  cases d with
  | nil => exact absurd rfl hd
  | cons c ds => exact isPrefixOf_head_ne c x ds post (fun e => hx (by simp [e]))

theorem endsWith_snoc_not_mem (d : Str) (hd : d ≠ []) (p : Str) (x : Nat) (hx : x ∉ d) :
    endsWith (p ++ [x]) d = false := by
  have hdr : d.reverse ≠ [] := by simpa using hd
  have hxr : x ∉ d.reverse := by simpa using hx
  have := startsWith_cons_not_mem d.reverse hdr x p.reverse hxr
  simpa [endsWith, startsWith] using this

theorem startsWith_not_mem (c : Nat) (s : Str) (h : c ∉ s) : startsWith s [c] = false := isPrefixOf_not_mem [] h

theorem endsWith_not_mem (c : Nat) (s : Str) (h : c ∉ s) : endsWith s [c] = false := by
  have h' : c ∉ s.reverse := by simpa using h
  simpa [endsWith, startsWith] using startsWith_not_mem c s.reverse h'

theorem join_cons_ne_multi (d a : Str) (rest : List Str) (hr : rest ≠ []) :
    join d (a :: rest) = a ++ d ++ join d rest := by
  cases rest with
  | nil => exact absurd rfl hr
  | cons b r => simp [join]

theorem head_join_oldD (d : Str) (l : List Str) (hne : l ≠ []) (h : ∀ e ∈ l, OldPieceD d e) :
    ∃ x post, join d l = x :: post ∧ x ∉ d := by
  cases l with
  | nil => exact absurd rfl hne
  | cons a rest =>
    obtain ⟨hane, hac⟩ := h a (by simp)
    cases a with
    | nil => exact absurd rfl hane
    | cons x xs =>
      have hx : x ∉ d := fun hm => hac x hm (by simp)
      cases rest with
      | nil => exact ⟨x, xs, by simp [join], hx⟩
      | cons b r => exact ⟨x, xs ++ d ++ join d (b :: r), by simp [join], hx⟩

theorem getLast_join_oldD (d : Str) (l : List Str) (hne : l ≠ []) (h : ∀ e ∈ l, OldPieceD d e) :
    ∃ pre x, join d l = pre ++ [x] ∧ x ∉ d := by
  induction l with
  | nil => exact absurd rfl hne
  | cons a rest ih =>
    cases rest with
    | nil =>
      have ha := h a (by simp)
      refine ⟨a.dropLast, a.getLast ha.1, ?_, ?_⟩
      · simp [join, List.dropLast_concat_getLast]
      · intro hm; exact ha.2 _ hm (List.getLast_mem ha.1)
    | cons b r =>
      obtain ⟨pre, x, hp, hx⟩ := ih (by simp) (fun e he => h e (by simp [he]))
      refine ⟨a ++ d ++ pre, x, ?_, hx⟩
      rw [join_cons_ne_multi d a (b :: r) (by simp), hp]; simp

theorem startsWith_append_self (d s : Str) : startsWith (d ++ s) d = true :=
  isPrefixOf_append_self d s

theorem endsWith_append_self (s d : Str) : endsWith (s ++ d) d = true := by
  unfold endsWith
  rw [List.reverse_append]
  exact isPrefixOf_append_self d.reverse s.reverse

theorem startsWith_flaggedD_old (d : Str) (hd : d ≠ []) (pre app : Bool) (l : List Str) (hne : l ≠ [])
    (h : ∀ e ∈ l, OldPieceD d e) : startsWith (flaggedD d pre app (join d l)) d = pre := by
  obtain ⟨x, post, hp, hx⟩ := head_join_oldD d l hne h
  rw [hp]
  cases pre
  · exact startsWith_cons_not_mem d hd x (post ++ if app then d else []) hx
  · have : flaggedD d true app (x :: post) = d ++ (x :: post ++ (if app then d else [])) := by
      simp [flaggedD]
    rw [this]; exact startsWith_append_self d _

theorem endsWith_flaggedD_old (d : Str) (hd : d ≠ []) (pre app : Bool) (l : List Str) (hne : l ≠ [])
    (h : ∀ e ∈ l, OldPieceD d e) : endsWith (flaggedD d pre app (join d l)) d = app := by
  obtain ⟨p, x, hp, hx⟩ := getLast_join_oldD d l hne h
  rw [hp]
  cases app
  · have : flaggedD d pre false (p ++ [x]) = ((if pre then d else []) ++ p) ++ [x] := by
      simp [flaggedD]
    rw [this]; exact endsWith_snoc_not_mem d hd _ x hx
  · exact endsWith_append_self _ d

theorem drop_flaggedD (d : Str) (pre app : Bool) (v : Str) :
    (if pre then (flaggedD d pre app v).drop d.length else flaggedD d pre app v) = flaggedD d false app v := by
  cases pre <;> simp [flaggedD]

/-- what `envPrepend` does to the joined list before it stores it: a delimiter that was written around the value is
put back unless it is there already -/
def reattach (d : Str) (pre app : Bool) (s : Str) : Str :=
  let s := if pre && !startsWith s d then d ++ s else s
  if app && !endsWith s d then s ++ d else s

/-- the text between the delimiters written around a value: what `execute_envPrepend` expands, and what `exec` looks
at to see whether the action returns early -/
def core (d value : Str) : Str :=
  let value := if startsWith value d then value.drop d.length else value
  if endsWith value d then value.take (value.length - d.length) else value

theorem core_plain (d value : Str) (hsw : startsWith value d = false) (hew : endsWith value d = false) :
    core d value = value := by
  simp [core, hsw, hew]

theorem core_flaggedD (d : Str) (pre app : Bool) (c : Str) (hsw : startsWith (flaggedD d pre app c) d = pre)
    (hew : endsWith (flaggedD d false app c) d = app) : core d (flaggedD d pre app c) = c := by
  unfold core
  simp only [hsw, drop_flaggedD, hew]
  cases app <;> simp [flaggedD]

@[simp] theorem flaggedD_none (d v : Str) : flaggedD d false false v = v := by simp [flaggedD]

@[simp] theorem reattach_none (d s : Str) : reattach d false false s = s := by simp [reattach]

/-- `execute_envPrepend` in one statement, by what `expand` makes of the core of the value; nothing is assumed of the
stored value or of the delimiter. -/
theorem envPrepend_core (append fwd : Bool) (var value d : Str) (env : Env) :
    envPrepend append fwd var value d env =
      (let pre := startsWith value d
       let app := endsWith (if pre then value.drop d.length else value) d
       let store := fun w : Str => Outcome.ok (env.set var (reattach d pre app (join d (applyL append fwd
         (split d (interp env (w.length + 1) w)) ((split d ((env.get var).getD [])).filter (fun el => el ≠ []))))))
       match expand env (core d value) with
       | .value w => store w
       | .skip => .ok env
       | .error => if fwd then .runtimeError else store (core d value)) := by
  unfold envPrepend core reattach
  dsimp only
  cases expand env _ <;> cases fwd <;> rfl

/-- The well-formed case, with or without the MANPATH-style delimiters around the text `txt`: `hsw` and `hew` say
that the delimiters found are the ones written (so `txt` is the core). -/
theorem envPrepend_flagged (d : Str) (hd : d ≠ []) (append fwd pre app : Bool) (var txt w : Str)
    (vals oldl : List Str) (env : Env) (hold : ∀ e ∈ oldl, OldPieceD d e)
    (hsw : startsWith (flaggedD d pre app txt) d = pre) (hew : endsWith (flaggedD d false app txt) d = app)
    (hexp : expand env txt = .value w) (hvals : split d (interp env (w.length + 1) w) = vals)
    (henv : (env.get var).getD [] = join d oldl) :
    envPrepend append fwd var (flaggedD d pre app txt) d env
      = .ok (env.set var (reattach d pre app (join d (applyL append fwd vals oldl)))) := by
  simp only [envPrepend_core, core_flaggedD d pre app txt hsw hew, hsw, drop_flaggedD, hew, henv, hexp, hvals,
    split_join_filter_oldD d hd oldl hold]

theorem envPrepend_of_pieces (d : Str) (hd : d ≠ []) (append fwd : Bool) (var value w : Str)
    (vals oldl : List Str) (env : Env) (hold : ∀ e ∈ oldl, OldPieceD d e)
    (hsw : startsWith value d = false) (hew : endsWith value d = false)
    (hexp : expand env value = .value w) (hvals : split d (interp env (w.length + 1) w) = vals)
    (henv : (env.get var).getD [] = join d oldl) :
    envPrepend append fwd var value d env = .ok (env.set var (join d (applyL append fwd vals oldl))) := by
  have := envPrepend_flagged d hd append fwd false false var value w vals oldl env hold
    (by simpa using hsw) (by simpa using hew) hexp hvals henv
  simpa using this

/-- `envPrepend_flagged` on a value written as `$`-free pieces; `reattach` stays in the statement because in unsetup mode
the list that is stored can be empty -/
theorem envPrepend_flagged_vals (d : Str) (hd : d ≠ []) (append fwd pre app : Bool) (var : Str)
    (vals oldl : List Str) (env : Env) (hvne : vals ≠ [])
    (hold : ∀ e ∈ oldl, OldPieceD d e) (hv : ∀ e ∈ vals, OldPieceD d e) (hnv : 36 ∉ join d vals)
    (henv : (env.get var).getD [] = join d oldl) :
    envPrepend append fwd var (flaggedD d pre app (join d vals)) d env
      = .ok (env.set var (reattach d pre app (join d (applyL append fwd vals oldl)))) :=
  envPrepend_flagged d hd append fwd pre app var _ _ vals oldl env hold
    (startsWith_flaggedD_old d hd pre app vals hvne hv) (endsWith_flaggedD_old d hd false app vals hvne hv)
    (expand_no_dollar env _ hnv) (by rw [interp_no_dollar env _ _ hnv]; exact split_join_oldD d hd vals hvne hv)
    henv

theorem envPrepend_lifts_vals (d : Str) (hd : d ≠ []) (append fwd : Bool) (var : Str)
    (vals oldl : List Str) (env : Env) (hvne : vals ≠ [])
    (hold : ∀ e ∈ oldl, OldPieceD d e) (hv : ∀ e ∈ vals, OldPieceD d e) (hnv : 36 ∉ join d vals)
    (henv : (env.get var).getD [] = join d oldl) :
    envPrepend append fwd var (join d vals) d env
      = .ok (env.set var (join d (applyL append fwd vals oldl))) := by
  simpa using envPrepend_flagged_vals d hd append fwd false false var vals oldl env hvne hold hv hnv henv

theorem envPrepend_lifts_vals_single (c : Nat) (hc : c ≠ 36) (append fwd : Bool) (var : Str)
    (vals oldl : List Str) (env : Env) (hvne : vals ≠ [])
    (hold : ∀ e ∈ oldl, GoodPiece c e) (hv : ∀ e ∈ vals, GoodPiece c e)
    (henv : (env.get var).getD [] = join [c] oldl) :
    envPrepend append fwd var (join [c] vals) [c] env
      = .ok (env.set var (join [c] (applyL append fwd vals oldl))) :=
  have hvD := fun e he => (goodPieceD_single c e).mpr (hv e he)
  envPrepend_lifts_vals [c] (by simp) append fwd var vals oldl env hvne
    (fun e he => ((goodPieceD_single c e).mpr (hold e he)).old) (fun e he => (hvD e he).old)
    (no_dollar_join_goodD [c] (by simpa using Ne.symm hc) vals hvD) henv

end EupsModel.PathAlg
