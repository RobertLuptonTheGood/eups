import EupsModel.Lemmas.VersionLatest
/-! C10, through the stacks: `_findLatestProduct` with a minimum version, by an invariant on names (`AcrossInv`);
`uniqVers` (a version string once), and with it `_findProductsByExpr` (`matchesAcross`) in closed form. -/
namespace EupsModel.VersionCmp
open EupsModel EupsModel.Order

/-- `y` is below the minimum version asked for -/
def below (mv : Option Str) (y : Str) : Bool :=
  match mv with
  | none => false
  | some m => decide (cmpN y m < 0)

theorem below_none {y : Str} : below none y = false := rfl

theorem below_some {m y : Str} : below (some m) y = true ↔ cmpN y m < 0 := decide_eq_true_iff

theorem below_some_false {m y : Str} : below (some m) y = false ↔ 0 ≤ cmpN y m := by
  rw [← Bool.not_eq_true, below_some, Int.not_lt]

theorem belowMin_lexOr {mv : Option Str} (hmv : ∀ m, mv = some m → Accepted m) (y : Str) :
    belowMin mv (lexOr y) = .ok (below mv y) := by
  cases mv with
  | none => rfl
  | some m => obtain ⟨l, hl⟩ := hmv m rfl; simp only [belowMin, below, hl, cmpN, lexOr_of_lex hl]

theorem below_of_le {mv : Option Str} (hmv : ∀ m, mv = some m → convName m = true) {y w : Str} (hy : convName y = true)
    (hw : convName w = true) (h : cmpN y w ≤ 0) (hb : below mv w = true) : below mv y = true := by
  cases mv with
  | none => simp [below_none] at hb
  | some m => exact below_some.mpr (good_cmpN.lt_of_le_lt hy hw (hmv m rfl) h (below_some.mp hb))

theorem lt_of_below {mv : Option Str} (hmv : ∀ m, mv = some m → convName m = true) {y w : Str} (hy : convName y = true)
    (hw : convName w = true) (hb : below mv y = true) (hnb : below mv w = false) : cmpN y w < 0 := by
  cases mv with
  | none => simp [below_none] at hb
  | some m =>
    have hm := hmv m rfl
    exact good_cmpN.lt_of_lt_le hy hm hw (below_some.mp hb) (good_cmpN.flip w m hw hm (below_some_false.mp hnb))

/-- what the loop over the stacks maintains, on conventional names: no candidate — every version seen is below the
minimum; a candidate — it was seen, reaches the minimum, and no version seen exceeds it -/
def AcrossInv (mv : Option Str) (out : Option (Nat × Str × Lexed)) (seen : List Str) : Prop :=
  match out with
  | none => ∀ y ∈ seen, below mv y = true
  | some (_, w, lw) => lw = lexOr w ∧ w ∈ seen ∧ below mv w = false ∧ ∀ y ∈ seen, cmpN y w ≤ 0

/-- `seen`: the versions of the stacks already passed -/
theorem latestAcrossGo_inv (mv : Option Str) (hmv : ∀ m, mv = some m → convName m = true) (rest : List (List Str)) :
    ∀ (i : Nat) (out : Option (Nat × Str × Lexed)) (seen : List Str),
      (∀ v ∈ seen ++ rest.flatten, convName v = true) → AcrossInv mv out seen →
      ∃ out', latestAcrossGo mv i out rest = .ok out' ∧ AcrossInv mv out' (seen ++ rest.flatten) := by
  induction rest with
  | nil => intro i out seen _ h; exact ⟨out, rfl, by simpa using h⟩
  | cons st rest ih =>
    intro i out seen hconv hinv
    have e : seen ++ (st :: rest).flatten = (seen ++ st) ++ rest.flatten := by simp
    rw [e] at hconv ⊢
    have hcs : ∀ v ∈ seen ++ st, convName v = true := fun v hv => hconv v (List.mem_append_left _ hv)
    have hst : ∀ v ∈ st, convName v = true := fun v hv => hcs v (List.mem_append_right _ hv)
    have hse : ∀ v ∈ seen, convName v = true := fun v hv => hcs v (List.mem_append_left _ hv)
    rw [latestAcrossGo, lexPairs_eq fun v hv => .of_conv (hst v hv)]
    by_cases hne : st = []
    · subst hne
      rw [List.append_nil] at hconv ⊢
      exact ih (i + 1) out seen hconv hinv
    obtain ⟨v, hm, hmax⟩ := lastMax_names hne hst
    have hv := hst v hmax.mem
    -- no version of the stack exceeds the stack's latest `v`
    have hle := hmax.le (Int.le_of_eq (good_cmpN.refl v hv))
    simp only [hm, withLex, belowMin_lexOr fun m h => .of_conv (hmv m h)]
    cases hb : below mv v with
    | true =>
      -- the stack's latest is below the minimum, so is the whole stack: passed over
      have hstb : ∀ y ∈ st, below mv y = true := fun y hy => below_of_le hmv (hst y hy) hv (hle y hy) hb
      apply ih (i + 1) out _ hconv
      cases out with
      | none => exact List.forall_mem_append.mpr ⟨hinv, hstb⟩
      | some o =>
        obtain ⟨j, w, _⟩ := o
        obtain ⟨rfl, hw, hnb, hall⟩ := hinv
        exact ⟨rfl, List.mem_append_left _ hw, hnb, List.forall_mem_append.mpr ⟨hall, fun y hy =>
          Int.le_of_lt (lt_of_below hmv (hst y hy) (hse w hw) (hstb y hy) hnb)⟩⟩
    | false =>
      cases out with
      | none =>
        apply ih (i + 1) _ _ hconv
        -- what was seen before is below the minimum, which `v` reaches
        exact ⟨rfl, List.mem_append_right _ hmax.mem, hb, List.forall_mem_append.mpr
          ⟨fun y hy => Int.le_of_lt (lt_of_below hmv (hse y hy) hv (hinv y hy) hb), hle⟩⟩
      | some o =>
        obtain ⟨j, w, _⟩ := o
        obtain ⟨rfl, hw, hnb, hall⟩ := hinv
        have hcw := hse w hw
        show ∃ out', (if cmpN v w > 0 then _ else _) = _ ∧ _
        split <;> rename_i hgt <;> apply ih (i + 1) _ _ hconv
        · have hwv : cmpN w v ≤ 0 := good_cmpN.flip v w hv hcw (Int.le_of_lt hgt)
          exact ⟨rfl, List.mem_append_right _ hmax.mem, hb,
            List.forall_mem_append.mpr ⟨fun y hy => good_cmpN.trans y w v (hse y hy) hcw hv (hall y hy) hwv, hle⟩⟩
        · exact ⟨rfl, List.mem_append_left _ hw, hnb,
            List.forall_mem_append.mpr ⟨hall, fun y hy => good_cmpN.trans y v w (hst y hy) hv hcw (hle y hy) (by omega)⟩⟩

theorem latestAcrossMin_spec (mv : Option Str) (hmv : ∀ m, mv = some m → convName m = true) (stacks : List (List Str))
    (hc : ∀ v ∈ stacks.flatten, convName v = true) :
    (latestAcrossMin mv stacks = .ok none ∧ ∀ w ∈ stacks.flatten, below mv w = true) ∨
    (∃ i v, latestAcrossMin mv stacks = .ok (some (i, v)) ∧ v ∈ stacks.flatten ∧ below mv v = false ∧
      ∀ w ∈ stacks.flatten, cmpN w v ≤ 0) := by
  obtain ⟨out, hgo, hinv⟩ := latestAcrossGo_inv mv hmv stacks 0 none [] hc (fun _ h => nomatch h)
  rw [List.nil_append] at hinv
  cases out with
  | none => exact Or.inl ⟨by simp only [latestAcrossMin, hgo], hinv⟩
  | some o =>
    obtain ⟨i, v, _⟩ := o
    exact Or.inr ⟨i, v, by simp only [latestAcrossMin, hgo], hinv.2⟩

/-! ## a version string once: `uniqVers`

The listing removes repeated version strings with `uniqVers`; the collection of the matching versions tests `acc.any`
before it appends, which is the same operation (`matchesIn_eq`). -/

theorem mem_uniqVers {p : Nat × Str} {l : List (Nat × Str)} {seen : List Str} (h : p ∈ uniqVers l seen) : p ∈ l := by
  fun_induction uniqVers l seen with
  | case1 => cases h
  | case2 q qs seen _ ih => exact List.mem_cons_of_mem _ (ih h)
  | case3 q qs seen _ ih => exact List.mem_cons.mpr ((List.mem_cons.mp h).imp_right ih)

theorem uniqVers_complete {l : List (Nat × Str)} {seen : List Str} {v : Str} (hv : v ∈ l.map Prod.snd) (hs : v ∉ seen) :
    v ∈ (uniqVers l seen).map Prod.snd := by
  fun_induction uniqVers l seen with
  | case1 => cases hv
  | case2 q qs seen hq ih =>
    exact ih ((List.mem_cons.mp hv).resolve_left fun e => hs (e ▸ List.contains_iff_mem.mp hq)) hs
  | case3 q qs seen _ ih =>
    rw [List.map_cons, List.mem_cons] at hv ⊢
    by_cases e : v = q.2
    · exact Or.inl e
    · exact Or.inr (ih (hv.resolve_left e) (by simp [e, hs]))

theorem uniqVers_nodup (l : List (Nat × Str)) (seen : List Str) :
    ((uniqVers l seen).map Prod.snd).Nodup ∧ ∀ v ∈ (uniqVers l seen).map Prod.snd, v ∉ seen := by
  fun_induction uniqVers l seen with
  | case1 => simp
  | case2 q qs seen _ ih => exact ih
  | case3 q qs seen hq ih =>
    obtain ⟨h1, h2⟩ := ih
    simp only [List.map_cons, List.nodup_cons, List.mem_cons]
    refine ⟨⟨fun h => h2 q.2 h (by simp), h1⟩, ?_⟩
    rintro v (rfl | hv)
    · simpa using hq
    · exact fun hs => h2 v hv (List.mem_cons_of_mem _ hs)

theorem mem_map_uniqVers (l : List (Nat × Str)) (v : Str) : v ∈ (uniqVers l []).map Prod.snd ↔ v ∈ l.map Prod.snd :=
  ⟨fun h => by obtain ⟨p, hp, rfl⟩ := List.mem_map.mp h; exact List.mem_map_of_mem (mem_uniqVers hp),
   fun h => uniqVers_complete h (by simp)⟩

theorem uniqVers_congr {l : List (Nat × Str)} {s s' : List Str} (h : ∀ x, x ∈ s ↔ x ∈ s') : uniqVers l s = uniqVers l s' := by
  induction l generalizing s s' with
  | nil => rfl
  | cons p ps ih =>
    have hc : s.contains p.2 = s'.contains p.2 := by
      rw [Bool.eq_iff_iff]; simpa using h p.2
    rw [uniqVers, uniqVers, hc, ih h, ih (s := p.2 :: s) (s' := p.2 :: s') fun x => by simp [h x]]

theorem uniqVers_append (a b : List (Nat × Str)) (seen : List Str) :
    uniqVers (a ++ b) seen = uniqVers a seen ++ uniqVers b (seen ++ (uniqVers a seen).map Prod.snd) := by
  induction a generalizing seen with
  | nil => simp [uniqVers]
  | cons p ps ih =>
    rw [List.cons_append, uniqVers, uniqVers]
    split
    · exact ih seen
    · rw [ih, List.cons_append]
      refine congrArg (fun l => p :: (uniqVers ps (p.2 :: seen) ++ l)) (uniqVers_congr fun x => ?_)
      simp only [List.map_cons, List.mem_append, List.mem_cons]
      exact or_left_comm

theorem uniqVers_first {l : List (Nat × Str)} {seen : List Str} {p : Nat × Str} (hs : l.Pairwise (fun a b => a.1 ≤ b.1))
    (hp : p ∈ uniqVers l seen) : ∀ q ∈ l, q.2 = p.2 → p.1 ≤ q.1 := by
  intro q hq e
  fun_induction uniqVers l seen with
  | case1 => cases hq
  | case2 a as seen hc ih =>
    rcases List.mem_cons.mp hq with rfl | hq
    · -- `q.2` was seen before, `p.2` was not
      exact absurd (e ▸ List.contains_iff_mem.mp hc) ((uniqVers_nodup as seen).2 p.2 (List.mem_map_of_mem hp))
    · exact ih (List.pairwise_cons.mp hs).2 hp hq
  | case3 a as seen _ ih =>
    obtain ⟨ha, has⟩ := List.pairwise_cons.mp hs
    rcases List.mem_cons.mp hp with rfl | hp <;> rcases List.mem_cons.mp hq with rfl | hq
    · exact Nat.le_refl _
    · exact ha q hq
    · exact absurd (e ▸ List.mem_cons_self) ((uniqVers_nodup as (q.2 :: seen)).2 p.2 (List.mem_map_of_mem hp))
    · exact ih has hp hq

/-- the versions of the stack `i` that match, in the order of the stack -/
def hits (expr : Str) (i : Nat) (vs : List Str) : List (Nat × Str) :=
  (vs.filter fun v => decide (versionMatch v expr = .ok true)).map fun v => (i, v)

/-- … and of all the stacks from `i` on, in path order -/
def allHits (expr : Str) : Nat → List (List Str) → List (Nat × Str)
  | _, [] => []
  | i, st :: rest => hits expr i st ++ allHits expr (i + 1) rest

theorem matchesIn_eq (expr : Str) (i : Nat) (vs : List Str) (hok : ∀ v ∈ vs, ∃ b, versionMatch v expr = .ok b)
    (acc : List (Nat × Str)) :
    matchesIn expr i vs acc = .ok (acc ++ uniqVers (hits expr i vs) (acc.map Prod.snd)) := by
  induction vs generalizing acc with
  | nil => exact congrArg Except.ok (List.append_nil acc).symm
  | cons v vs ih =>
    obtain ⟨b, hb⟩ := hok v List.mem_cons_self
    have ih' := ih fun x hx => hok x (List.mem_cons_of_mem _ hx)
    cases b with
    | false =>
      have hh : hits expr i (v :: vs) = hits expr i vs := by simp [hits, hb]
      rw [matchesIn, hb, hh]; exact ih' acc
    | true =>
      have hh : hits expr i (v :: vs) = (i, v) :: hits expr i vs := by simp [hits, hb]
      have hany : acc.any (fun p => p.2 == v) = (acc.map Prod.snd).contains v := by
        rw [Bool.eq_iff_iff]
        simp only [List.any_eq_true, List.contains_iff_mem, List.mem_map, beq_iff_eq]
      rw [matchesIn, hb, hh, uniqVers]
      show (if acc.any (fun p => p.2 == v) = true then _ else _) = _
      rw [hany]
      split
      · exact ih' acc
      · rw [ih', List.append_assoc]
        refine congrArg (fun l => Except.ok (acc ++ (i, v) :: l)) (uniqVers_congr fun x => ?_)
        simp only [List.map_append, List.map_cons, List.map_nil, List.mem_append, List.mem_cons, List.not_mem_nil, or_false]
        exact or_comm

theorem matchesAcrossGo_eq (expr : Str) (rest : List (List Str))
    (hok : ∀ st ∈ rest, ∀ v ∈ st, ∃ b, versionMatch v expr = .ok b) (i : Nat) (acc : List (Nat × Str)) :
    matchesAcrossGo expr i rest acc = .ok (acc ++ uniqVers (allHits expr i rest) (acc.map Prod.snd)) := by
  induction rest generalizing i acc with
  | nil => simp [matchesAcrossGo, allHits, uniqVers]
  | cons st rest ih =>
    rw [matchesAcrossGo, matchesIn_eq expr i st (hok st (by simp))]
    simp only [ih (fun s hs => hok s (by simp [hs])), allHits, uniqVers_append, List.map_append, List.append_assoc]

theorem matchesAcross_eq (expr : Str) (stacks : List (List Str))
    (hok : ∀ st ∈ stacks, ∀ v ∈ st, ∃ b, versionMatch v expr = .ok b) :
    matchesAcross expr stacks = .ok (uniqVers (allHits expr 0 stacks) []) := by
  simp [matchesAcross, matchesAcrossGo_eq expr stacks hok]

theorem mem_hits {expr : Str} {i : Nat} {vs : List Str} {p : Nat × Str} :
    p ∈ hits expr i vs ↔ p.1 = i ∧ p.2 ∈ vs ∧ versionMatch p.2 expr = .ok true := by
  simp only [hits, List.mem_map, List.mem_filter, decide_eq_true_eq]
  constructor
  · rintro ⟨v, ⟨hv, hm⟩, rfl⟩; exact ⟨rfl, hv, hm⟩
  · rintro ⟨rfl, hv, hm⟩; exact ⟨p.2, ⟨hv, hm⟩, rfl⟩

theorem mem_allHits {expr : Str} {rest : List (List Str)} {i : Nat} {p : Nat × Str} :
    p ∈ allHits expr i rest ↔
      ∃ k st, p.1 = i + k ∧ rest[k]? = some st ∧ p.2 ∈ st ∧ versionMatch p.2 expr = .ok true := by
  induction rest generalizing i with
  | nil => simp [allHits]
  | cons st rest ih =>
    rw [allHits, List.mem_append, mem_hits, ih]
    constructor
    · rintro (⟨h1, h2⟩ | ⟨k, st', h1, h2⟩)
      · exact ⟨0, st, h1, rfl, h2⟩
      · exact ⟨k + 1, st', by rw [h1, Nat.add_assoc, Nat.add_comm 1], h2⟩
    · rintro ⟨k, st', h1, h2, h3⟩
      cases k with
      | zero => obtain rfl : st = st' := Option.some.inj h2; exact Or.inl ⟨h1, h3⟩
      | succ k => exact Or.inr ⟨k, st', by rw [h1, Nat.add_assoc, Nat.add_comm 1], h2, h3⟩

theorem allHits_sorted (expr : Str) (i : Nat) (rest : List (List Str)) :
    (allHits expr i rest).Pairwise (fun a b => a.1 ≤ b.1) := by
  induction rest generalizing i with
  | nil => simp [allHits]
  | cons st rest ih =>
    rw [allHits, List.pairwise_append]
    refine ⟨List.pairwise_of_forall_mem_list fun a ha b hb => ?_, ih (i + 1), fun a ha b hb => ?_⟩
    · rw [(mem_hits.mp ha).1, (mem_hits.mp hb).1]; exact Nat.le_refl i
    · obtain ⟨k, _, h, _⟩ := mem_allHits.mp hb
      rw [(mem_hits.mp ha).1, h]; exact Nat.le_trans (Nat.le_add_right i 1) (Nat.le_add_right (i + 1) k)

end EupsModel.VersionCmp
