import EupsModel.Lemmas.VersionCmp
/-! The recursion bound of `lex` is sufficient (C10): `lex` never answers `outOfFuel`; it accepts every
name except the ones on which `_splitVersion` raises (fewer than two hyphens and a leading `-`/`+`).  Hence the ways a
comparison can end without an integer (`stdCompare_error`). -/
namespace EupsModel.VersionCmp
open EupsModel

/-- a `[^-+]` run (`-` is 45, `+` is 43) -/
def PmFree (s : Str) : Prop := ∀ c ∈ s, notPM c = true

theorem pmFree_nil : PmFree [] := fun _ h => nomatch h

theorem length_takeWhile_add_dropWhile (p : Nat → Bool) (l : Str) :
    (l.takeWhile p).length + (l.dropWhile p).length = l.length := by
  rw [← List.length_append, List.takeWhile_append_dropWhile]

theorem pmFree_takeWhile (s : Str) : PmFree (s.takeWhile notPM) := fun _ hc => mem_takeWhile_pos hc

theorem dig_notPM {c : Nat} (h : isDig c = true) : notPM c = true := by
  simp [isDig, Str.isDigit, notPM] at *; omega

/-- a part `_splitVersion` hands to the recursive comparison: a `[^-+]` run strictly shorter than the name -/
def Shorter (v : Str) (o : Option Str) : Prop := PmFree (o.getD []) ∧ (o.getD []).length < v.length

theorem optRun_spec (lead : Nat) (s : Str) :
    (∀ x, (optRun lead s).1 = some x → PmFree x ∧ x.length < s.length) ∧ (optRun lead s).2.length ≤ s.length := by
  fun_cases optRun lead s with
  | case3 c cs _ r _ =>
    have := length_takeWhile_add_dropWhile notPM cs
    exact ⟨fun x hx => by cases hx; exact ⟨pmFree_takeWhile cs, by simp only [List.length_cons, r]; omega⟩,
      by simp only [List.length_cons]; omega⟩
  | _ => simp

theorem mpSuffix_spec (v : Str) (r : Str × Bool × Str) (h : mpSuffix v = some r) : Shorter v (some r.2.2) := by
  revert h
  have key : ∀ c before, v.reverse.dropWhile isDig = c :: before →
      Shorter v (some (v.reverse.takeWhile isDig).reverse) := fun c before hd => by
    have hlen := length_takeWhile_add_dropWhile isDig v.reverse
    rw [List.length_reverse, hd, List.length_cons] at hlen
    exact ⟨fun c hc => dig_notPM (mem_takeWhile_pos (List.mem_reverse.mp hc)), by
      simp only [Option.getD_some, List.length_reverse]; omega⟩
  fun_cases mpSuffix v with
  | case3 _ _ _ c before hd | case4 _ _ _ c before hd => intro h; cases h; exact key c before hd
  | _ => intro h; cases h

theorem splitVersion_cases (c : Nat) (cs : Str) :
    (hyphens (c :: cs) < 2 ∧ notPM c = false ∧ splitVersion (c :: cs) = .error .malformed) ∨
    ∃ p e f, splitVersion (c :: cs) = .ok (p, e, f) ∧ Shorter (c :: cs) e ∧ Shorter (c :: cs) f := by
  have hnone : Shorter (c :: cs) none := ⟨pmFree_nil, Nat.succ_pos _⟩
  by_cases hh : hyphens (c :: cs) ≥ 2
  · exact Or.inr ⟨_, _, _, by rw [splitVersion, if_pos hh], hnone, hnone⟩
  · by_cases hc : notPM c = true
    · right
      have h1 := optRun_spec 45 ((c :: cs).dropWhile notPM)
      have h2 := optRun_spec 43 (optRun 45 ((c :: cs).dropWhile notPM)).2
      have hd := length_takeWhile_add_dropWhile notPM (c :: cs)
      have part : ∀ (o : Option Str) (bound : Nat), bound ≤ (c :: cs).length →
          (∀ x, o = some x → PmFree x ∧ x.length < bound) → Shorter (c :: cs) o := by
        intro o bound hb ho
        cases o with
        | none => exact hnone
        | some x => exact ⟨(ho x rfl).1, by have := (ho x rfl).2; simp only [Option.getD_some]; omega⟩
      simp only [splitVersion, if_neg hh, hc, Bool.not_true, Bool.false_eq_true, if_false]
      split
      · -- the VVVm# / VVVp# spellings
        split
        · rename_i hm; exact ⟨_, _, _, rfl, mpSuffix_spec _ _ hm, hnone⟩
        · rename_i hm; exact ⟨_, _, _, rfl, hnone, mpSuffix_spec _ _ hm⟩
        · exact ⟨_, _, _, rfl, hnone, hnone⟩
      · exact ⟨_, _, _, rfl, part _ _ (by omega) h1.1, part _ _ (by have := h1.2; omega) h2.1⟩
    · have hc' : notPM c = false := by simpa using hc
      exact Or.inl ⟨by omega, hc', by simp [splitVersion, if_neg hh, hc']⟩

theorem hyphens_pmFree {s : Str} (h : PmFree s) : hyphens s = 0 := by
  simp only [hyphens, List.length_eq_zero_iff, List.filter_eq_nil_iff]
  intro c hc
  have := h c hc
  simp [notPM] at this ⊢
  exact this.1

theorem lexF_node {fuel c : Nat} {cs p : Str} {e f : Option Str} {se te : Lexed} (h : splitVersion (c :: cs) = .ok (p, e, f))
    (he : lexF fuel (e.getD []) = .ok se) (hf : lexF fuel (f.getD []) = .ok te) :
    lexF (fuel + 1) (c :: cs) = .ok (.node p se te) := by
  simp only [lexF, h, he, hf]

theorem lexF_pmFree : ∀ (fuel : Nat) (s : Str), PmFree s → s.length < fuel → ∃ l, lexF fuel s = .ok l := by
  intro fuel
  induction fuel with
  | zero => intro s _ h; omega
  | succ n ih =>
    intro s hs hl
    cases s with
    | nil => exact ⟨.absent, rfl⟩
    | cons c cs =>
      rcases splitVersion_cases c cs with ⟨_, hc, _⟩ | ⟨p, e, f, hr, ⟨e1, e2⟩, ⟨f1, f2⟩⟩
      · rw [hs c (by simp)] at hc; cases hc
      · obtain ⟨se, hse⟩ := ih _ e1 (by omega)
        obtain ⟨te, hte⟩ := ih _ f1 (by omega)
        exact ⟨_, lexF_node hr hse hte⟩

theorem lex_cons (c : Nat) (cs : Str) :
    (hyphens (c :: cs) < 2 ∧ notPM c = false ∧ lex (c :: cs) = .error .malformed) ∨ ∃ l, lex (c :: cs) = .ok l := by
  rcases splitVersion_cases c cs with ⟨hh, hc, he⟩ | ⟨p, e, f, hr, ⟨e1, e2⟩, ⟨f1, f2⟩⟩
  · exact Or.inl ⟨hh, hc, by simp only [lex, lexF, he]⟩
  · obtain ⟨se, hse⟩ := lexF_pmFree (c :: cs).length _ e1 e2
    obtain ⟨te, hte⟩ := lexF_pmFree (c :: cs).length _ f1 f2
    exact Or.inr ⟨_, lexF_node hr hse hte⟩

theorem lex_ok_or_malformed (s : Str) : (∃ l, lex s = .ok l) ∨ lex s = .error .malformed := by
  cases s with
  | nil => exact Or.inl ⟨.absent, rfl⟩
  | cons c cs => exact (lex_cons c cs).symm.imp_right fun h => h.2.2

theorem lex_ne_outOfFuel (s : Str) : lex s ≠ .error .outOfFuel := by
  rcases lex_ok_or_malformed s with ⟨l, h⟩ | h <;> simp [h]

theorem lex_accepts (s : Str) (h : s = [] ∨ hyphens s ≥ 2 ∨ ∃ c cs, s = c :: cs ∧ notPM c = true) :
    ∃ l, lex s = .ok l := by
  cases s with
  | nil => exact ⟨.absent, rfl⟩
  | cons c cs =>
    rcases lex_cons c cs with ⟨hh, hc, _⟩ | hl
    · rcases h with h | h | ⟨c', cs', h, hc'⟩
      · cases h
      · omega
      · cases h; rw [hc] at hc'; cases hc'
    · exact hl

theorem stdCompare_error {strict : Bool} {a b : Str} {e : Err} (h : stdCompare strict a b = .error e) :
    e = .malformed ∨ (strict = true ∧ e = .unsortable) := by
  rcases lex_ok_or_malformed a with ⟨la, ha⟩ | ha
  · rcases lex_ok_or_malformed b with ⟨lb, hb⟩ | hb
    · cases strict
      · rw [stdCompare_sort ha hb] at h; cases h
      · rw [stdCompare_strict ha hb, stdCompare_sort ha hb] at h
        split at h <;> cases h
        exact Or.inr ⟨rfl, rfl⟩
    · simp only [stdCompare, ha, hb, Except.error.injEq] at h; exact Or.inl h.symm
  · simp only [stdCompare, ha, Except.error.injEq] at h; exact Or.inl h.symm

end EupsModel.VersionCmp
