import EupsModel.Model.SetupType
import EupsModel.Lemmas.Text
/-! The setup-type glue: a `setup --type` option names exactly the words written between runs of blanks and commas; the
same for `eups <cmd> -T` (`str.split()`); no evaluation of a table through one `Eups` object changes its setup types.
`str.split()` is `Text.tokens` (`splitWs_eq`).  `re.split` is not: it keeps an empty piece at either end of a text that
starts or ends with a separator, and joins runs of separators, so it is neither `Text.pieces` nor `Text.tokens`; it agrees
with `tokens` on texts that start and end with a word only, and saying that takes more than following `splitRuns` through
a word (`splitRuns_word`) and a run of separators (`splitRuns_sep`) as is done here. -/
namespace EupsModel.SetupType
open EupsModel.Cond

def noSep (w : Str) : Bool := w.all fun c => !sepCh c

theorem splitRuns_word : ∀ (w : Str) (c : Nat) (cur cs : Str) (flag : Bool), noSep (c :: w) = true →
    splitRuns cur (c :: w ++ cs) flag = splitRuns (cur ++ c :: w) cs false := by
  intro w
  induction w with
  | nil =>
    intro c cur cs flag h
    simp only [noSep, List.all_cons, List.all_nil, Bool.and_true, Bool.not_eq_true'] at h
    simp [splitRuns, h]
  | cons d w ih =>
    intro c cur cs flag h
    simp only [noSep, List.all_cons, Bool.and_eq_true, Bool.not_eq_true'] at h
    have hd : noSep (d :: w) = true := by simp [noSep, h.2.1, h.2.2]
    have := ih d (cur ++ [c]) cs false hd
    simp only [List.cons_append, splitRuns, h.1, Bool.false_eq_true, if_false] at this ⊢
    rw [this]; simp

theorem splitRuns_skip : ∀ (s cs : Str), s.all sepCh = true → splitRuns [] (s ++ cs) true = splitRuns [] cs true := by
  intro s
  induction s with
  | nil => intro cs _; rfl
  | cons c s ih =>
    intro cs h
    simp only [List.all_cons, Bool.and_eq_true] at h
    simp [splitRuns, h.1, ih cs h.2]

theorem splitRuns_sep (c : Nat) (s cs cur : Str) (hc : sepCh c = true) (hs : s.all sepCh = true) :
    splitRuns cur (c :: s ++ cs) false = cur :: splitRuns [] cs true := by
  simp [splitRuns, hc, splitRuns_skip s cs hs]

def sepOK (s : Str) : Bool := !s.isEmpty && s.all sepCh
def wordOK (w : Str) : Bool := !w.isEmpty && noSep w

theorem splitRuns_words : ∀ (rest : List (Str × Str)) (cur : Str),
    (∀ p ∈ rest, sepOK p.1 = true ∧ wordOK p.2 = true) →
    splitRuns cur (rest.flatMap fun p => p.1 ++ p.2) false = cur :: rest.map (·.2) := by
  intro rest
  induction rest with
  | nil => intro cur _; rfl
  | cons p tail ih =>
    intro cur h
    obtain ⟨hs, hw⟩ := h p (by simp)
    obtain ⟨s, w⟩ := p
    simp only [sepOK, wordOK, Bool.and_eq_true, Bool.not_eq_true', List.isEmpty_eq_false_iff] at hs hw
    cases s with
    | nil => exact absurd rfl hs.1
    | cons c s' =>
      cases w with
      | nil => exact absurd rfl hw.1
      | cons d w' =>
        have hs' := hs.2
        simp only [List.all_cons, Bool.and_eq_true] at hs'
        have e : (List.flatMap (fun p => p.1 ++ p.2) ((c :: s', d :: w') :: tail))
            = c :: s' ++ (d :: w' ++ tail.flatMap fun p => p.1 ++ p.2) := by simp
        rw [e, splitRuns_sep c s' _ cur hs'.1 hs'.2, splitRuns_word w' d [] _ true hw.2,
          List.nil_append, ih _ (fun q hq => h q (by simp [hq]))]
        rfl

theorem argTypes_words (first : Str) (rest : List (Str × Str)) (hf : wordOK first = true)
    (hr : ∀ p ∈ rest, sepOK p.1 = true ∧ wordOK p.2 = true) :
    argTypes (.str (first ++ rest.flatMap fun p => p.1 ++ p.2)) = first :: rest.map (·.2) := by
  simp only [wordOK, Bool.and_eq_true, Bool.not_eq_true', List.isEmpty_eq_false_iff] at hf
  cases first with
  | nil => exact absurd rfl hf.1
  | cons d w =>
    have hsplit : splitRuns [] (d :: w ++ rest.flatMap fun p => p.1 ++ p.2) false = (d :: w) :: rest.map (·.2) := by
      rw [splitRuns_word w d [] _ false hf.2, List.nil_append, splitRuns_words rest _ hr]
    simp only [argTypes, List.cons_append, List.isEmpty_cons, Bool.false_eq_true, if_false]
    split
    · exact hsplit
    · rename_i hany
      cases rest with
      | nil => simp
      | cons p tail =>
        exfalso
        obtain ⟨hs, _⟩ := hr p (by simp)
        obtain ⟨s, w2⟩ := p
        simp only [sepOK, Bool.and_eq_true, Bool.not_eq_true', List.isEmpty_eq_false_iff] at hs
        cases s with
        | nil => exact absurd rfl hs.1
        | cons c s' =>
          have hs' := hs.2
          simp only [List.all_cons, Bool.and_eq_true] at hs'
          apply hany
          simp [List.any_append, hs'.1]

theorem contains_filter_ne (ts : List Str) (x w : Str) :
    (ts.filter (· != x)).contains w = (ts.contains w && w != x) := by
  induction ts with
  | nil => simp
  | cons t rest ih =>
    by_cases htx : t = x <;> by_cases hw : w = t <;> simp_all

def noWs (w : Str) : Bool := w.all fun c => !Str.isSpace c

theorem splitWs_eq {cur : Str} (hc : ∀ x ∈ cur, Str.isSpace x = false) (s : Str) :
    splitWs cur s = Text.tokens Str.isSpace (cur ++ s) :=
  Text.acc_tokens_cur ⟨fun _ => rfl, fun _ _ _ => rfl⟩ hc s

def wsSep (s : Str) : Bool := !s.isEmpty && s.all Str.isSpace
/-- a comma is part of a word here -/
def wsWord (w : Str) : Bool := !w.isEmpty && noWs w

theorem wsWord_word {w : Str} (h : wsWord w = true) : Text.Word Str.isSpace w := by
  simpa [wsWord, noWs, Text.Word, Text.Free] using h

theorem wsSep_blank {s : Str} (h : wsSep s = true) : Text.Blank Str.isSpace s ∧ s ≠ [] := by
  simpa [wsSep, Text.Blank, and_comm] using h

theorem cmdArg_words (pad1 first : Str) (rest : List (Str × Str)) (pad2 : Str) (h1 : pad1.all Str.isSpace = true)
    (hf : wsWord first = true) (hr : ∀ p ∈ rest, wsSep p.1 = true ∧ wsWord p.2 = true) (h2 : pad2.all Str.isSpace = true) :
    cmdArg (pad1 ++ first ++ (rest.flatMap fun p => p.1 ++ p.2) ++ pad2) = .list (first :: rest.map (·.2)) := by
  simp only [cmdArg, List.append_assoc, splitWs_eq (cur := []) (by simp), List.nil_append]
  exact congrArg _ (Text.tokens_line (List.all_eq_true.mp h1) (wsWord_word hf)
    ⟨fun p hp => ⟨(wsSep_blank (hr p hp).1).1, (wsSep_blank (hr p hp).1).2, wsWord_word (hr p hp).2⟩, List.all_eq_true.mp h2⟩)

theorem stepOut_state (ex : Bool) (pdir : Option Str) (fl text : Str) (ts : List Str) (st : Step) :
    (stepOut ex pdir fl text ts st).2 = ts ∧ (stepOut ex pdir fl text ts st).1.state = ts := by
  cases st <;> exact ⟨rfl, rfl⟩

theorem runSeq_stable (ex : Bool) (pdir : Option Str) (fl text : Str) : ∀ (steps : List Step) (ts : List Str),
    runSeq ex pdir fl text ts steps = steps.map fun st => (stepOut ex pdir fl text ts st).1 := by
  intro steps
  induction steps with
  | nil => intro ts; rfl
  | cons st r ih =>
    intro ts
    simp only [runSeq, List.map_cons, (stepOut_state ex pdir fl text ts st).1, ih]

end EupsModel.SetupType
