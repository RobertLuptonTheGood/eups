import EupsModel.Model.LockPathR
import EupsModel.Lemmas.LockR
import EupsModel.Lemmas.LockPathGen
/-! C09, repaired protocol, several stacks — every component of a path run is a run of the single-directory model
so `LockR.Inv` holds of every stack; and the invariant `Held`: a process whose `takeLocks` works on path
element `k` holds the elements before it, a process in its command body holds every element of its path (distinct
elements, as `Eups.setEupsPath` produces them).  `mstep_branch` shows a transition of the path model to be a
`LockPathGen.Branch` over `LockR.step`, `mintr_branch` says what a signal does (`IBranch`). -/
namespace EupsModel.LockPathR
open EupsModel.Lock (Pid Kind Err)
open EupsModel.LockR
open EupsModel.LockPathGen (Seen)

variable {S : PSt} {i : Pid}

@[simp] theorem setCtl_comp (S : PSt) (i : Pid) (c : Ctl) : (setCtl S i c).comp = S.comp := rfl
@[simp] theorem setCtl_path (S : PSt) (i : Pid) (c : Ctl) : (setCtl S i c).path = S.path := rfl
@[simp] theorem setCtl_explicit (S : PSt) (i : Pid) (c : Ctl) : (setCtl S i c).explicit = S.explicit := rfl
@[simp] theorem setCtl_ctl_same (S : PSt) (i : Pid) (c : Ctl) : (setCtl S i c).ctl i = c := by simp [setCtl]
theorem setCtl_ctl_other (S : PSt) (i j : Pid) (c : Ctl) (h : j ≠ i) : (setCtl S i c).ctl j = S.ctl j := by
  simp [setCtl, h]
@[simp] theorem setComp_ctl (S : PSt) (d : Dir) (s : St) : (setComp S d s).ctl = S.ctl := rfl
@[simp] theorem setComp_path (S : PSt) (d : Dir) (s : St) : (setComp S d s).path = S.path := rfl
@[simp] theorem setComp_explicit (S : PSt) (d : Dir) (s : St) : (setComp S d s).explicit = S.explicit := rfl
@[simp] theorem setComp_comp_same (S : PSt) (d : Dir) (s : St) : (setComp S d s).comp d = s := by simp [setComp]
theorem setComp_comp_other (S : PSt) (d x : Dir) (s : St) (h : x ≠ d) : (setComp S d s).comp x = S.comp x := by
  simp [setComp, h]

theorem relComp_is_run (s : St) (i : Pid) : ∃ n, relComp s i = run s (List.replicate n i) := by
  unfold relComp
  split
  · exact ⟨2, rfl⟩
  · exact ⟨1, rfl⟩

theorem setComp_self (S : PSt) (d : Dir) : setComp S d (S.comp d) = S := by
  cases S; exact congrArg (PSt.mk · _ _ _) (Lock.fupd_self _ d)

theorem setCtl_self (S : PSt) (i : Pid) : setCtl S i (S.ctl i) = S := by
  cases S; exact congrArg (PSt.mk _ _ _) (Lock.fupd_self _ i)

/-- how the path layer reads the program counter process `i` is left with -/
def seen (i : Pid) (s : St) : Seen → Prop
  | .hold => s.pc i = .hold
  | .unlocked => False
  | .failedAcq e => s.pc i = .failedAcq e
  | .done => s.pc i = .done
  | .failedRel e => s.pc i = .failedRel e

def view : Ctl → LockPathGen.Ctl Out
  | .acq k => .acq k
  | .unw j k e => .unw j k e
  | .body n reg => .body n reg
  | .rel j n more o => .rel j n more o
  | .fin o => .fin o

def outs : LockPathGen.Outs Out := ⟨.done, .failedAcq, firstFailure⟩

abbrev PBranch (S : PSt) (i : Pid) : LockPathGen.Ctl Out → Dir → St → LockPathGen.Ctl Out → Prop :=
  LockPathGen.Branch outs (step · i) (relComp · i) (seen i) S.comp (S.path i) (S.explicit i)

theorem mstep_branch (S : PSt) (i : Pid) :
    ∃ d s' c', PBranch S i (view (S.ctl i)) d s' (view c') ∧ mstep S i = setCtl (setComp S d s') i c' := by
  have stuck : ∃ d s' c', PBranch S i (view (S.ctl i)) d s' (view c') ∧ S = setCtl (setComp S d s') i c' :=
    ⟨0, _, _, .stuck _ 0, by rw [setComp_self, setCtl_self]⟩
  have only : ∀ {c' b}, PBranch S i (view (S.ctl i)) 0 (S.comp 0) (view c') → b = setCtl S i c' →
      ∃ d s' c', PBranch S i (view (S.ctl i)) d s' (view c') ∧ b = setCtl (setComp S d s') i c' :=
    fun hb he => ⟨0, _, _, hb, by rw [setComp_self]; exact he⟩
  -- one case per path through `mstep`, in the order of its text; the two `_` are its `let`s (`s'`, `S'`)
  fun_cases mstep S i
  next => exact stuck
  next k hc d hp _ _ hpc hlt => exact ⟨d, _, .acq _, hc ▸ .acqNext hp hpc hlt, rfl⟩
  next k hc d hp _ _ hpc hlt => exact ⟨d, _, .body _ true, hc ▸ .acqLast hp hpc hlt, rfl⟩
  next d _ _ e hpc hc hp => exact ⟨d, _, .fin (.failedAcq e), hc ▸ .acqFailFirst hp hpc, rfl⟩
  next k hc d hp _ _ e hpc hk => exact ⟨d, _, .unw 0 _ e, hc ▸ .acqFailLater hp hpc hk, rfl⟩
  next k hc d hp _ _ h1 h2 => exact ⟨d, _, S.ctl i, hc ▸ .acqStay hp h1 id h2, (setCtl_self _ i).symm⟩
  next => exact stuck
  next j k e hc d hp _ _ hpc hlt => exact ⟨d, _, .unw _ _ _, hc ▸ .unwNext hp hpc hlt, rfl⟩
  next j k e hc d hp _ _ hpc hlt => exact ⟨d, _, .fin (.failedAcq _), hc ▸ .unwEnd hp hpc hlt, rfl⟩
  next j k e hc d hp _ _ e' hpc => exact ⟨d, _, .fin (.failedAcq e'), hc ▸ .unwFail hp hpc, rfl⟩
  next j k e hc d hp _ _ h1 h2 => exact ⟨d, _, S.ctl i, hc ▸ .unwStay hp h1 h2, (setCtl_self _ i).symm⟩
  next reg hx hc => exact only (c' := .fin .done) (hc ▸ .bodyFin 0 (.inl rfl)) rfl
  next n reg hc hx hn => exact only (c' := .rel 0 _ _ .done) (hc ▸ .bodyGive 0 hx hn) rfl
  next n reg hc hx hr =>
    have hr' : reg = true ∧ n ≠ 0 := by simpa using hr
    exact only (c' := .rel 0 _ false .done) (hc ▸ .bodyExit 0 (by simpa using hx) hr'.1 hr'.2) rfl
  next n reg hc hx hr =>
    refine only (c' := .fin .done) (hc ▸ .bodyFin 0 ?_) rfl
    cases reg
    · exact .inr ⟨by simpa using hx, rfl⟩
    · exact .inl (by simpa using hr)
  next => exact stuck
  next j n more o hc d hp _ _ hpc hlt => exact ⟨d, _, .rel _ _ _ _, hc ▸ .relNext hp hpc hlt, rfl⟩
  next j n more o hc d hp _ _ hpc hlt => exact ⟨d, _, .fin _, hc ▸ .relEnd hp hpc hlt, rfl⟩
  next j n more o hc d hp _ _ e hpc hm =>
    have hm' : more = true ∧ j + 1 < n := by simpa using hm
    exact ⟨d, _, .rel _ _ false (firstFailure _ e), hc ▸ .relFailNext hp hpc hm'.1 hm'.2, rfl⟩
  next j n more o hc d hp _ _ e hpc hm =>
    exact ⟨d, _, .fin (firstFailure _ e), hc ▸ .relFailEnd hp hpc (by simpa using hm), rfl⟩
  next j n more o hc d hp _ _ h1 h2 => exact ⟨d, _, S.ctl i, hc ▸ .relStay hp h1 h2, (setCtl_self _ i).symm⟩
  next => exact stuck

/-- one transition of `i`: at most one component changes, by a run of `LockR.step` of `i` -/
structure Effect (S S' : PSt) (i : Pid) : Prop where
  path     : S'.path = S.path
  explicit : S'.explicit = S.explicit
  ctlOther : ∀ q, q ≠ i → S'.ctl q = S.ctl q
  comp     : ∃ d0 n, ∀ d, S'.comp d = if d = d0 then run (S.comp d) (List.replicate n i) else S.comp d

theorem effect_setCtl (S : PSt) (i : Pid) (c : Ctl) : Effect S (setCtl S i c) i :=
  ⟨rfl, rfl, fun q h => setCtl_ctl_other S i q c h, ⟨0, 0, fun d => by simp⟩⟩

theorem effect_setComp_setCtl (S : PSt) (i : Pid) (d0 : Dir) (n : Nat) (c : Ctl) :
    Effect S (setCtl (setComp S d0 (run (S.comp d0) (List.replicate n i))) i c) i :=
  ⟨rfl, rfl, fun q hq => setCtl_ctl_other _ _ _ _ hq, ⟨d0, n, fun d => by
    by_cases h : d = d0
    · subst h; simp
    · simp [h, setComp_comp_other S d0 d _ h]⟩⟩

theorem PBranch.isRun {S : PSt} {i : Pid} {d : Dir} {s' : St} {c c' : LockPathGen.Ctl Out} (h : PBranch S i c d s' c') :
    ∃ n, s' = run (S.comp d) (List.replicate n i) := by
  rcases h.comp_cases with e | e | e
  · exact ⟨0, e⟩
  · exact ⟨1, e⟩
  · exact e ▸ relComp_is_run _ _

theorem mstep_effect (S : PSt) (i : Pid) : Effect S (mstep S i) i := by
  obtain ⟨d, s', c', hb, he⟩ := mstep_branch S i
  obtain ⟨n, hn⟩ := hb.isRun
  rw [he, hn]; exact effect_setComp_setCtl S i d n c'

theorem atRestAcq_spec {S : PSt} {i : Pid} {k : Nat} (h : atRestAcq S i k = true) :
    ∃ d, (S.path i)[k]? = some d ∧ engaged ((S.comp d).pc i) = false := by
  unfold atRestAcq at h
  split at h
  next d hd => exact ⟨d, hd, by split at h <;> first | (rename_i hpc; rw [hpc]; rfl) | cases h⟩
  · cases h

/-- `IBranch S i c'`: a signal delivered to `i` takes its control state to `c'` and changes nothing else. -/
inductive IBranch (S : PSt) (i : Pid) : Ctl → Prop
  | ignored : IBranch S i (S.ctl i)
  | bodyNone {reg} : S.ctl i = .body 0 reg → IBranch S i (.fin .killed)
  | body {n reg} : S.ctl i = .body n reg → n ≠ 0 → IBranch S i (.rel 0 n false .killed)
  | acqFirst : S.ctl i = .acq 0 → atRestAcq S i 0 = true → IBranch S i (.fin .killed)
  | acq {k} : S.ctl i = .acq k → atRestAcq S i k = true → k ≠ 0 → IBranch S i (.rel 0 k false .killed)
  | rel {j n more o d} : S.ctl i = .rel j n more o → o ≠ .killed → (S.path i)[j]? = some d →
      (S.comp d).pc i = .hold → IBranch S i (.rel j n false .killed)

theorem mintr_branch (S : PSt) (i : Pid) : ∃ c', IBranch S i c' ∧ mintr S i = setCtl S i c' := by
  have ignored : ∃ c', IBranch S i c' ∧ S = setCtl S i c' := ⟨_, .ignored, (setCtl_self S i).symm⟩
  -- one case per path through `mintr`, in the order of its text
  fun_cases mintr S i
  next reg hc => exact ⟨_, .bodyNone hc, rfl⟩
  next n reg hc hn => exact ⟨_, .body hc hn, rfl⟩
  next hc hr => exact ⟨_, .acqFirst hc hr, rfl⟩
  next k hc hr hk => exact ⟨_, .acq hc hr hk, rfl⟩
  next => exact ignored  -- `takeLocks` in mid-attempt
  next => exact ignored  -- the handler runs already
  next j n more o hc ho d hp hpc =>  -- about to start on a lock it holds
    exact ⟨_, .rel hc (by simpa using ho) hp hpc, rfl⟩
  next => exact ignored  -- in the middle of a release
  next => exact ignored  -- no such path element
  next => exact ignored  -- unwinding or finished

theorem mintr_effect (S : PSt) (i : Pid) : Effect S (mintr S i) i := by
  obtain ⟨c', _, he⟩ := mintr_branch S i
  rw [he]; exact effect_setCtl S i c'

theorem mstepE_effect (S : PSt) (e : MEv) : ∃ i, Effect S (mstepE S e) i := by
  cases e with
  | call i => exact ⟨i, mstep_effect S i⟩
  | intr i => exact ⟨i, mintr_effect S i⟩

theorem Effect.comp_run {S S' : PSt} {i : Pid} (h : Effect S S' i) (d : Dir) :
    ∃ n, S'.comp d = run (S.comp d) (List.replicate n i) := by
  obtain ⟨d0, n, hc⟩ := h.comp
  rw [hc d]
  split
  · exact ⟨n, rfl⟩
  · exact ⟨0, rfl⟩

theorem Effect.pc_other {S S' : PSt} {i : Pid} (h : Effect S S' i) (q : Pid) (hq : q ≠ i) (d : Dir) :
    (S'.comp d).pc q = (S.comp d).pc q := by
  obtain ⟨n, hn⟩ := h.comp_run d
  rw [hn]; exact run_replicate_pc_other _ i q n hq

theorem Effect.kind {S S' : PSt} {i : Pid} (h : Effect S S' i) (d : Dir) : (S'.comp d).kind = (S.comp d).kind := by
  obtain ⟨n, hn⟩ := h.comp_run d
  rw [hn, run_kind]

theorem Effect.lp {S S' : PSt} {i : Pid} (h : Effect S S' i) (d : Dir) : (S'.comp d).lp = (S.comp d).lp := by
  obtain ⟨n, hn⟩ := h.comp_run d
  rw [hn, run_lp]

theorem Effect.inv {S S' : PSt} {i : Pid} (h : Effect S S' i) (hex : ∀ d, Inv (S.comp d)) (d : Dir) :
    Inv (S'.comp d) := by
  obtain ⟨n, hn⟩ := h.comp_run d
  rw [hn]; exact inv_run _ _ (hex d)

theorem Effect.noRelFail {S S' : PSt} {i : Pid} (h : Effect S S' i) (hex : ∀ d, Inv (S.comp d))
    (hn : ∀ d q e, (S.comp d).pc q ≠ .failedRel e) (d : Dir) : ∀ q e, (S'.comp d).pc q ≠ .failedRel e := by
  obtain ⟨n, hr⟩ := h.comp_run d
  rw [hr]; exact noRelFail_run _ _ (hex d) (hn d)

theorem mrunE_comp_is_run (S : PSt) (evs : List MEv) (d : Dir) :
    ∃ sd, (mrunE S evs).comp d = run (S.comp d) sd := by
  refine Lock.foldl_keeps (P := fun S' : PSt => ∃ sd, S'.comp d = run (S.comp d) sd) (fun S' e ⟨sd, hsd⟩ => ?_) evs
    ⟨[], rfl⟩
  obtain ⟨i, he⟩ := mstepE_effect S' e
  obtain ⟨n, hn⟩ := he.comp_run d
  exact ⟨sd ++ List.replicate n i, by rw [hn, hsd, run_append]⟩

theorem mrun_eq_mrunE (S : PSt) (sched : List Pid) : mrun S sched = mrunE S (sched.map .call) := by
  simp only [mrun, mrunE, List.foldl_map]; rfl

theorem mrun_comp_is_run (S : PSt) (sched : List Pid) (d : Dir) :
    ∃ sd, (mrun S sched).comp d = run (S.comp d) sd := by
  rw [mrun_eq_mrunE]; exact mrunE_comp_is_run _ _ d

theorem mrunE_path (S : PSt) (evs : List MEv) : (mrunE S evs).path = S.path :=
  Lock.foldl_keeps (P := fun S' : PSt => S'.path = S.path)
    (fun S' e h => by obtain ⟨i, he⟩ := mstepE_effect S' e; rw [he.path, h]) evs rfl

theorem mrun_path (S : PSt) (sched : List Pid) : (mrun S sched).path = S.path := by
  rw [mrun_eq_mrunE, mrunE_path]

theorem inv_mrunE (S : PSt) (evs : List MEv) (h : ∀ d, Inv (S.comp d)) (d : Dir) : Inv ((mrunE S evs).comp d) := by
  obtain ⟨sd, hsd⟩ := mrunE_comp_is_run S evs d
  rw [hsd]; exact inv_run _ _ (h d)

def Held (S : PSt) (p : Pid) : Prop :=
  LockPathGen.Held (seen p) S.comp (S.path p) (view (S.ctl p))

theorem held_minit (kind : Pid → Kind) (lp : Pid → Option Pid) (tries : Pid → Nat) (path : Pid → List Dir)
    (explicit : Pid → Bool) (p : Pid) : Held (minit kind lp tries path explicit) p := by
  simp only [Held, minit]
  cases hp : path p <;> simp [view, LockPathGen.Held]

theorem Held.body_hold {S : PSt} {q : Pid} {d : Dir} (h : Held S q) (hq : inBodyM (S.ctl q) = true)
    (hd : d ∈ S.path q) : (S.comp d).pc q = .hold := by
  unfold Held at h
  cases hc : S.ctl q with
  | body n reg => rw [hc] at h; exact LockPathGen.Held.body h hd
  | _ => rw [hc] at hq; cases hq

/-- `Held S p` speaks of `p`'s own control state, path and program counters only, which a transition of another
process leaves alone -/
theorem Effect.held {S S' : PSt} {i p : Pid} (e : Effect S S' i) (hpi : p ≠ i) (h : Held S p) : Held S' p := by
  unfold Held at h ⊢
  rw [e.ctlOther p hpi, e.path]
  exact h.congr (fun x hx => (e.pc_other p hpi x).trans hx)

theorem held_mstep (S : PSt) (i p : Pid) (hnd : (S.path p).Nodup) (h : Held S p) : Held (mstep S i) p := by
  by_cases hpi : p = i
  · subst hpi
    obtain ⟨d, s', c', hb, he⟩ := mstep_branch S p
    rw [he]; unfold Held; rw [setCtl_ctl_same]
    exact hb.held hnd id h
  · exact (mstep_effect S i).held hpi h

theorem held_mintr (S : PSt) (i p : Pid) (h : Held S p) : Held (mintr S i) p := by
  by_cases hpi : p = i
  · subst hpi
    obtain ⟨c', hb, he⟩ := mintr_branch S p
    rw [he]
    cases hb with
    | ignored => rw [setCtl_self]; exact h
    | _ => unfold Held; rw [setCtl_ctl_same]; trivial
  · exact (mintr_effect S i).held hpi h

theorem held_mrunE (S : PSt) (evs : List MEv) (hnd : ∀ p, (S.path p).Nodup) (h : ∀ p, Held S p) :
    ∀ p, Held (mrunE S evs) p := by
  refine (Lock.foldl_keeps (P := fun S' : PSt => S'.path = S.path ∧ ∀ p, Held S' p) (fun S' e h' => ?_) evs ⟨rfl, h⟩).2
  obtain ⟨i, he⟩ := mstepE_effect S' e
  refine ⟨he.path.trans h'.1, fun p => ?_⟩
  cases e with
  | call i => exact held_mstep S' i p (h'.1 ▸ hnd p) (h'.2 p)
  | intr i => exact held_mintr S' i p (h'.2 p)

theorem mutexM_of (S : PSt) (hinv : ∀ d, Inv (S.comp d)) (hheld : ∀ p, Held S p) : MutexM S :=
  fun d p q hpq hnr _ hq _ hdq hh hk =>
    (hinv d).excl p q hpq hh ((hheld q).body_hold hq hdq) hnr (Or.inl hk)

theorem mutexM_mrunE (kind : Pid → Kind) (lp : Pid → Option Pid) (tries : Pid → Nat)
    (path : Pid → List Dir) (explicit : Pid → Bool) (hnd : ∀ p, (path p).Nodup) (evs : List MEv) :
    MutexM (mrunE (minit kind lp tries path explicit) evs) :=
  mutexM_of _ (inv_mrunE _ evs (fun _ => inv_init kind lp tries))
    (held_mrunE _ evs hnd (fun p => held_minit kind lp tries path explicit p))

theorem mutexM_mrun (kind : Pid → Kind) (lp : Pid → Option Pid) (tries : Pid → Nat)
    (path : Pid → List Dir) (explicit : Pid → Bool) (hnd : ∀ p, (path p).Nodup) (sched : List Pid) :
    MutexM (mrun (minit kind lp tries path explicit) sched) := by
  rw [mrun_eq_mrunE]; exact mutexM_mrunE kind lp tries path explicit hnd _

theorem body_holds (kind : Pid → Kind) (lp : Pid → Option Pid) (tries : Pid → Nat)
    (path : Pid → List Dir) (explicit : Pid → Bool) (hnd : ∀ p, (path p).Nodup) (evs : List MEv) (p : Pid) (d : Dir)
    (hb : inBodyM ((mrunE (minit kind lp tries path explicit) evs).ctl p) = true) (hd : d ∈ path p) :
    ((mrunE (minit kind lp tries path explicit) evs).comp d).pc p = .hold ∧
    (kind p, p) ∈ ((mrunE (minit kind lp tries path explicit) evs).comp d).files := by
  have hheld := held_mrunE (minit kind lp tries path explicit) evs hnd
    (fun p => held_minit kind lp tries path explicit p) p
  have hinv := inv_mrunE (minit kind lp tries path explicit) evs (fun _ => inv_init kind lp tries) d
  have hh := hheld.body_hold hb (by rw [mrunE_path]; exact hd)
  obtain ⟨sd, hsd⟩ := mrunE_comp_is_run (minit kind lp tries path explicit) evs d
  have := hinv.acct.own_of hh rfl
  rw [hsd, run_kind] at this
  exact ⟨hh, hsd ▸ this⟩

end EupsModel.LockPathR
