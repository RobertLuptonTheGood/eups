import EupsModel.Lemmas.VroEntry
import EupsModel.Lemmas.List
/-! The VRO loop (`walk`, `find` of `Model/Vro.lean`): it stops at the first entry that does not say "continue"
(`AllSkip`, `walk_hit_iff`, `walk_none_iff`; `Skips`, `Indep`: an entry that says so, or answers alike, whatever follows it),
never looks behind the last version entry of a request that names a version (`walk_cut`), and `find` is the walk followed by
the "earlier reason" rule (`find_eq`). -/
namespace EupsModel.Vro

theorem walk_nil (C : Ctx) (r : Req) : walk C r [] = .ok none := rfl

theorem walk_cons_skip {C : Ctx} {r : Req} {e : Str} {post : List Str}
    (h : lookupEntry C r e post = .ok .skip) : walk C r (e :: post) = walk C r post := by
  simp [walk, h]

theorem walk_cons_abort {C : Ctx} {r : Req} {e : Str} {post : List Str}
    (h : lookupEntry C r e post = .ok .abort) : walk C r (e :: post) = .ok none := by
  simp [walk, h]

theorem walk_cons_hit {C : Ctx} {r : Req} {e : Str} {post : List Str} {p : Prod} {reason : Str}
    (h : lookupEntry C r e post = .ok (.hit p reason)) :
    walk C r (e :: post) = .ok (some ⟨p, reason, e⟩) := by
  simp [walk, h]

theorem walk_cons_error {C : Ctx} {r : Req} {e : Str} {post : List Str} {err : Err}
    (h : lookupEntry C r e post = .error err) : walk C r (e :: post) = .error err := by
  simp [walk, h]

theorem walk_cons_congr {C : Ctx} {r : Req} {e : Str} {rest rest' : List Str}
    (hl : lookupEntry C r e rest = lookupEntry C r e rest')
    (h : lookupEntry C r e rest = .ok .skip → walk C r rest = walk C r rest') :
    walk C r (e :: rest) = walk C r (e :: rest') := by
  cases ho : lookupEntry C r e rest with
  | error err => rw [walk_cons_error ho, walk_cons_error (hl ▸ ho)]
  | ok o =>
    cases o with
    | skip => rw [walk_cons_skip ho, walk_cons_skip (hl ▸ ho)]; exact h ho
    | abort => rw [walk_cons_abort ho, walk_cons_abort (hl ▸ ho)]
    | hit p reason => rw [walk_cons_hit ho, walk_cons_hit (hl ▸ ho)]

/-- every entry of `pre` says `continue` when the VRO is `pre ++ rest` -/
def AllSkip (C : Ctx) (r : Req) (pre rest : List Str) : Prop :=
  ∀ a x b, pre = a ++ x :: b → lookupEntry C r x (b ++ rest) = .ok .skip

theorem allSkip_nil (C : Ctx) (r : Req) (rest : List Str) : AllSkip C r [] rest := by
  intro a x b h; simp at h

theorem allSkip_cons {C : Ctx} {r : Req} {x : Str} {pre rest : List Str} :
    AllSkip C r (x :: pre) rest ↔ lookupEntry C r x (pre ++ rest) = .ok .skip ∧ AllSkip C r pre rest := by
  constructor
  · intro h
    refine ⟨h [] x pre rfl, ?_⟩
    intro a y b hab
    exact h (x :: a) y b (by simp [hab])
  · rintro ⟨h1, h2⟩ a y b hab
    cases a with
    | nil =>
      simp at hab
      obtain ⟨rfl, rfl⟩ := hab
      exact h1
    | cons z a' =>
      simp at hab
      obtain ⟨rfl, hab⟩ := hab
      exact h2 a' y b hab

theorem walk_of_allSkip {C : Ctx} {r : Req} {pre rest : List Str} (h : AllSkip C r pre rest) :
    walk C r (pre ++ rest) = walk C r rest := by
  induction pre with
  | nil => rfl
  | cons x pre ih =>
    obtain ⟨h1, h2⟩ := allSkip_cons.mp h
    rw [List.cons_append, walk_cons_skip h1, ih h2]

/-- the entry says "continue" whatever follows it on the VRO -/
def Skips (C : Ctx) (r : Req) (e : Str) : Prop := ∀ post, lookupEntry C r e post = .ok .skip

theorem allSkip_of_skips {C : Ctx} {r : Req} {pre : List Str} (rest : List Str) (h : ∀ e ∈ pre, Skips C r e) :
    AllSkip C r pre rest :=
  fun a e b hsp => h e (by rw [hsp]; simp) _

/-- the entry's answer does not depend on what follows it on the VRO -/
def Indep (C : Ctx) (r : Req) (e : Str) : Prop := ∀ post post', lookupEntry C r e post = lookupEntry C r e post'

theorem indep_tagEntry {C : Ctx} {r : Req} {e key : Str} (h : IsTagEntry C e key) : Indep C r e := by
  intro p p'; rw [lookupEntry_tagKey p h, lookupEntry_tagKey p' h]

theorem walk_hit_iff {C : Ctx} {r : Req} {vro : List Str} {h : Hit} :
    walk C r vro = .ok (some h) ↔
      ∃ pre post, vro = pre ++ h.entry :: post ∧
        lookupEntry C r h.entry post = .ok (.hit h.prod h.reason) ∧ AllSkip C r pre (h.entry :: post) := by
  refine ⟨fun hw => ?_, fun ⟨pre, post, hv, h1, h2⟩ => by rw [hv, walk_of_allSkip h2, walk_cons_hit h1]⟩
  fun_induction walk C r vro
  case case3 e _ hl ih =>  -- the entry says "continue"
    obtain ⟨pre, post, rfl, h1, h2⟩ := ih hw
    exact ⟨e :: pre, post, rfl, h1, allSkip_cons.mpr ⟨hl, h2⟩⟩
  case case5 e rest _ _ hl =>  -- the entry answers
    cases hw
    exact ⟨[], rest, rfl, hl, allSkip_nil _ _ _⟩
  all_goals cases hw  -- empty VRO, an error, "abort": no answer

theorem walk_none_iff {C : Ctx} {r : Req} {vro : List Str} :
    walk C r vro = .ok none ↔
      AllSkip C r vro [] ∨
      ∃ pre e post, vro = pre ++ e :: post ∧ lookupEntry C r e post = .ok .abort ∧
        AllSkip C r pre (e :: post) := by
  constructor
  · intro hw
    fun_induction walk C r vro
    case case1 => exact .inl (allSkip_nil _ _ _)  -- empty VRO
    case case3 e _ hl ih =>  -- the entry says "continue"
      rcases ih hw with h | ⟨pre, e', post, rfl, h1, h2⟩
      · exact .inl (allSkip_cons.mpr ⟨by simpa using hl, h⟩)
      · exact .inr ⟨e :: pre, e', post, rfl, h1, allSkip_cons.mpr ⟨hl, h2⟩⟩
    case case4 e rest hl => exact .inr ⟨[], e, rest, rfl, hl, allSkip_nil _ _ _⟩  -- the entry says "abort"
    all_goals cases hw  -- an error, an answer
  · rintro (h | ⟨pre, e, post, rfl, h1, h2⟩)
    · simpa [walk_nil] using walk_of_allSkip h
    · rw [walk_of_allSkip h2, walk_cons_abort h1]

theorem walk_cut (C : Ctx) (r : Req) (pre : List Str) (e : Str) (post : List Str)
    (hn : r.named.isSome = true) (he : isVT e = true) (hpost : ∀ x ∈ post, isVT x = false) :
    walk C r (pre ++ e :: post) = walk C r (pre ++ [e]) := by
  induction pre with
  | nil =>
    obtain ⟨v, hv⟩ := Option.isSome_iff_exists.mp hn
    have hcongr : lookupEntry C r e post = lookupEntry C r e [] := lookupEntry_congr C r e (vtSame_append_noVT [] hpost)
    refine walk_cons_congr hcongr (fun hs => absurd (hcongr ▸ hs) ?_)
    rw [lookupEntry_vt _ he, hv]
    exact lookupVT_last_ne_skip (by simp)
  | cons x pre ih =>
    have : vtSame (pre ++ e :: post) (pre ++ [e]) := by simpa using vtSame_append_noVT (pre ++ [e]) hpost
    exact walk_cons_congr (lookupEntry_congr C r x this) (fun _ => ih)

theorem walk_entry_mem {C : Ctx} {r : Req} {vro : List Str} {h : Hit} (hw : walk C r vro = .ok (some h)) :
    h.entry ∈ vro := by
  obtain ⟨pre, post, rfl, _, _⟩ := walk_hit_iff.mp hw
  simp

/-! ## `find`: the walk, then the "earlier reason" rule -/

theorem idxOf_eq (e : Str) (l : List Str) : idxOf e l = l.idxOf e := by
  induction l with
  | nil => rfl
  | cons x xs ih => simp [idxOf, List.idxOf_cons, ih]

theorem applyAlready_append (r : Req) (l m : List Str) (h : Hit) (hm : h.entry ∈ l) :
    applyAlready r (l ++ m) h = applyAlready r l h := by
  unfold applyAlready
  cases ha : r.already with
  | none => rfl
  | some pa =>
    obtain ⟨op, ot⟩ := pa
    cases ot with
    | none => rfl
    | some ot =>
      simp only [idxOf_eq, List.idxOf_append, if_pos hm]
      by_cases hot : ot ∈ l
      · -- both are found in `l`
        simp [hot]
      · -- `ot` is found, if at all, behind all of `l`, so behind the entry: the test fails on both sides
        have := List.idxOf_lt_length_of_mem hm
        rw [if_neg hot, if_neg (by simp; omega), if_neg (by simp [hot])]

theorem find_eq (C : Ctx) (r : Req) (vro : List Str) :
    find C r vro = (walk C r vro).map (Option.map (applyAlready r vro)) := by
  unfold find
  cases walk C r vro with
  | error err => rfl
  | ok o => cases o <;> rfl

theorem find_some_iff {C : Ctx} {r : Req} {vro : List Str} {h : Hit} :
    find C r vro = .ok (some h) ↔ ∃ h0, walk C r vro = .ok (some h0) ∧ h = applyAlready r vro h0 := by
  simp only [find_eq, map_eq_ok_iff, Option.map_eq_some_iff]
  exact ⟨fun ⟨_, hw, h0, ho, e⟩ => ⟨h0, ho ▸ hw, e.symm⟩, fun ⟨h0, hw, e⟩ => ⟨_, hw, h0, rfl, e.symm⟩⟩

theorem find_none_iff {C : Ctx} {r : Req} {vro : List Str} : find C r vro = .ok none ↔ walk C r vro = .ok none := by
  simp [find_eq, map_eq_ok_iff]

theorem find_error_iff {C : Ctx} {r : Req} {vro : List Str} {err : Err} :
    find C r vro = .error err ↔ walk C r vro = .error err := by
  rw [find_eq, map_eq_error_iff]

theorem find_eq_walk {C : Ctx} {r : Req} (vro : List Str) (hr : r.already = none) : find C r vro = walk C r vro := by
  have : applyAlready r vro = id := funext fun h => by simp [applyAlready, hr]
  rw [find_eq, this, Option.map_id]
  cases walk C r vro <;> rfl

/-- `walk_cut` for `find`: the entry the walk stops at stands in front of the cut, so the "earlier reason" rule
compares the same positions -/
theorem find_cut (C : Ctx) (r : Req) (pre : List Str) (e : Str) (post : List Str)
    (hn : r.named.isSome = true) (he : isVT e = true) (hpost : ∀ x ∈ post, isVT x = false) :
    find C r (pre ++ e :: post) = find C r (pre ++ [e]) := by
  rw [find_eq, find_eq, walk_cut C r pre e post hn he hpost]
  cases hw : walk C r (pre ++ [e]) with
  | error err => rfl
  | ok o =>
    cases o with
    | none => rfl
    | some h =>
      have := applyAlready_append r (pre ++ [e]) post h (walk_entry_mem hw)
      rw [List.append_assoc, List.singleton_append] at this
      show Except.ok (some (applyAlready r (pre ++ e :: post) h)) = .ok (some (applyAlready r (pre ++ [e]) h))
      rw [this]

theorem walk_error {C : Ctx} {r : Req} {vro : List Str} {err : Err} (h : walk C r vro = .error err) :
    err ≠ .outOfFuel := by
  fun_induction walk C r vro
  case case2 he => cases h; exact lookupEntry_error he  -- the entry fails
  case case3 ih => exact ih h  -- the entry says "continue"
  all_goals cases h

theorem find_error {C : Ctx} {r : Req} {vro : List Str} {err : Err} (h : find C r vro = .error err) :
    err ≠ .outOfFuel :=
  walk_error (find_error_iff.mp h)

end EupsModel.Vro
