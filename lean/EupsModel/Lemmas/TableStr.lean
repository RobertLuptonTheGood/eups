import EupsModel.Spec.C11
import EupsModel.Lemmas.List
import EupsModel.Lemmas.Text
/-! Facts about the string helpers of the table reader (`dropSpaces`, `lowerPrefix`, `splitLast`, `replGo` as the
shared `Text.replGo`, keywords in any letter case) shared by the lemmas on block lines and on command lines. -/
namespace EupsModel.TableParse
open EupsModel.Cond EupsModel.C11Spec

theorem dropSpaces_append {sp x : Str} (hsp : blank sp = true) (hx : nsp x = true) : dropSpaces (sp ++ x) = x :=
  (span_append (List.all_eq_true.mp hsp) (by cases x <;> simp_all [nsp])).2

theorem replGo_eq (pat rep : Str) (k : Nat) (s : Str) : replGo pat rep k s = Text.replGo pat rep k s := by
  induction s generalizing k with
  | nil => cases k <;> rfl
  | cons x xs ih => cases k <;> simp [replGo, Text.replGo, ih]

theorem replGo_free {d : Nat} {pat' rep s : Str} (hs : d ∉ s) (x : Str) :
    replGo (d :: pat') rep 0 (s ++ x) = s ++ replGo (d :: pat') rep 0 x := by
  simpa only [replGo_eq, Text.replace] using Text.replace_free rep hs x

theorem replaceAll_absent {pat rep s : Str} {d : Nat} (hp : pat.head? = some d) (h : d ∉ s) :
    replaceAll pat rep s = s := (replGo_eq ..).trans (Text.replace_absent hp h)

theorem replGo_noinfix {pat rep : Str} : ∀ (s : Str), isInfix pat s = false → replGo pat rep 0 s = s := by
  intro s
  induction s with
  | nil => intro _; rfl
  | cons c cs ih =>
    intro h
    simp only [isInfix, Bool.or_eq_false_iff] at h
    simp [replGo, h.1, ih h.2]

theorem lower_length (k : Str) : (Str.lower k).length = k.length := by simp [Str.lower]

theorem lowerPrefix_of_lower {kw k : Str} (h : Str.lower k = kw) (rest : Str) :
    lowerPrefix kw (k ++ rest) = some rest := by
  have hl : kw.length = k.length := by rw [← h, lower_length]
  simp [lowerPrefix, hl, h]

theorem take_isPrefixOf {a b : Str} (h : b.take a.length = a) : a.isPrefixOf b = true :=
  List.isPrefixOf_iff_prefix.mpr (List.prefix_iff_eq_take.mpr h.symm)

theorem isPrefixOf_take {a b : Str} (h : a.isPrefixOf b = true) : b.take a.length = a :=
  (List.prefix_iff_eq_take.mp (List.isPrefixOf_iff_prefix.mp h)).symm

theorem lowerPrefix_none_key {name k target : Str} (hk : Str.lower name = k) (h1 : k.isPrefixOf target = false)
    (h2 : target.isPrefixOf k = false) (rest : Str) : lowerPrefix target (name ++ rest) = none := by
  have hlen : name.length = k.length := by rw [← hk, lower_length]
  have : (Str.lower ((name ++ rest).take target.length) == target) = false := by
    simp only [beq_eq_false_iff_ne, ne_eq]
    intro e
    by_cases hle : target.length ≤ name.length
    · rw [List.take_append_of_le_length hle] at e
      have : k.take target.length = target := by
        rw [← hk, ← e]; simp [Str.lower, List.map_take]
      rw [take_isPrefixOf this] at h2; cases h2
    · have hgt : name.length < target.length := by omega
      have e' : target.take k.length = k := by
        rw [← e, ← hlen, ← hk]
        simp only [Str.lower, ← List.map_take]
        congr 1
        rw [List.take_take, Nat.min_eq_left (by omega), List.take_left']
        rfl
      rw [take_isPrefixOf e'] at h1; cases h1
  unfold lowerPrefix
  rw [this]; rfl

def lowerCh (c : Nat) : Nat := if Str.isUpper c then c + 32 else c

theorem lowerPrefix_none_head {kw s : Str} {c d : Nat} {s' kw' : Str} (hs : s = c :: s') (hk : kw = d :: kw')
    (hne : lowerCh c ≠ d) : lowerPrefix kw s = none := by
  subst hs hk
  have : (Str.lower ((c :: s').take (d :: kw').length) == d :: kw') = false := by
    simp only [List.length_cons, List.take_succ_cons, Str.lower, List.map_cons, beq_eq_false_iff_ne, ne_eq,
      List.cons.injEq, not_and]
    intro h; exact absurd h hne
  unfold lowerPrefix
  rw [this]; rfl

theorem splitLast_none {c : Nat} {y : Str} (h : c ∉ y) : splitLast c y = none := by
  induction y with
  | nil => rfl
  | cons a as ih =>
    obtain ⟨h1, h2⟩ := List.ne_and_not_mem_of_not_mem_cons h
    simp [splitLast, ih h2, h1.symm]

theorem splitLast_append {c : Nat} (x : Str) {y : Str} (h : c ∉ y) : splitLast c (x ++ c :: y) = some (x, y) := by
  induction x with
  | nil => simp [splitLast, splitLast_none h]
  | cons a as ih => simp [splitLast, ih]

theorem head_of_lower {k : Str} {c0 : Nat} {r0 : Str} (h : Str.lower k = c0 :: r0) (hc : 97 ≤ c0 ∧ c0 ≤ 122) :
    ∃ c cs, k = c :: cs ∧ Str.isSpace c = false ∧ lowerCh c = c0 := by
  cases k with
  | nil => simp [Str.lower] at h
  | cons c cs =>
    simp only [Str.lower, List.map_cons, List.cons.injEq] at h
    refine ⟨c, cs, rfl, ?_, h.1⟩
    have := h.1
    simp only [Str.isSpace, Bool.or_eq_false_iff, beq_eq_false_iff_ne, ne_eq, Bool.and_eq_false_iff,
      decide_eq_false_iff_not]
    by_cases hu : Str.isUpper c = true
    · simp only [Str.isUpper, Bool.and_eq_true, decide_eq_true_eq] at hu; omega
    · simp only [hu] at this; simp only [Bool.false_eq_true, if_false] at this; omega

theorem nsp_of_lower {k : Str} {c0 : Nat} {r0 : Str} (h : Str.lower k = c0 :: r0) (hc : 97 ≤ c0 ∧ c0 ≤ 122) (rest : Str) :
    nsp (k ++ rest) = true := by
  obtain ⟨c, cs, rfl, hs, _⟩ := head_of_lower h hc
  simp [nsp, hs]

end EupsModel.TableParse
