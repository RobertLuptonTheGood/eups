import EupsModel.Lemmas.PathSubst
import EupsModel.Lemmas.PathAlgRef
/-! The product macros of `Model/PathAct.lean`: `expandMacros` as two runs of substitutions (`Lemmas/PathSubst.lean`)
around the PRODUCT_DIR step; what it makes of text without `$`, of `${PRODUCT_DIR}` and of `$?{PRODUCT_DIR}`. -/
namespace EupsModel.PathAct
open EupsModel EupsModel.PathAlg

theorem mPRODUCTS_eq : mPRODUCTS = [36,123,80,82,79,68,85,67,84,83,125] := by unfold mPRODUCTS; decide_lit
theorem mDIR_eq : mDIR = [36,123,80,82,79,68,85,67,84,95,68,73,82,125] := by unfold mDIR; decide_lit
theorem mDIRopt_eq : mDIRopt = [36,63,123,80,82,79,68,85,67,84,95,68,73,82,125] := by
  unfold mDIRopt; decide_lit
theorem mEXTRA_eq : mEXTRA = [36,123,80,82,79,68,85,67,84,95,68,73,82,95,69,88,84,82,65,125] := by
  unfold mEXTRA; decide_lit
theorem mEXTRAopt_eq : mEXTRAopt = [36,63,123,80,82,79,68,85,67,84,95,68,73,82,95,69,88,84,82,65,125] := by
  unfold mEXTRAopt; decide_lit
theorem mFLAVOR_eq : mFLAVOR = [36,123,80,82,79,68,85,67,84,95,70,76,65,86,79,82,125] := by
  unfold mFLAVOR; decide_lit
theorem mNAME_eq : mNAME = [36,123,80,82,79,68,85,67,84,95,78,65,77,69,125] := by unfold mNAME; decide_lit
theorem mVERSION_eq : mVERSION = [36,123,80,82,79,68,85,67,84,95,86,69,82,83,73,79,78,125] := by
  unfold mVERSION; decide_lit
theorem mUPS_eq : mUPS = [36,123,85,80,83,95,68,73,82,125] := by unfold mUPS; decide_lit
theorem mNameDir_eq (name : Str) : mNameDir name = 36 :: 123 :: (upper name ++ Str.ofString "_DIR}") := rfl

theorem upper_not_mem (x : Nat) (hx : Str.isUpper x = false) (name : Str) (h : x ∉ name) : x ∉ upper name := by
  intro hm
  unfold upper at hm
  rw [List.mem_map] at hm
  obtain ⟨a, ha, he⟩ := hm
  by_cases hl : Str.isLower a = true
  · rw [if_pos hl] at he
    simp [Str.isLower, Str.isUpper] at hl hx
    omega
  · rw [if_neg hl] at he
    exact h (he ▸ ha)

theorem pdirAt_ne (c : Nat) (cs : Str) (h : c ≠ 36) : pdirAt (c :: cs) = none := by
  unfold pdirAt
  rw [mDIR_eq, mDIRopt_eq, mEXTRA_eq, mEXTRAopt_eq]
  simp [isPrefixOf_head_ne 36 c _ cs h]

theorem firstPdir_pre (pre r : Str) (h : 36 ∉ pre) : firstPdir (pre ++ r) = firstPdir r := by
  induction pre with
  | nil => rfl
  | cons c cs ih =>
    obtain ⟨hc, hcs⟩ := List.ne_and_not_mem_of_not_mem_cons h
    rw [List.cons_append, firstPdir, pdirAt_ne c _ hc.symm]
    exact ih hcs

theorem firstPdir_no_dollar (s : Str) (h : 36 ∉ s) : firstPdir s = none := by
  have := firstPdir_pre s [] h
  rwa [List.append_nil] at this

theorem expandPdir_no_dollar (p : ProdInfo) (s : Str) (h : 36 ∉ s) : expandPdir p s = s := by
  simp [expandPdir, firstPdir_no_dollar s h]

theorem head_mPRODUCTS : mPRODUCTS.head? = some 36 := by unfold mPRODUCTS; decide_lit
theorem head_mFLAVOR : mFLAVOR.head? = some 36 := by unfold mFLAVOR; decide_lit
theorem head_mNAME : mNAME.head? = some 36 := by unfold mNAME; decide_lit
theorem head_mVERSION : mVERSION.head? = some 36 := by unfold mVERSION; decide_lit
theorem head_mUPS : mUPS.head? = some 36 := by unfold mUPS; decide_lit
theorem head_mNameDir (name : Str) : (mNameDir name).head? = some 36 := rfl

/-- the steps of `expandEupsVariables` after the PRODUCT_DIR step, in its order -/
def tailTable (p : ProdInfo) : List (Str × Option Str) :=
  [(mNameDir p.name, truthy p.dir), (mFLAVOR, truthy p.flavor), (mNAME, some p.name),
   (mVERSION, truthy p.version), (mUPS, some p.upsDir)]

/-- the tables are taken apart entry by entry with `substRun_cons`, so that the texts of the patterns are carried
along and never evaluated -/
theorem expandMacros_pipeline (p : ProdInfo) (v : Str) :
    expandMacros p v = substRun (tailTable p) (expandPdir p (substRun [(mPRODUCTS, truthy p.root)] v)) := by
  unfold tailTable
  rw [substRun_cons, substRun_cons, substRun_cons, substRun_cons, substRun_cons, substRun_cons,
    substRun_nil, substRun_nil]
  rfl

theorem expandPdir_one_dollar_none (p : ProdInfo) {s pre xs : Str} (hs : s = pre ++ 36 :: xs) (hpre : 36 ∉ pre)
    (hxs : 36 ∉ xs) (hn : pdirAt (36 :: xs) = none) : expandPdir p s = s := by
  subst hs
  unfold expandPdir
  rw [firstPdir_pre _ _ hpre, firstPdir, hn, firstPdir_no_dollar _ hxs]

theorem dollar_products (o : Option Str) : Dollar [(mPRODUCTS, o)] := Dollar.cons head_mPRODUCTS Dollar.nil

theorem dollar_tail (p : ProdInfo) : Dollar (tailTable p) :=
  Dollar.cons (head_mNameDir p.name) (Dollar.cons head_mFLAVOR (Dollar.cons head_mNAME
    (Dollar.cons head_mVERSION (Dollar.cons head_mUPS Dollar.nil))))

theorem expandMacros_no_dollar (p : ProdInfo) (s : Str) (h : 36 ∉ s) : expandMacros p s = s := by
  rw [expandMacros_pipeline, substRun_no_dollar _ s (dollar_products _) h, expandPdir_no_dollar p s h,
    substRun_no_dollar _ s (dollar_tail p) h]

theorem Act.expandMacros_no_dollar (p : ProdInfo) (a : Act)
    (h : match a with
      | .path _ var value delim => 36 ∉ var ∧ 36 ∉ value ∧ 36 ∉ delim
      | .set var value => 36 ∉ var ∧ 36 ∉ value
      | .unset var => 36 ∉ var
      | .alias key ws => 36 ∉ key ∧ ∀ w ∈ ws, 36 ∉ w) : a.expandMacros p = a := by
  have r := PathAct.expandMacros_no_dollar p
  cases a with
  | path app var value delim => simp only [Act.expandMacros, Act.mapArgs, r _ h.1, r _ h.2.1, r _ h.2.2]
  | set var value => simp only [Act.expandMacros, Act.mapArgs, r _ h.1, r _ h.2]
  | unset var => simp only [Act.expandMacros, Act.mapArgs, r _ h]
  | alias key ws =>
    simp only [Act.expandMacros, Act.mapArgs, r _ h.1]
    rw [map_eq_self fun w hw => r w (h.2 w hw)]

/-- `${PRODUCT_DIR}` without its `$` -/
def dirTail : Str := [123,80,82,79,68,85,67,84,95,68,73,82,125]
/-- `$?{PRODUCT_DIR}` without its `$` -/
def dirOptTail : Str := [63,123,80,82,79,68,85,67,84,95,68,73,82,125]

theorem mDIR_cons : mDIR = 36 :: dirTail := mDIR_eq
theorem mDIRopt_cons : mDIRopt = 36 :: dirOptTail := mDIRopt_eq
theorem dirTail_no_dollar : 36 ∉ dirTail := by decide
theorem dirOptTail_no_dollar : 36 ∉ dirOptTail := by decide

theorem firstPdir_at (s : Str) (m : Bool × Bool × Str) (hne : s ≠ []) (h : pdirAt s = some m) :
    firstPdir s = some m := by
  cases s with
  | nil => exact absurd rfl hne
  | cons c cs => rw [firstPdir, h]

theorem firstPdir_mDIR (tail : Str) : firstPdir (mDIR ++ tail) = some (false, false, mDIR) := by
  refine firstPdir_at _ _ (by rw [mDIR_cons]; simp) ?_
  unfold pdirAt
  rw [if_pos (isPrefixOf_append_self mDIR tail)]

theorem firstPdir_mDIRopt (tail : Str) : firstPdir (mDIRopt ++ tail) = some (true, false, mDIRopt) := by
  have hn : mDIR.isPrefixOf (mDIRopt ++ tail) = false := by
    rw [mDIR_eq, mDIRopt_cons]; simp [dirOptTail, List.isPrefixOf]
  refine firstPdir_at _ _ (by rw [mDIRopt_cons]; simp) ?_
  unfold pdirAt
  rw [if_neg (by rw [hn]; simp), if_pos (isPrefixOf_append_self mDIRopt tail)]

theorem truthy_some_ne (d : Str) (h : d ≠ []) : truthy (some d) = some d := by
  cases d with
  | nil => exact absurd rfl h
  | cons c cs => rfl

theorem expandPdir_mDIR (p : ProdInfo) (d s : Str) (hd : p.dir = some d) (hne : d ≠ [])
    (hf : firstPdir s = some (false, false, mDIR)) : expandPdir p s = replaceAll mDIR d s := by
  unfold expandPdir
  simp only [hf, hd, truthy_some_ne d hne, Bool.false_and, Bool.false_eq_true, if_false]

theorem expandMacros_product_dir (p : ProdInfo) (d tail : Str) (hd : p.dir = some d) (hne : d ≠ [])
    (hd36 : 36 ∉ d) (ht : 36 ∉ tail) : expandMacros p (mDIR ++ tail) = d ++ tail := by
  -- `${PRODUCTS}` does not stand at `${PRODUCT_DIR}`; the PRODUCT_DIR step replaces it; what is left has no `$`
  rw [expandMacros_pipeline,
    substRun_one_dollar_none (pre := []) (xs := dirTail ++ tail) (by rw [mDIR_cons]; rfl) (dollar_products _) (by simp)
      (by simp [dirTail_no_dollar, ht])
      (NoneAt.cons (by simp [mPRODUCTS_eq, dirTail, List.isPrefixOf]) (NoneAt.nil _)),
    expandPdir_mDIR p d _ hd hne (firstPdir_mDIR tail), mDIR_cons, replaceAll_prefix,
    replaceAll_absent _ _ _ rfl ht, substRun_no_dollar _ _ (dollar_tail p) (by simp [hd36, ht])]

/-- every occurrence is replaced, e.g. `${PRODUCT_DIR}/lib:${PRODUCT_DIR}/lib64` -/
theorem expandPdir_two (p : ProdInfo) (d t1 t2 : Str) (hd : p.dir = some d) (hne : d ≠ [])
    (h1 : 36 ∉ t1) (h2 : 36 ∉ t2) :
    expandPdir p (mDIR ++ t1 ++ mDIR ++ t2) = d ++ t1 ++ d ++ t2 := by
  rw [List.append_assoc, List.append_assoc,
    expandPdir_mDIR p d _ hd hne (firstPdir_mDIR _), mDIR_cons, replaceAll_prefix, ← List.append_assoc t1,
    replaceAll_pre_then_prefix 36 _ _ _ _ h1, replaceAll_absent _ _ _ rfl h2]
  simp

/-- no directory: `None`, `""` or `"none"` -/
theorem expandPdir_mDIRopt_none (p : ProdInfo) (s : Str) (hd : p.dir = some sNone ∨ truthy p.dir = none)
    (hf : firstPdir s = some (true, false, mDIRopt)) : expandPdir p s = s := by
  unfold expandPdir
  rw [hf]
  rcases hd with hd | hd
  · simp only [hd, beq_self_eq_true, Bool.and_self, if_true, Bool.false_eq_true, if_false]
  · simp only [hd, ite_self, Bool.false_eq_true, if_false]

theorem expandMacros_optional_dir_none (p : ProdInfo) (tail : Str)
    (hd : p.dir = some sNone ∨ truthy p.dir = none) (ht : 36 ∉ tail) :
    expandMacros p (mDIRopt ++ tail) = mDIRopt ++ tail := by
  have hrest : 36 ∉ dirOptTail ++ tail := by simp [dirOptTail_no_dollar, ht]
  -- every substitution goes on `${`, the text on `$?{`; the PRODUCT_DIR step finds its optional form and declines
  have nm : ∀ ps : Str, (36 :: 123 :: ps).isPrefixOf (36 :: (dirOptTail ++ tail)) = false := fun _ => rfl
  rw [expandMacros_pipeline,
    substRun_one_dollar_none (pre := []) (by rw [mDIRopt_cons]; rfl) (dollar_products _) (by simp) hrest
      (NoneAt.cons (by rw [mPRODUCTS_eq]; exact nm _) (NoneAt.nil _)),
    expandPdir_mDIRopt_none p _ hd (firstPdir_mDIRopt tail),
    substRun_one_dollar_none (pre := []) (by rw [mDIRopt_cons]; rfl) (dollar_tail p) (by simp) hrest
      (NoneAt.cons (by rw [mNameDir_eq]; exact nm _) (NoneAt.cons (by rw [mFLAVOR_eq]; exact nm _)
        (NoneAt.cons (by rw [mNAME_eq]; exact nm _) (NoneAt.cons (by rw [mVERSION_eq]; exact nm _)
          (NoneAt.cons (by rw [mUPS_eq]; exact nm _) (NoneAt.nil _))))))]

theorem expand_mDIRopt_undefined (env : Env) (tail : Str)
    (hundef : env.get (Str.ofString "PRODUCT_DIR") = none) : expand env (mDIRopt ++ tail) = .skip := by
  have hk : GoodKey (Str.ofString "PRODUCT_DIR") := by unfold GoodKey; decide_lit
  have hc : mDIRopt = 36 :: 63 :: 123 :: (Str.ofString "PRODUCT_DIR" ++ [125]) := by
    unfold mDIRopt; decide_lit
  have := expand_optional_head_undefined env _ tail hk hundef
  rwa [hc, List.cons_append, List.cons_append, List.cons_append, List.append_assoc]

theorem startsWith_mDIRopt (c : Nat) (tail : Str) (hc : c ≠ 36) : startsWith (mDIRopt ++ tail) [c] = false := by
  rw [mDIRopt_cons]
  exact isPrefixOf_head_ne c 36 [] _ (Ne.symm hc)

/-! A `ProdInfo` is written ⟨root, dir, extraDir, extraExists, name, flavor, version, upsDir⟩. -/

def exProd : ProdInfo :=
  ⟨some (Str.ofString "/st"), some (Str.ofString "/st/p/1"), [], false, Str.ofString "p",
    some (Str.ofString "F"), some (Str.ofString "1"), Str.ofString "/st/p/1/ups"⟩

example : expandMacros exProd (Str.ofString "${PRODUCT_DIR}/bin") = Str.ofString "/st/p/1/bin" := by
  unfold exProd; decide_lit
example : expandMacros exProd (Str.ofString "${P_DIR}/bin") = Str.ofString "/st/p/1/bin" := by
  unfold exProd; decide_lit
example : expandMacros exProd (Str.ofString "${PRODUCTS}/${PRODUCT_NAME}/${PRODUCT_VERSION}/${PRODUCT_FLAVOR}")
    = Str.ofString "/st/p/1/F" := by unfold exProd; decide_lit
example : expandMacros exProd (Str.ofString "${UPS_DIR}/x") = Str.ofString "/st/p/1/ups/x" := by
  unfold exProd; decide_lit
example : expandMacros { exProd with dir := some sNone } (Str.ofString "$?{PRODUCT_DIR}/bin")
    = Str.ofString "$?{PRODUCT_DIR}/bin" := by unfold exProd; decide_lit
example : expandMacros { exProd with dir := none } (Str.ofString "$?{PRODUCT_DIR}/bin")
    = Str.ofString "$?{PRODUCT_DIR}/bin" := by unfold exProd; decide_lit
example : expand [] (mDIRopt ++ Str.ofString "/bin") = .skip := by decide_lit
example : legacySyn (Str.ofString "${UPS_PROD_DIR}/bin:${UPS_DB}") = Str.ofString "${PRODUCT_DIR}/bin:${PRODUCTS}" := by
  decide_lit
example : GoodPiece 58 (Str.ofString "/st/p/1" ++ Str.ofString "/bin") := by unfold GoodPiece; decide_lit

end EupsModel.PathAct
