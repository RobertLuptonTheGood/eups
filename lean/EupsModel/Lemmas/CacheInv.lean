import EupsModel.Lemmas.Cache
import EupsModel.Lemmas.Agree
import EupsModel.Lemmas.DbPlan
/-! The invariant of C07 (`CacheInv`): a cache file that the load rule would accept agrees with the database on
its (stack, flavor) slice — stated product by product, because the freshness test of `Database.isNewerThan`
only sees the product directories that still exist.  The invariant is kept by loading (`load_inv`), by every effect in
its three parts, by crashes and by cache deletion (`step_inv`); under it a command that is not killed is `Db.run` from a
view that agrees with the files (`step_run`). -/
namespace EupsModel.Cache
open EupsModel.Db

theorem mem_dedup (l : List Str) (x : Str) : x ∈ dedup l ↔ x ∈ l := mem_keepFirst rfl (fun _ _ => rfl) l x

/-- the product directory `ups_db/<n>` of stack `s` holds a version file -/
def ProductExists (db : Spec) (s : Nat) (n : Name) : Prop := ∃ d ∈ db.decls, d.stack = s ∧ d.name = n

theorem mem_dbNames (db : Spec) (s : Nat) (n : Name) : n ∈ dbNames db s ↔ ProductExists db s n := by
  simp only [dbNames, mem_dedup, List.mem_map, List.mem_filter, ProductExists]
  constructor
  · rintro ⟨d, ⟨hd, hs⟩, rfl⟩; exact ⟨d, hd, by simpa using hs, rfl⟩
  · rintro ⟨d, hd, hs, rfl⟩; exact ⟨d, ⟨hd, by simpa using hs⟩, rfl⟩

theorem mem_specNames (c : Spec) (n : Name) : n ∈ specNames c ↔ ∃ d ∈ c.decls, d.name = n := by
  simp only [specNames, mem_dedup, List.mem_map]

theorem sameSet_iff (a b : List Str) : sameSet a b = true ↔ ∀ x, x ∈ a ↔ x ∈ b := by
  simp only [sameSet, Bool.and_eq_true, List.all_eq_true, List.contains_iff_mem]
  constructor
  · rintro ⟨h1, h2⟩ x; exact ⟨h1 x, h2 x⟩
  · intro h; exact ⟨fun x hx => (h x).mp hx, fun x hx => (h x).mpr hx⟩

theorem upToDate_iff (w : World) (s : Nat) (t : Nat) :
    upToDate w s t = true ↔ ∀ x ∈ w.touch, x.stack = s → x.mtime ≤ t := by
  simp only [upToDate, List.all_eq_true, Bool.or_eq_true, bne_iff_ne, ne_eq, decide_eq_true_eq]
  constructor
  · intro h x hx hs; rcases h x hx with h | h; exact absurd hs h; exact h
  · intro h x hx; by_cases hs : x.stack = s; exact Or.inr (h x hx hs); exact Or.inl hs

def Confined (c : Spec) (s : Nat) (f : Flav) : Prop :=
  (∀ d ∈ c.decls, d.stack = s ∧ d.flav = f) ∧ (∀ r ∈ c.tags, r.stack = s ∧ r.flav = f)

structure CacheInv (w : World) : Prop where
  dbinv : DbInv w.db
  cache_time : ∀ cf ∈ w.caches, cf.mtime < w.now
  touch_time : ∀ t ∈ w.touch, t.mtime < w.now
  touch_alive : ∀ s n, ProductExists w.db s n → ∃ t ∈ w.touch, t.stack = s ∧ t.name = n
  /-- a cache file at least as new as a product directory agrees with the database on that product -/
  fresh : ∀ cf ∈ w.caches, cf.stack < w.nst → ∀ n, ProductExists w.db cf.stack n →
            (∀ t ∈ w.touch, t.stack = cf.stack → t.name = n → t.mtime ≤ cf.mtime) →
            AgreeOnN cf.c w.db cf.stack cf.flav n
  wf : ∀ cf ∈ w.caches, cf.stack < w.nst → Confined cf.c cf.stack cf.flav ∧ NoDangling cf.c

theorem cacheInv_init (nst : Nat) (dirs : List DirEnt) (tfs : List TFile) : CacheInv (World.init nst dirs tfs) := by
  refine ⟨dbInv_empty, ?_, ?_, ?_, ?_, ?_⟩ <;> simp [World.init, ProductExists, Spec.empty]

theorem CacheInv.of_fewer {w w' : World} (h : CacheInv w) (hdb : w'.db = w.db) (hnst : w'.nst = w.nst)
    (ht : w'.touch = w.touch) (hnow : w'.now = w.now) (hc : ∀ cf ∈ w'.caches, cf ∈ w.caches) : CacheInv w' := by
  obtain ⟨nst', db', dirs', touch', caches', now', ex', tf'⟩ := w'
  dsimp only at hdb hnst ht hnow hc
  subst hdb hnst ht hnow
  exact ⟨h.dbinv, fun cf hcf => h.cache_time cf (hc cf hcf), h.touch_time, h.touch_alive,
    fun cf hcf => h.fresh cf (hc cf hcf), fun cf hcf => h.wf cf (hc cf hcf)⟩

theorem accepts_agree {w : World} (h : CacheInv w) {cf : CacheFile} (hc : cf ∈ w.caches) (hs : cf.stack < w.nst)
    (ha : accepts w cf = true) : AgreeOn cf.c w.db cf.stack cf.flav := by
  simp only [accepts, Bool.and_eq_true] at ha
  obtain ⟨hup, hnames⟩ := ha
  rw [upToDate_iff] at hup
  have hnames : ∀ x, x ∈ specNames cf.c → x ∈ dbNames w.db cf.stack := by
    simpa only [List.all_eq_true, List.contains_iff_mem] using hnames
  obtain ⟨hconf, hnd⟩ := h.wf cf hc hs
  intro n
  by_cases hex : ProductExists w.db cf.stack n
  · exact h.fresh cf hc hs n hex (fun t ht h1 _ => hup t ht h1)
  · -- the product is in neither: the cache names only products of the database, and tags need a declaration
    have hnc : ¬ ∃ d ∈ cf.c.decls, d.name = n := by
      intro hh
      exact hex ((mem_dbNames _ _ _).mp (hnames n ((mem_specNames _ _).mpr hh)))
    refine ⟨fun d h1 _ h3 => iff_of_false (fun hd => hnc ⟨d, hd, h3⟩) (fun hd => hex ⟨d, hd, h1, h3⟩),
      fun r h1 _ h3 => iff_of_false (fun hr => ?_) (fun hr => ?_)⟩
    · obtain ⟨d, hd, hk⟩ := Spec.hasDecl_iff.mp (hnd r hr)
      exact hnc ⟨d, hd, (Decl.hasKey_iff.mp hk).2.1.trans h3⟩
    · obtain ⟨d, hd, hk⟩ := Spec.hasDecl_iff.mp (h.dbinv.nd r hr)
      exact hex ⟨d, hd, (Decl.hasKey_iff.mp hk).1.trans h1, (Decl.hasKey_iff.mp hk).2.1.trans h3⟩

theorem mem_restrict_decls (c : Spec) (s : Nat) (f : Flav) (d : Decl) :
    d ∈ (restrict c s f).decls ↔ d ∈ c.decls ∧ d.stack = s ∧ d.flav = f := by
  simp [restrict, List.mem_filter]

theorem mem_restrict_tags (c : Spec) (s : Nat) (f : Flav) (r : TagRec) :
    r ∈ (restrict c s f).tags ↔ r ∈ c.tags ∧ r.stack = s ∧ r.flav = f := by
  simp [restrict, List.mem_filter]

theorem restrict_confined (c : Spec) (s : Nat) (f : Flav) : Confined (restrict c s f) s f :=
  ⟨fun d hd => ((mem_restrict_decls c s f d).mp hd).2, fun r hr => ((mem_restrict_tags c s f r).mp hr).2⟩

theorem restrict_agree (c : Spec) (s : Nat) (f : Flav) : AgreeOn (restrict c s f) c s f := by
  intro n
  refine ⟨fun d h1 h2 _ => ?_, fun r h1 h2 _ => ?_⟩
  · rw [mem_restrict_decls]; exact ⟨fun h => h.1, fun h => ⟨h, h1, h2⟩⟩
  · rw [mem_restrict_tags]; exact ⟨fun h => h.1, fun h => ⟨h, h1, h2⟩⟩

theorem restrict_noDangling {m db : Spec} {s : Nat} {f : Flav} (h : AgreeOn m db s f) (hdb : NoDangling db) :
    NoDangling (restrict m s f) := by
  intro r hr
  obtain ⟨hrm, h1, h2⟩ := (mem_restrict_tags m s f r).mp hr
  have hrd : r ∈ db.tags := ((h r.name).2 r h1 h2 rfl).mp hrm
  have := hdb r hrd
  rw [Spec.hasDecl_iff] at this ⊢
  obtain ⟨d, hd, hk⟩ := this
  have k := Decl.hasKey_iff.mp hk
  refine ⟨d, (mem_restrict_decls m s f d).mpr ⟨((h r.name).1 d (k.1.trans h1) (k.2.2.2.trans h2) k.2.1).mpr hd,
    k.1.trans h1, k.2.2.2.trans h2⟩, hk⟩

theorem mem_setCache {cs : List CacheFile} {c x : CacheFile} (h : x ∈ setCache cs c) : x = c ∨ x ∈ cs := by
  simp only [setCache, List.mem_cons, List.mem_filter] at h
  rcases h with h | h
  · exact Or.inl h
  · exact Or.inr h.1

theorem save_inv {w : World} (h : CacheInv w) (u : User) (s : Nat) (f : Flav) (m : Spec)
    (hm : s < w.nst → AgreeOn m w.db s f) :
    CacheInv { w with caches := setCache w.caches ⟨u, s, f, restrict m s f, w.now⟩, now := w.now + 1 } := by
  refine ⟨h.dbinv, ?_, ?_, h.touch_alive, ?_, ?_⟩
  · intro cf hcf
    rcases mem_setCache hcf with rfl | hcf
    · exact Nat.lt_succ_self _
    · exact Nat.lt_succ_of_lt (h.cache_time cf hcf)
  · intro t ht; exact Nat.lt_succ_of_lt (h.touch_time t ht)
  · intro cf hcf hs n hex htouch
    rcases mem_setCache hcf with rfl | hcf
    · exact ((restrict_agree m s f) n).trans (hm hs n)
    · exact h.fresh cf hcf hs n hex htouch
  · intro cf hcf hs
    rcases mem_setCache hcf with rfl | hcf
    · exact ⟨restrict_confined m s f, restrict_noDangling (hm hs) h.dbinv.nd⟩
    · exact h.wf cf hcf hs

theorem snapshot_agree {db : Spec} (hdb : NoDangling db) (s : Nat) (f : Flav) : AgreeOn (snapshot db s) db s f := by
  intro n
  refine ⟨fun d h1 _ _ => ?_, fun r h1 _ _ => ?_⟩
  · simp [snapshot, List.mem_filter, h1]
  · simp only [snapshot, List.mem_filter, Bool.and_eq_true, beq_iff_eq]
    exact ⟨fun h => h.1, fun h => ⟨h, h1, hdb r h⟩⟩

theorem snapshot_stack (db : Spec) (s : Nat) :
    (∀ d ∈ (snapshot db s).decls, d.stack = s ∧ d ∈ db.decls) ∧ (∀ r ∈ (snapshot db s).tags, r.stack = s) := by
  constructor
  · intro d hd; simp only [snapshot, List.mem_filter, beq_iff_eq] at hd; exact hd.symm
  · intro r hr; simp only [snapshot, List.mem_filter, Bool.and_eq_true, beq_iff_eq] at hr; exact hr.2.1

theorem saveAll_inv (u : User) (s : Nat) (m : Spec) (fs : List Flav) {w : World} (h : CacheInv w)
    (hm : ∀ f ∈ fs, s < w.nst → AgreeOn m w.db s f) : CacheInv (saveAll u s m fs w) := by
  induction fs generalizing w with
  | nil => exact h
  | cons f fs ih =>
    simp only [saveAll]
    exact ih (save_inv h u s f m (hm f (by simp))) (fun f' hf' => hm f' (by simp [hf']))

theorem findCaches_some {w : World} {u : User} {s : Nat} {fs : List Flav} {cfs : List CacheFile}
    (h : findCaches w u s fs = some cfs) :
    cfs.map (·.flav) = fs ∧ ∀ cf ∈ cfs, cf ∈ w.caches ∧ cf.stack = s := by
  induction fs generalizing cfs with
  | nil => simp only [findCaches, Option.some.injEq] at h; subst h; exact ⟨rfl, by intro cf hcf; cases hcf⟩
  | cons f fs ih =>
    simp only [findCaches] at h
    cases hf : w.findCache u s f with
    | none => rw [hf] at h; cases h
    | some c =>
      cases hfs : findCaches w u s fs with
      | none => rw [hf, hfs] at h; cases h
      | some cs =>
        rw [hf, hfs] at h
        simp only [Option.some.injEq] at h
        subst h
        obtain ⟨h1, h2⟩ := ih hfs
        have hp := List.find?_some hf
        simp only [Bool.and_eq_true, beq_iff_eq] at hp
        refine ⟨by simp [h1, hp.2], ?_⟩
        intro cf hcf
        rcases List.mem_cons.mp hcf with rfl | hcf
        · exact ⟨List.mem_of_find?_eq_some hf, hp.1.2⟩
        · exact h2 cf hcf

theorem mem_unionAll_decls (l : List Spec) (d : Decl) : d ∈ (unionAll l).decls ↔ ∃ c ∈ l, d ∈ c.decls := by
  induction l with
  | nil => simp [unionAll, Spec.empty]
  | cons c cs ih => simp [unionAll, specUnion, ih]

theorem mem_unionAll_tags (l : List Spec) (r : TagRec) : r ∈ (unionAll l).tags ↔ ∃ c ∈ l, r ∈ c.tags := by
  induction l with
  | nil => simp [unionAll, Spec.empty]
  | cons c cs ih => simp [unionAll, specUnion, ih]

theorem unionAll_agree {db : Spec} {s : Nat} {cfs : List CacheFile}
    (key : ∀ cf ∈ cfs, Confined cf.c s cf.flav ∧ AgreeOn cf.c db s cf.flav) (f : Flav) (hf : f ∈ cfs.map (·.flav)) :
    AgreeOn (unionAll (cfs.map (·.c))) db s f := by
  obtain ⟨cf0, hcf0, rfl⟩ := List.mem_map.mp hf
  have hag0 := (key cf0 hcf0).2
  intro n
  refine ⟨fun d h1 h2 h3 => ?_, fun r h1 h2 h3 => ?_⟩
  · rw [mem_unionAll_decls]
    constructor
    · rintro ⟨c, hc, hd⟩
      obtain ⟨cf, hcf, rfl⟩ := List.mem_map.mp hc
      obtain ⟨hconf, hag⟩ := key cf hcf
      exact ((hag n).1 d (hconf.1 d hd).1 (hconf.1 d hd).2 h3).mp hd
    · intro hd
      exact ⟨cf0.c, List.mem_map.mpr ⟨cf0, hcf0, rfl⟩, ((hag0 n).1 d h1 h2 h3).mpr hd⟩
  · rw [mem_unionAll_tags]
    constructor
    · rintro ⟨c, hc, hr⟩
      obtain ⟨cf, hcf, rfl⟩ := List.mem_map.mp hc
      obtain ⟨hconf, hag⟩ := key cf hcf
      exact ((hag n).2 r (hconf.2 r hr).1 (hconf.2 r hr).2 h3).mp hr
    · intro hr
      exact ⟨cf0.c, List.mem_map.mpr ⟨cf0, hcf0, rfl⟩, ((hag0 n).2 r h1 h2 h3).mpr hr⟩

theorem tryCache_inv {w : World} (h : CacheInv w) (u : User) (self : Flav) {s : Nat} (hs : s < w.nst) {view : Spec}
    (ht : tryCache w u self s = some view) :
    (∀ f ∈ needed self, AgreeOn view w.db s f) ∧
    (∀ d ∈ view.decls, d.stack = s ∧ d ∈ w.db.decls) ∧
    (∀ r ∈ view.tags, r.stack = s) := by
  unfold tryCache at ht
  split at ht
  · cases ht
  · rename_i cfs hfind
    obtain ⟨hmap, hmem⟩ := findCaches_some hfind
    dsimp only at ht
    split at ht
    · rename_i hacc
      simp only [Option.some.injEq] at ht
      subst ht
      simp only [Bool.and_eq_true, List.all_eq_true] at hacc
      have key : ∀ cf ∈ cfs, Confined cf.c s cf.flav ∧ AgreeOn cf.c w.db s cf.flav := fun cf hcf => by
        obtain ⟨hm, rfl⟩ := hmem cf hcf
        exact ⟨(h.wf cf hm hs).1, accepts_agree h hm hs (hacc.1 cf hcf)⟩
      refine ⟨fun f hf => unionAll_agree key f (hmap ▸ hf), ?_, ?_⟩
      · intro d hd
        obtain ⟨c, hc, hdc⟩ := (mem_unionAll_decls _ d).mp hd
        obtain ⟨cf, hcf, rfl⟩ := List.mem_map.mp hc
        obtain ⟨hconf, hag⟩ := key cf hcf
        exact ⟨(hconf.1 d hdc).1, ((hag d.name).1 d (hconf.1 d hdc).1 (hconf.1 d hdc).2 rfl).mp hdc⟩
      · intro r hr
        obtain ⟨c, hc, hrc⟩ := (mem_unionAll_tags _ r).mp hr
        obtain ⟨cf, hcf, rfl⟩ := List.mem_map.mp hc
        exact ((key cf hcf).1.2 r hrc).1
    · cases ht

theorem loadStack_inv {w : World} (h : CacheInv w) (u : User) (self : Flav) {s : Nat} (hs : s < w.nst) :
    CacheInv (loadStack w u self s).w ∧
    (∀ f ∈ (loadStack w u self s).flavs, AgreeOn (loadStack w u self s).view w.db s f) ∧
    (∀ f ∈ needed self, f ∈ (loadStack w u self s).flavs) ∧
    (∀ d ∈ (loadStack w u self s).view.decls, d.stack = s ∧ d ∈ w.db.decls) ∧
    (∀ r ∈ (loadStack w u self s).view.tags, r.stack = s) := by
  have hneed : ∀ f ∈ needed self, f ∈ specFlavors (snapshot w.db s) ++
      (needed self).filter (fun f => !(specFlavors (snapshot w.db s)).contains f) := by
    intro f hf
    by_cases hc : f ∈ specFlavors (snapshot w.db s)
    · exact List.mem_append_left _ hc
    · exact List.mem_append_right _ (List.mem_filter.mpr ⟨hf, by simpa using hc⟩)
  unfold loadStack
  split
  · rename_i view ht
    obtain ⟨h1, h2, h3⟩ := tryCache_inv h u self hs ht
    exact ⟨h, h1, fun f hf => hf, h2, h3⟩
  · split
    · rename_i view ht
      obtain ⟨h1, h2, h3⟩ := tryCache_inv h sysUser self hs ht
      exact ⟨h, h1, fun f hf => hf, h2, h3⟩
    · exact ⟨saveAll_inv u s _ _ h (fun f _ _ => snapshot_agree h.dbinv.nd s f),
        fun f _ => snapshot_agree h.dbinv.nd s f, hneed, snapshot_stack w.db s⟩

theorem _root_.EupsModel.Db.AgreeOn.specUnion_left {m v db : Spec} {s : Nat} {f : Flav} (h : AgreeOn m db s f)
    (hd : ∀ d ∈ v.decls, d.stack ≠ s) (ht : ∀ r ∈ v.tags, r.stack ≠ s) : AgreeOn (specUnion m v) db s f := fun n =>
  ⟨fun d a1 a2 a3 => (List.mem_append.trans (or_iff_left fun hh => hd d hh a1)).trans ((h n).1 d a1 a2 a3),
   fun r a1 a2 a3 => (List.mem_append.trans (or_iff_left fun hh => ht r hh a1)).trans ((h n).2 r a1 a2 a3)⟩

theorem _root_.EupsModel.Db.AgreeOn.specUnion_right {m v db : Spec} {s : Nat} {f : Flav} (h : AgreeOn v db s f)
    (hd : ∀ d ∈ m.decls, d.stack ≠ s) (ht : ∀ r ∈ m.tags, r.stack ≠ s) : AgreeOn (specUnion m v) db s f := fun n =>
  ⟨fun d a1 a2 a3 => (List.mem_append.trans (or_iff_right fun hh => hd d hh a1)).trans ((h n).1 d a1 a2 a3),
   fun r a1 a2 a3 => (List.mem_append.trans (or_iff_right fun hh => ht r hh a1)).trans ((h n).2 r a1 a2 a3)⟩

/-- the in-memory stacks agree with the database on every flavor each stack of the path holds -/
def ViewInv (nst : Nat) (held : Nat → List Flav) (m db : Spec) : Prop :=
  ∀ s, s < nst → ∀ f ∈ held s, AgreeOn m db s f

/-- the state of the loop of `load` after the stacks `done`, with view `m` and flavors held `fl` -/
structure LoadInv (native : Flav) (done : List Nat) (m : Spec) (fl : List (Nat × List Flav)) (w : World) : Prop where
  inv : CacheInv w
  decls : ∀ d ∈ m.decls, d.stack ∈ done ∧ d ∈ w.db.decls
  tags : ∀ r ∈ m.tags, r.stack ∈ done
  flavs : ∀ x ∈ fl, x.1 ∈ done ∧ (∀ f ∈ needed native, f ∈ x.2) ∧ ∀ f ∈ x.2, AgreeOn m w.db x.1 f
  listed : ∀ s ∈ done, ∃ x ∈ fl, x.1 = s

theorem LoadInv.step {self : Flav} {done : List Nat} {m : Spec} {fl : List (Nat × List Flav)} {w : World}
    (h : LoadInv self done m fl w) (u : User) {s : Nat} (hs : s < w.nst) (hsnd : s ∉ done) :
    LoadInv self (s :: done) (specUnion m (loadStack w u self s).view) (fl ++ [(s, (loadStack w u self s).flavs)])
      (loadStack w u self s).w := by
  obtain ⟨hinv, hag, hneed, hd, ht⟩ := loadStack_inv h.inv u self hs
  have kdb := (loadStack_only w u self s).db
  refine ⟨hinv, ?_, ?_, ?_, ?_⟩
  · rw [kdb]
    intro d hd'
    rcases List.mem_append.mp hd' with hd' | hd'
    · exact ⟨List.mem_cons_of_mem _ (h.decls d hd').1, (h.decls d hd').2⟩
    · rw [(hd d hd').1]; exact ⟨List.mem_cons_self, (hd d hd').2⟩
  · intro r hr'
    rcases List.mem_append.mp hr' with hr' | hr'
    · exact List.mem_cons_of_mem _ (h.tags r hr')
    · rw [ht r hr']; exact List.mem_cons_self
  · rw [kdb]
    intro x hx
    rcases List.mem_append.mp hx with hx | hx
    · -- an earlier stack: the new view holds nothing of it
      obtain ⟨h1, h2, h3⟩ := h.flavs x hx
      have hne : x.1 ≠ s := fun e => hsnd (e ▸ h1)
      exact ⟨List.mem_cons_of_mem _ h1, h2, fun f hf => (h3 f hf).specUnion_left
        (fun d hh e => hne (e.symm.trans (hd d hh).1)) fun r hh e => hne (e.symm.trans (ht r hh))⟩
    · -- the stack just loaded: the old view holds nothing of it
      cases List.mem_singleton.mp hx
      exact ⟨List.mem_cons_self, hneed, fun f hf => (hag f hf).specUnion_right
        (fun d hh e => hsnd (e ▸ (h.decls d hh).1)) fun r hh e => hsnd (e ▸ h.tags r hh)⟩
  · intro s' hs'
    rcases List.mem_cons.mp hs' with rfl | hs'
    · exact ⟨_, List.mem_append_right _ (List.mem_singleton_self _), rfl⟩
    · obtain ⟨x, hx, hxs⟩ := h.listed s' hs'
      exact ⟨x, List.mem_append_left _ hx, hxs⟩

theorem loadFrom_inv (u : User) (self : Flav) (ss done : List Nat) (m : Spec) (fl : List (Nat × List Flav)) {w : World}
    (h : LoadInv self done m fl w) (hss : ∀ s ∈ ss, s < w.nst) (hnd : ss.Nodup) (hdisj : ∀ s ∈ ss, s ∉ done) :
    LoadInv self (ss.reverse ++ done) (loadFrom u self ss m fl w).1 (loadFrom u self ss m fl w).2.1
      (loadFrom u self ss m fl w).2.2 := by
  induction ss generalizing done m fl w with
  | nil => exact h
  | cons s ss ih =>
    obtain ⟨hsns, hnd'⟩ := List.nodup_cons.mp hnd
    simp only [loadFrom, List.reverse_cons, List.append_assoc, List.singleton_append]
    refine ih (s :: done) _ _ (h.step u (hss s (by simp)) (hdisj s (by simp))) ?_ hnd' ?_
    · intro x hx
      rw [(loadStack_only w u self s).nst]
      exact hss x (by simp [hx])
    · intro x hx hxd
      rcases List.mem_cons.mp hxd with rfl | hxd
      · exact hsns hx
      · exact hdisj x (by simp [hx]) hxd

theorem mem_heldOf {fl : List (Nat × List Flav)} {s : Nat} {f : Flav} (h : f ∈ heldOf fl s) :
    ∃ x ∈ fl, x.1 = s ∧ f ∈ x.2 := by
  unfold heldOf at h
  cases hf : fl.find? (fun x => x.1 == s) with
  | none => rw [hf] at h; cases h
  | some x =>
    rw [hf] at h
    exact ⟨x, List.mem_of_find?_eq_some hf, by simpa using List.find?_some hf, h⟩

theorem heldOf_of_all {fl : List (Nat × List Flav)} {s : Nat} {f : Flav} (hex : ∃ x ∈ fl, x.1 = s)
    (hall : ∀ x ∈ fl, f ∈ x.2) : f ∈ heldOf fl s := by
  unfold heldOf
  cases hf : fl.find? (fun x => x.1 == s) with
  | none =>
    obtain ⟨x, hx, hxs⟩ := hex
    rw [List.find?_eq_none] at hf
    exact absurd (by simpa using hxs) (hf x hx)
  | some x => exact hall x (List.mem_of_find?_eq_some hf)

/-- **Command start**: what `Eups.__init__` leaves in memory agrees with the files. -/
theorem load_inv {w : World} (h : CacheInv w) (u : User) (self : Flav) :
    CacheInv (load w u self).2.2 ∧ ViewInv w.nst (heldOf (load w u self).2.1) (load w u self).1 w.db ∧
    (∀ s, s < w.nst → ∀ f ∈ fallbacks self, f ∈ heldOf (load w u self).2.1 s) ∧
    (∀ d ∈ (load w u self).1.decls, d ∈ w.db.decls) := by
  have hl := loadFrom_inv u self (allStacks w.nst) [] Spec.empty [] (w := w) ⟨h, nofun, nofun, nofun, nofun⟩
    (fun _ => mem_allStacks.mp) (by unfold allStacks; exact List.nodup_range) (by intro s _ hs; cases hs)
  change LoadInv self _ (load w u self).1 (load w u self).2.1 (load w u self).2.2 at hl
  rw [List.append_nil] at hl
  have kdb := (load_only w u self).db
  refine ⟨hl.inv, ?_, ?_, fun d hd => kdb ▸ (hl.decls d hd).2⟩
  · intro s _ f hf
    obtain ⟨x, hx, hxs, hfx⟩ := mem_heldOf hf
    exact hxs ▸ kdb ▸ (hl.flavs x hx).2.2 f hfx
  · intro s hs f hf
    apply heldOf_of_all (hl.listed s (List.mem_reverse.mpr (mem_allStacks.mpr hs)))
    intro x hx
    exact (hl.flavs x hx).2.1 f (by unfold needed; exact (mem_dedup _ _).mpr hf)

theorem effKey_eq (e : Eff) : effKey e = e.slice.map fun k => (k.1, k.2.2) := by cases e <;> rfl

theorem mem_setTouch {ts : List Touch} {s : Nat} {n : Name} {t : Option Nat} {x : Touch} :
    x ∈ setTouch ts s n t ↔ (∃ t0, t = some t0 ∧ x = ⟨s, n, t0⟩) ∨ (x ∈ ts ∧ ¬ (x.stack = s ∧ x.name = n)) := by
  have hdm {a b : Prop} : (¬ a ∨ ¬ b) ↔ ¬ (a ∧ b) := Classical.not_and_iff_not_or_not.symm
  unfold setTouch
  cases t with
  | none => simp [List.mem_filter, hdm]
  | some t0 => simp [List.mem_filter, hdm]

theorem applyDb_off_key {e : Eff} {s : Nat} {n : Name} (hk : effKey e = some (s, n)) (c : Spec) {s' : Nat} {n' : Name}
    (hne : ¬ (s' = s ∧ n' = n)) (f : Flav) : AgreeOnN (applyDb e c) c s' f n' :=
  applyDb_off_slice e c fun hs => by rw [effKey_eq, hs] at hk; cases hk; exact hne ⟨rfl, rfl⟩

theorem productExists_congr {a b : Spec} {s : Nat} {n : Name} (h : ∀ f, AgreeOnN a b s f n) :
    ProductExists a s n ↔ ProductExists b s n :=
  ⟨fun ⟨d, hd, h1, h2⟩ => ⟨d, ((h d.flav).1 d h1 rfl h2).mp hd, h1, h2⟩,
   fun ⟨d, hd, h1, h2⟩ => ⟨d, ((h d.flav).1 d h1 rfl h2).mpr hd, h1, h2⟩⟩

/-- whatever the caches hold: a product directory that was written is newer than every cache file -/
theorem applyDbW_inv {w : World} (h : CacheInv w) (e : Eff) : CacheInv (applyDbW w e) := by
  unfold applyDbW
  split
  · exact h
  · rename_i s n hk
    dsimp only
    split
    · -- the Database call writes in ups_db/<n> of stack s
      have hex : ProductExists (applyDb e w.db) s n →
          ((applyDb e w.db).decls.any fun d => d.stack == s && d.name == n) = true := by
        rintro ⟨d, hd, h1, h2⟩
        rw [List.any_eq_true]; exact ⟨d, hd, by simp [h1, h2]⟩
      refine ⟨h.dbinv.apply e, fun cf hcf => Nat.lt_succ_of_lt (h.cache_time cf hcf), ?_, ?_, ?_, h.wf⟩
      · intro t ht
        rcases mem_setTouch.mp ht with ⟨t0, ht0, rfl⟩ | ⟨ht, _⟩
        · split at ht0
          · cases ht0; exact Nat.lt_succ_self _
          · cases ht0
        · exact Nat.lt_succ_of_lt (h.touch_time t ht)
      · intro s' n' hpe
        by_cases hsn : s' = s ∧ n' = n
        · obtain ⟨rfl, rfl⟩ := hsn
          exact ⟨⟨s', n', w.now⟩, mem_setTouch.mpr (Or.inl ⟨w.now, by rw [if_pos (hex hpe)], rfl⟩), rfl, rfl⟩
        · obtain ⟨t, ht, h1, h2⟩ := h.touch_alive s' n' ((productExists_congr (applyDb_off_key hk w.db hsn)).mp hpe)
          exact ⟨t, mem_setTouch.mpr (Or.inr ⟨ht, by rw [h1, h2]; exact hsn⟩), h1, h2⟩
      · intro cf hcf hs n' hpe htouch
        by_cases hsn : cf.stack = s ∧ n' = n
        · -- the product directory is newer than the cache file: the premise is false
          exfalso
          obtain ⟨h1, rfl⟩ := hsn
          have hnew : (⟨s, n', w.now⟩ : Touch) ∈ setTouch w.touch s n'
              (if ((applyDb e w.db).decls.any fun d => d.stack == s && d.name == n') = true then some w.now else none) :=
            mem_setTouch.mpr (Or.inl ⟨w.now, by rw [if_pos (hex (h1 ▸ hpe))], rfl⟩)
          have := htouch _ hnew h1.symm rfl
          exact Nat.lt_irrefl _ (Nat.lt_of_le_of_lt this (h.cache_time cf hcf))
        · have hfr := applyDb_off_key hk w.db hsn
          exact (h.fresh cf hcf hs n' ((productExists_congr hfr).mp hpe) fun t ht h1 h2 =>
            htouch t (mem_setTouch.mpr (Or.inr ⟨ht, by rw [h1, h2]; exact hsn⟩)) h1 h2).trans (hfr cf.flav).symm
    · exact h

theorem applyW_view {w : World} (h : CacheInv w) {nst : Nat} {held : Nat → List Flav} {m : Spec}
    (hv : ViewInv nst held m w.db) (e : Eff) : ViewInv nst held (applyMem e m) (applyDbW w e).db := by
  intro s hs f hf n
  rw [applyDbW_dbCall, dbCall_eq h.dbinv.nd]
  exact commute_all e m w.db h.dbinv.nd s f n (hv s hs f hf n)

theorem applySaveW_inv {w : World} (h : CacheInv w) (u : User) (held : Nat → List Flav) (m m' : Spec) (e : Eff)
    (hm : ViewInv w.nst held m' w.db) : CacheInv (applySaveW u held w m m' e) := by
  unfold applySaveW
  split
  · exact h.of_fewer rfl rfl rfl rfl fun _ hcf => hcf
  · exact h.of_fewer rfl rfl rfl rfl fun _ hcf => hcf
  · split
    · exact h
    · rename_i s _ _
      exact saveAll_inv u s m' (held s) h (fun f hf hs => hm s hs f hf)

theorem applyW_inv {w : World} (h : CacheInv w) (u : User) {held : Nat → List Flav} {m : Spec}
    (hv : ViewInv w.nst held m w.db) (e : Eff) :
    CacheInv (applyW true u held (w, m) e).1 ∧
    ViewInv w.nst held (applyW true u held (w, m) e).2 (applyW true u held (w, m) e).1.db := by
  unfold applyW
  dsimp only
  have h1 := applyDbW_inv h e
  have hv1 : ViewInv w.nst held (applyMem e m) (applyDbW w e).db := applyW_view h hv e
  exact ⟨applySaveW_inv h1 u held m _ e ((applyDbW_nst w e).symm ▸ hv1), (applySaveW_db_nst ..).1.symm ▸ hv1⟩

theorem foldl_applyW_inv (u : User) {held : Nat → List Flav} (es : List Eff) {w : World} {m : Spec} (h : CacheInv w)
    (hv : ViewInv w.nst held m w.db) : CacheInv (es.foldl (applyW true u held) (w, m)).1 := by
  refine (foldl_invariant (P := fun x : World × Spec => CacheInv x.1 ∧ ViewInv x.1.nst held x.2 x.1.db) ⟨h, hv⟩ ?_).1
  intro x e _ hx
  obtain ⟨h1, hv1⟩ := applyW_inv hx.1 u hx.2 e
  exact ⟨h1, applyW_nst true u held x e ▸ hv1⟩

theorem replay_inv (u : User) {held : Nat → List Flav} (es : List Eff) (last : Option Eff) {w : World} {m : Spec}
    (h : CacheInv w) (hv : ViewInv w.nst held m w.db) : CacheInv (replay true u held (w, m) es last) := by
  unfold replay
  have := foldl_applyW_inv u es h hv
  cases last with
  | none => exact this
  | some e => exact applyDbW_inv this e

theorem step_inv {w : World} (h : CacheInv w) (c : WCmd) : CacheInv (step w c) := by
  have hclear : ∀ u, CacheInv { w with caches := w.caches.filter fun x => x.user != u } :=
    fun u => h.of_fewer rfl rfl rfl rfl fun _ hcf => (List.mem_filter.mp hcf).1
  cases c with
  | rmCache u s f => exact h.of_fewer rfl rfl rfl rfl fun _ hcf => (List.mem_filter.mp hcf).1
  | clearCache u => exact hclear u
  | envRmDir d => exact h.of_fewer rfl rfl rfl rfl fun _ hcf => hcf
  | adminBuild u self => exact (load_inv (hclear u) sysUser self).1
  | run u c crash =>
    obtain ⟨m, fl, w1, es, last, r⟩ := stepG_run true w u c crash
    obtain ⟨h1, hv, _, _⟩ := load_inv h u c.self
    rw [r.load] at h1 hv
    rw [step, r.eq]
    exact replay_inv u es last h1 (by rw [r.only.nst, r.only.db]; exact hv)

theorem history_inv (nst : Nat) (dirs : List DirEnt) (tfs : List TFile) (h : List WCmd) : CacheInv (runHistory (World.init nst dirs tfs) h) :=
  foldl_invariant (cacheInv_init nst dirs tfs) fun _ c _ hw => step_inv hw c

/-- `step_run` on every flavor the process can see; `_sub`: its view shows no declaration that the files lack -/
theorem step_run_sub {w : World} (h : CacheInv w) (u : User) (c : Cmd) :
    ∃ m : Spec, (∀ s, s < w.nst → ∀ f ∈ fallbacks c.self, AgreeOn m w.db s f) ∧
      (∀ d ∈ m.decls, d ∈ w.db.decls) ∧
      (stepG true w (.run u c none)).out = (run w.nst c (w.proc m)).1 ∧
      (step w (.run u c none)).db = (run w.nst c (w.proc m)).2.db := by
  obtain ⟨m, fl, w1, es, last, r⟩ := stepG_run true w u c none
  obtain ⟨_, hv, hfb, hsub⟩ := load_inv h u c.self
  rw [r.load] at hv hfb hsub
  obtain ⟨rfl, rfl⟩ := r.whole rfl
  refine ⟨m, fun s hs f hf => hv s hs f (hfb s hs f hf), hsub, by rw [r.eq], ?_⟩
  rw [step, stepG_db, foldl_dbCall_eq h.dbinv, r.eq, Option.toList_none, List.append_nil]
  exact (run_emits w.nst c (w.proc m)).db.symm

theorem step_run {w : World} (h : CacheInv w) (u : User) (c : Cmd) :
    ∃ m : Spec, (∀ s, s < w.nst → AgreeOn m w.db s c.self) ∧
      (stepG true w (.run u c none)).out = (run w.nst c (w.proc m)).1 ∧
      (step w (.run u c none)).db = (run w.nst c (w.proc m)).2.db := by
  obtain ⟨m, hv, _, h1, h2⟩ := step_run_sub h u c
  exact ⟨m, fun s hs => hv s hs c.self (List.mem_cons_self ..), h1, h2⟩

end EupsModel.Cache
