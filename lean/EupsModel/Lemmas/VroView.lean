import EupsModel.Model.Vro
/-! What a lookup for one flavor sees of the database (`Ctx.viewAt`), and that a cache which holds the flavor gives the view
of the files (`cacheView_viewAt`, `mkCtx_viewAt`). -/
namespace EupsModel.Vro

/-- what a lookup for flavor `f` can see of a stack.  Every lookup of `Model/Vro.lean` is a function of this view
(`lookupEntry_viewAt`, and with it `walk`, `find`, `resolveFlavor`; the entry points of `Model/VroApi.lean` are not treated),
so two contexts with the same view answer alike; the proofs compare views instead of relating two runs. -/
abbrev Stack.viewAt (f : Str) (st : Stack) : Stack := restrictStack [f] st

/-- a filter that keeps flavor `f` changes no test that asks for flavor `f` -/
theorem keeps_and_flavor {loaded : List Str} {f : Str} (hf : f ∈ loaded) (g : Str) (q : Bool) :
    (loaded.contains g && (q && g == f)) = (q && g == f) := by
  cases h : g == f
  · simp
  · simp [beq_iff_eq.mp h, hf]

theorem declared_viewAt (f : Str) (st : Stack) (n v : Str) : declared (st.viewAt f) n v f = declared st n v f := by
  simp only [declared, restrictStack, List.any_filter, keeps_and_flavor (List.mem_singleton_self f)]

theorem tagVersion_viewAt (f : Str) (st : Stack) (t n : Str) : tagVersion (st.viewAt f) t n f = tagVersion st t n f := by
  simp only [tagVersion, restrictStack, List.find?_filter, Bool.decide_and, Bool.decide_eq_true,
    keeps_and_flavor (List.mem_singleton_self f)]

theorem versionsOf_viewAt (f : Str) (st : Stack) (n : Str) : versionsOf (st.viewAt f) n f = versionsOf st n f := by
  simp only [versionsOf, restrictStack, List.filter_filter, Bool.and_comm _ (List.contains _ _),
    keeps_and_flavor (List.mem_singleton_self f)]

theorem tagHere_viewAt (f : Str) (st : Stack) (t n : Str) : tagHere (st.viewAt f) t n f = tagHere st t n f := by
  simp only [tagHere, tagVersion_viewAt, declared_viewAt]

theorem viewAt_restrict {f : Str} {loaded : List Str} (hf : f ∈ loaded) (st : Stack) :
    (restrictStack loaded st).viewAt f = st.viewAt f := by
  have keep : ∀ g : Str, ([f].contains g && loaded.contains g) = [f].contains g := fun g => by
    simpa [Bool.and_comm] using keeps_and_flavor hf g true
  simp only [restrictStack, List.filter_filter, keep]

abbrev Db.viewAt (f : Str) (db : Db) : Db := db.map (Stack.viewAt f)

theorem firstStack_map {α : Type} (g : Stack → Option α) (h : Stack → Stack) (i : Nat) (db : Db) :
    firstStack g i (db.map h) = firstStack (fun st => g (h st)) i db := by
  fun_induction firstStack (fun st => g (h st)) i db <;> simp [firstStack, *]

theorem lookupVersion_viewAt (f : Str) (db : Db) (n v : Str) :
    lookupVersion (Db.viewAt f db) n v f = lookupVersion db n v f := by
  simp only [lookupVersion, firstStack_map, declared_viewAt]

theorem lookupTag_viewAt (f : Str) (db : Db) (t n : Str) : lookupTag (Db.viewAt f db) t n f = lookupTag db t n f := by
  simp only [lookupTag, firstStack_map, tagHere_viewAt]

theorem latestGo_viewAt (cmp : Str → Str → Int) (n f : Str) (i : Nat) (out : Option Prod) (db : Db) :
    latestGo cmp n f i out (Db.viewAt f db) = latestGo cmp n f i out db := by
  fun_induction latestGo cmp n f i out db <;> simp [latestGo, versionsOf_viewAt, *]

theorem exprCandsGo_viewAt (vm : Str → Str → Bool) (n f x : Str) (i : Nat) (acc : List (Nat × Str)) (db : Db) :
    exprCandsGo vm n f x i acc (Db.viewAt f db) = exprCandsGo vm n f x i acc db := by
  induction db generalizing i acc with
  | nil => rfl
  | cons st rest ih => simp only [List.map_cons, exprCandsGo, versionsOf_viewAt, ih]

def Ctx.viewAt (f : Str) (C : Ctx) : Ctx := { C with db := Db.viewAt f C.db, dbLatest := Db.viewAt f C.dbLatest }

theorem lookupSetup_viewAt (C : Ctx) (r : Req) : lookupSetup (C.viewAt r.flavor) r = lookupSetup C r := by
  unfold lookupSetup
  cases r.setupEnv with
  | none => rfl
  | some s =>
    by_cases hf : s.flavor = r.flavor
    · simp only [Ctx.viewAt, List.length_map, List.getElem?_map, hf]
      cases s.stack with
      | none => rfl
      | some i => cases hg : C.dbLatest[i]? <;> simp [hg, declared_viewAt]
    · simp [hf]

theorem lookupEntry_viewAt (C : Ctx) (r : Req) (e : Str) (post : List Str) :
    lookupEntry (C.viewAt r.flavor) r e post = lookupEntry C r e post := by
  have hvt : ∀ v, lookupVT (C.viewAt r.flavor) r e post v = lookupVT C r e post v := by
    intro v
    simp only [lookupVT, exprPart, localProd, lookupExpr, exprCands]
    simp only [Ctx.viewAt, exprCandsGo_viewAt, lookupVersion_viewAt, List.length_map]
  have htag : ∀ key, lookupTagEntry (C.viewAt r.flavor) r e key = lookupTagEntry C r e key := by
    intro key
    simp only [lookupTagEntry, lookupSetup_viewAt]
    simp only [Ctx.viewAt, lookupLatest, latestGo_viewAt, lookupTag_viewAt]
  simp only [lookupEntry, hvt, htag]
  rfl

theorem walk_viewAt (C : Ctx) (r : Req) (vro : List Str) : walk (C.viewAt r.flavor) r vro = walk C r vro := by
  induction vro with
  | nil => rfl
  | cons e post ih => simp only [walk, lookupEntry_viewAt, ih]

theorem find_viewAt (C : Ctx) (r : Req) (vro : List Str) : find (C.viewAt r.flavor) r vro = find C r vro := by
  simp only [find, walk_viewAt]

theorem resolveFlavor_viewAt (C : Ctx) (r : Req) (keep : Bool) (fuel : Nat) (vro : List Str) :
    resolveFlavor (C.viewAt r.flavor) r keep fuel vro = resolveFlavor C r keep fuel vro := by
  induction fuel generalizing vro with
  | zero => rfl
  | succ fuel ih => unfold resolveFlavor; simp only [find_viewAt, ih]

theorem cacheView_viewAt {f : Str} {loaded : List Str} (hf : f ∈ loaded) (accepted : List Bool) (db : Db) :
    Db.viewAt f (cacheView loaded accepted db) = Db.viewAt f db := by
  fun_induction cacheView loaded accepted db
  · rename_i a as st rest ih
    cases a <;> simp [viewAt_restrict hf, ih]
  · rfl

/-- so a context built in any mode shows, at a loaded flavor, the view of the one built from the files -/
theorem mkCtx_viewAt {f : Str} {loaded : List Str} (hf : f ∈ loaded) (o : Ord) (tags : List Str) (db : Db) (m : Mode)
    (accepted : List Bool) (userTags dirs : List Str) :
    ((mkCtx o tags db m loaded accepted).withExtras userTags dirs).viewAt f =
      ((mkCtx o tags db .files loaded accepted).withExtras userTags dirs).viewAt f := by
  cases m <;> simp [mkCtx, Ctx.withExtras, Ctx.viewAt, cacheView_viewAt hf]

theorem cacheView_all_rebuilt (native : List Str) (accepted : List Bool) (db : Db)
    (h : ∀ b ∈ accepted, b = false) : cacheView native accepted db = db := by
  fun_induction cacheView native accepted db
  · rename_i a as st rest ih
    simp [h a (by simp), ih fun b hb => h b (List.mem_cons_of_mem _ hb)]
  · rfl

end EupsModel.Vro
