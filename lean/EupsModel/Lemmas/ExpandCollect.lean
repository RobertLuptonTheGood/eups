import EupsModel.Model.Expand
import EupsModel.Lemmas.List
/-! The closure collection of `expandTableFile` (`Model/Expand.lean`) and what running its pins does, independent of how the
table is read and written: `desiredProducts` as a function of the table's products (`collect_ok`), the hypotheses `DepsSound`
and `Covered`, the reference semantics `runPins` of a table of `-j` pin lines, and `runPins_reproduces`: running the pins of
the collected closure leaves the build-time records. -/
namespace EupsModel.Expand

/-- `(n, v)` is a build-time record or a `-p` pin. -/
def Recorded (A : Answers) (n v : Str) : Prop := A.sv n = some v ∨ A.pin n = some v

/-- Where an entry of `desiredProducts` can come from, with no assumption on the environment: it is the
version assumed for a product of the table (pin or set-up version), or it was listed by
`getDependencies(..., setup=True)` for such a product. -/
def Sourced (A : Answers) (o : Opts) (n v : Str) : Prop :=
  Recorded A n v ∨
  (o.recurse = true ∧
    ∃ n0 v0 l d, Recorded A n0 v0 ∧ A.deps n0 v0 = .ok l ∧ d ∈ l ∧ d.name = n ∧ d.version = v)

theorem topVersion_recorded {A : Answers} {n v : Str} (h : topVersion A n = some v) : Recorded A n v := by
  unfold topVersion at h
  cases hp : A.pin n with
  | some p => simp [hp] at h; subst h; exact .inr hp
  | none => simp [hp] at h; exact .inl h

/-- `desiredProducts` after `addDesired`, as a function of `desiredProducts` before -/
def addPair (s : List (Str × Str)) (d : Dep) : List (Str × Str) :=
  if s.contains (d.name, d.version) then s else s ++ [(d.name, d.version)]

theorem mem_addPair {s : List (Str × Str)} {d : Dep} {q : Str × Str} :
    q ∈ addPair s d ↔ q ∈ s ∨ (d.name, d.version) = q := by
  unfold addPair
  split
  · rename_i h
    have : (d.name, d.version) ∈ s := by simpa using h
    exact ⟨.inl, fun h' => h'.elim id (fun e => e ▸ this)⟩
  · simp [eq_comm]

theorem mem_foldl_addPair (l : List Dep) (s : List (Str × Str)) (q : Str × Str) :
    q ∈ l.foldl addPair s ↔ q ∈ s ∨ ∃ d ∈ l, (d.name, d.version) = q := by
  induction l generalizing s with
  | nil => simp
  | cons d l ih => simp [ih, mem_addPair, or_assoc]

theorem nodup_foldl_addPair (l : List Dep) {s : List (Str × Str)} (h : s.Nodup) : (l.foldl addPair s).Nodup := by
  induction l generalizing s with
  | nil => exact h
  | cons d l ih =>
    refine ih ?_
    unfold addPair
    split
    · exact h
    · rename_i hc
      have : (d.name, d.version) ∉ s := by simpa using hc
      exact List.nodup_append.mpr ⟨h, by simp, fun a ha b hb => by simp at hb; subst hb; exact fun e => this (e ▸ ha)⟩

theorem foldl_addDesired (l : List Dep) (c : CState) :
    (l.foldl addDesired c).desired = l.foldl addPair c.desired ∧ (l.foldl addDesired c).final = c.final := by
  induction l generalizing c with
  | nil => exact ⟨rfl, rfl⟩
  | cons d l ih =>
    have hd : (addDesired c d).desired = addPair c.desired d ∧ (addDesired c d).final = c.final := by
      unfold addDesired addPair; split <;> exact ⟨rfl, rfl⟩
    rw [List.foldl_cons, List.foldl_cons, (ih _).1, (ih _).2, hd.1, hd.2]
    exact ⟨rfl, rfl⟩

theorem collectStep_ok {A : Answers} {o : Opts} {c c' : CState} {p : Prod} (h : collectStep A o c p = .ok c') :
    c'.desired = (contrib A o p).foldl addPair c.desired ∧
    c'.final = c.final ++ (if !(o.toplevel == some p.name) && p.external then [p.line] else []) := by
  unfold collectStep at h
  unfold contrib
  -- one `split` per test of `collectStep`, in its order; a branch that throws contradicts `h`
  split at h
  · cases h; simp [*]  -- the top-level product
  split at h
  · cases h; simp [*]  -- `--external`
  split at h
  · split at h  -- not set up
    · cases h
    · cases h; simp [*]
  split at h
  · split at h  -- recursing: the answer of `getDependencies`
    · cases h
    · split at h
      · cases h
      · cases h; simp [*]
    · cases h; simpa [*] using foldl_addDesired (_ :: _) c
  · cases h; simpa [*] using foldl_addDesired [_] c

theorem foldlM_collectStep_ok {A : Answers} {o : Opts} {ps : List Prod} {c c' : CState}
    (h : ps.foldlM (collectStep A o) c = .ok c') :
    c'.desired = (ps.flatMap (contrib A o)).foldl addPair c.desired ∧
    c'.final = c.final ++ (ps.filter fun p => !(o.toplevel == some p.name) && p.external).map (·.line) := by
  induction ps generalizing c with
  | nil => cases h; simp
  | cons p ps ih =>
    simp only [List.foldlM_cons, bind_eq_ok] at h
    obtain ⟨c1, hs, h⟩ := h
    obtain ⟨hd, hf⟩ := collectStep_ok hs
    rw [(ih h).1, (ih h).2, hd, hf, List.flatMap_cons, List.foldl_append, List.filter_cons]
    split <;> simp

theorem collect_ok {A : Answers} {o : Opts} {st : RState} {c : CState} (h : collect A o st = .ok c) :
    c.desired = (st.products.flatMap (contrib A o)).foldl addPair [] ∧
    c.final = st.final ++ (st.products.filter fun p => !(o.toplevel == some p.name) && p.external).map (·.line) :=
  foldlM_collectStep_ok h

theorem mem_desired_iff {A : Answers} {o : Opts} {st : RState} {c : CState} (h : collect A o st = .ok c) (q : Str × Str) :
    q ∈ c.desired ↔ ∃ p ∈ st.products, ∃ d ∈ contrib A o p, (d.name, d.version) = q := by
  rw [(collect_ok h).1, mem_foldl_addPair]
  simp only [List.not_mem_nil, false_or, List.mem_flatMap]
  exact ⟨fun ⟨d, ⟨p, hp, hd⟩, e⟩ => ⟨p, hp, d, hd, e⟩, fun ⟨p, hp, d, hd, e⟩ => ⟨d, ⟨p, hp, hd⟩, e⟩⟩

theorem collect_nodup {A : Answers} {o : Opts} {st : RState} {c : CState} (h : collect A o st = .ok c) : c.desired.Nodup :=
  (collect_ok h).1 ▸ nodup_foldl_addPair _ List.nodup_nil

theorem contrib_sourced {A : Answers} {o : Opts} {p : Prod} {d : Dep} (h : d ∈ contrib A o p) :
    Sourced A o d.name d.version := by
  unfold contrib at h
  -- one `split` per test of `contrib`, in its order; the top-level product, an `--external` one and one that is not set up
  -- contribute nothing
  split at h
  · cases h
  split at h
  · cases h
  split at h
  · cases h
  rename_i v hv
  have hrec := topVersion_recorded hv
  split at h
  · rename_i hrc
    split at h
    · rename_i l hl
      rcases List.mem_cons.mp h with rfl | hd
      · exact .inl hrec
      · exact .inr ⟨by simp at hrc; exact hrc.1, p.name, v, l, d, hrec, hl, hd, rfl, rfl⟩
    · cases h
  · cases List.mem_singleton.mp h; exact .inl hrec

theorem collect_desired {A : Answers} {o : Opts} {st : RState} {c : CState}
    (h : collect A o st = .ok c) (q : Str × Str) (hq : q ∈ c.desired) : Sourced A o q.1 q.2 := by
  obtain ⟨p, _, d, hd, rfl⟩ := (mem_desired_iff h q).mp hq
  exact contrib_sourced hd

/-- **Hypothesis `DepsSound`** (to be discharged by the models of C13 `getDependentProducts(setup=True)` and C01):
every `(n, v)` a dependency listing with `setup=True` returns is the version of `n` that is set up. -/
def DepsSound (A : Answers) : Prop :=
  ∀ n v l, A.deps n v = .ok l → ∀ d ∈ l, A.sv d.name = some d.version

theorem recorded_of_sourced {A : Answers} {o : Opts} {n v : Str} (hs : DepsSound A) (h : Sourced A o n v) : Recorded A n v := by
  rcases h with h1 | ⟨_, n0, v0, l, d, _, hl, hd, rfl, rfl⟩
  · exact h1
  · exact .inl (hs n0 v0 l hl d hd)

theorem desired_recorded {A : Answers} {o : Opts} {st : RState} {c : CState} (hc : collect A o st = .ok c)
    (hsound : DepsSound A) (hpins : ∀ n v, A.pin n = some v → A.sv n = some v) : ∀ q ∈ c.desired, A.sv q.1 = some q.2 :=
  fun q hq => (recorded_of_sourced hsound (collect_desired hc q hq)).elim id (hpins _ _)

/-- Everything that is set up (other than the top-level product itself) is a product of the table or is listed by
`getDependencies` for one whose line does not carry `-j` — i.e. the build-time environment is the closure of the table
and nothing else, and the dependency listings are complete.  (Hypothesis for the Setup (C01) and Deps (C13) models.) -/
def Covered (A : Answers) (o : Opts) (st : RState) : Prop :=
  ∀ n v, A.sv n = some v → o.toplevel ≠ some n → ∃ p ∈ st.products, ∃ d ∈ contrib A o p, d.name = n

theorem lookup_mem {l : List (Str × Str)} {k v : Str} (h : lookup l k = some v) : (k, v) ∈ l := by
  fun_induction lookup l k <;> simp_all

theorem depsLookup_mem {tbl : List ((Str × Str) × Option (List Dep))} {n v : Str} {l : List Dep}
    (h : depsLookup tbl n v = .ok l) : ∃ e ∈ tbl, e.2 = some l := by
  fun_induction depsLookup tbl n v <;> simp_all

theorem depsSound_of_data {d : AnswerData} (h : d.depsSound = true) : DepsSound d.toAnswers := by
  intro n v l hl x hx
  unfold AnswerData.depsSound at h
  simp only [List.all_eq_true] at h
  obtain ⟨e, he, hr⟩ := depsLookup_mem (tbl := d.deps) (by simpa [AnswerData.toAnswers] using hl)
  have := h e he
  simp only [hr, List.all_eq_true] at this
  simpa [AnswerData.toAnswers] using this x hx

theorem pinsAgree_of_data {d : AnswerData} (h : d.pinsAgree = true) :
    ∀ n v, d.toAnswers.pin n = some v → d.toAnswers.sv n = some v := by
  intro n v hp
  unfold AnswerData.pinsAgree at h
  simp only [List.all_eq_true] at h
  have := h (n, v) (lookup_mem (by simpa [AnswerData.toAnswers] using hp))
  simpa [AnswerData.toAnswers] using this

theorem covered_of_data {d : AnswerData} {o : Opts} {lines : List Str} (h : d.covered o lines = true) :
    ∀ st, readAll d.toAnswers o lines = .ok st → Covered d.toAnswers o st := by
  intro st hst n v hsv hne
  unfold AnswerData.covered at h
  simp only [hst, List.all_eq_true] at h
  have := h (n, v) (lookup_mem (by simpa [AnswerData.toAnswers] using hsv))
  simp only [Bool.or_eq_true, List.any_eq_true] at this
  rcases this with htop | ⟨p, hp, x, hx, hxn⟩
  · have : o.toplevel = some n := by simpa using htop
    exact absurd this hne
  · exact ⟨p, hp, x, hx, by simpa using hxn⟩

abbrev Recs := Str → Option Str

def Recs.set (r : Recs) (n v : Str) : Recs := fun m => if m = n then some v else r m

/-- Reference semantics of a table that consists of `-j` pin lines only, in exact mode: a declared `(n, v)` is set
up (alone: `-j`), an undeclared one fails the setup when the line is `setupRequired` and is skipped when it is
`setupOptional`. -/
def runPins {Db : Type} (declared : Db → Str → Str → Bool) (db : Db) : List (Bool × Str × Str) → Recs → Option Recs
  | [], r => some r
  | (opt, n, v) :: rest, r =>
    if declared db n v then runPins declared db rest (r.set n v)
    else if opt then runPins declared db rest r else none

theorem runPins_frame {Db : Type} {declared : Db → Str → Str → Bool} {db : Db} {pins : List (Bool × Str × Str)} {r0 r : Recs}
    (h : runPins declared db pins r0 = some r) {n : Str} (hn : ¬ ∃ x ∈ pins, x.2.1 = n) : r n = r0 n := by
  induction pins generalizing r0 with
  | nil => simp [runPins] at h; subst h; rfl
  | cons x rest ih =>
    obtain ⟨opt, n0, v0⟩ := x
    have hrest : ¬ ∃ y ∈ rest, y.2.1 = n := fun ⟨y, hy, e⟩ => hn ⟨y, by simp [hy], e⟩
    have hne : n ≠ n0 := fun e => hn ⟨(opt, n0, v0), by simp, e.symm⟩
    simp only [runPins] at h
    split at h
    · rw [ih h hrest]; simp [Recs.set, hne]
    · split at h
      · exact ih h hrest
      · cases h

theorem runPins_spec {Db : Type} (declared : Db → Str → Str → Bool) (db : Db) (sv : Str → Option Str)
    {pins : List (Bool × Str × Str)} (r0 : Recs)
    (hp : ∀ x ∈ pins, declared db x.2.1 x.2.2 = true ∧ sv x.2.1 = some x.2.2) :
    ∃ r, runPins declared db pins r0 = some r ∧ ∀ n, (∃ x ∈ pins, x.2.1 = n) → r n = sv n := by
  induction pins generalizing r0 with
  | nil => exact ⟨r0, rfl, fun n => by simp⟩
  | cons x rest ih =>
    obtain ⟨opt, n0, v0⟩ := x
    obtain ⟨hd, hs⟩ := hp (opt, n0, v0) (by simp)
    simp only at hd hs
    obtain ⟨r, hr, hspec⟩ := ih (r0.set n0 v0) (fun y hy => hp y (by simp [hy]))
    refine ⟨r, by simp [runPins, hd, hr], fun n hex => ?_⟩
    by_cases hin : ∃ y ∈ rest, y.2.1 = n
    · exact hspec n hin
    · -- `n` is pinned by the head only: the rest leaves the record the head has set
      rw [runPins_frame hr hin]
      obtain ⟨y, hy, hyn⟩ := hex
      rcases List.mem_cons.mp hy with rfl | hy
      · subst hyn; simp [Recs.set, hs]
      · exact absurd ⟨y, hy, hyn⟩ hin

def CState.pinKeys (c : CState) : List (Bool × Str × Str) :=
  c.desired.map fun (n, v) => (c.optional.contains (n, v) || c.notFound.contains n, n, v)

theorem mem_pinKeys {c : CState} {x : Bool × Str × Str} (h : x ∈ c.pinKeys) : x.2 ∈ c.desired := by
  obtain ⟨q, hq, rfl⟩ := List.mem_map.mp h
  exact hq

theorem pinKeys_names (c : CState) : c.pinKeys.map (·.2.1) = c.desired.map (·.1) := by
  simp [CState.pinKeys, List.map_map, Function.comp_def]

theorem pinKeys_name_iff (c : CState) (n : Str) : (∃ x ∈ c.pinKeys, x.2.1 = n) ↔ ∃ q ∈ c.desired, q.1 = n := by
  rw [← List.mem_map, ← List.mem_map, pinKeys_names]

theorem covered_iff_pinned {A : Answers} {o : Opts} {st : RState} {c : CState} (hc : collect A o st = .ok c) :
    Covered A o st ↔ ∀ n v, A.sv n = some v → o.toplevel ≠ some n → ∃ x ∈ c.pinKeys, x.2.1 = n := by
  -- a name is pinned iff it is the name of a desired pair, iff some product of the table contributes it
  have hnames : ∀ n, (∃ x ∈ c.pinKeys, x.2.1 = n) ↔ ∃ p ∈ st.products, ∃ d ∈ contrib A o p, d.name = n := fun n => by
    rw [pinKeys_name_iff]
    constructor
    · rintro ⟨q, hq, rfl⟩
      obtain ⟨p, hp, d, hd, rfl⟩ := (mem_desired_iff hc q).mp hq
      exact ⟨p, hp, d, hd, rfl⟩
    · rintro ⟨p, hp, d, hd, rfl⟩
      exact ⟨(d.name, d.version), (mem_desired_iff hc _).mpr ⟨p, hp, d, hd, rfl⟩, rfl⟩
  simp only [Covered, hnames]

theorem runPins_reproduces {Db : Type} (declared : Db → Str → Str → Bool) (db' : Db) {A : Answers} {o : Opts} {st : RState}
    {c : CState} (hc : collect A o st = .ok c) (hsound : DepsSound A) (hpins : ∀ n v, A.pin n = some v → A.sv n = some v)
    (hcov : Covered A o st) (hdecl : ∀ n v, A.sv n = some v → declared db' n v = true) (r0 : Recs) :
    ∃ r, runPins declared db' c.pinKeys r0 = some r ∧ ∀ n, o.toplevel ≠ some n → r n = (A.sv n <|> r0 n) := by
  have hrec : ∀ x ∈ c.pinKeys, declared db' x.2.1 x.2.2 = true ∧ A.sv x.2.1 = some x.2.2 := fun x hx =>
    have hsv := desired_recorded hc hsound hpins _ (mem_pinKeys hx)
    ⟨hdecl _ _ hsv, hsv⟩
  obtain ⟨r, hrun, hspec⟩ := runPins_spec declared db' A.sv r0 hrec
  refine ⟨r, hrun, fun n hne => ?_⟩
  by_cases hin : ∃ x ∈ c.pinKeys, x.2.1 = n
  · rw [hspec n hin]
    obtain ⟨x, hx, rfl⟩ := hin
    rw [(hrec x hx).2]; rfl
  · rw [runPins_frame hrun hin]
    cases hs : A.sv n with
    | none => rfl
    | some v => exact absurd ((covered_iff_pinned hc).mp hcov n v hs hne) hin

theorem pinKeys_names_nodup {c : CState} {sv : Str → Option Str} (hn : c.desired.Nodup)
    (hsv : ∀ q ∈ c.desired, sv q.1 = some q.2) : (c.pinKeys.map (·.2.1)).Nodup := by
  rw [pinKeys_names]
  refine List.pairwise_map.mpr (hn.imp_of_mem fun {a b} ha hb hab e => hab ?_)
  have h1 := hsv a ha
  rw [e, hsv b hb] at h1
  exact _root_.Prod.ext e (Option.some.inj h1.symm)

end EupsModel.Expand
