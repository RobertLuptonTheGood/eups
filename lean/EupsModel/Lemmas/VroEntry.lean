import EupsModel.Model.Vro
/-! The body of the VRO loop for one entry (`lookupEntry`, `lookupVT` of `Model/Vro.lean`): the ways it can end
(`lookupEntry_cases`, `lookupVT_cases`), what it sees of the rest of the VRO (`vtSame`), one equation per kind of entry,
and which errors it can raise. -/
namespace EupsModel.Vro

/-! ## version-type entries -/

theorem isVT_cases {e : Str} (h : isVT e = true) : e = kVersion ∨ e = kVersionBang ∨ e = kVersionExpr := by
  simpa [isVT, or_assoc] using h

theorem ne_of_isVT {e k : Str} (he : isVT e = true) (hk : isVT k = false) : e ≠ k := by
  rintro rfl; rw [he] at hk; cases hk

theorem isVT_versionExpr : isVT kVersionExpr = true := by decide

/-! ## the ways the loop body can end -/

theorem isExpr_error {v : Str} {err : Err} (h : isExpr v = .error err) : err = .badExpr := by
  unfold isExpr at h
  split at h
  · cases h
  · split at h
    · cases h; rfl
    · cases h

theorem exprPart_error {C : Ctx} {r : Req} {x : Option Str} {err : Err} (h : exprPart C r x = .error err) :
    err = .badExpr := by
  unfold exprPart at h
  split at h
  · cases h
  · split at h
    · cases h
    · split at h
      · rename_i e' he; cases h; exact isExpr_error he
      · cases h
      · cases h

theorem exprPart_some {C : Ctx} {r : Req} {x : Option Str} {p : Prod} (h : exprPart C r x = .ok (some p)) :
    ∃ x', lookupExpr C.ord C.db r.name r.flavor x' = some p := by
  unfold exprPart at h
  split at h
  · cases h
  · split at h
    · cases h
    · split at h
      · cases h
      · exact ⟨_, Except.ok.inj h⟩
      · cases h

/-- every way a version-type entry can end, as an eliminator, so that its users need not unfold `lookupVT` (likewise
`lookupEntry_cases` below) -/
theorem lookupVT_cases {C : Ctx} {r : Req} {e v : Str} {post : List Str} {motive : Except Err Outcome → Prop}
    (error : motive (.error .badExpr))
    (skip : (post.contains kVersionExpr = true ∨ post.any isVT = true) → motive (.ok .skip))
    (abort : motive (.ok .abort))
    (expr : ∀ x p, lookupExpr C.ord C.db r.name r.flavor x = some p → motive (.ok (.hit p kVersionExpr)))
    (version : ∀ p reason, lookupVersion C.db r.name v r.flavor = some p → motive (.ok (.hit p reason)))
    (loc : ∀ p reason, localProd C v = some p → motive (.ok (.hit p reason))) :
    motive (lookupVT C r e post v) := by
  unfold lookupVT
  split
  · next he => rw [isExpr_error he]; exact error
  · refine iteInduction (fun _ => iteInduction (fun h => skip (.inl h)) fun _ => abort) fun _ => ?_
    split
    · next he => rw [exprPart_error he]; exact error
    · next p hp =>
      obtain ⟨x, hx⟩ := exprPart_some hp
      exact expr x p hx
    · split
      · next p hp => exact version p _ hp
      · split
        · next p hp => exact loc p _ hp
        · exact iteInduction (fun h => skip (.inr h)) fun _ => abort

theorem lookupEntry_cases {C : Ctx} {r : Req} {e : Str} {post : List Str} {motive : Except Err Outcome → Prop}
    (skip : motive (.ok .skip))
    (already : ∀ p rt reason, r.already = some (p, rt) → motive (.ok (.hit p reason)))
    (vt : ∀ v, r.named = some v → motive (lookupVT C r e post v))
    (indexError : motive (.error .indexError))
    (unsupported : motive (.error .unsupported))
    (tag : ∀ key, C.tagKey e = some key → motive (.ok (lookupTagEntry C r e key))) :
    motive (lookupEntry C r e post) := by
  unfold lookupEntry
  refine iteInduction (fun _ => skip) fun _ => iteInduction (fun _ => ?_) fun _ => iteInduction (fun _ => ?_) fun _ =>
    iteInduction (fun _ => ?_) fun _ => iteInduction (fun _ => iteInduction (fun _ => indexError) fun _ => skip) fun _ => ?_
  · split
    · next h => exact already _ _ _ h
    · exact skip
  · split
    · next h => exact iteInduction (fun _ => already _ _ _ h) fun _ => skip
    · exact skip
  · split
    · exact skip
    · next v hv => exact vt v hv
  · split
    · next key hk => exact iteInduction (fun _ => unsupported) fun _ => tag key hk
    · exact iteInduction (fun _ => iteInduction (fun _ => skip) fun _ => unsupported) fun _ => skip

theorem lookupEntry_other {C : Ctx} {r : Req} {e : Str} (post : List Str) (h1 : e ≠ kPath) (h2 : e ≠ kKeep)
    (h3 : e ≠ kCommandLine) (h4 : isVT e = false) (h5 : isWarn e = false) :
    lookupEntry C r e post =
      match C.tagKey e with
      | some key =>
        if key == kSetup && r.ignoreVersions && r.setupEnv.isSome then .error .unsupported
        else .ok (lookupTagEntry C r e key)
      | none => if e.contains colon then (if isType e then .ok .skip else .error .unsupported) else .ok .skip := by
  unfold lookupEntry
  rw [if_neg (mt beq_iff_eq.mp h1), if_neg (by simp [h2]), if_neg (mt beq_iff_eq.mp h3), if_neg (by simp [h4]),
    if_neg (by simp [h5])]
  cases C.tagKey e <;> rfl

/-! ## the rest of the VRO -/

/-- what an entry's lookup can see of the rest of the VRO -/
def vtSame (l l' : List Str) : Prop :=
  l.contains kVersionExpr = l'.contains kVersionExpr ∧ l.any isVT = l'.any isVT

theorem lookupEntry_congr (C : Ctx) (r : Req) (e : Str) {post post' : List Str} (h : vtSame post post') :
    lookupEntry C r e post = lookupEntry C r e post' := by
  simp only [lookupEntry, lookupVT, h.1, h.2]

theorem vtSame_of_mem {l l' : List Str} (h : ∀ x, isVT x = true → (x ∈ l ↔ x ∈ l')) : vtSame l l' := by
  constructor
  · rw [Bool.eq_iff_iff]
    simp only [List.contains_iff_mem]
    exact h _ isVT_versionExpr
  · rw [Bool.eq_iff_iff]
    simp only [List.any_eq_true]
    constructor
    · rintro ⟨x, hx, hv⟩; exact ⟨x, (h x hv).mp hx, hv⟩
    · rintro ⟨x, hx, hv⟩; exact ⟨x, (h x hv).mpr hx, hv⟩

theorem vtSame_append_noVT (a : List Str) {post : List Str} (h : ∀ x ∈ post, isVT x = false) : vtSame (a ++ post) a :=
  vtSame_of_mem fun x hv => by
    have : x ∉ post := fun hx => by rw [h x hx] at hv; cases hv
    simp [this]

theorem lookupVT_last_ne_skip {C : Ctx} {r : Req} {e v : Str} {post : List Str}
    (hpost : ∀ x ∈ post, isVT x = false) : lookupVT C r e post v ≠ .ok .skip := by
  apply lookupVT_cases (motive := (· ≠ .ok .skip))
  · nofun
  · intro h
    obtain ⟨h1, h2⟩ : vtSame post [] := vtSame_append_noVT [] hpost
    rw [h1, h2] at h
    simp at h
  · nofun
  · intro _ _ _; nofun
  · intro _ _ _; nofun
  · intro _ _ _; nofun

/-! ## what the loop body does for each kind of entry -/

theorem named_nonempty {r : Req} {v : Str} (h : r.named = some v) : v.isEmpty = false := by
  unfold Req.named at h
  cases hv : r.version with
  | none => simp [hv] at h
  | some w =>
    simp only [hv] at h
    by_cases hc : (w.isEmpty || r.ignoreVersions) = true
    · simp [hc] at h
    · simp only [hc] at h
      cases h
      have : ¬v = [] ∧ r.ignoreVersions = false := by simpa using hc
      simpa using this.1

/-- the `match` that ends `lookupTagEntry`, under a name: two inline `match`es that look alike are different matcher
constants and do not rewrite each other -/
abbrev hitOrSkip (e : Str) : Option Prod → Outcome
  | some p => .hit p e
  | none => .skip

theorem lookupTagEntry_eq (C : Ctx) (r : Req) (e key : Str) :
    lookupTagEntry C r e key = hitOrSkip e
      (if key == kLatest then lookupLatest C.ord.cmp C.dbLatest r.name r.flavor
       else if key == kSetup then lookupSetup C r
       else lookupTag C.db key r.name r.flavor) := rfl

theorem hitOrSkip_eq_hit {o : Option Prod} {e reason : Str} {p : Prod} :
    hitOrSkip e o = .hit p reason ↔ o = some p ∧ reason = e := by
  cases o <;> simp [eq_comm]

theorem hitOrSkip_eq_skip {o : Option Prod} {e : Str} : hitOrSkip e o = .skip ↔ o = none := by
  cases o <;> simp

theorem hitOrSkip_ne_abort {o : Option Prod} {e : Str} : (.ok (hitOrSkip e o) : Except Err Outcome) ≠ .ok .abort := by
  cases o <;> nofun

theorem tagKey_pseudo (C : Ctx) {k : Str} (hc : k.contains colon = false) (hp : pseudoTags.contains k = true) :
    C.tagKey k = some k := by
  unfold Ctx.tagKey
  rw [if_pos (by rw [hc]; rfl), if_pos (by rw [hp]; simp)]

theorem tagKey_latest (C : Ctx) : C.tagKey kLatest = some kLatest := by
  unfold Ctx.tagKey
  rw [if_pos (by decide), if_pos (by simp)]

theorem tagKey_typeExact (C : Ctx) : C.tagKey kTypeExact = none := by
  unfold Ctx.tagKey
  rw [if_neg (by decide), if_neg (by decide), if_neg (by decide)]
  rfl

/-- an entry that reaches the tag branch of the loop body with the chain-record name `key`: a recognised
tag, spelled in any accepted way (`t`, `global:t`, `:t`, a user tag `mine` or `user:mine`), that is
neither `latest` nor `setup` nor one of the directives tested earlier in the loop body -/
def IsTagEntry (C : Ctx) (e key : Str) : Prop :=
  C.tagKey e = some key ∧ key ≠ kLatest ∧ key ≠ kSetup ∧ e ≠ kPath ∧ e ≠ kKeep ∧ e ≠ kCommandLine ∧
    isVT e = false ∧ isWarn e = false

theorem lookupEntry_tagKey {C : Ctx} {r : Req} {e key : Str} (post : List Str) (h : IsTagEntry C e key) :
    lookupEntry C r e post = .ok (hitOrSkip e (lookupTag C.db key r.name r.flavor)) := by
  obtain ⟨hk, hl, hs, h1, h2, h3, h4, h5⟩ := h
  rw [lookupEntry_other post h1 h2 h3 h4 h5, hk]
  simp only
  rw [if_neg (by simp [hs]), lookupTagEntry_eq, if_neg (mt beq_iff_eq.mp hl), if_neg (mt beq_iff_eq.mp hs)]

theorem isTagEntry_of_plain {C : Ctx} {e : Str} (ht : isPlainTag C e = true) : IsTagEntry C e e := by
  simp only [isPlainTag, Bool.and_eq_true, Bool.not_eq_true', bne_iff_ne, ne_eq] at ht
  obtain ⟨⟨⟨⟨h1, h2⟩, h3⟩, h5⟩, h6⟩ := ht
  have np : ∀ k, pseudoTags.contains k = true → e ≠ k := by
    intro k hk he; rw [he, hk] at h3; cases h3
  refine ⟨?_, h2, np _ (by decide), np _ (by decide), np _ (by decide), np _ (by decide), ?_, h5⟩
  · simp only [Ctx.tagKey, h6, Bool.not_false, if_true, h1, Bool.true_or]
  · apply Bool.eq_false_iff.mpr; intro h
    rcases isVT_cases h with h | h | h <;> exact np _ (by decide) h

theorem lookupEntry_setup {C : Ctx} {r : Req} (post : List Str) (hi : r.ignoreVersions = false) :
    lookupEntry C r kSetup post = .ok (hitOrSkip kSetup (lookupSetup C r)) := by
  rw [lookupEntry_other post (by decide) (by decide) (by decide) (by decide) (by decide),
    tagKey_pseudo C (by decide) (by decide)]
  simp only
  rw [if_neg (by simp [hi]), lookupTagEntry_eq]
  rfl

theorem lookupEntry_latest {C : Ctx} {r : Req} (post : List Str) :
    lookupEntry C r kLatest post = .ok (hitOrSkip kLatest (lookupLatest C.ord.cmp C.dbLatest r.name r.flavor)) := by
  rw [lookupEntry_other post (by decide) (by decide) (by decide) (by decide) (by decide), tagKey_latest C]
  simp only
  rw [if_neg (by simp [show kLatest ≠ kSetup by decide]), lookupTagEntry_eq]
  rfl

theorem lookupEntry_typeExact {C : Ctx} {r : Req} (post : List Str) : lookupEntry C r kTypeExact post = .ok .skip := by
  rw [lookupEntry_other post (by decide) (by decide) (by decide) (by decide) (by decide), tagKey_typeExact C]
  rfl

theorem lookupEntry_keep_fresh {C : Ctx} {r : Req} (post : List Str) (hr : r.already = none) (hd : 0 < r.depth) :
    lookupEntry C r kKeep post = .ok .skip := by
  unfold lookupEntry
  rw [if_neg (by decide), if_pos (by simp [hd]), hr]

theorem lookupEntry_commandLine_fresh {C : Ctx} {r : Req} (post : List Str) (hr : r.already = none) :
    lookupEntry C r kCommandLine post = .ok .skip := by
  unfold lookupEntry
  rw [if_neg (by decide), if_neg (by simp [show (kCommandLine == kKeep) = false by decide]), if_pos (by decide), hr]

theorem lookupEntry_vt {C : Ctx} {r : Req} {e : Str} (post : List Str) (he : isVT e = true) :
    lookupEntry C r e post =
      match r.named with
      | none => .ok .skip
      | some v => lookupVT C r e post v := by
  unfold lookupEntry
  rw [if_neg (mt beq_iff_eq.mp (ne_of_isVT he (by decide))),
    if_neg (by simp [ne_of_isVT he (show isVT kKeep = false by decide)]),
    if_neg (mt beq_iff_eq.mp (ne_of_isVT he (by decide))), if_pos he]
  rfl

theorem lookupEntry_named {C : Ctx} {r : Req} {e v : Str} (post : List Str) (he : isVT e = true)
    (hv : r.named = some v) : lookupEntry C r e post = lookupVT C r e post v := by
  rw [lookupEntry_vt post he, hv]

theorem lookupVT_explicit {C : Ctx} {r : Req} {e v : Str} (post : List Str)
    (hex : isExpr v = .ok false) (hx : e = kVersionExpr → r.vexpr = none) :
    lookupVT C r e post v =
      match lookupVersion C.db r.name v r.flavor with
      | some p => .ok (.hit p (if r.depth == 0 then kCommandLine else kVersion))
      | none =>
        match localProd C v with
        | some p => .ok (.hit p (if r.depth == 0 then kCommandLine else kPathFromVersion))
        | none => .ok (if post.any isVT then .skip else .abort) := by
  unfold lookupVT
  rw [hex, apply_ite Except.ok]
  cases hlv : lookupVersion C.db r.name v r.flavor <;> cases hlp : localProd C v <;>
  · by_cases he : e = kVersionExpr
    · simp [he, hx he, exprPart]
    · have : (e == kVersionExpr) = false := by simpa using he
      simp [this, exprPart]

theorem lookupVT_expr {C : Ctx} {r : Req} {v : Str} (post : List Str)
    (hex : isExpr v = .ok true) (hne : v.isEmpty = false) :
    lookupVT C r kVersionExpr post v =
      match lookupExpr C.ord C.db r.name r.flavor v with
      | some p => .ok (.hit p kVersionExpr)
      | none =>
        match lookupVersion C.db r.name v r.flavor with
        | some p => .ok (.hit p (if r.depth == 0 then kCommandLine else kVersion))
        | none =>
          match localProd C v with
          | some p => .ok (.hit p (if r.depth == 0 then kCommandLine else kPathFromVersion))
          | none => .ok (if post.any isVT then .skip else .abort) := by
  unfold lookupVT
  rw [hex, apply_ite Except.ok]
  simp only [bne_self_eq_false, Bool.and_false, Bool.false_eq_true, if_false, beq_self_eq_true, if_true,
    exprPart, hne, hex]
  cases lookupExpr C.ord C.db r.name r.flavor v <;> cases lookupVersion C.db r.name v r.flavor <;>
    cases localProd C v <;> rfl

theorem lookupVT_expr_early {C : Ctx} {r : Req} {e v : Str} (post : List Str)
    (he : e ≠ kVersionExpr) (hex : isExpr v = .ok true) :
    lookupVT C r e post v = .ok (if post.contains kVersionExpr then .skip else .abort) := by
  have hne : (e != kVersionExpr) = true := by simpa using he
  simp only [lookupVT, hex, hne, Bool.and_self, if_true]
  split <;> rfl

/-! ## which errors the loop body can raise -/

theorem lookupVT_error {C : Ctx} {r : Req} {e v : Str} {post : List Str} {err : Err}
    (h : lookupVT C r e post v = .error err) : err = .badExpr := by
  revert h
  apply lookupVT_cases (motive := (· = .error err → err = .badExpr))
  · intro h; exact (Except.error.inj h).symm
  · intro _; nofun
  · nofun
  · intro _ _ _; nofun
  · intro _ _ _; nofun
  · intro _ _ _; nofun

theorem lookupEntry_error {C : Ctx} {r : Req} {e : Str} {post : List Str} {err : Err}
    (h : lookupEntry C r e post = .error err) : err ≠ .outOfFuel := by
  revert h
  apply lookupEntry_cases (motive := (· = .error err → err ≠ .outOfFuel))
  · nofun
  · intro _ _ _ _; nofun
  · intro v _ h; rw [lookupVT_error h]; nofun
  · intro h; cases h; nofun
  · intro h; cases h; nofun
  · intro _ _; nofun

end EupsModel.Vro
