import EupsModel.Lemmas.VroLookup
/-! The expression lookup (`lookupExpr` of `Model/Vro.lean`): the candidates are the satisfying versions, each with the
first stack in which it satisfies (`mem_exprCands`); the answer is a candidate, and no satisfying version is newer
(`lookupExpr_some`). -/
namespace EupsModel.Vro

/-! ## expression candidates -/

def addOne (i : Nat) (v : Str) (acc : List (Nat × Str)) : List (Nat × Str) :=
  if acc.any (fun c => c.2 == v) then acc else acc ++ [(i, v)]

/-- one stack's contribution to `_findProductsByExpr` -/
def addNew (i : Nat) (vs : List Str) (acc : List (Nat × Str)) : List (Nat × Str) :=
  vs.foldl (fun a v => addOne i v a) acc

theorem addNew_cons (i : Nat) (v : Str) (vs : List Str) (acc : List (Nat × Str)) :
    addNew i (v :: vs) acc = addNew i vs (addOne i v acc) := rfl

theorem any_version_iff {acc : List (Nat × Str)} {v : Str} :
    acc.any (fun c => c.2 == v) = true ↔ ∃ c' ∈ acc, c'.2 = v := by
  simp

theorem mem_addOne (i : Nat) (v : Str) (acc : List (Nat × Str)) (c : Nat × Str) :
    c ∈ addOne i v acc ↔ c ∈ acc ∨ (c = (i, v) ∧ ∀ c' ∈ acc, c'.2 ≠ v) := by
  unfold addOne
  by_cases hany : acc.any (fun c => c.2 == v) = true
  · obtain ⟨c0, hc0, hv0⟩ := any_version_iff.mp hany
    rw [if_pos hany]
    exact ⟨Or.inl, fun h => h.elim id fun h => absurd hv0 (h.2 c0 hc0)⟩
  · have hno : ∀ c' ∈ acc, c'.2 ≠ v := fun c' hc' heq => hany (any_version_iff.mpr ⟨c', hc', heq⟩)
    rw [if_neg hany, List.mem_append, List.mem_singleton]
    exact ⟨fun h => h.imp_right fun h => ⟨h, hno⟩, fun h => h.imp_right fun h => h.1⟩

theorem fresh_addOne (i : Nat) (v w : Str) (acc : List (Nat × Str)) :
    (∀ c' ∈ addOne i v acc, c'.2 ≠ w) ↔ (∀ c' ∈ acc, c'.2 ≠ w) ∧ v ≠ w := by
  constructor
  · intro h
    have hacc : ∀ c' ∈ acc, c'.2 ≠ w := fun c' hc' => h c' ((mem_addOne ..).mpr (Or.inl hc'))
    refine ⟨hacc, fun hvw => ?_⟩
    by_cases hno : ∀ c' ∈ acc, c'.2 ≠ v
    · exact h (i, v) ((mem_addOne ..).mpr (Or.inr ⟨rfl, hno⟩)) hvw
    · exact hno (hvw ▸ hacc)
  · rintro ⟨hacc, hvw⟩ c' hc'
    rcases (mem_addOne ..).mp hc' with hc' | ⟨rfl, _⟩
    · exact hacc c' hc'
    · exact hvw

theorem pairwise_addOne (i : Nat) (v : Str) {acc : List (Nat × Str)}
    (hacc : acc.Pairwise (fun a b => a.2 ≠ b.2)) : (addOne i v acc).Pairwise (fun a b => a.2 ≠ b.2) := by
  unfold addOne
  split
  · exact hacc
  · next hany =>
    refine List.pairwise_append.mpr ⟨hacc, List.pairwise_singleton _ _, fun a ha b hb heq => hany ?_⟩
    rw [List.mem_singleton.mp hb] at heq
    exact any_version_iff.mpr ⟨a, ha, heq⟩

theorem mem_addNew (i : Nat) (vs : List Str) (acc : List (Nat × Str)) (c : Nat × Str) :
    c ∈ addNew i vs acc ↔ c ∈ acc ∨ (c.1 = i ∧ c.2 ∈ vs ∧ ∀ c' ∈ acc, c'.2 ≠ c.2) := by
  induction vs generalizing acc with
  | nil => simp [addNew]
  | cons v vs ih =>
    obtain ⟨a, w⟩ := c
    rw [addNew_cons, ih, mem_addOne, fresh_addOne]
    -- `(a, w)` came with `v` (then `w = v`) or with one of `vs` (then it was not there after `v`)
    by_cases hwv : w = v
    · subst hwv; simp
    · simp [hwv, Ne.symm hwv]

theorem fresh_addNew (i : Nat) (vs : List Str) (acc : List (Nat × Str)) (w : Str) :
    (∀ c' ∈ addNew i vs acc, c'.2 ≠ w) ↔ (∀ c' ∈ acc, c'.2 ≠ w) ∧ w ∉ vs := by
  induction vs generalizing acc with
  | nil => simp [addNew]
  | cons v vs ih => rw [addNew_cons, ih, fresh_addOne, List.mem_cons, not_or, and_assoc, ne_comm (a := v)]

theorem pairwise_addNew (i : Nat) (vs : List Str) {acc : List (Nat × Str)}
    (hacc : acc.Pairwise (fun a b => a.2 ≠ b.2)) : (addNew i vs acc).Pairwise (fun a b => a.2 ≠ b.2) := by
  induction vs generalizing acc with
  | nil => exact hacc
  | cons v vs ih => exact ih (pairwise_addOne i v hacc)

theorem exprCandsGo_eq (vm : Str → Str → Bool) (n f x : Str) (i : Nat) (acc : List (Nat × Str))
    (st : Stack) (rest : Db) :
    exprCandsGo vm n f x i acc (st :: rest) =
      exprCandsGo vm n f x (i + 1) (addNew i ((versionsOf st n f).filter fun v => vm v x) acc) rest := rfl

/-- shorthand (arguments as `exprCands vm db n f x` takes them, then the candidate): C03's statements spell the conjunction
out, and its proofs pass between the two by `⟨_, _⟩`, `.1`, `.2` -/
abbrev satisfies (vm : Str → Str → Bool) (st : Stack) (n f x v : Str) : Prop :=
  declared st n v f = true ∧ vm v x = true

theorem mem_filter_versionsOf (vm : Str → Str → Bool) (st : Stack) (n f x v : Str) :
    v ∈ (versionsOf st n f).filter (fun v => vm v x) ↔ satisfies vm st n f x v := by
  simp [satisfies, mem_versionsOf]

theorem mem_exprCandsGo (vm : Str → Str → Bool) (n f x : Str) (i0 : Nat) (acc : List (Nat × Str)) (db : Db)
    (c : Nat × Str) :
    c ∈ exprCandsGo vm n f x i0 acc db ↔
      c ∈ acc ∨
      ∃ k st, c.1 = i0 + k ∧ db[k]? = some st ∧ satisfies vm st n f x c.2 ∧
        (∀ c' ∈ acc, c'.2 ≠ c.2) ∧
        ∀ j st', j < k → db[j]? = some st' → ¬ satisfies vm st' n f x c.2 := by
  induction db generalizing i0 acc with
  | nil => simp [exprCandsGo]
  | cons s rest ih =>
    -- on the right: the first stack (`k = 0`) or a later one (`k + 1`), which is `k` on `rest` counted from `i0 + 1`
    rw [← Nat.or_exists_add_one, exprCandsGo_eq, ih, mem_addNew]
    simp only [fresh_addNew, forall_lt_cons, mem_filter_versionsOf, List.getElem?_cons_zero, List.getElem?_cons_succ,
      Option.some.injEq, Nat.add_zero, Nat.not_lt_zero, false_imp_iff, implies_true, and_true, exists_and_left,
      exists_eq_left', Nat.add_assoc, Nat.add_comm 1, or_assoc, and_assoc]

theorem mem_exprCands (vm : Str → Str → Bool) (db : Db) (n f x : Str) (c : Nat × Str) :
    c ∈ exprCands vm db n f x ↔
      ∃ st, db[c.1]? = some st ∧ satisfies vm st n f x c.2 ∧
        ∀ j st', j < c.1 → db[j]? = some st' → ¬ satisfies vm st' n f x c.2 := by
  unfold exprCands
  rw [mem_exprCandsGo]
  constructor
  · rintro (h | ⟨k, st, h1, h2, h3, _, h5⟩)
    · simp at h
    · have : c.1 = k := by omega
      subst this
      exact ⟨st, h2, h3, h5⟩
  · rintro ⟨st, h2, h3, h5⟩
    exact Or.inr ⟨c.1, st, by omega, h2, h3, by simp, h5⟩

theorem exprCandsGo_unique (vm : Str → Str → Bool) (n f x : Str) (i0 : Nat) (acc : List (Nat × Str)) (db : Db)
    (hacc : acc.Pairwise (fun a b => a.2 ≠ b.2)) :
    (exprCandsGo vm n f x i0 acc db).Pairwise (fun a b => a.2 ≠ b.2) := by
  induction db generalizing i0 acc with
  | nil => exact hacc
  | cons s rest ih => exact ih _ _ (pairwise_addNew _ _ hacc)

/-! ## the expression lookup -/

theorem exists_first {P : Stack → Prop} {db : Db} {j : Nat} {st : Stack} (hj : db[j]? = some st) (hP : P st) :
    ∃ (i : Nat) (sti : Stack), db[i]? = some sti ∧ P sti ∧ ∀ (k : Nat) (st' : Stack), k < i → db[k]? = some st' → ¬ P st' := by
  induction db generalizing j with
  | nil => simp at hj
  | cons s rest ih =>
    by_cases hs : P s
    · exact ⟨0, s, rfl, hs, fun k _ hk => absurd hk (Nat.not_lt_zero k)⟩
    · cases j with
      | zero => cases hj; exact absurd hP hs
      | succ j =>
        obtain ⟨i, sti, hi, hPi, hmin⟩ := ih hj
        exact ⟨i + 1, sti, hi, hPi, forall_lt_cons.mpr ⟨hs, hmin⟩⟩

theorem exists_cand {vm : Str → Str → Bool} {db : Db} {n f x w : Str} {j : Nat} {st : Stack}
    (hj : db[j]? = some st) (hsat : satisfies vm st n f x w) : ∃ i, (i, w) ∈ exprCands vm db n f x := by
  obtain ⟨i, sti, hi, hPi, hmin⟩ := exists_first (P := fun s => satisfies vm s n f x w) hj hsat
  exact ⟨i, (mem_exprCands ..).mpr ⟨sti, hi, hPi, hmin⟩⟩

theorem selectLatest_some {cmp : Str → Str → Int} {f : Str} {cands : List (Nat × Str)} {p : Prod}
    (h : selectLatest cmp f cands = some p) :
    p.flavor = f ∧ (p.stack, p.version) ∈ cands ∧ lastMax cmp (cands.map (·.2)) = some p.version := by
  unfold selectLatest at h
  cases hm : lastMax cmp (cands.map (·.2)) with
  | none => simp [hm] at h
  | some m =>
    simp only [hm] at h
    cases hf : cands.find? (fun c => c.2 == m) with
    | none => simp [hf] at h
    | some c =>
      simp only [hf, Option.map_some, Option.some.injEq] at h
      subst h
      have hc := List.find?_some hf
      have hmem := List.mem_of_find?_eq_some hf
      have hc : c.2 = m := by simpa using hc
      refine ⟨rfl, ?_, ?_⟩
      · simpa using hmem
      · simp [hc]

theorem selectLatest_none {cmp : Str → Str → Int} {f : Str} {cands : List (Nat × Str)}
    (h : selectLatest cmp f cands = none) : cands = [] := by
  unfold selectLatest at h
  cases hm : lastMax cmp (cands.map (·.2)) with
  | none => exact List.map_eq_nil_iff.mp ((lastMax_eq_none_iff ..).mp hm)
  | some m =>
    simp only [hm] at h
    have hmem := lastMax_mem hm
    obtain ⟨c, hc, hcm⟩ := List.mem_map.mp hmem
    cases hf : cands.find? (fun c => c.2 == m) with
    | none =>
      have := List.find?_eq_none.mp hf c hc
      simp [hcm] at this
    | some c' => simp [hf] at h

/-- needs nothing of the order -/
theorem lookupExpr_cand {o : Ord} {db : Db} {n f x : Str} {p : Prod} (h : lookupExpr o db n f x = some p) :
    p.flavor = f ∧ ∃ st, db[p.stack]? = some st ∧ satisfies o.vmatch st n f x p.version ∧
      ∀ j st', j < p.stack → db[j]? = some st' → ¬ satisfies o.vmatch st' n f x p.version :=
  ⟨(selectLatest_some h).1, (mem_exprCands ..).mp (selectLatest_some h).2.1⟩

theorem lookupExpr_some {P : Str → Prop} {o : Ord} (g : GoodOrdOn P o.cmp) {db : Db} (hP : DeclIn P db)
    {n f x : Str} {p : Prod} (h : lookupExpr o db n f x = some p) :
    p.flavor = f ∧
    (∃ st, db[p.stack]? = some st ∧ satisfies o.vmatch st n f x p.version ∧
        ∀ j st', j < p.stack → db[j]? = some st' → ¬ satisfies o.vmatch st' n f x p.version) ∧
    ∀ (j : Nat) (st : Stack) (w : Str), db[j]? = some st → satisfies o.vmatch st n f x w → o.cmp w p.version ≤ 0 := by
  obtain ⟨_, h2, h3⟩ := selectLatest_some h
  refine ⟨(lookupExpr_cand h).1, (lookupExpr_cand h).2, ?_⟩
  intro j st w hj hsat
  obtain ⟨i, hc⟩ := exists_cand hj hsat
  refine lastMax_max g h3 ?_ w (List.mem_map.mpr ⟨(i, w), hc, rfl⟩)
  intro y hy
  obtain ⟨c, hcm, rfl⟩ := List.mem_map.mp hy
  obtain ⟨stc, hgc, hsc, _⟩ := (mem_exprCands ..).mp hcm
  exact declIn_of_declared hP (List.mem_of_getElem? hgc) hsc.1

theorem lookupExpr_none {o : Ord} {db : Db} {n f x : Str} (h : lookupExpr o db n f x = none) :
    ∀ st ∈ db, ∀ w, ¬ satisfies o.vmatch st n f x w := by
  intro st hst w hsat
  have hnil := selectLatest_none h
  obtain ⟨j, hj, hget⟩ := List.mem_iff_getElem.mp hst
  have hj' : db[j]? = some st := by simp [List.getElem?_eq_getElem hj, hget]
  obtain ⟨i, hc⟩ := exists_cand hj' hsat
  rw [hnil] at hc
  cases hc

end EupsModel.Vro
