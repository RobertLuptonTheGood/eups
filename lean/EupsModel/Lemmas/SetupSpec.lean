import EupsModel.Lemmas.SetupUnwind
import EupsModel.Lemmas.SetupInv
/-! C01 clause (c), forward direction, under `NameDag` (a rank on product *names* that every dependency line
strictly decreases): `spec_rules`, a rule set of `Lemmas/SetupRun.lean`, on the record frame `setup_frame`; `setup_spec` is
what is read off it.  Beside these, and used by nothing else: clause (c) for one table and "a top-level `install` leaves its
product recorded" for an arbitrary recursive call of which `RecOK` holds (`acts_true_spec`, `install_top_record`, through
`acts_lines`); `setup` is one (`setup_recOK`).  Also what a successful `setup` command is at the top level (`runSetup_ok`). -/
namespace EupsModel.Setup

def Empty : Prod → Prop := fun _ => False

def NameDag (db : Db) (rank : Name → Nat) : Prop :=
  ∀ d ∈ db.decls, ∀ g n o j v x t kl, (g, Act.dep n o j v x t kl) ∈ d.table → rank n < rank d.name

theorem NameDag.dep {db : Db} {rank : Name → Nat} (h : NameDag db rank) {d : Decl} (hc : Canon db d) {exact : Bool}
    {n : Name} {o j : Bool} {v : Option VerReq} {x : Option VExpr} {t : List Str} {kl : Bool}
    (hm : Act.dep n o j v x t kl ∈ d.actions exact) : rank n < rank d.name := by
  obtain ⟨hd, g, hg⟩ := canon_table_mem db d hc exact _ hm
  exact h d hd g n o j v x t kl hg

/-- what a statement about an arbitrary recursive call assumes of it: what is known of `setup` (`setup_recOK`) -/
structure RecOK (cfg : Cfg) (rank : Name → Nat) (rec : Rec) : Prop where
  already : AlOK cfg rec
  frame : ∀ fwd depth noRec vro n ver vexpr s s', AlreadyOK cfg.db s.already →
    rec fwd depth noRec vro n ver vexpr s = .ok s' → ∀ m, m ≠ n → rank n ≤ rank m → s'.env.rec? m = s.env.rec? m
  unfail : ∀ depth noRec vro n ver vexpr s s', rec false depth noRec vro n ver vexpr s ≠ .raised s' ∧
    (rec false depth noRec vro n ver vexpr s = .notFound s' → setupProd cfg.db s.env n = none)
  unspec : UnSpec cfg rec
  unsets : ∀ depth noRec vro n ver vexpr s s', WellOwned cfg s.env →
    rec false depth noRec vro n ver vexpr s = .ok s' → s'.env.rec? n = none
  spec : ∀ fwd depth noRec vro n ver vexpr s s', AlreadyOK cfg.db s.already → WellOwned cfg s.env →
    NoResidue Empty s.env → rec fwd depth noRec vro n ver vexpr s = .ok s' →
    NoResidue Empty s'.env ∧ WellOwned cfg s'.env

/-- a name of higher rank is another name, of no smaller rank: the form in which the record frame is used -/
theorem of_rank_lt {rank : Name → Nat} {n m : Name} {P : Prop} (h : m ≠ n → rank n ≤ rank m → P)
    (hnr : rank n < rank m) : P :=
  h (by intro e; rw [e] at hnr; omega) (by omega)

theorem apply_true_spec (cfg : Cfg) (p : Prod) (a : Act) (s : St) (ha : a ∈ tableOf cfg p)
    (hr : s.env.rec? p.1 = some p.2) (hw : WellOwned cfg s.env) (hn : NoResidue Empty s.env) :
    NoResidue Empty (a.apply true p s).env ∧ WellOwned cfg (a.apply true p s).env := by
  cases a with
  | prepend var vals app =>
    have hmem : ∀ var2 p' rel', Elem.own p' rel' ∈ (s.env.addPath var (vals.map (Val.elem p)) app).pathOf var2 →
        (var2 = var ∧ Val.own rel' ∈ vals ∧ p' = p) ∨ Elem.own p' rel' ∈ s.env.pathOf var2 := by
      intro var2 p' rel' hm
      rcases (mem_pathOf_addPath s.env var var2 (vals.map (Val.elem p)) _ app).1 hm with ⟨hv, he⟩ | h
      · left
        obtain ⟨val, hval, he⟩ := List.mem_map.1 he
        cases val with
        | own rel => simp [Val.elem] at he; exact ⟨hv, by rw [← he.2]; exact hval, he.1.symm⟩
        | lit s => simp [Val.elem] at he
      · exact Or.inr h
    constructor
    · refine ⟨?_, hn.vars, hn.dirs⟩
      intro var2 p' rel' hm
      rcases hmem var2 p' rel' hm with ⟨_, _, rfl⟩ | h
      · exact Or.inr hr
      · exact hn.path var2 p' rel' h
    · refine ⟨?_, hw.vars, hw.dirs⟩
      intro var2 p' rel' hm
      rcases hmem var2 p' rel' hm with ⟨rfl, hval, rfl⟩ | h
      · exact ⟨vals, app, ha, hval⟩
      · exact hw.path var2 p' rel' h
  | set var val =>
    have hmem : ∀ var2 p' rel', aget (aset s.env.vars var (val.elem p)) var2 = some (Elem.own p' rel') →
        (var2 = var ∧ val = .own rel' ∧ p' = p) ∨ aget s.env.vars var2 = some (Elem.own p' rel') := by
      intro var2 p' rel' hm
      by_cases hv : var2 = var
      · subst hv
        rw [aget_aset_same] at hm
        left
        cases val with
        | own rel => simp [Val.elem] at hm; exact ⟨rfl, by rw [hm.2], hm.1.symm⟩
        | lit s => simp [Val.elem] at hm
      · rw [aget_aset_other _ _ _ _ hv] at hm; exact Or.inr hm
    constructor
    · refine ⟨hn.path, ?_, hn.dirs⟩
      intro var2 p' rel' hm
      rcases hmem var2 p' rel' hm with ⟨_, _, rfl⟩ | h
      · exact Or.inr hr
      · exact hn.vars var2 p' rel' h
    · refine ⟨hw.path, ?_, hw.dirs⟩
      intro var2 p' rel' hm
      rcases hmem var2 p' rel' hm with ⟨rfl, rfl, rfl⟩ | h
      · exact ha
      · exact hw.vars var2 p' rel' h
  | alias key val => exact ⟨hn, hw⟩
  | dep n o j v x t kl => exact ⟨hn, hw⟩

theorem acts_frame (cfg : Cfg) (rank : Name → Nat) (rec : Rec) (hrec : RecOK cfg rank rec) (fwd : Bool) (depth : Nat)
    (noRec : Bool) (vro : List VroEnt) (d : Decl) (r : Nat) (l : List Act)
    (hl : ∀ n o j v x t kl, Act.dep n o j v x t kl ∈ l → rank n < r) :
    ∀ s s', AlreadyOK cfg.db s.already → acts rec cfg fwd depth noRec vro d l s = .ok s' →
      ∀ m, r ≤ rank m → s'.env.rec? m = s.env.rec? m := by
  intro s s' ha h m hm
  refine acts_lines cfg (fun s0 => s0.env.rec? m = s.env.rec? m) rec hrec.already fwd depth noRec vro d l (fun _ _ h => h)
    (fun a _ s0 hp => (apply_rec? fwd d.prod a s0 m).trans hp) ?_ s s' ha rfl h
  intro n o j v x t kl hmem _ vro' ver' vx' s0 s1 ha0 hp0 hr
  have hn : rank n < r := hl n o j v x t kl hmem
  exact (of_rank_lt (hrec.frame _ _ _ _ _ _ _ _ _ ha0 hr m) (by omega)).trans hp0

/-- what a forward run of `d`'s table carries from line to line -/
structure TableInv (cfg : Cfg) (d : Decl) (e : Env) : Prop where
  owned : WellOwned cfg e
  clean : NoResidue Empty e
  recorded : e.rec? d.name = some d.ver

theorem TableInv.apply {cfg : Cfg} {d : Decl} {s : St} (h : TableInv cfg d s.env) (a : Act) (ha : a ∈ tableOf cfg d.prod) :
    TableInv cfg d (a.apply true d.prod s).env := by
  obtain ⟨hn1, hw1⟩ := apply_true_spec cfg d.prod a s ha h.recorded h.owned h.clean
  exact ⟨hw1, hn1, by rw [apply_rec?]; exact h.recorded⟩

/-- after a dependency that was followed: clause (c) of its outcome, and the record frame at `d.name` -/
theorem TableInv.ok {cfg : Cfg} {d : Decl} {s s1 : St} (h : TableInv cfg d s.env)
    (hspec : NoResidue Empty s1.env ∧ WellOwned cfg s1.env) (hfr : s1.env.rec? d.name = s.env.rec? d.name) :
    TableInv cfg d s1.env :=
  ⟨hspec.2, hspec.1, hfr.trans h.recorded⟩

theorem acts_true_spec (cfg : Cfg) (rank : Name → Nat) (rec : Rec) (hrec : RecOK cfg rank rec) (depth : Nat)
    (noRec : Bool) (vro : List VroEnt) (d : Decl) (l : List Act)
    (hl : ∀ n o j v x t kl, Act.dep n o j v x t kl ∈ l → rank n < rank d.name)
    (hc : ∀ a ∈ l, a ∈ tableOf cfg d.prod) :
    ∀ s s', AlreadyOK cfg.db s.already → WellOwned cfg s.env → NoResidue Empty s.env →
      s.env.rec? d.name = some d.ver → acts rec cfg true depth noRec vro d l s = .ok s' →
      NoResidue Empty s'.env ∧ WellOwned cfg s'.env := by
  intro s s' ha hw hn hr h
  have hi := acts_lines cfg (fun s => TableInv cfg d s.env) rec hrec.already true depth noRec vro d l (fun _ _ hi => hi)
    (fun a hm _ hi => hi.apply a (hc a hm))
    (fun n o j v x t kl hm _ _ _ _ _ _ ha hi hr => hi.ok (hrec.spec _ _ _ _ _ _ _ _ _ ha hi.owned hi.clean hr)
      (of_rank_lt (hrec.frame _ _ _ _ _ _ _ _ _ ha hr _) (hl n o j v x t kl hm))) s s' ha ⟨hw, hn, hr⟩ h
  exact ⟨hi.clean, hi.owned⟩

/-- a name that `findSetupProduct` does not find has no record, or one of an undeclared version, whose table is empty:
nothing in a well-owned environment belongs to it -/
theorem record_spec (cfg : Cfg) (d : Decl) (reason : Option VroEnt) (s : St) (hw : WellOwned cfg s.env)
    (hn : NoResidue Empty s.env) (hsp : setupProd cfg.db s.env d.name = none) :
    NoResidue Empty (record d reason s).env ∧ WellOwned cfg (record d reason s).env := by
  have hnoelem : ∀ p : Prod, p.1 = d.name → s.env.rec? p.1 = some p.2 → tableOf cfg p = [] := by
    intro ⟨n, v⟩ hp hr
    cases hp
    unfold tableOf; rw [← setupProd_of_rec hr, hsp]
  have key : ∀ p : Prod, (Empty p ∨ s.env.rec? p.1 = some p.2) → tableOf cfg p ≠ [] →
      Empty p ∨ (record d reason s).env.rec? p.1 = some p.2 := by
    intro p hp hne
    rcases hp with hp | hp
    · exact hp.elim
    · right
      by_cases hpn : p.1 = d.name
      · exact absurd (hnoelem p hpn hp) hne
      · rw [record_rec?_other d reason s p.1 hpn]; exact hp
  have hdirs : ∀ n x, aget (record d reason s).env.dirs n = some x →
      (n = d.name ∧ x = .own d.prod []) ∨ (n ≠ d.name ∧ aget s.env.dirs n = some x) := by
    intro n x h
    by_cases hnd : n = d.name
    · subst hnd
      simp [record, aget_aset_same] at h
      exact Or.inl ⟨rfl, h.symm⟩
    · simp only [record] at h
      rw [aget_aset_other _ _ _ _ hnd] at h; exact Or.inr ⟨hnd, h⟩
  constructor
  · refine ⟨?_, ?_, ?_⟩
    · intro var p rel hm
      obtain ⟨vals, app, hline, _⟩ := hw.path var p rel hm
      exact key p (hn.path var p rel hm) (by intro e; rw [e] at hline; cases hline)
    · intro var p rel hm
      have hline := hw.vars var p rel hm
      exact key p (hn.vars var p rel hm) (by intro e; rw [e] at hline; cases hline)
    · intro n p rel hm
      rcases hdirs n _ hm with ⟨_, he⟩ | ⟨hnd, h0⟩
      · right
        simp at he
        rw [he.1]; exact record_rec?_same d reason s
      · have hpn : p.1 = n := hw.dirs n p rel h0
        rcases hn.dirs n p rel h0 with hp | hp
        · exact hp.elim
        · right
          rw [record_rec?_other d reason s p.1 (by rw [hpn]; exact hnd)]; exact hp
  · refine ⟨hw.path, hw.vars, ?_⟩
    intro n p rel hm
    rcases hdirs n _ hm with ⟨hnd, he⟩ | ⟨_, h0⟩
    · simp at he; rw [he.1, hnd]; rfl
    · exact hw.dirs n p rel h0

section
variable {cfg : Cfg} {k : Nat} {vro : List VroEnt} {n : Name} {ver : Option VerReq} {vexpr : Option VExpr} {s : St} {d : Decl}
  {reason : Option VroEnt} {s0 : St} (hch : Chosen cfg k vro n ver vexpr s d reason s0) (hw : WellOwned cfg s.env)
  (hn : NoResidue Empty s.env)
include hch hw hn

theorem TableInv.fresh (hsp : setupProd cfg.db s.env n = none) : TableInv cfg d (record d reason s0).env := by
  obtain ⟨hn2, hw2⟩ := record_spec cfg d reason s0 (hch.env ▸ hw) (hch.env ▸ hn) (by rw [hch.env, hch.name]; exact hsp)
  exact ⟨hw2, hn2, record_rec?_same ..⟩

theorem TableInv.replace {f : Nat} {nr : Bool} {s1 : St}
    (hr : setup cfg f false k nr vro n none none s0 = .ok s1) : TableInv cfg d (record d reason s1).env := by
  have hw0 : WellOwned cfg s0.env := hch.env ▸ hw
  obtain ⟨hn1, hs1⟩ := setup_false_spec cfg Empty hw0 (hch.env ▸ hn) hr
  obtain ⟨hn2, hw2⟩ := record_spec cfg d reason s1 (hw0.of_sub hs1) hn1
    (setupProd_of_none (hch.name ▸ setup_false_unsets cfg hr))
  exact ⟨hw2, hn2, record_rec?_same ..⟩

end

/-- the subject schema at the names of rank up to that of `m`, `m` apart -/
theorem setup_frame (cfg : Cfg) (rank : Name → Nat) (hdag : NameDag cfg.db rank) {fuel : Nat} {fwd : Bool} {depth : Nat}
    {noRec : Bool} {vro : List VroEnt} {n : Name} {ver : Option VerReq} {vexpr : Option VExpr} {s s' : St}
    (ha : AlreadyOK cfg.db s.already) (h : setup cfg fuel fwd depth noRec vro n ver vexpr s = .ok s') (m : Name)
    (hm : m ≠ n) (hr : rank n ≤ rank m) : s'.env.rec? m = s.env.rec? m := by
  have hcl : ClosedAt cfg fun _ n => m ≠ n ∧ rank n ≤ rank m := fun d hd _ hS _ g n o j v x t kl hg => by
    have := hdag d hd g n o j v x t kl hg
    exact ⟨fun e => by subst e; omega, by omega⟩
  have hP : SubjInv cfg (fun _ n => m ≠ n ∧ rank n ≤ rank m) fun e => e.rec? m = s.env.rec? m :=
    ⟨fun fwd _ d a s _ _ _ hp => (apply_rec? fwd d.prod a s m).trans hp,
     fun _ d r s _ hS hp => (record_rec?_other d r s m hS.1).trans hp,
     fun _ d e _ hS hp => (aget_aunset_other e.recs d.name m hS.1).trans hp⟩
  exact setup_subjInv cfg hcl hP.stInv ⟨hm, hr⟩ ha rfl h

section
variable {cfg : Cfg} (rank : Name → Nat) (hdag : NameDag cfg.db rank)
include hdag

theorem spec_rules :
    FwdRules cfg
      (fun _ _ _ _ s res => WellOwned cfg s.env → NoResidue Empty s.env →
        ∀ s', res = .ok s' → NoResidue Empty s'.env ∧ WellOwned cfg s'.env)
      (fun _ _ _ d _ s res => TableInv cfg d s.env → ∀ s', res = .ok s' → NoResidue Empty s'.env ∧ WellOwned cfg s'.env) where
  nil := fun hi _ h => by cases h; exact ⟨hi.clean, hi.owned⟩
  line := fun _ _ _ hc hm _ ih hi => ih (hi.apply _ (mem_tableOf hc hm))
  skip := fun _ ih => ih
  ok := fun _ hc ha hm _ hr hq ih hi =>
    ih (hi.ok (hq hi.owned hi.clean _ rfl) (of_rank_lt (setup_frame cfg rank hdag ha hr _) (hdag.dep hc hm)))
  raise := fun _ _ _ _ h => nomatch h
  cont := fun _ _ ih => ih
  notFound := fun _ _ _ h => nomatch h
  raised := fun _ _ _ h => nomatch h
  same := fun hch _ _ hw hn _ h => by cases h; rw [hch.env]; exact ⟨hn, hw⟩
  fresh := fun hch hsp ih hw hn => ih (.fresh hch hw hn hsp)
  replace := fun _ hch _ _ hr ih hw hn => ih (.replace hch hw hn hr)

end

/-- C01 clause (c) for a call of `setup`, in either direction -/
theorem setup_spec (cfg : Cfg) (rank : Name → Nat) (hdag : NameDag cfg.db rank) {fuel : Nat} {fwd : Bool} {depth : Nat}
    {noRec : Bool} {vro : List VroEnt} {n : Name} {ver : Option VerReq} {vexpr : Option VExpr} {s s' : St}
    (ha : AlreadyOK cfg.db s.already) (hw : WellOwned cfg s.env) (hn : NoResidue Empty s.env)
    (h : setup cfg fuel fwd depth noRec vro n ver vexpr s = .ok s') : NoResidue Empty s'.env ∧ WellOwned cfg s'.env := by
  cases fwd with
  | false => exact (setup_false_spec cfg Empty hw hn h).imp_right hw.of_sub
  | true => exact (spec_rules rank hdag).run fuel ha h nofun hw hn s' rfl

theorem setup_recOK (cfg : Cfg) (rank : Name → Nat) (hdag : NameDag cfg.db rank) (fuel : Nat) :
    RecOK cfg rank (setup cfg fuel) :=
  ⟨setup_alOK cfg fuel, fun _ _ _ _ _ _ _ _ _ => setup_frame cfg rank hdag, setup_unfail cfg fuel,
    fun X _ _ _ _ _ _ _ _ => setup_false_spec cfg X, fun _ _ _ _ _ _ _ _ _ => setup_false_unsets cfg,
    fun _ _ _ _ _ _ _ _ _ => setup_spec cfg rank hdag⟩

theorem runSetup_spec (db : Db) (rank : Name → Nat) (hdag : NameDag db rank) (fuel : Nat) (r : Request) (e : Env) (s' : St)
    (hw : WellOwned (r.cfg db) e) (hn : NoResidue Empty e) (h : runSetup db fuel r e = .ok s') :
    NoResidue Empty s'.env ∧ WellOwned (r.cfg db) s'.env :=
  setup_spec (r.cfg db) rank hdag (alreadyOK_init db e) hw hn h

theorem runSetup_ok (db : Db) (fuel : Nat) (r : Request) (e : Env) (s' : St) (h : runSetup db fuel r e = .ok s') :
    ∃ f d reason s0, Chosen (r.cfg db) 0 r.vro r.name r.version none (St.init e) d reason s0 ∧
      install (setup (r.cfg db) f) (r.cfg db) 0 false r.vro d reason s0 = .ok s' := by
  unfold runSetup at h
  cases fuel with
  | zero => cases h
  | succ f =>
    revert h
    exact setup_true_cases (r.cfg db) f 0 false r.vro r.name r.version none (St.init e) (alreadyOK_init db e)
      (P := fun res => res = .ok s' → _) (fun h => nomatch h) (fun h => nomatch h)
      fun d reason s0 hch h => ⟨f, d, reason, s0, hch, h⟩

theorem install_top_record (cfg : Cfg) (rank : Name → Nat) (hdag : NameDag cfg.db rank) (rec : Rec)
    (hrec : RecOK cfg rank rec) (noRec : Bool) (vro : List VroEnt) (d : Decl) (reason : Option VroEnt)
    (hc : Canon cfg.db d) (s s' : St) (ha : AlreadyOK cfg.db s.already)
    (h : install rec cfg 0 noRec vro d reason s = .ok s') : s'.env.rec? d.name = some d.ver := by
  have tail : ∀ s1 : St, AlreadyOK cfg.db s1.already →
      acts rec cfg true 0 noRec vro d (d.actions cfg.exact) (record d reason s1) = .ok s' →
      s'.env.rec? d.name = some d.ver := by
    intro s1 h1 hacts
    have := acts_frame cfg rank rec hrec true 0 noRec vro d (rank d.name) (d.actions cfg.exact)
      (fun _ _ _ _ _ _ _ => hdag.dep hc) _ s' (alreadyOK_aset cfg.db _ h1 d reason hc) hacts
      d.name (Nat.le_refl _)
    rw [this]; exact record_rec?_same d reason s1
  revert h
  exact install_cases rec cfg 0 noRec vro d reason s (P := fun res => res = .ok s' → s'.env.rec? d.name = some d.ver)
    (fun _ => tail s ha) (fun _ _ h0 => absurd h0 (Nat.lt_irrefl 0)) (fun _ _ _ _ h => nomatch h)
    (fun _ s1 _ _ hst => tail s1 (hrec.already.st ha hst))

def nameDagB (db : Db) (rank : Name → Nat) : Bool :=
  db.decls.all fun d => d.table.all fun ga =>
    match ga.2 with
    | .dep n _ _ _ _ _ _ => decide (rank n < rank d.name)
    | _ => true

theorem nameDag_of_check (db : Db) (rank : Name → Nat) (h : nameDagB db rank = true) : NameDag db rank := by
  intro d hd g n o j v x t kl hg
  simpa using all_lines h hd hg

end EupsModel.Setup
