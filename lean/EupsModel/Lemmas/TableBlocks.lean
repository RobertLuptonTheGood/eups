import EupsModel.Lemmas.CondCorrect
import EupsModel.Lemmas.CondLex
/-! C11, block clause: the repaired block state machine of `Table._read` followed by `Table.actions` selects, for every
table given as classified lines, the actions the table denotes (`blocks_lines`, by the invariant `Done` between items);
`tableActions_classified` puts `_rewrite` and the patterns of `_read` in front of it; the default product's implicit action
comes after everything the table denotes (`tableActionsD_some`). -/
namespace EupsModel.TableParse
open EupsModel.Cond EupsModel.C11Spec

theorem evalCond_written {env : Env} (hfl : flavorOK env.flavor = true) (c : CExpr) (hok : c.okAt 0 = true) {trail : Str}
    (ht : blank trail = true) {f : Nat} (hf : fuelFor (c.str ++ trail) ≤ f) :
    evalCond env f (c.str ++ trail) = .ok (denote env c.abs) := by
  have hl := toks_length_le c 0 hok
  simp only [evalCond, tokenize_expr c hok trail ht]
  apply evalToks_correct hfl c hok
  simp only [fuelFor, List.length_append] at hf
  omega

theorem evalCond_branch {env : Env} (hfl : flavorOK env.flavor = true) {b : Branch} (hb : b.ok = true) :
    evalCond env (fuelFor b.text) b.text = .ok (denote env b.cond.abs) := by
  simp only [Branch.ok, Bool.and_eq_true] at hb
  exact evalCond_written hfl b.cond hb.1 hb.2 (Nat.le_refl _)

theorem evalCond_true (env : Env) : evalCond env (fuelFor sTrue) sTrue = .ok true := by rfl

theorem repaired_d3 : repaired.d3 = true := rfl
theorem repaired_d3' : repaired.d3 = true := repaired_d3
theorem repaired_d4 : repaired.d4 = true := rfl

theorem select_unconditional (env : Env) (b : List Action) : select repaired env (unconditional b) = .ok b := by
  simp [select, unconditional, repaired_d3, evalCond_true, Res.bind]

theorem actions_append_bind (v : Variant) (env : Env) (c1 c2 : List Chain) :
    actions v env (c1 ++ c2) = (actions v env c1).bind fun a => (actions v env c2).bind fun b => .ok (a ++ b) := by
  induction c1 with
  | nil => simp [actions, Res.ok_bind, Res.bind_ok]
  | cons ch r ih => simp [actions, ih, Res.bind_assoc, Res.ok_bind]

theorem actions_append {v : Variant} {env : Env} {xs ys : List Chain} {a b : List Action}
    (hx : actions v env xs = .ok a) (hy : actions v env ys = .ok b) : actions v env (xs ++ ys) = .ok (a ++ b) := by
  rw [actions_append_bind, hx, hy]; rfl

theorem actions_single {v : Variant} {env : Env} {c : Chain} {a : List Action} (h : select v env c = .ok a) :
    actions v env [c] = .ok a := by
  simp [actions, h, Res.bind]

theorem select_last (env : Env) (c : Str) (as e : List Action) :
    select repaired env [.cond c, .blk as, .blk e] =
      (evalCond env (fuelFor c) c).bind fun t => if t then .ok as else .ok e := by
  simp [select, repaired_d3]

theorem select_more (env : Env) (c : Str) (as : List Action) (i1 i2 i3 : Item) (rest : Chain) :
    select repaired env (.cond c :: .blk as :: i1 :: i2 :: i3 :: rest) =
      (evalCond env (fuelFor c) c).bind fun t => if t then .ok as else select repaired env (i1 :: i2 :: i3 :: rest) := by
  rw [select]; simp [repaired_d3]
  all_goals (intro _ h; simp at h)

/-- the Python list `[logical1, block1, …, logicalN, blockN, elseBlock]` of a chain -/
def chainItems (brs : List Branch) (e : List Action) : Chain :=
  brs.flatMap (fun b => [.cond b.text, .blk b.body.acts]) ++ [.blk e]

theorem select_chain {env : Env} (hfl : flavorOK env.flavor = true) (e : List Action) :
    ∀ (b : Branch) (bs : List Branch), b.ok = true → bs.all Branch.ok = true →
      select repaired env (chainItems (b :: bs) e) = .ok (denoteBranches env (b :: bs) e) := by
  intro b bs
  induction bs generalizing b with
  | nil =>
    intro hb _
    have : chainItems [b] e = [.cond b.text, .blk b.body.acts, .blk e] := by simp [chainItems]
    rw [this, select_last, evalCond_branch hfl hb]
    simp only [Res.bind, denoteBranches]
    split <;> rfl
  | cons b' bs ih =>
    intro hb hbs
    simp only [List.all_cons, Bool.and_eq_true] at hbs
    have hrec := ih b' hbs.1 hbs.2
    have h3 : ∃ i3 rest, chainItems (b' :: bs) e = .cond b'.text :: .blk b'.body.acts :: i3 :: rest := by
      cases bs with
      | nil => exact ⟨.blk e, [], by simp [chainItems]⟩
      | cons b'' bs' => exact ⟨.cond b''.text, _, by simp [chainItems]; rfl⟩
    obtain ⟨i3, rest, h3⟩ := h3
    have : chainItems (b :: b' :: bs) e = .cond b.text :: .blk b.body.acts :: chainItems (b' :: bs) e := by
      simp [chainItems]
    rw [this, h3, select_more, ← h3, hrec, evalCond_branch hfl hb]
    simp only [Res.bind, denoteBranches]
    split <;> rfl

theorem readLines_eq (v : Variant) (pdir : Option Str) (lines : List Str) (st : RdState) :
    readLines v pdir st lines = (classifyAll v pdir lines).bind fun ls => .ok (runL v st ls) := by
  induction lines generalizing st with
  | nil => rfl
  | cons l rest ih => simp [readLines, readLine, classifyAll, ih, Res.bind_assoc, Res.ok_bind, runL]

theorem runL_append {v : Variant} (st : RdState) (a b : List Line) : runL v st (a ++ b) = runL v (runL v st a) b := by
  simp [runL, List.foldl_append]

theorem runL_cons {v : Variant} (st : RdState) (l : Line) (ls : List Line) :
    runL v st (l :: ls) = runL v (stepL v st l) ls := rfl

theorem runL_body {v : Variant} (st : RdState) (body : Body) :
    runL v st body.lines = { st with block := st.block ++ body.acts } := by
  induction body generalizing st with
  | nil => simp [runL, Body.lines, Body.acts]
  | cons l ls ih =>
    have : Body.lines (l :: ls) = Body.lines [l] ++ Body.lines ls := by simp [Body.lines]
    rw [this, runL_append, ih]
    cases l <;> simp [runL, Body.lines, stepL, Body.acts]

/-- `self._actions` once the unconditional commands read so far are closed as a chain of their own: when a chain
opens, and at the end of the file -/
def flushed (st : RdState) : List Chain := if st.block.isEmpty then st.acts else st.acts ++ [unconditional st.block]

theorem actions_flushed {env : Env} {st : RdState} {a : List Action} (ha : actions repaired env st.acts = .ok a) :
    actions repaired env (flushed st) = .ok (a ++ st.block) := by
  unfold flushed
  split
  · rename_i he; rw [List.isEmpty_iff.mp he]; simpa using ha
  · exact actions_append ha (actions_single (select_unconditional env st.block))

theorem step_if {st : RdState} (h : st.chain = none) (c : Str) : stepL repaired st (.blk (.ifOpen c)) =
    { st with chain := some [.cond c], sawElse := false, block := [], acts := flushed st } := by
  simp only [stepL, repaired_d4, if_true, blockStep, h, flushed]
  split <;> rfl

theorem step_elif {st : RdState} {ch : Chain} (h : st.chain = some ch) (c : Str) : stepL repaired st (.blk (.elseIf c)) =
    { st with chain := some (ch ++ [.blk st.block, .cond c]), block := [] } := by
  simp [stepL, repaired_d4, blockStep, h]

theorem step_else {st : RdState} {ch : Chain} (h : st.chain = some ch) (lw : Bool) :
    stepL repaired st (.blk (.elseOpen lw)) = { st with chain := some (ch ++ [.blk st.block]), sawElse := true, block := [] } := by
  simp [stepL, repaired_d4, blockStep, h]

theorem step_close {st : RdState} {ch : Chain} (h : st.chain = some ch) : stepL repaired st (.blk .close) =
    { st with chain := none, block := [],
              acts := st.acts ++ [ch ++ (if st.sawElse then [.blk st.block] else [.blk st.block, .blk []])] } := by
  simp [stepL, repaired_d4, blockStep, h]

def elifLines (es : List Branch) : List Line := es.flatMap (fun b => .blk (.elseIf b.text) :: b.body.lines)
def elseLines (els : Option Body) (lw : Bool) : List Line :=
  match els with
  | some b => .blk (.elseOpen lw) :: Body.lines b
  | none => []
def elseActs (els : Option Body) : List Action :=
  match els with
  | some b => b.acts
  | none => []

theorem runL_rest (els : Option Body) (lw : Bool) (es : List Branch) :
    ∀ (st : RdState) (ch : Chain), st.chain = some ch → st.sawElse = false →
      runL repaired st (elifLines es ++ elseLines els lw ++ [.blk .close]) =
        { st with chain := none, block := [], sawElse := els.isSome,
                  acts := st.acts ++ [ch ++ .blk st.block :: chainItems es (elseActs els)] } := by
  induction es with
  | nil =>
    intro st ch hch hsw
    cases els with
    | none => simp [elifLines, elseLines, elseActs, chainItems, step_close hch, hsw, runL]
    | some b =>
      have e : elifLines [] ++ elseLines (some b) lw ++ [Line.blk .close] =
          .blk (.elseOpen lw) :: (Body.lines b ++ [Line.blk .close]) := by simp [elifLines, elseLines]
      rw [e, runL_cons, step_else hch, runL_append, runL_body, runL_cons, step_close (by rfl)]
      simp [runL, elseActs, chainItems]
  | cons e es ih =>
    intro st ch hch hsw
    have eq : elifLines (e :: es) ++ elseLines els lw ++ [Line.blk .close] =
        .blk (.elseIf e.text) :: (e.body.lines ++ (elifLines es ++ elseLines els lw ++ [Line.blk .close])) := by
      simp [elifLines]
    rw [eq, runL_cons, step_elif hch, runL_append, runL_body, ih _ _ (by rfl) (by exact hsw)]
    simp [chainItems, List.append_assoc]

/-- the invariant between items: no chain is open, and the chains closed so far (`st.acts`) followed by the
unconditional commands read since (`st.block`) yield `d` -/
def Done (env : Env) (st : RdState) (d : List Action) : Prop :=
  st.chain = none ∧ ∃ a, actions repaired env st.acts = .ok a ∧ d = a ++ st.block

theorem item_lines_chain (f : Branch) (es : List Branch) (els : Option Body) (lw : Bool) :
    (TItem.chain f es els lw).lines =
      .blk (.ifOpen f.text) :: (f.body.lines ++ (elifLines es ++ elseLines els lw ++ [Line.blk .close])) := by
  cases els <;> simp [TItem.lines, elifLines, elseLines]

theorem done_item {env : Env} (hfl : flavorOK env.flavor = true) {st : RdState} {d : List Action}
    (hd : Done env st d) (it : TItem) (hok : it.ok = true) :
    Done env (runL repaired st it.lines) (d ++ denoteItem env it) := by
  obtain ⟨hch, a, ha, rfl⟩ := hd
  cases it with
  | line l =>
    rw [show (TItem.line l).lines = Body.lines [l] from rfl, runL_body]
    exact ⟨hch, a, ha, by cases l <;> simp [denoteItem, Body.acts]⟩
  | chain f es els lw =>
    simp only [TItem.ok, Bool.and_eq_true] at hok
    rw [item_lines_chain, runL_cons, step_if hch, runL_append, runL_body, runL_rest els lw es _ [.cond f.text] rfl rfl]
    refine ⟨rfl, a ++ st.block ++ denoteItem env (.chain f es els lw), ?_, by simp⟩
    have hden : denoteItem env (.chain f es els lw) = denoteBranches env (f :: es) (elseActs els) := by
      cases els <;> rfl
    rw [hden]
    exact actions_append (actions_flushed ha) (actions_single (select_chain hfl (elseActs els) f es hok.1 hok.2))

theorem done_items {env : Env} (hfl : flavorOK env.flavor = true) (t : List TItem) (hok : t.all TItem.ok = true) :
    ∀ {st : RdState} {d : List Action}, Done env st d →
      Done env (runL repaired st (tableLines t)) (d ++ denoteTable env t) := by
  induction t with
  | nil => intro st d hd; simpa [tableLines, denoteTable, runL] using hd
  | cons it its ih =>
    intro st d hd
    simp only [List.all_cons, Bool.and_eq_true] at hok
    have h1 := done_item hfl hd it hok.1
    have h2 := ih hok.2 h1
    simpa [tableLines, denoteTable, runL_append, List.append_assoc] using h2

theorem done_finish {env : Env} {st : RdState} {d : List Action} (hd : Done env st d) :
    actions repaired env (finish repaired st) = .ok d := by
  obtain ⟨hch, a, ha, rfl⟩ := hd
  simp only [finish, repaired_d4, if_true, hch]
  exact actions_flushed ha

theorem blocks_lines {env : Env} (hfl : flavorOK env.flavor = true) (t : List TItem) (hok : t.all TItem.ok = true) :
    actions repaired env (finish repaired (runL repaired {} (tableLines t))) = .ok (denoteTable env t) := by
  have h0 : Done env {} [] := ⟨rfl, [], rfl, rfl⟩
  simpa using done_finish (done_items hfl t hok h0)

theorem tableActions_classified {env : Env} (hfl : flavorOK env.flavor = true) {pdir : Option Str} {text : Str}
    {lines : List Str} {t : List TItem} (hok : t.all TItem.ok = true) (hrw : rewrite text = .ok lines)
    (hcl : classifyAll repaired pdir lines = .ok (tableLines t)) :
    tableActions repaired pdir env text = .ok (denoteTable env t) := by
  simp only [tableActions, parse, hrw, readLines_eq, hcl, Res.bind]
  exact blocks_lines hfl t hok

theorem tableActions_congr {a b : Str} (h : rewrite a = rewrite b) (v : Variant) (pdir : Option Str) (env : Env) :
    tableActions v pdir env a = tableActions v pdir env b := by simp only [tableActions, parse, h]

theorem bind_ok_id {α : Type} (x : Res α) : (x.bind fun b => .ok b) = x := Res.bind_ok x

theorem tableActionsD_none (v : Variant) (pdir : Option Str) (env : Env) (text : Str) :
    tableActionsD v pdir none env text = tableActions v pdir env text := by
  simp [tableActionsD, parseD, tableActions, Res.bind_assoc, Res.ok_bind]

theorem tableActionsD_some (pdir : Option Str) (d : DefaultProduct) (env : Env) (text : Str) :
    tableActionsD repaired pdir (some d) env text
      = (tableActions repaired pdir env text).bind fun as => .ok (as ++ [implicitAction d]) := by
  have : actions repaired env [unconditional [implicitAction d]] = .ok [implicitAction d] :=
    actions_single (select_unconditional env _)
  simp [tableActionsD, parseD, tableActions, Res.bind_assoc, Res.ok_bind, actions_append_bind, this]

end EupsModel.TableParse
