import EupsModel.Lemmas.SetupRun
/-! What the caller's shell holds after evaluating the command list `eups.app.setup` returned (C02; the glue between
`Model/Setup` and the emission of C05).  `Shell`: the caller's state as lookups; `Cmd.run`: one command of `delta`;
`runCmds_delta`: the commands of a successful request produce exactly the environment and functions `Eups.setup` computed,
given that `Eups.aliases` holds one binding per key — which every run keeps (`setup_aliasND`, a `RunInv`). -/
namespace EupsModel.Setup

structure Shell where
  recs : Name → Option Ver
  dirs : Name → Option Elem
  paths : Str → Option (List Elem)
  vars : Str → Option Elem
  funcs : Str → Option Str

def Shell.of (e : Env) (f : Str → Option Str) : Shell :=
  ⟨aget e.recs, aget e.dirs, aget e.paths, aget e.vars, f⟩

def upd {β : Type} (f : Str → Option β) (k : Str) (x : Option β) : Str → Option β := fun m => if m = k then x else f m

def Cmd.run : Cmd → Shell → Shell
  | .exportRec n v, sh => { sh with recs := upd sh.recs n (some v) }
  | .exportDir n x, sh => { sh with dirs := upd sh.dirs n (some x) }
  | .exportPath var l, sh => { sh with paths := upd sh.paths var (some l) }
  | .exportVar var x, sh => { sh with vars := upd sh.vars var (some x) }
  | .unsetRec n, sh => { sh with recs := upd sh.recs n none }
  | .unsetDir n, sh => { sh with dirs := upd sh.dirs n none }
  | .unsetPath var, sh => { sh with paths := upd sh.paths var none }
  | .unsetVar var, sh => { sh with vars := upd sh.vars var none }
  | .aliasDef k v, sh => { sh with funcs := upd sh.funcs k (some v) }
  | .aliasUnset k, sh => { sh with funcs := upd sh.funcs k none }
  | .false_, sh => sh

def runCmds (l : List Cmd) (sh : Shell) : Shell := l.foldl (fun sh c => c.run sh) sh

/-- what the caller's shell holds after `eval $(eups_setup …)`: the commands are evaluated; an exception in `eups_setup`
prints nothing to evaluate -/
def Emitted.apply : Emitted → Shell → Shell
  | .cmds l, sh => runCmds l sh
  | .raised, sh => sh
  | .fuel, sh => sh

theorem runCmds_append (l1 l2 : List Cmd) (sh : Shell) : runCmds (l1 ++ l2) sh = runCmds l2 (runCmds l1 sh) :=
  List.foldl_append

theorem runCmds_cons (c : Cmd) (l : List Cmd) (sh : Shell) : runCmds (c :: l) sh = runCmds l (c.run sh) := rfl

section Comp
variable {β : Type} {get : Shell → Str → Option β} {exp : Str → β → Cmd} {uns : Str → Cmd}

/-- `get` reads one component of the shell, `exp` and `uns` are the two commands that write it -/
structure Comp (get : Shell → Str → Option β) (exp : Str → β → Cmd) (uns : Str → Cmd) : Prop where
  get_exp : ∀ k v sh, get ((exp k v).run sh) = upd (get sh) k (some v)
  get_uns : ∀ k sh, get ((uns k).run sh) = upd (get sh) k none

/-- the commands `l` take the component `get` from the lookup `g` to the lookup `g'` -/
def Maps (get : Shell → Str → Option β) (l : List Cmd) (g g' : Str → Option β) : Prop :=
  ∀ sh, get sh = g → get (runCmds l sh) = g'

theorem Maps.append {l1 l2 : List Cmd} {g g' g'' : Str → Option β} (h1 : Maps get l1 g g') (h2 : Maps get l2 g' g'') :
    Maps get (l1 ++ l2) g g'' :=
  fun sh h => by rw [runCmds_append]; exact h2 _ (h1 sh h)

def Inert (get : Shell → Str → Option β) (c : Cmd) : Prop := ∀ sh, get (c.run sh) = get sh

theorem Maps.inert {l : List Cmd} (h : ∀ c ∈ l, Inert get c) {g : Str → Option β} : Maps get l g g :=
  fun _ h0 => foldl_invariant (P := fun sh => get sh = g) h0 fun sh c hc hp => (h c hc sh).trans hp

theorem Maps.skipMap {α : Type} {f : α → Cmd} (h : ∀ a, Inert get (f a)) {l : List α} {g : Str → Option β} :
    Maps get (l.map f) g g :=
  .inert fun c hc => by obtain ⟨a, _, rfl⟩ := List.mem_map.1 hc; exact h a

theorem Maps.skipExports {γ : Type} [DecidableEq γ] {mk : Str → γ → Cmd} (h : ∀ k v, Inert get (mk k v))
    {old new : List (Str × γ)} {g : Str → Option β} : Maps get (exports mk old new) g g := by
  refine .inert fun c hc => ?_
  obtain ⟨k, _, hk⟩ := List.mem_filterMap.1 hc
  split at hk
  · split at hk
    · cases hk
    · cases hk; exact h _ _
  · cases hk

theorem mem_keysOf (l : List (Str × β)) (k : Str) : k ∈ keysOf l ↔ (aget l k).isSome = true := by
  unfold keysOf
  rw [List.mem_eraseDups]
  induction l with
  | nil => simp [aget]
  | cons p rest ih =>
    obtain ⟨k', v⟩ := p
    by_cases hk : k' = k
    · simp [aget, hk]
    · simp only [List.map_cons, List.mem_cons, aget, hk, if_false]
      rw [← ih]
      exact ⟨fun h => h.resolve_left (Ne.symm hk), Or.inr⟩

theorem Comp.get_filterMap (C : Comp get exp uns) (F : Str → Option β) (ks : List Str) :
    ∀ sh m, get (runCmds (ks.filterMap fun k => (F k).map (exp k)) sh) m =
      if m ∈ ks then (F m).or (get sh m) else get sh m := by
  induction ks with
  | nil => intro sh m; rfl
  | cons k ks ih =>
    intro sh m
    rw [List.filterMap_cons]
    cases hF : F k with
    | none =>
      rw [Option.map_none, ih]
      by_cases hm : m = k
      · subst hm; simp [hF]
      · simp [hm]
    | some v =>
      rw [Option.map_some, runCmds_cons, ih, C.get_exp]
      by_cases hm : m = k
      · subst hm; simp [upd, hF]
      · simp [upd, hm]

theorem Comp.maps_uns (C : Comp get exp uns) (ks : List Str) (g : Str → Option β) :
    Maps get (ks.map uns) g (fun m => if m ∈ ks then none else g m) := by
  induction ks generalizing g with
  | nil => intro sh h; exact h.trans (by simp)
  | cons k ks ih =>
    intro sh h
    rw [List.map_cons, runCmds_cons, ih _ _ rfl, C.get_uns, h]
    funext m
    by_cases hm : m = k
    · subst hm; simp [upd]
    · simp [upd, hm]

theorem Comp.maps_exp (C : Comp get exp uns) (l : List (Str × β)) (hnd : (l.map (·.1)).Nodup) (g : Str → Option β) :
    Maps get (l.map fun kv => exp kv.1 kv.2) g (fun m => (aget l m).or (g m)) := by
  induction l generalizing g with
  | nil => intro sh h; exact h.trans (by simp [aget])
  | cons p rest ih =>
    obtain ⟨k, v⟩ := p
    intro sh h
    rw [List.map_cons, List.nodup_cons] at hnd
    rw [List.map_cons, runCmds_cons, ih hnd.2 _ _ rfl, C.get_exp, h]
    funext m
    by_cases hk : k = m
    · subst hk
      have : aget rest k = none := by
        cases hg : aget rest k with
        | none => rfl
        | some w => exact absurd (List.mem_map.2 ⟨(k, w), aget_mem rest k w hg, rfl⟩) hnd.1
      simp [aget, this, upd]
    · simp [aget, hk, upd, Ne.symm hk]

theorem Comp.maps_exports [DecidableEq β] (C : Comp get exp uns) (old new : List (Str × β)) :
    Maps get (exports exp old new) (aget old) (fun m => (aget new m).or (aget old m)) := by
  intro sh h0
  have hF : exports exp old new = (keysOf new).filterMap fun k =>
      (match aget new k with
       | some v => if aget old k = some v then none else some v
       | none => none).map (exp k) := by
    unfold exports
    congr; funext k
    cases aget new k with
    | none => rfl
    | some v => dsimp only; split <;> rfl
  funext m
  rw [hF, C.get_filterMap, h0]
  have hk := mem_keysOf new m
  cases hn : aget new m with
  | none => simp
  | some v =>
    rw [hn] at hk
    by_cases ho : aget old m = some v <;> simp [hk, ho]

/-- the `unset` loop of `delta`, run after the `export` loop -/
theorem Comp.maps_unsets (C : Comp get exp uns) (old new : List (Str × β)) :
    Maps get (unsets uns old new) (fun m => (aget new m).or (aget old m)) (aget new) := by
  intro sh h0
  rw [unsets, C.maps_uns _ _ sh h0]
  funext m
  have hk := mem_keysOf old m
  cases hn : aget new m with
  | some v => simp [hn]
  | none =>
    cases ho : aget old m with
    | none => simp
    | some w => simp [hk, ho, hn]
end Comp

theorem compRecs : Comp Shell.recs Cmd.exportRec Cmd.unsetRec := ⟨fun _ _ _ => rfl, fun _ _ => rfl⟩
theorem compDirs : Comp Shell.dirs Cmd.exportDir Cmd.unsetDir := ⟨fun _ _ _ => rfl, fun _ _ => rfl⟩
theorem compPaths : Comp Shell.paths Cmd.exportPath Cmd.unsetPath := ⟨fun _ _ _ => rfl, fun _ _ => rfl⟩
theorem compVars : Comp Shell.vars Cmd.exportVar Cmd.unsetVar := ⟨fun _ _ _ => rfl, fun _ _ => rfl⟩
theorem compFuncs : Comp Shell.funcs Cmd.aliasDef Cmd.aliasUnset := ⟨fun _ _ _ => rfl, fun _ _ => rfl⟩

/-! `delta` is ten lists: `export` loops of records, `<P>_DIR`, path variables, `envSet` variables (1–4), their `unset` loops
(5–8), function definitions (9), `unset -f` (10).  Component `i` is written by lists `i` and `i + 4`; one link per list. -/

theorem delta_recs (old : Env) (s : St) : Maps Shell.recs (delta old s) (aget old.recs) (aget s.env.recs) :=
  (compRecs.maps_exports _ _) |>.append (.skipExports fun _ _ _ => rfl)
    |>.append (.skipExports fun _ _ _ => rfl) |>.append (.skipExports fun _ _ _ => rfl)
    |>.append (compRecs.maps_unsets _ _) |>.append (.skipMap fun _ _ => rfl)
    |>.append (.skipMap fun _ _ => rfl) |>.append (.skipMap fun _ _ => rfl)
    |>.append (.skipMap fun _ _ => rfl) |>.append (.skipMap fun _ _ => rfl)

theorem delta_dirs (old : Env) (s : St) : Maps Shell.dirs (delta old s) (aget old.dirs) (aget s.env.dirs) :=
  (Maps.skipExports (get := Shell.dirs) (mk := Cmd.exportRec) fun _ _ _ => rfl)
    |>.append (compDirs.maps_exports _ _) |>.append (.skipExports fun _ _ _ => rfl)
    |>.append (.skipExports fun _ _ _ => rfl)
    |>.append (.skipMap fun _ _ => rfl) |>.append (compDirs.maps_unsets _ _)
    |>.append (.skipMap fun _ _ => rfl) |>.append (.skipMap fun _ _ => rfl)
    |>.append (.skipMap fun _ _ => rfl) |>.append (.skipMap fun _ _ => rfl)

theorem delta_paths (old : Env) (s : St) : Maps Shell.paths (delta old s) (aget old.paths) (aget s.env.paths) :=
  (Maps.skipExports (get := Shell.paths) (mk := Cmd.exportRec) fun _ _ _ => rfl)
    |>.append (.skipExports fun _ _ _ => rfl) |>.append (compPaths.maps_exports _ _)
    |>.append (.skipExports fun _ _ _ => rfl)
    |>.append (.skipMap fun _ _ => rfl) |>.append (.skipMap fun _ _ => rfl)
    |>.append (compPaths.maps_unsets _ _) |>.append (.skipMap fun _ _ => rfl)
    |>.append (.skipMap fun _ _ => rfl) |>.append (.skipMap fun _ _ => rfl)

theorem delta_vars (old : Env) (s : St) : Maps Shell.vars (delta old s) (aget old.vars) (aget s.env.vars) :=
  (Maps.skipExports (get := Shell.vars) (mk := Cmd.exportRec) fun _ _ _ => rfl)
    |>.append (.skipExports fun _ _ _ => rfl) |>.append (.skipExports fun _ _ _ => rfl)
    |>.append (compVars.maps_exports _ _)
    |>.append (.skipMap fun _ _ => rfl) |>.append (.skipMap fun _ _ => rfl)
    |>.append (.skipMap fun _ _ => rfl) |>.append (compVars.maps_unsets _ _)
    |>.append (.skipMap fun _ _ => rfl) |>.append (.skipMap fun _ _ => rfl)

theorem delta_funcs (old : Env) (s : St) (hnd : (s.aliases.map (·.1)).Nodup) (f : Str → Option Str) :
    Maps Shell.funcs (delta old s) f
      (fun m => if m ∈ s.unaliased.filter (fun k => (aget s.aliases k).isNone) then none else (aget s.aliases m).or (f m)) :=
  (Maps.skipExports (get := Shell.funcs) (mk := Cmd.exportRec) fun _ _ _ => rfl)
    |>.append (.skipExports fun _ _ _ => rfl) |>.append (.skipExports fun _ _ _ => rfl)
    |>.append (.skipExports fun _ _ _ => rfl)
    |>.append (.skipMap fun _ _ => rfl) |>.append (.skipMap fun _ _ => rfl)
    |>.append (.skipMap fun _ _ => rfl) |>.append (.skipMap fun _ _ => rfl)
    |>.append (compFuncs.maps_exp _ hnd _) |>.append (compFuncs.maps_uns _ _)

theorem runCmds_delta (old : Env) (s : St) (f : Str → Option Str) (hnd : (s.aliases.map (·.1)).Nodup) :
    let sh := runCmds (delta old s) (Shell.of old f)
    (∀ n, sh.recs n = s.env.rec? n) ∧ (∀ n, sh.dirs n = aget s.env.dirs n) ∧
    (∀ var, sh.paths var = aget s.env.paths var) ∧ (∀ var, sh.vars var = aget s.env.vars var) ∧
    (∀ k, sh.funcs k = match aget s.aliases k with
      | some v => some v
      | none => if k ∈ s.unaliased then none else f k) := by
  refine ⟨congrFun (delta_recs old s _ rfl), congrFun (delta_dirs old s _ rfl), congrFun (delta_paths old s _ rfl),
    congrFun (delta_vars old s _ rfl), fun k => ?_⟩
  rw [delta_funcs old s hnd f _ rfl]
  cases hg : aget s.aliases k <;> simp [hg]

theorem appSetup_apply (db : Db) (fuel : Nat) (fwd : Bool) (r : Request) (e : Env) (s : St)
    (h : (if fwd then runSetup db fuel r e else runUnsetup db fuel r e) = .ok s) (sh : Shell) :
    (appSetup db fuel fwd r e).apply sh = runCmds (delta e s) sh := by
  unfold appSetup; rw [h]; rfl

/-- `Eups.aliases` is a dictionary: one binding per key -/
def AliasND (s : St) : Prop := (s.aliases.map (·.1)).Nodup

theorem nodup_aunset (l : List (Str × Str)) (k : Str) (h : (l.map (·.1)).Nodup) : ((aunset l k).map (·.1)).Nodup := by
  unfold aunset
  exact (List.nodup_iff_pairwise_ne.1 h |>.sublist (List.Sublist.map _ List.filter_sublist)) |> List.nodup_iff_pairwise_ne.2

theorem nodup_aset (l : List (Str × Str)) (k v : Str) (h : (l.map (·.1)).Nodup) : ((aset l k v).map (·.1)).Nodup := by
  unfold aset
  rw [List.map_cons, List.nodup_cons]
  refine ⟨?_, nodup_aunset l k h⟩
  intro hm
  rw [List.mem_map] at hm
  obtain ⟨p, hp, hk⟩ := hm
  unfold aunset at hp
  rw [List.mem_filter] at hp
  simp at hp
  exact hp.2 hk

theorem apply_aliasND (fwd : Bool) (p : Prod) (a : Act) (s : St) (h : AliasND s) : AliasND (a.apply fwd p s) := by
  cases a with
  | prepend var vals app => exact h
  | set var val => exact h
  | dep n o j v x t kl => exact h
  | alias key val =>
    cases fwd
    · exact nodup_aunset _ _ h
    · exact nodup_aset _ _ _ h

def NDSpec (rec : Rec) : Prop :=
  ∀ fwd depth noRec vro n ver vexpr s s', AliasND s → (rec fwd depth noRec vro n ver vexpr s).st? = some s' → AliasND s'

theorem aliasND_runInv (cfg : Cfg) : RunInv cfg (fun _ => True) AliasND where
  apply := apply_aliasND
  record := fun _ _ _ _ h => h
  unrec := fun _ _ h => h
  restored := fun _ _ h _ => h
  chosen := fun _ _ _ _ _ _ _ _ h _ => ⟨trivial, by rw [AliasND, (register_aliases ..).1]; exact h⟩

theorem setup_aliasND (cfg : Cfg) : ∀ fuel, NDSpec (setup cfg fuel) := (aliasND_runInv cfg).run

theorem run_aliasND (db : Db) (fuel : Nat) (fwd : Bool) (r : Request) (e : Env) (s : St)
    (h : (if fwd then runSetup db fuel r e else runUnsetup db fuel r e) = .ok s) : AliasND s :=
  setup_aliasND _ fuel _ _ _ _ _ _ _ (St.init e) s List.nodup_nil (congrArg Res.st? (run_eq db fuel fwd r e ▸ h))

end EupsModel.Setup
