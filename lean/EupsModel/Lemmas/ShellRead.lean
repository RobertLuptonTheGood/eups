import EupsModel.Lemmas.ShellEmit
/-! C05, the first layer of the shell model (`stepChar`): the reader inside one command (`stepW`, which the second layer
follows too) and the words an emitted command spells; `";\n".join` of a command list for any character reader (`Reads`,
`reads_join`); the round trips of the first layer and of the csh command list; text without quotes. -/
namespace EupsModel.ShellEmit

/-! ### feeding characters -/

theorem feed_nil (st : Sh) : feed st [] = some st := rfl

theorem feed_cons (st : Sh) (c : Nat) (r : Str) : feed st (c :: r) = (stepChar st c).bind fun s => feed s r := by
  simp [feed, List.foldlM_cons]

theorem feed_append (st : Sh) (a b : Str) : feed st (a ++ b) = (feed st a).bind fun s => feed s b := by
  simp [feed, List.foldlM_append]

theorem stepChar_safe {st : Sh} {c : Nat} (hq : st.inq = false) (hc : isSafe c = true) :
    stepChar st c = some { st with cur := push st.cur c } := by
  have ne : ∀ d, isSafe d = false → c ≠ d := fun d => ne_of_class hc
  simp [stepChar, hq, hc, ne 39 rfl, ne 32 rfl, ne 9 rfl, ne 10 rfl, ne 59 rfl]

theorem stepChar_end {st : Sh} (hq : st.inq = false) {w : Str} {rest : List Str} (hargs : (endWord st).args = w :: rest)
    {t : Nat} (ht : t = 59 ∨ t = 10) : stepChar st t = (exec st.env (w :: rest)).map clean := by
  rcases ht with rfl | rfl <;> simp [stepChar, hq, hargs]

theorem finish_unquoted {st : Sh} (hq : st.inq = false) : finish st = exec st.env (endWord st).args := by
  simp [finish, hq]

theorem endWord_inq (st : Sh) : (endWord st).inq = st.inq := by
  unfold endWord; split <;> rfl

theorem endWord_env (st : Sh) : (endWord st).env = st.env := by
  unfold endWord; split <;> rfl

theorem endWord_cur (st : Sh) : (endWord st).cur = none := by
  unfold endWord; split
  · assumption
  · rfl

theorem stepChar_unquoted {st s : Sh} {c : Nat} (hq : st.inq = false) (hc : c ≠ 39) (h : stepChar st c = some s) :
    s = endWord st ∨ (∃ e, exec st.env (endWord st).args = some e ∧ s = clean e) ∨
      (isSafe c = true ∧ s = { st with cur := push st.cur c }) := by
  have hexec : ∀ {x : Option Env}, x.map clean = some s → ∃ e, x = some e ∧ s = clean e :=
    fun hx => (Option.map_eq_some_iff.mp hx).imp fun _ he => ⟨he.1, he.2.symm⟩
  revert h
  fun_cases stepChar st c <;> intro h
  · exact absurd ‹st.inq = true› (by simp [hq])
  · exact absurd ‹st.inq = true› (by simp [hq])
  · exact absurd (beq_iff_eq.mp ‹(c == 39) = true›) hc
  · exact .inl (Option.some.inj h).symm
  · exact .inr (.inl (hexec h))
  · cases h
  · exact .inr (.inl (hexec h))
  · exact .inr (.inr ⟨‹_›, by rw [← Option.some.inj h]⟩)
  · cases h

/-- a reader that takes every character of the class `P` into the word it is reading reads a run of them into it
(`upd a`: its state with the word `a` being read) -/
theorem foldlM_run {σ : Type} (step : σ → Nat → Option σ) (upd : Str → σ) (P : Nat → Prop)
    (hstep : ∀ a c, P c → step (upd a) c = some (upd (a ++ [c]))) :
    ∀ (v a : Str), (∀ c ∈ v, P c) → v.foldlM step (upd a) = some (upd (a ++ v)) := by
  intro v
  induction v with
  | nil => intro a _; simp
  | cons c r ih =>
    intro a hv
    simp [List.foldlM_cons, hstep a c (hv c (by simp)), ih (a ++ [c]) (fun d hd => hv d (by simp [hd]))]

/-! ### the words of one command -/

/-- `stepChar` without the two characters that end a command: words are read, nothing is run.  Inside a command both
layers of the shell model read like this (`feed_of_feedW`, `feedF_of_feedW`), so what an emitted command spells is
proved once, of `stepW`. -/
def stepW (st : Sh) (c : Nat) : Option Sh :=
  if st.inq = false ∧ (c = 10 ∨ c = 59) then none else stepChar st c

def feedW (st : Sh) (t : Str) : Option Sh := t.foldlM stepW st

theorem feedW_cons (st : Sh) (c : Nat) (r : Str) : feedW st (c :: r) = (stepW st c).bind fun s => feedW s r := by
  simp [feedW, List.foldlM_cons]

theorem feedW_append (st : Sh) (a b : Str) : feedW st (a ++ b) = (feedW st a).bind fun s => feedW s b := by
  simp [feedW, List.foldlM_append]

theorem stepW_some {st s : Sh} {c : Nat} (h : stepW st c = some s) :
    stepChar st c = some s ∧ (st.inq = true ∨ (c ≠ 10 ∧ c ≠ 59)) := by
  unfold stepW at h
  split at h
  · cases h
  · rename_i hn
    refine ⟨h, ?_⟩
    cases hq : st.inq
    · exact .inr ⟨fun e => hn ⟨hq, .inl e⟩, fun e => hn ⟨hq, .inr e⟩⟩
    · exact .inl rfl

theorem stepW_safe {st : Sh} {c : Nat} (hq : st.inq = false) (hc : isSafe c = true) :
    stepW st c = some { st with cur := push st.cur c } := by
  rw [stepW, if_neg, stepChar_safe hq hc]
  rintro ⟨_, rfl | rfl⟩ <;> cases hc

theorem feed_of_feedW : ∀ (t : Str) (s s' : Sh), feedW s t = some s' → feed s t = some s' := by
  intro t
  induction t with
  | nil => intro s s' h; exact h
  | cons c r ih =>
    intro s s' h
    rw [feedW_cons] at h
    obtain ⟨s1, hs, h⟩ := Option.bind_eq_some_iff.mp h
    rw [feed_cons, (stepW_some hs).1]
    exact ih s1 s' h

theorem feedW_safe (w : Str) (st : Sh) (hq : st.inq = false) (hs : ∀ c ∈ w, isSafe c = true) (hne : w ≠ []) :
    feedW st w = some { st with cur := some (st.cur.getD [] ++ w) } := by
  obtain ⟨c, r, rfl⟩ := List.exists_cons_of_ne_nil hne
  have := foldlM_run stepW (fun a => { st with cur := some a }) (isSafe · = true)
    (fun a d hd => stepW_safe (st := { st with cur := some a }) hq hd) r (st.cur.getD [] ++ [c])
    (fun d hd => hs d (by simp [hd]))
  rw [feedW_cons, stepW_safe hq (hs c (by simp))]
  simpa [feedW, push] using this

theorem feedW_quoted (v : Str) (st : Sh) (a : Str) (hq : st.inq = false) (hc : st.cur = some a)
    (hv : ∀ c ∈ v, c ≠ 39) : feedW st (39 :: (v ++ [39])) = some { st with cur := some (a ++ v) } := by
  have h0 : stepW st 39 = some { st with inq := true, cur := some a } := by
    simp [stepW, stepChar, hq, hc]
  have := foldlM_run stepW (fun b => { st with inq := true, cur := some b }) (· ≠ 39)
    (fun b c hne => by simp [stepW, stepChar, hne, push]) v a hv
  rw [feedW_cons, h0, Option.bind_some, feedW_append]
  simp only [feedW] at this ⊢
  rw [this]
  simp [stepW, stepChar, hq]

theorem feedW_word (st : Sh) (w : Str) (hq : st.inq = false) (hcur : st.cur = none) (hw : ∀ c ∈ w, isSafe c = true)
    (hne : w ≠ []) : feedW st (w ++ [32]) = some { st with args := st.args ++ [w] } := by
  rw [feedW_append, feedW_safe w st hq hw hne]
  simp [feedW, stepW, stepChar, hq, hcur, endWord]

theorem feed_safe (w : Str) (st : Sh) (hq : st.inq = false) (hs : ∀ c ∈ w, isSafe c = true) (hne : w ≠ []) :
    feed st w = some { st with cur := some (st.cur.getD [] ++ w) } :=
  feed_of_feedW _ _ _ (feedW_safe w st hq hs hne)

theorem feed_word (st : Sh) (w : Str) (hq : st.inq = false) (hcur : st.cur = none) (hw : ∀ c ∈ w, isSafe c = true)
    (hne : w ≠ []) : feed st (w ++ [32]) = some { st with args := st.args ++ [w] } :=
  feed_of_feedW _ _ _ (feedW_word st w hq hcur hw hne)

theorem feed_quoted (v : Str) (st : Sh) (a : Str) (hq : st.inq = false) (hc : st.cur = some a) (hv : ∀ c ∈ v, c ≠ 39) :
    feed st (39 :: (v ++ [39])) = some { st with cur := some (a ++ v) } :=
  feed_of_feedW _ _ _ (feedW_quoted v st a hq hc hv)

/-- `t` is read, up to its end, as the words `ws` of the command being read (after the words `a` read before) -/
def Spells (t : Str) (ws : List Str) : Prop :=
  ∀ env a, ∃ m, feedW { env := env, args := a, cur := none, inq := false } t = some m ∧ m.inq = false ∧ m.env = env ∧
    (endWord m).args = a ++ ws

theorem spells_safe {w : Str} (hw : ∀ c ∈ w, isSafe c = true) (hne : w ≠ []) : Spells w [w] :=
  fun _ _ => ⟨_, feedW_safe w _ rfl hw hne, rfl, rfl, rfl⟩

theorem Spells.cons {t : Str} {ws : List Str} (h : Spells t ws) (w : Str) (hw : ∀ c ∈ w, isSafe c = true) (hne : w ≠ []) :
    Spells (w ++ 32 :: t) (w :: ws) := by
  intro env a
  obtain ⟨m, hm, hq, he, ha⟩ := h env (a ++ [w])
  refine ⟨m, ?_, hq, he, by rw [ha, List.append_assoc]; rfl⟩
  rw [List.append_cons, feedW_append, feedW_word _ w rfl rfl hw hne]
  exact hm

/-! ### one emitted command -/

theorem splitEq_ident (k v : Str) (h : ∀ c ∈ k, c ≠ 61) : splitEq (k ++ 61 :: v) = some (k, v) := by
  induction k with
  | nil => simp [splitEq]
  | cons c r ih =>
    have hc : c ≠ 61 := h c (by simp)
    simp [splitEq, hc, ih (fun d hd => h d (by simp [hd]))]

theorem exec_export (env : Env) (k v : Str) (hk : isIdent k = true) :
    exec env [sExport, k ++ 61 :: v] = some (env.set k v) := by
  simp [exec, exportArg, splitEq_ident k v (ident_no_eq hk), hk]

theorem exec_unset (env : Env) (k : Str) (hk : isIdent k = true) :
    exec env [sUnset, k] = some (env.unset k) := by
  have : (sUnset == sExport) = false := by decide
  simp [exec, this, unsetArg, hk, ident_ne_dashF hk]

theorem exec_unset_f (env : Env) (k : Str) (hk : isIdent k = true) :
    exec env [sUnset, sDashF, k] = some env := by
  have : (sUnset == sExport) = false := by decide
  simp [exec, this, hk]

theorem spells_assign (k v : Str) (hk : isIdent k = true) (hv : Writable v) :
    Spells (k ++ 61 :: emitVal v) [k ++ 61 :: v] := by
  rcases emitVal_writable hv with ⟨h, hnq⟩ | ⟨h, hsafe⟩
  · intro env a
    rw [h, List.append_cons, feedW_append,
      feedW_safe _ _ rfl (List.forall_mem_append.mpr ⟨ident_safe hk, by decide⟩) (by simp), Option.bind_some,
      feedW_quoted v _ (k ++ [61]) rfl rfl hnq]
    exact ⟨_, rfl, rfl, rfl, by simp [endWord]⟩
  · rw [h]
    exact spells_safe (List.forall_mem_append.mpr ⟨ident_safe hk, List.forall_mem_cons.mpr ⟨rfl, hsafe⟩⟩) (by simp)

theorem spells_setVar (k v : Str) (hk : isIdent k = true) (hv : Writable v) :
    Spells (Cmd.text (.setVar k v)) [sExport, k ++ 61 :: v] := by
  simpa [Cmd.text] using (spells_assign k v hk hv).cons sExport (by decide) (by decide)

theorem spells_unsetVar (k : Str) (hk : isIdent k = true) : Spells (Cmd.text (.unsetVar k)) [sUnset, k] := by
  simpa [Cmd.text] using (spells_safe (ident_safe hk) (ident_ne_nil hk)).cons sUnset (by decide) (by decide)

theorem spells_aliasDel (k : Str) (hk : isIdent k = true) :
    Spells (Cmd.text (.aliasDel k)) [sUnset, sDashF, k] := by
  simpa [Cmd.text] using
    ((spells_safe (ident_safe hk) (ident_ne_nil hk)).cons sDashF (by decide) (by decide)).cons sUnset (by decide) (by decide)

/-! ### `";\n".join` -/

section reader
variable {σ ρ ι α : Type} (step : σ → Nat → Option σ) (fin : σ → Option ρ)

/-- `t` is one command for the reader `step`, `fin`: it leads from `s` to a state that `;`, a newline and the end of the
text all turn into `s'` -/
def Reads (s : σ) (t : Str) (s' : σ) : Prop :=
  ∃ m, t.foldlM step s = some m ∧ step m 59 = some s' ∧ step m 10 = some s' ∧ fin m = fin s'

theorem Reads.alone {step : σ → Nat → Option σ} {fin : σ → Option ρ} {s s' : σ} {t : Str} (h : Reads step fin s t s')
    (nl : Bool) : ((t ++ if nl then [10] else []).foldlM step s).bind fin = fin s' := by
  obtain ⟨m, hm, _, h10, hfin⟩ := h
  cases nl
  · simp [hm, hfin]
  · simp [List.foldlM_append, hm, h10]

/-- `";\n".join` of the texts of `xs` (+ the newline `print` adds).  `idle a`: the reader between two commands; there a
newline does nothing, and an item `x` acceptable in `a` is read as `den x`. -/
theorem reads_join (text : ι → Str) (idle : α → σ) (den : ι → α → α) (ok : α → ι → Prop)
    (hidle : ∀ a, step (idle a) 10 = some (idle a))
    (hreads : ∀ a x, ok a x → Reads step fin (idle a) (text x) (idle (den x a))) (nl : Bool) :
    ∀ (xs : List ι) (a : α),
      (∀ pre x post, xs = pre ++ x :: post → ok (pre.foldl (fun a x => den x a) a) x) →
      ((join (xs.map text) ++ if nl then [10] else []).foldlM step (idle a)).bind fin =
        fin (idle (xs.foldl (fun a x => den x a) a)) := by
  intro xs
  induction xs with
  | nil =>
    intro a _
    cases nl
    · simp [join]
    · simp [join, List.foldlM_cons, hidle]
  | cons x rest ih =>
    intro a h
    cases rest with
    | nil => exact (hreads a x (h [] x [] rfl)).alone nl
    | cons y rest2 =>
      obtain ⟨m, hm, h59, _, _⟩ := hreads a x (h [] x _ rfl)
      have ih' := ih (den x a) (fun pre z post hz => h (x :: pre) z post (by rw [hz]; rfl))
      simp only [List.map_cons, join, List.foldl_cons] at ih' ⊢
      rw [List.append_assoc, List.append_assoc, List.foldlM_append, hm]
      simp only [Option.bind_eq_bind, Option.bind_some, List.cons_append, List.nil_append, List.foldlM_cons, h59,
        hidle]
      exact ih'

end reader

theorem step_newline_clean (env : Env) : stepChar (clean env) 10 = some (clean env) := by
  simp [stepChar, clean, endWord, exec]

theorem finish_clean (env : Env) : finish (clean env) = some env := by
  simp [finish, clean, endWord, exec]

theorem reads_of_spells {t w : Str} {rest : List Str} (h : Spells t (w :: rest)) {env e' : Env}
    (he : exec env (w :: rest) = some e') : Reads stepChar finish (clean env) t (clean e') := by
  obtain ⟨m, hm, hq, rfl, hargs⟩ := h env []
  have hend := fun t ht => he ▸ stepChar_end hq hargs (t := t) ht
  refine ⟨m, feed_of_feedW t _ _ hm, hend 59 (.inl rfl), hend 10 (.inr rfl), ?_⟩
  rw [finish_clean, finish_unquoted hq, hargs]; exact he

theorem reads_good (env : Env) (c : Cmd) (h : c.Good Writable) :
    Reads stepChar finish (clean env) c.text (clean (c.apply env)) := by
  cases c with
  | setVar k v => exact reads_of_spells (spells_setVar k v h.1 h.2) (exec_export env k v h.1)
  | unsetVar k => exact reads_of_spells (spells_unsetVar k h) (exec_unset env k h)
  | aliasDef k v => exact h.elim
  | aliasDel k => exact reads_of_spells (spells_aliasDel k h) (exec_unset_f env k h)

theorem shEval_join (cmds : List Cmd) (nl : Bool) (env : Env) (hg : ∀ c ∈ cmds, c.Good Writable) :
    shEval env (join (cmds.map Cmd.text) ++ (if nl then [10] else [])) = some (applyAll cmds env) := by
  have := reads_join stepChar finish Cmd.text clean Cmd.apply (fun _ c => c.Good Writable)
    (fun _ => step_newline_clean _) reads_good nl cmds env (fun _ c _ hx => hg c (by simp [hx]))
  rw [finish_clean] at this
  exact this

/-! ### round trips -/

/-- C05 in its general form: `old` is the caller's environment with any set of values forgotten -/
theorem roundtrip_tracks (old : OldEnv) (base new : Env) (ht : Tracks old base)
    (hidb : ∀ p ∈ base, isIdent p.1 = true) (hidn : ∀ p ∈ new, isIdent p.1 = true)
    (hnd : (new.map (·.1)).Nodup)
    (halpha : ∀ p ∈ new, old.lookup p.1 ≠ some (some p.2) → Writable p.2)
    (hprot : ∀ k, isProtected k = true → base.has k = true → new.has k = true) (nl : Bool) :
    ∃ e, shEval base (emitText old new ++ (if nl then [10] else [])) = some e ∧ SameEnv e new := by
  refine ⟨applyAll (emitVarsOn {} old new) base, ?_, emitVarsOn_apply {} rfl old base new ht hnd (.inr hprot)⟩
  rw [emitText_eq]
  exact shEval_join _ nl base (emitVarsOn_good {} old base new ht hidb hidn halpha)

/-- `roundtrip_tracks` for `emit`'s complete list, with an `unset -f NAME` per removed alias -/
theorem roundtrip_emit (o : Opts) (hn : o.noaction = false) (hs : o.shell = .sh) (old : OldEnv) (base new : Env)
    (ht : Tracks old base) (hidb : ∀ p ∈ base, isIdent p.1 = true) (hidn : ∀ p ∈ finalEnv o new, isIdent p.1 = true)
    (hnd : ((finalEnv o new).map (·.1)).Nodup)
    (halpha : ∀ p ∈ finalEnv o new, old.lookup p.1 ≠ some (some p.2) → Writable p.2)
    (hprot : o.isEups = true ∨ ∀ k, isProtected k = true → base.has k = true → (finalEnv o new).has k = true)
    (oal : List (Str × Option Str)) (hal : ∀ p ∈ oal, isIdent p.1 = true) (nl : Bool) :
    ∃ cmds e, emit o old new [] oal = some cmds ∧ shEval base (join cmds ++ (if nl then [10] else [])) = some e ∧
      SameEnv e (finalEnv o new) := by
  have hgood : ∀ c ∈ emitCmds o old new [] oal, c.Good Writable := by
    intro c hc
    rcases List.mem_append.mp hc with h | h
    · exact emitVarsOn_good o old base _ ht hidb hidn halpha c h
    · rcases mem_emitAliases h with ⟨_, hp, _⟩ | ⟨p, hp, rfl⟩
      · nomatch hp
      · exact hal p hp
  exact ⟨_, _, mapM_render_sh o hn hs _, shEval_join _ nl base hgood,
    emitCmds_apply o hn old base new ht hnd hprot [] oal⟩

/-- the csh command list in the same generality (with `--force` the old environment has forgotten values:
`tracks_runActs`); `hread`: csh reads every written word back -/
theorem csh_roundtrip_tracks (old : OldEnv) (base new : Env) (ht : Tracks old base)
    (hidb : ∀ p ∈ base, isIdent p.1 = true) (hidn : ∀ p ∈ new, isIdent p.1 = true)
    (hnd : (new.map (·.1)).Nodup)
    (hread : ∀ p ∈ new, old.lookup p.1 ≠ some (some p.2) → cshWord (emitVal p.2) = some p.2)
    (hprot : ∀ k, isProtected k = true → base.has k = true → new.has k = true) :
    ∃ e, cshApplyAll (emitVarsOn { shell := .csh } old new) base = some e ∧ SameEnv e new := by
  rw [emitVarsOn_congr (o := { shell := .csh }) (o' := {}) rfl (fun _ => rfl)]
  exact ⟨_, foldlM_eq_some_foldl _ (fun c hc e => cshApply_good e c
      (emitVarsOn_good {} _ base new ht hidb hidn hread c hc)) base,
    emitVarsOn_apply {} rfl old base new ht hnd (.inr hprot)⟩

/-! ### text without quotes -/

def NoMeta (w : Str) : Prop := ∀ c ∈ w, isShMeta c = false

theorem splitEq_mem (w a b : Str) (h : splitEq w = some (a, b)) : ∀ c ∈ b, c ∈ w := by
  fun_induction splitEq w generalizing a with
  | case1 => cases h
  | case2 c r hc => cases h; exact fun c hc => List.mem_cons_of_mem _ hc
  | case3 c r hc ih =>
    obtain ⟨p, hp, hab⟩ := Option.map_eq_some_iff.mp h
    cases hab
    exact fun d hd => List.mem_cons_of_mem _ (ih p.1 hp d hd)

theorem foldlM_inv {α β : Type} (P : α → Prop) (f : α → β → Option α) (l : List β) :
    ∀ a a', (∀ x ∈ l, ∀ e e', P e → f e x = some e' → P e') → P a → l.foldlM f a = some a' → P a' := by
  induction l with
  | nil => intro a a' _ hp h; simp [List.foldlM] at h; exact h ▸ hp
  | cons x r ih =>
    intro a a' hstep hp h
    rw [List.foldlM_cons] at h
    obtain ⟨a1, hx, h⟩ := Option.bind_eq_some_iff.mp h
    exact ih a1 a' (fun y hy => hstep y (by simp [hy])) (hstep x (by simp) a a1 hp hx) h

theorem exec_some {env e : Env} {args : List Str} (h : exec env args = some e) :
    e = env ∨ (args.drop 1).foldlM exportArg env = some e ∨ (args.drop 1).foldlM unsetArg env = some e := by
  revert h
  fun_cases exec env args <;> intro h
  · exact .inl (Option.some.inj h).symm
  · cases h
  · exact .inr (.inl h)
  · exact .inl (Option.some.inj h).symm
  · cases h
  · exact .inr (.inr h)
  · exact .inl (Option.some.inj h).symm
  · cases h

theorem endWord_args (st : Sh) (h1 : ∀ w ∈ st.args, NoMeta w) (h2 : ∀ w, st.cur = some w → NoMeta w) :
    ∀ w ∈ (endWord st).args, NoMeta w := by
  unfold endWord
  cases hc : st.cur with
  | none => simpa using h1
  | some w0 =>
    intro w hw
    simp only [List.mem_append, List.mem_singleton] at hw
    rcases hw with hw | hw
    · exact h1 w hw
    · subst hw; exact h2 w hc

section quote
variable {k v : Str} (hm : v.any isShMeta = true)
include hm

theorem exportArg_inv (env e : Env) (w : Str) (hw : NoMeta w) (hp : env.get k ≠ some v)
    (h : exportArg env w = some e) : e.get k ≠ some v := by
  revert h
  fun_cases exportArg env w <;> intro h <;> cases h
  · rename_i a b hs _
    by_cases hk : k = a
    · subst hk
      rw [Env.get_set_same]
      -- the value set is a piece of `w`, so it holds no metacharacter, and `v` holds one
      intro hh
      cases Option.some.inj hh
      obtain ⟨c, hc, hcm⟩ := List.any_eq_true.mp hm
      rw [hw c (splitEq_mem w k _ hs c hc)] at hcm
      cases hcm
    · rwa [Env.get_set_other env a b k hk]
  · exact hp

omit hm in
theorem unsetArg_inv (env e : Env) (w : Str) (hp : env.get k ≠ some v) (h : unsetArg env w = some e) :
    e.get k ≠ some v := by
  revert h
  fun_cases unsetArg env w <;> intro h <;> cases h
  by_cases hk : k = w
  · subst hk; simp [Env.get_unset_same]
  · rwa [Env.get_unset_other env w k hk]

theorem exec_inv (env e : Env) (args : List Str) (ha : ∀ w ∈ args, NoMeta w) (hp : env.get k ≠ some v)
    (h : exec env args = some e) : e.get k ≠ some v := by
  rcases exec_some h with rfl | h | h
  · exact hp
  · exact foldlM_inv (fun e => e.get k ≠ some v) exportArg _ env e
      (fun x hx e1 e2 hp1 hx1 => exportArg_inv hm e1 e2 x (ha x (List.mem_of_mem_drop hx)) hp1 hx1) hp h
  · exact foldlM_inv (fun e => e.get k ≠ some v) unsetArg _ env e
      (fun x _ e1 e2 hp1 hx1 => unsetArg_inv e1 e2 x hp1 hx1) hp h

/-- invariant of the reader on text without quotes -/
structure QInv (k v : Str) (st : Sh) : Prop where
  inq : st.inq = false
  args : ∀ w ∈ st.args, NoMeta w
  cur : ∀ w, st.cur = some w → NoMeta w
  env : st.env.get k ≠ some v

theorem stepChar_inv (st st' : Sh) (c : Nat) (hc : c ≠ 39) (hi : QInv k v st) (h : stepChar st c = some st') :
    QInv k v st' := by
  obtain ⟨hq, ha, hcur, hp⟩ := hi
  rcases stepChar_unquoted hq hc h with rfl | ⟨e, he, rfl⟩ | ⟨hs, rfl⟩
  · refine ⟨by rw [endWord_inq, hq], endWord_args st ha hcur, ?_, by rw [endWord_env]; exact hp⟩
    intro w hw
    rw [endWord_cur] at hw; cases hw
  · exact ⟨rfl, by simp [clean], by simp [clean], exec_inv hm st.env e _ (endWord_args st ha hcur) hp he⟩
  · refine ⟨hq, ha, ?_, hp⟩
    intro w hw d hd
    simp only [push, Option.some.injEq] at hw
    subst hw
    rcases List.mem_append.mp hd with hd | hd
    · cases hcc : st.cur with
      | none => simp [hcc] at hd
      | some w0 => rw [hcc] at hd; exact hcur w0 hcc d hd
    · rw [List.mem_singleton.mp hd]; exact safe_not_meta hs

theorem unquoted_never_meta (env : Env) (text : Str) (hq : ∀ c ∈ text, c ≠ 39) (h0 : env.get k ≠ some v) :
    ∀ e, shEval env text = some e → e.get k ≠ some v := by
  intro e h
  obtain ⟨st, hf, h⟩ := Option.bind_eq_some_iff.mp h
  have hi : QInv k v st := foldlM_inv (QInv k v) stepChar text (clean env) st
    (fun c hc s s' hs h => stepChar_inv hm s s' c (hq c hc) hs h) ⟨rfl, by simp [clean], by simp [clean], h0⟩ hf
  rw [finish_unquoted hi.inq] at h
  exact exec_inv hm st.env e _ (endWord_args st hi.args hi.cur) hi.env h

end quote

end EupsModel.ShellEmit
