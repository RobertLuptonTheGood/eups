import EupsModel.Lemmas.TableStr
import EupsModel.Lemmas.Cond
import EupsModel.Lemmas.List
import EupsModel.Lemmas.Text
/-! Lemmas about the model of `Table.getDeclareOptions`: its copy of the branch-selection loop selects what
`Table.actions` selects; `=` separates option words like blanks and commas do. -/
namespace EupsModel.TableParse
open EupsModel.Cond

theorem selectD_eq_select (v : Variant) (env : Env) (ch : Chain) : selectD v env ch = select v env ch := by
  fun_induction selectD v env ch with
  | case3 c b rest ih =>  -- `.cond c :: b :: rest`: the else branch recurses
    rw [ih]
    rfl
  | _ => rfl

theorem blockOpts_append (d : Dict) (a b : List Action) : blockOpts d (a ++ b) = blockOpts (blockOpts d a) b := by
  simp [blockOpts, List.foldl_append]

theorem declOptsGo_actions (v : Variant) (env : Env) (chains : List Chain) (d : Dict) :
    declOptsGo v env d chains = (actions v env chains).bind fun as => .ok (blockOpts d as) := by
  induction chains generalizing d with
  | nil => rfl
  | cons ch rest ih => simp [declOptsGo, actions, selectD_eq_select, ih, Res.bind_assoc, Res.ok_bind, blockOpts_append]

theorem tableDeclOpts_actions (v : Variant) (pdir : Option Str) (env : Env) (text : Str) :
    tableDeclOpts v pdir env text = (tableActions v pdir env text).bind fun as => .ok (blockOpts [] as) := by
  simp [tableDeclOpts, tableActions, declOptsGo_actions, Res.bind_assoc]

/-- without a chain of more than seven branches the loop as pinned is the repaired one -/
theorem declOptsGoPinned_short (v : Variant) (env : Env) :
    ∀ (chains : List Chain) (d : Dict), (∀ ch ∈ chains, ch.length ≤ 15) →
      declOptsGoPinned v env d chains = (declOptsGo v env d chains).bind fun r => .ok (some r) := by
  intro chains
  induction chains with
  | nil => intro d _; rfl
  | cons ch rest ih =>
    intro d h
    have h1 : ¬ ch.length > 15 := by have := h ch (by simp); omega
    simp only [declOptsGoPinned, declOptsGo, h1, if_false]
    cases selectD v env ch with
    | ok as => simp only [Res.bind]; exact ih _ (fun c hc => h c (by simp [hc]))
    | err e => rfl
    | fuel => rfl

def noSpace (s : Str) : Bool := s.all fun c => !Str.isSpace c

theorem noSpace_append {a b : Str} (ha : noSpace a = true) (hb : noSpace b = true) : noSpace (a ++ b) = true := by
  simp only [noSpace, List.all_append, Bool.and_eq_true] at ha hb ⊢; exact ⟨ha, hb⟩

theorem dropSpaces_noSpace {s : Str} (h : noSpace s = true) : dropSpaces s = s :=
  dropWhile_head (by cases s <;> simp_all [noSpace])

theorem splitOn_eq (c : Nat) (cur s : Str) : splitOn c cur s = Text.onHead cur (Text.pieces (· == c) s) :=
  Text.acc_pieces ⟨fun _ => rfl, fun _ _ _ => rfl⟩ cur s

theorem rstrip_eq (s : Str) : rstrip s = Text.stripR Str.isSpace s := rfl

theorem rstrip_noSpace {s : Str} (h : noSpace s = true) : rstrip s = s :=
  Text.stripR_of_last fun c hc => by simpa using List.all_eq_true.mp h c (List.mem_of_getLast? hc)

theorem splitOn_noSpace (c : Nat) : ∀ (s cur : Str), noSpace cur = true → noSpace s = true →
    ∀ p ∈ splitOn c cur s, noSpace p = true := by
  intro s cur hc hs p hp
  simp only [noSpace, List.all_eq_true] at hc hs ⊢
  exact fun x hx => (Text.mem_onHead_pieces (splitOn_eq c cur s ▸ hp) hx).elim (hc x) (hs x)

theorem trimPieces_noSpace : ∀ (ps : List Str) (first : Bool), (∀ p ∈ ps, noSpace p = true) → trimPieces first ps = ps := by
  intro ps
  induction ps with
  | nil => intro _ _; rfl
  | cons p rest ih =>
    intro first h
    have hp := h p (by simp)
    cases rest with
    | nil => cases first <;> simp [trimPieces, dropSpaces_noSpace hp]
    | cons q r =>
      have := ih false (fun x hx => h x (by simp [hx]))
      cases first <;> simp [trimPieces, dropSpaces_noSpace hp, rstrip_noSpace hp, this]

theorem splitEq_noSpace {a : Str} (h : noSpace a = true) : splitEq a = splitOn 61 [] a :=
  trimPieces_noSpace _ true (splitOn_noSpace 61 a [] rfl h)

theorem splitOn_prefix (c : Nat) : ∀ (a cur b : Str), c ∉ a →
    splitOn c cur (a ++ c :: b) = (cur ++ a) :: splitOn c [] b := by
  intro a cur b h
  simp [splitOn_eq, Text.pieces_cut (Text.free_of_not_mem h) (beq_self_eq_true c)]

theorem splitOn_none (c : Nat) : ∀ (a cur : Str), c ∉ a → splitOn c cur a = [cur ++ a] := by
  intro a cur h
  rw [splitOn_eq, Text.pieces_free (Text.free_of_not_mem h)]; rfl

theorem rstrip_append_blank {k s : Str} (hs : s.all Str.isSpace = true) (hk : (k.getLast?.map Str.isSpace).getD false = false) :
    rstrip (k ++ s) = k := by
  rw [rstrip_eq, Text.stripR_append_blank k (List.all_eq_true.mp hs), Text.stripR_of_last fun c hc => by simp_all]

theorem splitEq_written {k s1 s2 v : Str} (hk : 61 ∉ k) (hv : 61 ∉ v) (h1 : s1.all Str.isSpace = true)
    (h2 : s2.all Str.isSpace = true) (hkl : (k.getLast?.map Str.isSpace).getD false = false)
    (hvh : (v.head?.map Str.isSpace).getD false = false) :
    splitEq (k ++ s1 ++ 61 :: (s2 ++ v)) = [k, v] := by
  have h61 : 61 ∉ k ++ s1 := by
    intro m
    rcases List.mem_append.mp m with m | m
    · exact hk m
    · have := List.all_eq_true.mp h1 61 m; revert this; decide
  have h61' : 61 ∉ s2 ++ v := by
    intro m
    rcases List.mem_append.mp m with m | m
    · have := List.all_eq_true.mp h2 61 m; revert this; decide
    · exact hv m
  simp only [splitEq, splitOn_prefix 61 _ [] _ h61, splitOn_none 61 _ [] h61', List.nil_append, trimPieces,
    if_true, Bool.false_eq_true, if_false, rstrip_append_blank h1 hkl,
    dropSpaces_append (x := v) h2 (by cases v <;> simp_all [C11Spec.nsp])]

/-- how one option `k = v` is written as unquoted arguments -/
inductive OptStyle | joined | spaced | eqRight | eqLeft      -- `k=v` | `k = v` | `k =v` | `k= v`
  deriving DecidableEq, Repr

def optArgs (k v : Str) : OptStyle → List Str
  | .joined => [k ++ 61 :: v]
  | .spaced => [k, [61], v]
  | .eqRight => [k, 61 :: v]
  | .eqLeft => [k ++ [61], v]

/-- a key or a value: not empty, no `=`, no white space -/
def optWord (w : Str) : Bool := !w.isEmpty && w.all (fun c => c != 61 && !Str.isSpace c)

theorem optWord_facts {w : Str} (h : optWord w = true) : w ≠ [] ∧ 61 ∉ w ∧ noSpace w = true := by
  simp only [optWord, Bool.and_eq_true, Bool.not_eq_true', List.isEmpty_eq_false_iff] at h
  refine ⟨h.1, fun m => ?_, ?_⟩
  · have := List.all_eq_true.mp h.2 61 m; simp at this
  · simp only [noSpace, List.all_eq_true] at h ⊢
    intro c hc; have := h.2 c hc; simp only [Bool.and_eq_true] at this; exact this.2

theorem splitOn_kv {k v : Str} (hk : 61 ∉ k) (hv : 61 ∉ v) : splitOn 61 [] (k ++ 61 :: v) = [k, v] := by
  rw [splitOn_prefix 61 k [] v hk, splitOn_none 61 v [] hv]; simp

theorem optWords_append (a b : List Str) : optWords (a ++ b) = optWords a ++ optWords b := by
  simp [optWords, List.flatMap_append]

theorem optWords_one {k v : Str} (hk : optWord k = true) (hv : optWord v = true) (st : OptStyle) :
    optWords (optArgs k v st) = [k, v] := by
  obtain ⟨hk0, hk1, hk2⟩ := optWord_facts hk
  obtain ⟨hv0, hv1, hv2⟩ := optWord_facts hv
  have nk : k.isEmpty = false := by simpa using hk0
  have nv : v.isEmpty = false := by simpa using hv0
  have e61 : noSpace [61] = true := by decide
  have e1 : noSpace (61 :: v) = true := noSpace_append e61 hv2
  have ekv : noSpace (k ++ 61 :: v) = true := noSpace_append hk2 e1
  have e2 : noSpace (k ++ [61]) = true := noSpace_append hk2 e61
  have s61 : splitOn 61 [] [61] = [[], []] := by decide
  have sv : splitOn 61 [] (61 :: v) = [[], v] := by
    have := splitOn_kv (k := []) (v := v) (by simp) hv1; simpa using this
  have sk : splitOn 61 [] (k ++ [61]) = [k, []] := splitOn_kv hk1 (by simp)
  have skk : splitOn 61 [] k = [k] := by have := splitOn_none 61 k [] hk1; simpa using this
  have svv : splitOn 61 [] v = [v] := by have := splitOn_none 61 v [] hv1; simpa using this
  cases st <;>
    simp [optWords, optArgs, splitEq_noSpace, ekv, hk2, hv2, e61, e1, e2, splitOn_kv hk1 hv1, s61, sv, sk, skk, svv, nk, nv]

theorem pairUp_written : ∀ (os : List (Str × Str × OptStyle)),
    (∀ o ∈ os, optWord o.1 = true ∧ optWord o.2.1 = true) →
    pairUp (optWords (os.flatMap fun o => optArgs o.1 o.2.1 o.2.2)) = os.map fun o => (o.1, o.2.1) := by
  intro os
  induction os with
  | nil => intro _; rfl
  | cons o rest ih =>
    intro h
    obtain ⟨hk, hv⟩ := h o (by simp)
    simp only [List.flatMap_cons, optWords_append, optWords_one hk hv, List.map_cons]
    simp [pairUp, ih (fun x hx => h x (by simp [hx]))]

end EupsModel.TableParse
