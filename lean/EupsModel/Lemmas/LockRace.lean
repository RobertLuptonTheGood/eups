import EupsModel.Model.LockRace
import EupsModel.Lemmas.LockRes
/-! C09, pinned protocol — invariant of race-free schedules (behind `C09_classification_Pinned`).

As long as no step is one of the three races (`Racy`), and `EUPS_LOCK_PID` maps are flat:
an admitted exclusive requester and an unrelated shared requester past its tests never coexist (`exsh`), nor do two
unrelated exclusive requesters past their tests (`exex`); the directory exists while anybody is in flight; nobody runs
unlocked; an exclusive child's lock file is newer than its parent's exclusive file (`order`), and while an exclusive
root is in flight none of its exclusive children is admitted (`rootIn`). -/
namespace EupsModel.Lock

/-- passed every admission test, lock file not yet removed -/
def past : PC → Bool
  | .create | .hold | .isdir | .rexists | .remove => true
  | _ => false

/-- admitted to the lock directory, lock file not yet removed -/
def inAdm : PC → Bool
  | .scan | .scan2 | .create | .hold | .isdir | .rexists | .remove => true
  | _ => false

theorem inAdm_of_inflight {v : PC} (h : inflight v = true) : inAdm v = true := by
  cases v <;> first | rfl | cases h
theorem inAdm_of_past {v : PC} (h : past v = true) : inAdm v = true := by
  cases v <;> first | rfl | cases h
theorem inAdm_cases {v : PC} (h : inAdm v = true) : inflight v = true ∨ hasFile v = true := by
  cases v <;> first | exact .inl rfl | exact .inr rfl | cases h
theorem past_cases {v : PC} (h : past v = true) : v = .create ∨ hasFile v = true := by
  cases v <;> first | exact .inl rfl | exact .inr rfl | cases h
theorem past_of_hasFile {v : PC} (h : hasFile v = true) : past v = true := by
  cases v <;> first | rfl | cases h
theorem not_inflight_of_hasFile {v : PC} (h : hasFile v = true) : inflight v = false := by
  cases v <;> first | rfl | cases h

structure RFInv (s : St) : Prop where
  flat   : Flat s.lp
  res    : ResInv s
  nodup  : s.files.Nodup
  existsSh : ∀ p, s.pc p = .existsChk → s.kind p = .sh
  dirIn  : ∀ p, inflight (s.pc p) = true → s.dir = true
  noUnl  : ∀ p, s.pc p ≠ .unlocked
  exsh   : ∀ p q, ¬ related s p q → s.kind p = .ex → s.kind q = .sh → inAdm (s.pc p) = true →
             past (s.pc q) = true → False
  exex   : ∀ p q, p ≠ q → ¬ related s p q → s.kind p = .ex → s.kind q = .ex → past (s.pc p) = true →
             past (s.pc q) = true → False
  order  : ∀ p r, s.lp p = some r → (Kind.ex, p) ∈ s.files → (Kind.ex, r) ∈ s.files →
             List.Sublist [(Kind.ex, p), (Kind.ex, r)] s.files
  rootIn : ∀ r p, inflight (s.pc r) = true → s.kind r = .ex → s.lp p = some r → s.kind p = .ex →
             inAdm (s.pc p) = true → False

theorem rfInv_init (kind : Pid → Kind) (lp : Pid → Option Pid) (tries : Pid → Nat) (hf : Flat lp) :
    RFInv (init kind lp tries) := by
  refine ⟨hf, resInv_init kind lp tries, ?_, ?_, ?_, ?_, ?_, ?_, ?_, ?_⟩ <;>
    simp [init, inflight, inAdm, past]

namespace RFInv
variable {s : St}

theorem ne_of_lp (h : RFInv s) {p r : Pid} (hl : s.lp p = some r) : r ≠ p := by
  intro e; subst e
  have := h.flat _ _ hl
  rw [hl] at this; exact absurd this (by simp)

end RFInv

/-- the newest exclusive file is not `b` when `a`'s exclusive file is newer than `b`'s -/
theorem head_exFiles_ne {fs : List (Kind × Pid)} (hn : fs.Nodup) {a b : Pid} (hab : a ≠ b)
    (hs : List.Sublist [(Kind.ex, a), (Kind.ex, b)] fs) : (exFiles fs).head? ≠ some (Kind.ex, b) := by
  have hn' : (exFiles fs).Nodup := hn.filter _
  have hs' : List.Sublist [(Kind.ex, a), (Kind.ex, b)] (exFiles fs) := by
    have := hs.filter (fun f => f.1 == Kind.ex)
    simpa [exFiles] using this
  intro hh
  cases hx : exFiles fs with
  | nil => rw [hx] at hh; simp at hh
  | cons x xs =>
    rw [hx] at hh hs' hn'
    simp only [List.head?_cons, Option.some.injEq] at hh
    subst hh
    cases hs' with
    | cons _ h2 =>
      have hm : (Kind.ex, b) ∈ xs := h2.subset (by simp)
      exact (List.nodup_cons.mp hn').1 hm
    | cons_cons _ h2 =>
      exact hab rfl

/-- `p` moves to `v`: every membership of `p` in one of the classes `inflight`, `inAdm`, `past` either existed before or
comes with a proof of the obligations it creates. -/
theorem RFInv.update {s : St} (h : RFInv s) (p : Pid) (v : PC) (d' : Bool) (fs' : List (Kind × Pid))
    (hres : ResInv ⟨d', fs', s.kind, s.lp, upd s.pc p v⟩)
    (hnodup : fs'.Nodup)
    (horder : ∀ a r, s.lp a = some r → (Kind.ex, a) ∈ fs' → (Kind.ex, r) ∈ fs' →
      List.Sublist [(Kind.ex, a), (Kind.ex, r)] fs')
    (hsh : v = .existsChk → s.kind p = .sh)
    (hdir : ∀ q, inflight (upd s.pc p v q) = true → d' = true)
    (hunl : v ≠ .unlocked)
    (hexsh1 : inAdm v = true → inAdm (s.pc p) = true ∨
      ∀ q, ¬ related s p q → s.kind p = .ex → s.kind q = .sh → past (s.pc q) = true → False)
    (hexsh2 : past v = true → past (s.pc p) = true ∨
      ∀ q, ¬ related s q p → s.kind q = .ex → s.kind p = .sh → inAdm (s.pc q) = true → False)
    (hexex : past v = true → past (s.pc p) = true ∨
      ∀ q, q ≠ p → ¬ related s p q → s.kind p = .ex → s.kind q = .ex → past (s.pc q) = true → False)
    (hroot1 : inflight v = true → inflight (s.pc p) = true ∨
      ∀ c, s.lp c = some p → s.kind p = .ex → s.kind c = .ex → inAdm (s.pc c) = true → False)
    (hroot2 : inAdm v = true → inAdm (s.pc p) = true ∨
      ∀ r, s.lp p = some r → s.kind r = .ex → s.kind p = .ex → inflight (s.pc r) = true → False) :
    RFInv ⟨d', fs', s.kind, s.lp, upd s.pc p v⟩ := by
  refine ⟨h.flat, hres, hnodup, ?_, hdir, ?_, ?_, ?_, horder, ?_⟩
  · exact forall_upd (P := fun q x => x = PC.existsChk → s.kind q = .sh) hsh (fun q _ => h.existsSh q)
  · exact forall_upd (P := fun _ x => x ≠ PC.unlocked) hunl (fun q _ => h.noUnl q)
  · intro a b hnr hka hkb ha hb
    have hab : a ≠ b := by intro e; subst e; rw [hka] at hkb; cases hkb
    exact pair_upd (A := (inAdm · = true)) (B := (past · = true))
      (Q := fun a b => ¬ related s a b → s.kind a = .ex → s.kind b = .sh → False)
      (fun a b _ ha hb hnr hka hkb => h.exsh a b hnr hka hkb ha hb)
      (fun hv b _ hb => (hexsh1 hv).imp_right (fun f hnr hk hkb => f b hnr hk hkb hb))
      (fun hv a _ ha => (hexsh2 hv).imp_right (fun f hnr hka hk => f a hnr hka hk ha))
      a b hab ha hb hnr hka hkb
  · intro a b hab hnr hka hkb ha hb
    exact pair_upd (A := (past · = true)) (B := (past · = true))
      (Q := fun a b => ¬ related s a b → s.kind a = .ex → s.kind b = .ex → False)
      (fun a b hab ha hb hnr hka hkb => h.exex a b hab hnr hka hkb ha hb)
      (fun hv b hbp hb => (hexex hv).imp_right (fun f hnr hk hkb => f b hbp hnr hk hkb hb))
      (fun hv a hap ha => (hexex hv).imp_right
        (fun f hnr hka hk => f a hap (fun hr => hnr (related_symm hr)) hk hka ha))
      a b hab ha hb hnr hka hkb
  · intro r c hr hkr hl hkc hc
    exact pair_upd (A := (inflight · = true)) (B := (inAdm · = true))
      (Q := fun r c => s.lp c = some r → s.kind r = .ex → s.kind c = .ex → False)
      (fun r c _ hr hc hl hkr hkc => h.rootIn r c hr hkr hl hkc hc)
      (fun hv c _ hc => (hroot1 hv).imp_right (fun f hl hk hkc => f c hl hk hkc hc))
      (fun hv r _ hr => (hroot2 hv).imp_right (fun f hl hkr hk => f r hl hkr hk hr))
      r c (h.ne_of_lp hl) hr hc hl hkr hkc

theorem RFInv.move {s : St} (h : RFInv s) {p : Pid} {a v : PC} (hpc : s.pc p = a)
    (hres : ResInv ⟨s.dir, s.files, s.kind, s.lp, upd s.pc p v⟩)
    (hsh : v = .existsChk → s.kind p = .sh) (hunl : v ≠ .unlocked)
    (hcls : ((!inflight v || inflight a) && (!inAdm v || inAdm a) && (!past v || past a)) = true) :
    RFInv ⟨s.dir, s.files, s.kind, s.lp, upd s.pc p v⟩ := by
  subst hpc
  simp only [Bool.and_eq_true, Bool.or_eq_true, Bool.not_eq_true'] at hcls
  obtain ⟨⟨hin, hadm⟩, hpast⟩ := hcls
  have hin : inflight v = true → inflight (s.pc p) = true := fun hv => hin.resolve_left (by simp [hv])
  have hadm : inAdm v = true → inAdm (s.pc p) = true := fun hv => hadm.resolve_left (by simp [hv])
  have hpast : past v = true → past (s.pc p) = true := fun hv => hpast.resolve_left (by simp [hv])
  exact h.update p v s.dir s.files hres h.nodup h.order hsh
    (forall_upd (P := fun _ x => inflight x = true → s.dir = true) (fun hv => h.dirIn p (hin hv)) (fun q _ => h.dirIn q))
    hunl (fun hv => .inl (hadm hv)) (fun hv => .inl (hpast hv)) (fun hv => .inl (hpast hv))
    (fun hv => .inl (hin hv)) (fun hv => .inl (hadm hv))

/-- The admission tests that pass (`scanParent`, `scanNone`, `scan2Parent`) are where "no race A" (`hnr`) is used; a
`dirGone` is race C itself, and an `rmdirOk` with somebody in flight is race B. -/
theorem rfInv_step (s : St) (p : Pid) (h : RFInv s) (hnr : ¬ Racy s p) : RFInv (step s p) := by
  have hres := resInv_step s p h.res
  obtain ⟨v, d, fs, hb, he⟩ := step_branch s p
  rw [he] at hres ⊢
  have dirKeep : (inflight v = true → s.dir = true) → ∀ q, inflight (upd s.pc p v q) = true → s.dir = true :=
    fun hv => forall_upd (P := fun _ x => inflight x = true → s.dir = true) hv (fun q _ => h.dirIn q)
  have noRaceA : admits s p → ∀ q, q ≠ p → ¬ related s p q → inflight (s.pc q) = true →
      (s.kind p = .ex ∨ s.kind q = .ex) → False :=
    fun ha q hqp hnrel hq hk => hnr (.inl ⟨ha, q, hqp, hnrel, hq, hk⟩)
  -- `p` passes its last admission test (`scan` or `scan2` to `create`) while no unrelated exclusive process has a file
  have pass : ∀ {a}, s.pc p = a → inflight a = true → inAdm a = true → admits s p → v = .create → d = s.dir →
      fs = s.files → (∀ q, ¬ related s p q → s.kind q = .ex → hasFile (s.pc q) = true → False) →
      RFInv ⟨d, fs, s.kind, s.lp, upd s.pc p v⟩ := by
    intro a hpc hfl hia hadm hv hd hfs K
    subst hv hd hfs
    have hinP : inflight (s.pc p) = true := hpc ▸ hfl
    have hiaP : inAdm (s.pc p) = true := hpc ▸ hia
    refine h.update p .create s.dir s.files hres h.nodup h.order nofun
      (dirKeep (fun _ => h.dirIn p hinP)) nofun (fun _ => .inl hiaP) ?_ ?_
      (fun _ => .inl hinP) (fun _ => .inl hiaP)
    · intro _; right; intro q hnrel hkq hk hq
      have hqp : q ≠ p := by intro e; subst e; rw [hk] at hkq; cases hkq
      rcases inAdm_cases hq with hq | hq
      · exact noRaceA hadm q hqp (fun hr => hnrel (related_symm hr)) hq (.inr hkq)
      · exact K q (fun hr => hnrel (related_symm hr)) hkq hq
    · intro _; right; intro q hqp hnrel hk hkq hq
      rcases past_cases hq with hq | hq
      · exact noRaceA hadm q hqp hnrel (by rw [hq]; rfl) (.inl hk)
      · exact K q hnrel hkq hq
  cases hb with
  | mkdirNew hpc hd =>
    -- whoever is admitted is in flight or has a file, and either needs the directory
    have nobody : ∀ q, inAdm (s.pc q) = true → False := fun q hq => by
      have : s.dir = true :=
        (inAdm_cases hq).elim (h.dirIn q) (fun hf => h.res.inDir (List.ne_nil_of_mem (h.res.own q hf)))
      rw [hd] at this; cases this
    exact h.update p .scan true s.files hres h.nodup h.order nofun (fun _ _ => rfl) nofun
      (fun _ => .inr (fun q _ _ _ hq => nobody q (inAdm_of_past hq))) nofun nofun
      (fun _ => .inr (fun c _ _ _ hc => nobody c hc))
      (fun _ => .inr (fun r _ _ _ hr => nobody r (inAdm_of_inflight hr)))
  | mkdirSh hpc _ hk => exact h.move hpc hres (fun _ => hk) nofun rfl
  | mkdirEx hpc | scanOther hpc | msgLast hpc | msgRetry hpc | scanOne hpc | scanMany hpc | scan2Gone hpc
  | scan2Other hpc | createOld hpc | createGone hpc | bodyEnds hpc | isdirYes hpc | isdirNo hpc | existsYes hpc
  | existsNo hpc | removeGone hpc | countZero hpc | countSome hpc | countGone hpc | rmdirFull hpc | rmdirGone hpc =>
    exact h.move hpc hres nofun nofun rfl
  | scanParent hpc hp =>
    -- the one lock file is the parent's: every process with a file is related to `p`
    obtain ⟨k, r, hf, hl⟩ := parentHolds_iff.mp hp
    have hrfile : hasFile (s.pc r) = true := (h.res.owned k r (by rw [hf]; exact List.mem_singleton_self _)).1
    have hdirT : s.dir = true := h.res.inDir (by rw [hf]; nofun)
    refine h.update p .scan s.dir s.files hres h.nodup h.order nofun (dirKeep (fun _ => hdirT))
      nofun ?_ nofun nofun ?_ ?_
    · intro _; right; intro q hnrel hk _ hq
      rcases past_cases hq with hq | hq
      · have hqp : q ≠ p := by intro e; subst e; rw [hpc] at hq; cases hq
        exact noRaceA (.inl ⟨_, hpc, hp⟩) q hqp hnrel (by rw [hq]; rfl) (.inl hk)
      · have := h.res.own q hq
        rw [hf, List.mem_singleton, Prod.mk.injEq] at this
        exact hnrel (.inl (by rw [hl, this.2]))
    · intro _; right; intro c hlc _ _ _
      have := h.flat _ _ hlc; rw [hl] at this; cases this
    · intro _; right; intro r' hl' _ _ hr'
      rw [hl, Option.some.injEq] at hl'; subst hl'
      rw [not_inflight_of_hasFile hrfile] at hr'; cases hr'
  | dirThere hpc hd =>
    have hne : s.kind p = .ex → False := fun e => by rw [h.existsSh p hpc] at e; cases e
    exact h.update p .scan s.dir s.files hres h.nodup h.order nofun (dirKeep (fun _ => hd)) nofun
      (fun _ => .inr (fun _ _ hk _ _ => hne hk)) nofun nofun
      (fun _ => .inr (fun _ _ hk _ _ => hne hk)) (fun _ => .inr (fun _ _ _ hk _ => hne hk))
  | dirGone hpc hd => exact absurd (.inr (.inr ⟨hpc, hd⟩)) hnr
  | scanNone hpc h0 =>
    refine pass hpc rfl rfl (.inr (.inl ⟨hpc, h0⟩)) rfl rfl rfl (fun q _ hk hq => ?_)
    have hm := h.res.own q hq
    rw [hk] at hm
    have : (Kind.ex, q) ∈ exFiles s.files := mem_exFiles.mpr ⟨hm, rfl⟩
    rw [List.length_eq_zero_iff.mp h0] at this; cases this
  | @scan2Parent f hpc hh hl =>
    obtain ⟨hfm, hfe⟩ := mem_exFiles.mp (List.mem_of_head? hh)
    have hfeq : f = (Kind.ex, f.2) := Prod.ext hfe rfl
    have hrm : (Kind.ex, f.2) ∈ s.files := hfeq ▸ hfm
    refine pass hpc rfl rfl (.inr (.inr ⟨hpc, f, hh, hl⟩)) rfl rfl rfl (fun q hnrel hkq hq => ?_)
    -- the newest exclusive file is the parent's; an unrelated exclusive file would be the parent's child's (newer
    -- than the parent's) or exclude the parent
    have hqm : (Kind.ex, q) ∈ s.files := hkq ▸ h.res.own q hq
    have hrq : f.2 ≠ q := fun e => hnrel (.inl (by rw [hl, e]))
    obtain ⟨hrfile, hkr⟩ := h.res.owned _ _ hrm
    by_cases hrel : related s f.2 q
    · rcases hrel with hrel | hrel
      · have := h.flat _ _ hl; rw [hrel] at this; cases this
      · have := head_exFiles_ne h.nodup (fun e => hrq e.symm) (h.order q f.2 hrel hqm hrm)
        rw [hh, hfeq] at this; exact this rfl
    · exact h.exex f.2 q hrq hrel hkr hkq (past_of_hasFile hrfile) (past_of_hasFile hq)
  | createNew hpc hd hnm =>
    have hinP : inflight (s.pc p) = true := by rw [hpc]; rfl
    have hia : inAdm (s.pc p) = true := by rw [hpc]; rfl
    have hpa : past (s.pc p) = true := by rw [hpc]; rfl
    refine h.update p .hold s.dir ((s.kind p, p) :: s.files) hres
      (List.nodup_cons.mpr ⟨hnm, h.nodup⟩) ?_ nofun (fun _ _ => hd) nofun
      (fun _ => .inl hia) (fun _ => .inl hpa) (fun _ => .inl hpa) nofun (fun _ => .inl hia)
    intro a r hl ha hr
    rcases List.mem_cons.1 ha with ea | ma
    · rw [Prod.mk.injEq] at ea
      rcases List.mem_cons.1 hr with er | mr
      · rw [Prod.mk.injEq] at er
        exact absurd (er.2.trans ea.2.symm) (h.ne_of_lp hl)
      · rw [← ea.1, ← ea.2]
        exact List.Sublist.cons_cons _ (List.singleton_sublist.mpr mr)
    · rcases List.mem_cons.1 hr with er | mr
      · rw [Prod.mk.injEq] at er
        obtain ⟨hafile, hka⟩ := h.res.owned _ _ ma
        exact (h.rootIn r a (er.2 ▸ hinP) (er.2 ▸ er.1.symm) hl hka (inAdm_of_past (past_of_hasFile hafile))).elim
      · exact List.Sublist.cons _ (h.order a r hl ma mr)
  | unlockedEnds hpc => exact absurd hpc (h.noUnl p)
  | removeOk hpc hc =>
    refine h.update p .count s.dir (s.files.filter (· != (s.kind p, p))) hres (h.nodup.filter _) ?_ nofun
      (dirKeep (fun hv => nomatch hv)) nofun
      nofun nofun nofun nofun nofun  -- `count` is in none of the classes
    intro a r hl ha hr
    rw [List.mem_filter] at ha hr
    have := (h.order a r hl ha.1 hr.1).filter (fun x => x != (s.kind p, p))
    simpa [List.filter, ha.2, hr.2] using this
  | rmdirOk hpc hd hfs =>
    exact h.update p .done false s.files hres h.nodup h.order nofun
      (forall_upd (P := fun _ x => inflight x = true → false = true) nofun
        (fun q hqp hq => absurd (.inr (.inl ⟨hpc, hd, hfs, q, hqp, hq⟩)) hnr))
      nofun
      nofun nofun nofun nofun nofun  -- nor is `done`
  | idle => rw [upd_self]; exact h

theorem rfInv_run (s : St) (sched : List Pid) (h : RFInv s) (hrf : RaceFree s sched) : RFInv (run s sched) := by
  induction sched generalizing s with
  | nil => exact h
  | cons p r ih =>
    obtain ⟨hnr, hrest⟩ := hrf
    exact ih (step s p) (rfInv_step s p h hnr) hrest

theorem RFInv.mutex {s : St} (h : RFInv s) : Mutex s := by
  intro i j hij hnrel hi hk
  cases hj : s.pc j with
  | hold =>
    cases hkj : s.kind j with
    | ex => exact (h.exex i j hij hnrel hk hkj (by rw [hi]; rfl) (by rw [hj]; rfl)).elim
    | sh => exact (h.exsh i j hnrel hk hkj (by rw [hi]; rfl) (by rw [hj]; rfl)).elim
  | unlocked => exact absurd hj (h.noUnl j)
  | _ => rfl

/-! ### deciding race-freedom of concrete schedules (for the non-vacuity examples) -/

def admitsB (s : St) (p : Pid) : Bool :=
  (match s.pc p with | .scanAll _ => parentHolds (s.lp p) s.files | _ => false)
  || (s.pc p == .scan && (exFiles s.files).length == 0)
  || (s.pc p == .scan2 && (match (exFiles s.files).head? with | some f => s.lp p == some f.2 | none => false))

/-- `Racy` with the other process sought among the pids below `n` -/
def racyUpTo (n : Nat) (s : St) (p : Pid) : Bool :=
  (admitsB s p && (List.range n).any fun q =>
      q != p && !decide (related s p q) && inflight (s.pc q) && (s.kind p == .ex || s.kind q == .ex))
  || (s.pc p == .rmdir && s.dir && s.files.isEmpty && (List.range n).any fun q => q != p && inflight (s.pc q))
  || (s.pc p == .existsChk && !s.dir)

def raceFreeUpTo (n : Nat) : St → List Pid → Bool
  | _, [] => true
  | s, p :: r => !racyUpTo n s p && raceFreeUpTo n (step s p) r

theorem admitsB_of_admits {s : St} {p : Pid} (h : admits s p) : admitsB s p = true := by
  rcases h with ⟨l, hpc, hp⟩ | ⟨hpc, h0⟩ | ⟨hpc, f, hh, hl⟩
  · simp [admitsB, hpc, hp]
  · simp [admitsB, hpc, h0]
  · simp [admitsB, hpc, hh, hl]

theorem racyUpTo_of_racy {n : Nat} {s : St} {p : Pid} (hidle : ∀ q, n ≤ q → inflight (s.pc q) = false)
    (h : Racy s p) : racyUpTo n s p = true := by
  have hlt : ∀ q, inflight (s.pc q) = true → q < n := by
    intro q hq
    cases Nat.lt_or_ge q n with
    | inl h => exact h
    | inr h => rw [hidle q h] at hq; simp at hq
  rcases h with ⟨hadm, q, hqp, hnrel, hin, hk⟩ | ⟨hpc, hd, hf, q, hqp, hin⟩ | ⟨hpc, hd⟩
  · have hany : ((List.range n).any fun q =>
        q != p && !decide (related s p q) && inflight (s.pc q) && (s.kind p == .ex || s.kind q == .ex)) = true := by
      rw [List.any_eq_true]
      refine ⟨q, List.mem_range.mpr (hlt q hin), ?_⟩
      rcases hk with hk | hk <;> simp [hqp, hnrel, hin, hk]
    simp [racyUpTo, admitsB_of_admits hadm, hany]
  · have hany : ((List.range n).any fun q => q != p && inflight (s.pc q)) = true := by
      rw [List.any_eq_true]
      exact ⟨q, List.mem_range.mpr (hlt q hin), by simp [hqp, hin]⟩
    simp [racyUpTo, hpc, hd, hf, hany]
  · simp [racyUpTo, hpc, hd]

theorem step_idle_other {s : St} {p q : Pid} (h : q ≠ p) : (step s p).pc q = s.pc q := step_pc_other s p q h

theorem raceFree_of_upTo (n : Nat) (s : St) (sched : List Pid) (hs : ∀ p ∈ sched, p < n)
    (hidle : ∀ q, n ≤ q → inflight (s.pc q) = false) (h : raceFreeUpTo n s sched = true) : RaceFree s sched := by
  induction sched generalizing s with
  | nil => trivial
  | cons p r ih =>
    simp only [raceFreeUpTo, Bool.and_eq_true, Bool.not_eq_true'] at h
    refine ⟨fun hr => ?_, ih (step s p) (fun x hx => hs x (List.mem_cons_of_mem _ hx)) ?_ h.2⟩
    · have := racyUpTo_of_racy hidle hr
      rw [h.1] at this; simp at this
    · intro q hq
      have hp : p < n := hs p (by simp)
      have : q ≠ p := Nat.ne_of_gt (Nat.lt_of_lt_of_le hp hq)
      rw [step_pc_other s p q this]; exact hidle q hq

theorem raceFree_or_racy (s : St) (sched : List Pid) :
    RaceFree s sched ∨ ∃ pre p post, sched = pre ++ p :: post ∧ Racy (run s pre) p := by
  induction sched generalizing s with
  | nil => exact Or.inl trivial
  | cons p r ih =>
    by_cases hr : Racy s p
    · exact Or.inr ⟨[], p, r, rfl, hr⟩
    · rcases ih (step s p) with h | ⟨pre, q, post, he, hq⟩
      · exact Or.inl ⟨hr, h⟩
      · exact Or.inr ⟨p :: pre, q, post, by simp [he], by simpa using hq⟩

end EupsModel.Lock
