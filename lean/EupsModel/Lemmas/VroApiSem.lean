import EupsModel.Model.VroApi
import EupsModel.Lemmas.VroFirst
/-! What the older entry points (`Model/VroApi.lean`) answer: `findProduct` with an explicit version, a tag file,
the preferred-tags walk (an instance of `firstAnswer`), and the VRO walk when entries may name tag files (`walkF`). -/
namespace EupsModel.Vro

theorem findProductApi_explicit (C : Ctx) (q : ApiReq) (v : Str) (hv : v.isEmpty = false)
    (hi : q.ignoreVersions = false) (hex : isExpr v = .ok false) :
    findProductApi C q (some v) = .ok (lookupVersion C.db q.name v q.flavor) := by
  simp [findProductApi, hv, hi, hex]

theorem findTaggedFromFile_not_listed (C : Ctx) (q : ApiReq) (content : Str)
    (h : tagFileVersion content q.name = .ok none) : findTaggedFromFile C q content = .ok none := by
  simp [findTaggedFromFile, h]

theorem findTaggedFromFile_bad_line (C : Ctx) (q : ApiReq) (content : Str) (e : FileErr)
    (h : tagFileVersion content q.name = .error e) : findTaggedFromFile C q content = .error (.file e) := by
  simp [findTaggedFromFile, h]

theorem findTaggedFromFile_explicit (C : Ctx) (q : ApiReq) (content v : Str)
    (h : tagFileVersion content q.name = .ok (some v)) (hv : v.isEmpty = false)
    (hi : q.ignoreVersions = false) (hex : isExpr v = .ok false) :
    findTaggedFromFile C q content =
      match lookupVersion C.db q.name v q.flavor with
      | some p => .ok (some p)
      | none =>
        match localProd C v with
        | some p => .ok (some p)
        | none => if q.force then .ok none else .error .notFound := by
  simp only [findTaggedFromFile, h, findProductApi_explicit C q v hv hi hex]
  cases lookupVersion C.db q.name v q.flavor <;> rfl

/-- an entry of the preferred tags that `findPreferredProduct` passes over -/
def passedOver (e : Str) : Bool := e == [colon] || allDigits e || hasInfix kTypeColon e

theorem findPreferred_nil (C : Ctx) (q : ApiReq) : findPreferred C q [] = .ok none := rfl

/-- what `findPreferredProduct` does with one entry: `.ok none` = go on to the next -/
def prefStep (C : Ctx) (q : ApiReq) (e : Str) : Except ApiErr (Option Prod) :=
  if passedOver e then .ok none
  else match C.tagKey e with
    | none => .error .tagNotRecognized
    | some key => findTagged C q key

theorem findPreferred_eq (C : Ctx) (q : ApiReq) (l : List Str) : findPreferred C q l = firstAnswer (prefStep C q) l := by
  refine eq_firstAnswer rfl (fun e rest => ?_) l
  rw [findPreferred, prefStep, passedOver]
  split
  · rfl
  · cases C.tagKey e with
    | none => rfl
    | some key => simp only; split <;> simp [*]

theorem prefStep_some_iff {C : Ctx} {q : ApiReq} {e : Str} {p : Prod} :
    prefStep C q e = .ok (some p) ↔
      passedOver e = false ∧ ∃ key, C.tagKey e = some key ∧ findTagged C q key = .ok (some p) := by
  unfold prefStep
  cases passedOver e <;> cases C.tagKey e <;> simp

theorem prefStep_none_iff {C : Ctx} {q : ApiReq} {e : Str} :
    prefStep C q e = .ok none ↔
      passedOver e = true ∨ ∃ k, C.tagKey e = some k ∧ findTagged C q k = .ok none := by
  unfold prefStep
  cases passedOver e <;> cases C.tagKey e <;> simp

theorem findPreferred_hit_iff (C : Ctx) (q : ApiReq) (l : List Str) (p : Prod) :
    findPreferred C q l = .ok (some p) ↔
      ∃ pre e post key, l = pre ++ e :: post ∧ passedOver e = false ∧ C.tagKey e = some key ∧
        findTagged C q key = .ok (some p) ∧
        ∀ x ∈ pre, passedOver x = true ∨ ∃ k, C.tagKey x = some k ∧ findTagged C q k = .ok none := by
  rw [findPreferred_eq, firstAnswer_eq_iff (r := .ok (some p)) nofun]
  simp only [prefStep_some_iff, prefStep_none_iff]
  constructor
  · rintro ⟨pre, e, post, h, ⟨h1, key, h2, h3⟩, h4⟩; exact ⟨pre, e, post, key, h, h1, h2, h3, h4⟩
  · rintro ⟨pre, e, post, key, h, h1, h2, h3, h4⟩; exact ⟨pre, e, post, h, ⟨h1, key, h2, h3⟩, h4⟩

/-! ## tag files on the VRO -/

theorem walkF_nil (C : Ctx) (q : ApiReq) (r : Req) (vro : List Str) :
    walkF C [] q r vro = (match walk C r vro with | .error e => .error (.walk e) | .ok o => .ok o) := by
  fun_induction walk C r vro <;> simp [walkF, lookupEntryF, lookupKey, *]

theorem findF_nil (C : Ctx) (q : ApiReq) (r : Req) (vro : List Str) :
    findF C [] q r vro = (match find C r vro with | .error e => .error (.walk e) | .ok o => .ok o) := by
  unfold findF find
  rw [walkF_nil]
  cases walk C r vro with
  | error err => rfl
  | ok o => cases o <;> rfl

theorem lookupEntryF_file (C : Ctx) (files : List (Str × Str)) (q : ApiReq) (r : Req) (e : Str) (post : List Str)
    (content : Str) (hd : isDirective r e = false) (hf : lookupKey e files = some content) :
    lookupEntryF C files q r e post =
      match findTaggedFromFile C q content with
      | .error err => .error err
      | .ok (some p) => .ok (.hit p e)
      | .ok none => .ok .skip := by
  simp only [lookupEntryF, hd, Bool.false_eq_true, if_false, hf]
  cases findTaggedFromFile C q content with
  | error err => rfl
  | ok o => cases o <;> rfl

end EupsModel.Vro
