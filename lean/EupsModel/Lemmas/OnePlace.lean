import EupsModel.Lemmas.CacheInv
/-! Path-wide uniqueness of a tag: `declare -t` removes the tag from every stack of the path before it assigns it,
so a (tag, product, flavor) sits in at most one stack — unless `Eups.assignTag` is called directly while the tag is
assigned in another stack (D32), or a `declare` is killed half way while the tag is assigned somewhere (`PlainAt`).
The purge reaches every stack that holds the tag (`findProducts_covers`, `purgeAll_spec`); `Kept K` is what survives a
trace that adds only tag records satisfying `K`. -/
namespace EupsModel.Db

/-- a tag (tag, product, flavor) is assigned in at most one stack -/
def OnePlace (db : Spec) : Prop :=
  ∀ r ∈ db.tags, ∀ q ∈ db.tags, r.tag = q.tag → r.name = q.name → r.flav = q.flav → r.stack = q.stack

def TagsInPath (nst : Nat) (db : Spec) : Prop := ∀ r ∈ db.tags, r.stack < nst

/-- every tag sits in one stack, a stack of the path: what the commands of an admitted history keep -/
structure OneStack (nst : Nat) (db : Spec) : Prop where
  one : OnePlace db
  inPath : TagsInPath nst db

/-- Carried through the run of one command: the view agrees with the files on the native flavor (`AgreeOn`,
`Lemmas/Agree.lean`).  The purge decides from the view where to delete in the files. -/
def PInv (nst : Nat) (self : Flav) (p : Proc) : Prop :=
  DbInv p.db ∧ ∀ s, s < nst → AgreeOn p.mem p.db s self

theorem PInv.emit {nst : Nat} {self : Flav} {p : Proc} (h : PInv nst self p) (e : Eff) : PInv nst self (p.emit e) := by
  refine ⟨by rw [Proc.db_emit]; exact h.1.apply e, ?_⟩
  intro s hs n
  rw [Proc.db_emit, Proc.mem_emit]
  exact commute_all e p.mem p.db h.1.nd s self n (h.2 s hs n)

theorem OneStack.of_subset {nst : Nat} {a b : Spec} (h : OneStack nst b) (hs : ∀ r ∈ a.tags, r ∈ b.tags) :
    OneStack nst a :=
  ⟨fun r hr q hq => h.one r (hs r hr) q (hs q hq), fun r hr => h.inPath r (hs r hr)⟩

theorem OneStack.tag_unique {nst : Nat} {db : Spec} (h : OneStack nst db) (ku : KeysUnique db) :
    ∀ r ∈ db.tags, ∀ q ∈ db.tags, r.tag = q.tag → r.name = q.name → r.flav = q.flav → r = q :=
  fun r hr q hq h1 h2 h3 => ku.tag r hr q hq (TagRec.sameKey_iff.mpr ⟨h.one r hr q hq h1 h2 h3, h1, h2, h3⟩)

theorem findSome?_range_first {α : Type} (g : Nat → Option α) (n : Nat) (w : α)
    (h : (List.range n).findSome? g = some w) : ∃ s0, s0 < n ∧ g s0 = some w ∧ ∀ x, x < s0 → g x = none := by
  induction n with
  | zero => simp at h
  | succ n ih =>
    rw [List.range_succ, List.findSome?_append] at h
    cases hn : (List.range n).findSome? g with
    | some w' =>
      rw [hn] at h
      simp only [Option.some_or] at h
      cases h
      obtain ⟨s0, hs0, hg, hlt⟩ := ih hn
      exact ⟨s0, Nat.lt_succ_of_lt hs0, hg, hlt⟩
    | none =>
      rw [hn] at h
      simp only [Option.none_or, List.findSome?_cons, List.findSome?_nil] at h
      rw [List.findSome?_eq_none_iff] at hn
      refine ⟨n, Nat.lt_succ_self n, ?_, fun x hx => hn x (List.mem_range.mpr hx)⟩
      cases hg : g n with
      | none => rw [hg] at h; cases h
      | some w' => rw [hg] at h; simpa using h

theorem findTagged_first {m : Spec} {nst : Nat} {n : Name} {t : Tag} {f : Flav} {y : Decl} {s : Nat}
    (h : m.findTagged (allStacks nst) n t f = some y)
    (hbefore : ∀ s', s' < s → m.hasTag s' t n f = false)
    (hs : ∃ v, m.tagVer s t n f = some v ∧ (m.findDecl s n v f).isSome) : y.stack = s := by
  unfold Spec.findTagged allStacks at h
  obtain ⟨s0, _, hg, hlt⟩ := findSome?_range_first _ nst y h
  have hy : y.stack = s0 ∧ m.hasTag s0 t n f = true := by
    cases htv : m.tagVer s0 t n f with
    | none => rw [htv] at hg; cases hg
    | some v =>
      rw [htv] at hg
      dsimp only at hg
      exact ⟨(Decl.hasKey_iff.mp (findDecl_some hg).2).1, by rw [← Spec.tagVer_isSome, htv]; rfl⟩
  rw [hy.1]
  obtain ⟨v, htv, hfd⟩ := hs
  have h1 : ¬ s < s0 := by
    intro hlt'
    have := hlt s hlt'
    rw [htv] at this
    dsimp only at this
    rw [this] at hfd
    cases hfd
  have h2 : ¬ s0 < s := by
    intro hlt'
    have := hbefore s0 hlt'
    rw [hy.2] at this
    cases this
  exact Nat.le_antisymm (Nat.le_of_not_lt h1) (Nat.le_of_not_lt h2)

/-- **The purge reaches the stack**: the listing `findProducts(name, None, [tag], s)` it walks holds a product of
stack `s` when the view shows the tag there and in no stack before (`hbefore`: the tagged entry of the listing comes from
`findTagged` over the whole path, which answers from the first stack that has the tag). -/
theorem findProducts_covers {m : Spec} (nst : Nat) {s : Nat} {n : Name} {t : Tag} {f : Flav}
    (hnd : NoDanglingN m s f n) (htag : m.hasTag s t n f = true)
    (hbefore : ∀ s', s' < s → m.hasTag s' t n f = false) :
    ∃ d ∈ findProducts m nst f n (some t) [s], d.stack = s := by
  have hsome : (m.tagVer s t n f).isSome = true := by rw [Spec.tagVer_isSome]; exact htag
  cases htv : m.tagVer s t n f with
  | none => rw [htv] at hsome; cases hsome
  | some v0 =>
    obtain ⟨r0, hr0m, hr0k, rv⟩ := Spec.tagVer_some htv
    obtain ⟨rs, rt, rn, rf⟩ := TagRec.hasKey_iff.mp hr0k
    have hdecl : m.hasDecl s n v0 f = true := rv ▸ hnd r0 hr0m rs rf rn
    obtain ⟨x, hx, hxk⟩ := Spec.hasDecl_iff.mp hdecl
    obtain ⟨xs, xn, xv, xf⟩ := Decl.hasKey_iff.mp hxk
    have hxv : x ∈ m.versionsOf s n f := mem_versionsOf.mpr ⟨hx, xs, xn, xf⟩
    have hxt : t ∈ m.tagsOf x := mem_tagsOf.mpr ⟨r0, hr0m,
      TagRec.pointsAt_iff.mpr ⟨rs.trans xs.symm, rn.trans xn.symm, rf.trans xf.symm, rv.trans xv.symm⟩, rt⟩
    obtain ⟨y, hy, -⟩ := findProducts_of_listed nst (some t) (List.mem_singleton_self s)
      (List.mem_cons_self ..) ⟨List.ne_nil_of_mem hxv, Or.inr ⟨hxv, hxt⟩⟩
    refine ⟨y, hy, ?_⟩
    -- whichever way y entered the listing, it is a product of stack s
    obtain ⟨s', hs', fl, -, -, hl⟩ := findProducts_listed hy
    cases List.mem_singleton.mp hs'
    rcases hl with hl | hl
    · exact findTagged_first hl hbefore ⟨v0, htv, Spec.findDecl_isSome.trans hdecl⟩
    · exact (mem_versionsOf.mp hl.1).2.1

theorem purge_spec {nst : Nat} {self : Flav} (t : Tag) (n : Name) (ds : List Decl) {p : Proc} (h : PInv nst self p) :
    PInv nst self (purge self t n ds p) ∧
    (∀ r ∈ (purge self t n ds p).db.tags, r ∈ p.db.tags) ∧
    ∀ d ∈ ds, (purge self t n ds p).db.hasTag d.stack t n self = false := by
  induction ds generalizing p with
  | nil => exact ⟨h, fun r hr => hr, fun d hd => by cases hd⟩
  | cons d ds ih =>
    rw [purge, doUnassign_false]
    obtain ⟨h1, h2, h4⟩ := ih (h.emit (.unassign d.stack t n self))
    have hdb : (p.emit (.unassign d.stack t n self)).db = p.db.delTag d.stack t n self := by
      rw [Proc.db_emit]; rfl
    refine ⟨h1, ?_, ?_⟩
    · intro r hr
      have := h2 r hr
      rw [hdb] at this
      exact (Spec.mem_delTag.mp this).1
    · intro d' hd'
      rcases List.mem_cons.mp hd' with rfl | hd'
      · apply hasTag_false_of_subset h2
        rw [hdb]
        exact Spec.hasTag_delTag_self _ _ _ _ _
      · exact h4 d' hd'

theorem purgeAll_spec {nst : Nat} {self : Flav} (t : Tag) (n : Name) (ss : List Nat) {p : Proc}
    (h : PInv nst self p) (hpw : ss.Pairwise (· < ·)) (hlt : ∀ s ∈ ss, s < nst)
    (hpre : ∀ s', s' < nst → s' ∉ ss → p.db.hasTag s' t n self = false) :
    (∀ r ∈ (purgeAll nst self t n ss p).db.tags, r ∈ p.db.tags) ∧
    ∀ s', s' < nst → (purgeAll nst self t n ss p).db.hasTag s' t n self = false := by
  induction ss generalizing p with
  | nil => exact ⟨fun r hr => hr, fun s' hs' => hpre s' hs' (by simp)⟩
  | cons s ss ih =>
    simp only [purgeAll]
    obtain ⟨hgt, hpw'⟩ := List.pairwise_cons.mp hpw
    have hs : s < nst := hlt s (by simp)
    obtain ⟨h1, h2, h4⟩ := purge_spec t n (findProducts p.mem nst self n (some t) [s]) h
    have hgone : (purge self t n (findProducts p.mem nst self n (some t) [s]) p).db.hasTag s t n self = false := by
      cases hdb : p.db.hasTag s t n self with
      | false => exact hasTag_false_of_subset h2 hdb
      | true =>
        have hag := h.2 s hs n
        have hmem : p.mem.hasTag s t n self = true := by rw [hag.hasTag]; exact hdb
        have hnd : NoDanglingN p.mem s self n := hag.noDanglingN (h.1.nd.toN s self n)
        have hbefore : ∀ s', s' < s → p.mem.hasTag s' t n self = false := by
          intro s' hs'
          have hs'n : s' < nst := Nat.lt_trans hs' hs
          rw [(h.2 s' hs'n n).hasTag]
          apply hpre s' hs'n
          intro hin
          rcases List.mem_cons.mp hin with rfl | hin
          · exact Nat.lt_irrefl _ hs'
          · exact Nat.lt_asymm hs' (hgt s' hin)
        obtain ⟨d, hd, hds⟩ := findProducts_covers nst hnd hmem hbefore
        have := h4 d hd
        rw [hds] at this
        exact this
    obtain ⟨k2, k4⟩ := ih h1 hpw' (fun x hx => hlt x (by simp [hx])) (by
      intro s' hs' hnin
      by_cases hss : s' = s
      · rw [hss]; exact hgone
      · exact hasTag_false_of_subset h2 (hpre s' hs' (by simp [hss, hnin])))
    exact ⟨fun r hr => h2 r (k2 r hr), k4⟩

theorem resolveDeclare_target_lt {nst : Nat} (hn : 0 < nst) {a : DeclareArgs} {p : Proc} {r : Resolved}
    (hstack : ∀ s, a.stack = some s → s < nst) (h : resolveDeclare nst a p = some r) : r.target < nst := by
  rw [resolveDeclare_some h]
  unfold targetOf
  split
  · rename_i s hs; exact hstack s hs
  · split
    · rename_i hlt; exact hlt
    · exact hn

end EupsModel.Db

namespace EupsModel.Cache
open EupsModel.Db

/-- no direct `Eups.assignTag` (D32), no `declare` killed half way (it assigns the tag in its stack before it purges
the others), stack arguments on the path: the commands after which a tag certainly sits in one stack only -/
def Plain (nst : Nat) : WCmd → Prop
  | .run _ (.assignTag ..) _ => False
  | .run _ (.declare a) crash => crash = none ∧ ∀ s, a.stack = some s → s < nst
  | _ => True

/-- the effect adds only tag records that satisfy `K` -/
def Adds (K : TagRec → Prop) : Eff → Prop
  | .declare d (some t) => K ⟨d.stack, t, d.name, d.flav, d.ver⟩
  | .assign s t n f v => K ⟨s, t, n, f, v⟩
  | _ => True

theorem Adds.newTag {K : TagRec → Prop} {e : Eff} {r : TagRec} (h : Adds K e) (hn : e.newTag = some r) : K r := by
  cases e with
  | declare d tag => cases tag with
    | none => cases hn
    | some t => cases hn; exact h
  | assign s t n f v => cases hn; exact h
  | _ => cases hn

theorem applyDb_adds {K : TagRec → Prop} {e : Eff} (h : Adds K e) (db : Spec) (r : TagRec)
    (hr : r ∈ (applyDb e db).tags) : r ∈ db.tags ∨ K r :=
  (mem_applyDb_tags.mp hr).elim (fun k => .inr (h.newTag k.2)) fun k => .inl k.1

/-- the records of the key (t, n, f) in stack `s0` -/
def AtKey (t : Tag) (n : Name) (f : Flav) (s0 : Nat) (r : TagRec) : Prop :=
  r.tag = t ∧ r.name = n ∧ r.flav = f ∧ r.stack = s0

/-- What is kept along a trace that adds only tag records satisfying `K`, where `K` names one stack of the path (`same`,
`lt`): every tag sits in one stack of the path (`OneStack`) — the stack `K` names, for a key that `K` speaks of
(`only`). -/
structure Kept (nst : Nat) (K : TagRec → Prop) (db : Spec) : Prop extends OneStack nst db where
  only : ∀ r ∈ db.tags, ∀ q, K q → r.tag = q.tag → r.name = q.name → r.flav = q.flav → r.stack = q.stack
  same : ∀ r q, K r → K q → r.stack = q.stack
  lt : ∀ r, K r → r.stack < nst

theorem Kept.none {nst : Nat} {db : Spec} (h : OneStack nst db) : Kept nst (fun _ => False) db :=
  ⟨h, fun _ _ _ k => k.elim, fun _ _ k => k.elim, fun _ k => k.elim⟩

theorem Kept.atKey {nst : Nat} {t : Tag} {n : Name} {f : Flav} {s0 : Nat} {db : Spec} (h : OneStack nst db)
    (hlt : s0 < nst) (honly : ∀ r ∈ db.tags, r.tag = t → r.name = n → r.flav = f → r.stack = s0) :
    Kept nst (AtKey t n f s0) db :=
  ⟨h,
   fun r hr _ ⟨qt, qn, qf, qs⟩ h1 h2 h3 => (honly r hr (h1.trans qt) (h2.trans qn) (h3.trans qf)).trans qs.symm,
   fun _ _ ⟨_, _, _, hr⟩ ⟨_, _, _, hq⟩ => hr.trans hq.symm, fun _ ⟨_, _, _, hr⟩ => hr ▸ hlt⟩

theorem Kept.apply {nst : Nat} {K : TagRec → Prop} {db : Spec} (h : Kept nst K db) {e : Eff} (he : Adds K e) :
    Kept nst K (applyDb e db) := by
  refine ⟨⟨?_, ?_⟩, ?_, h.same, h.lt⟩
  · intro r hr q hq h1 h2 h3
    rcases applyDb_adds he db r hr with hr' | kr <;> rcases applyDb_adds he db q hq with hq' | kq
    · exact h.one r hr' q hq' h1 h2 h3
    · exact h.only r hr' q kq h1 h2 h3
    · exact (h.only q hq' r kr h1.symm h2.symm h3.symm).symm
    · exact h.same r q kr kq
  · intro r hr
    rcases applyDb_adds he db r hr with hr' | kr
    · exact h.inPath r hr'
    · exact h.lt r kr
  · intro r hr q kq h1 h2 h3
    rcases applyDb_adds he db r hr with hr' | kr
    · exact h.only r hr' q kq h1 h2 h3
    · exact h.same r q kr kq

theorem declare_addsOnly {nst : Nat} {a : DeclareArgs} {p : Proc} {r : Resolved} (hr : resolveDeclare nst a p = some r) :
    Emits (Adds (AtKey (a.tag.getD current) a.name a.self r.target)) p (declare nst a p).2 := by
  refine (declare_emits nst a p).mono ?_
  rintro e ⟨r', hr', -, rfl | ⟨t, ht, ⟨s, rfl⟩ | rfl⟩ | ⟨x, rfl⟩⟩
  · rw [hr] at hr'; cases hr'
    cases htag : declareTag nst a p.mem with
    | none => trivial
    | some t => exact ⟨declareTag_spec t htag, rfl, rfl, rfl⟩
  · trivial
  · rw [hr] at hr'; cases hr'
    exact ⟨declareTag_spec t ht, rfl, rfl, rfl⟩
  · trivial

/-- a complete `declare` — with or without tag, written or not, refused or not -/
theorem declare_onePlace {nst : Nat} (hn : 0 < nst) {a : DeclareArgs} {p : Proc} (hp : PInv nst a.self p)
    (hstack : ∀ s, a.stack = some s → s < nst) (h : OneStack nst p.db) : OneStack nst (declare nst a p).2.db := by
  rw [declare_eq]
  rcases hx : planDeclare nst a p with o | ⟨r, rd⟩
  · exact h
  · have hr : resolveDeclare nst a p = some r := planDeclare_ok hx
    dsimp only
    rw [declareFinish_db]
    have htl := resolveDeclare_target_lt hn hstack hr
    unfold declareCore
    generalize declareTag nst a p.mem = tag
    cases tag with
    | none =>
      dsimp only
      split
      · rw [Proc.db_emit]
        exact ((Kept.none h).apply (e := .declare _ none) trivial).toOneStack
      · exact h
    | some t =>
      dsimp only
      by_cases hna : a.noaction = true
      · simp only [hna, Bool.not_true, Bool.and_false, Bool.false_eq_true, if_false, if_true]
        exact h
      · have hna' : a.noaction = false := by simpa using hna
        simp only [hna', Bool.not_false, Bool.and_true, Bool.false_eq_true, if_false]
        -- p1: after the version record (and its tag) is written, if it is
        generalize hp1 : (if (rd == .write) = true then
            p.emit (.declare ⟨r.target, a.name, a.ver, a.self, r.d, r.table⟩ (some t)) else p) = p1
        have hp1inv : PInv nst a.self p1 := by
          rw [← hp1]; split
          · exact hp.emit _
          · exact hp
        have hp1tags : ∀ x ∈ p1.db.tags, x ∈ p.db.tags ∨ AtKey t a.name a.self r.target x := by
          rw [← hp1]
          intro x hx
          split at hx
          · rw [Proc.db_emit] at hx
            exact applyDb_adds (K := AtKey t a.name a.self r.target) (e := .declare _ (some t)) ⟨rfl, rfl, rfl, rfl⟩ _ x hx
          · exact Or.inl hx
        -- p2: after the purge no record of the key is left, so the tags are among those before the command
        obtain ⟨h2sub, h2none⟩ := purgeAll_spec t a.name (allStacks nst) hp1inv
          (by unfold allStacks; exact List.pairwise_lt_range) (fun _ => mem_allStacks.mp)
          (fun _ hs' hnin => absurd (mem_allStacks.mpr hs') hnin)
        generalize purgeAll nst a.self t a.name (allStacks nst) p1 = p2 at h2sub h2none
        have h2noK : ∀ x ∈ p2.db.tags, x.stack < nst → ¬ (x.tag = t ∧ x.name = a.name ∧ x.flav = a.self) := by
          intro x hx hs ⟨xt, xn, xf⟩
          have hh : p2.db.hasTag x.stack t a.name a.self = true :=
            Spec.hasTag_iff.mpr ⟨x, hx, TagRec.hasKey_iff.mpr ⟨rfl, xt, xn, xf⟩⟩
          rw [h2none x.stack hs] at hh; cases hh
        have h2old : ∀ x ∈ p2.db.tags, x ∈ p.db.tags := by
          intro x hx
          rcases hp1tags x (h2sub x hx) with hx' | ⟨xt, xn, xf, xs⟩
          · exact hx'
          · exact absurd ⟨xt, xn, xf⟩ (h2noK x hx (xs ▸ htl))
        have hkept : Kept nst (AtKey t a.name a.self r.target) p2.db :=
          .atKey (h.of_subset h2old) htl fun x hx xt xn xf =>
            absurd ⟨xt, xn, xf⟩ (h2noK x hx (h.inPath x (h2old x hx)))
        -- the assignment, if the product is found, adds a record of the key in the target stack
        have := (assignTag_emits a.self t a.name a.ver [r.target] p2).invariant
          (P := fun q => Kept nst (AtKey t a.name a.self r.target) q.db) hkept fun q e hq ⟨s, hs, he⟩ => by
            rw [Proc.db_emit, he]; exact hq.apply ⟨rfl, rfl, rfl, List.mem_singleton.mp hs⟩
        exact this.toOneStack

/-- What `C06_tag_unique_on_path_at_partial` asks of a command, in the world `w` it starts from.  A direct
`Eups.assignTag`: its stack argument is on the path and the (tag, product, flavor) is assigned nowhere but in the
stack the command names (nowhere at all when it names none).  A `declare`: its stack argument is on the path, and it is not killed half way —
unless the tag it would assign (the one given, else `current`) is assigned nowhere.  Everything else — undeclare,
unassignTag, remove, queries, killed anywhere; cache deletions; directories deleted by hand — is admitted. -/
def PlainAt (w : World) : WCmd → Prop
  | .run _ (.assignTag f t n _ st) _ =>
      (∀ s, st = some s → s < w.nst) ∧ ∀ r ∈ w.db.tags, r.tag = t → r.name = n → r.flav = f → st = some r.stack
  | .run _ (.declare a) crash =>
      (∀ s, a.stack = some s → s < w.nst) ∧
      (crash = none ∨ ∀ r ∈ w.db.tags, r.tag = a.tag.getD current → r.name = a.name → r.flav = a.self → False)
  | _ => True

theorem PlainAt.of_plain {w : World} {c : WCmd} (h : Plain w.nst c) : PlainAt w c := by
  cases c with
  | run u c crash =>
    cases c with
    | assignTag f t n v st => exact absurd h (by simp [Plain])
    | declare a => exact ⟨h.2, Or.inl h.1⟩
    | undeclare a => trivial
    | unassignTag f t n v st na => trivial
    | remove f n v rc na fo su => trivial
    | query f => trivial
  | rmCache u s f => trivial
  | clearCache u => trivial
  | adminBuild u self => trivial
  | envRmDir d => trivial

/-- a history each of whose commands is admitted in the world it starts from -/
def PlainHist : World → List WCmd → Prop
  | _, [] => True
  | w, c :: cs => PlainAt w c ∧ PlainHist (step w c) cs

theorem PlainHist.of_plain {nst : Nat} {h : List WCmd} (hp : ∀ c ∈ h, Plain nst c) :
    ∀ w : World, w.nst = nst → PlainHist w h := by
  induction h with
  | nil => intro w _; trivial
  | cons c cs ih =>
    intro w hw
    exact ⟨PlainAt.of_plain (hw ▸ hp c (by simp)), ih (fun c' hc' => hp c' (by simp [hc'])) _ ((step_nst w c).trans hw)⟩

theorem step_kept {w : World} (u : User) (c : Cmd) (crash : Option Nat)
    (h : ∀ m, ∃ K, Kept w.nst K w.db ∧
      Emits (Adds K) (w.proc m) (run w.nst c (w.proc m)).2) :
    OneStack w.nst (step w (.run u c crash)).db := by
  obtain ⟨m, rule⟩ := stepG_run_rule true w u c crash
  obtain ⟨K, hk, hem⟩ := h m
  exact (rule _ (Kept w.nst K) hem (fun _ _ he k => k.apply he) hk).toOneStack

theorem step_onePlaceAt {w : World} (hn : 0 < w.nst) (hinv : CacheInv w) (h : OneStack w.nst w.db) (c : WCmd)
    (hc : PlainAt w c) : OneStack w.nst (step w c).db := by
  cases c with
  | rmCache u s f => exact h
  | clearCache u => exact h
  | envRmDir d => exact h
  | adminBuild u self =>
    unfold step
    rw [(stepG_adminBuild_only true w u self).1.db]
    exact h
  | run u c crash =>
    cases c with
    | undeclare a =>
      refine step_kept u _ crash fun _ => ⟨_, .none h, (undeclare_emits w.nst a _).mono ?_⟩
      rintro e ⟨-, ⟨_, _, _, rfl⟩ | ⟨_, _, _, rfl⟩⟩ <;> trivial
    | unassignTag f t n v st na =>
      refine step_kept u _ crash fun _ => ⟨_, .none h, (unassignTag_emits w.nst f t n v st na _).mono ?_⟩
      rintro e ⟨-, _, rfl⟩; trivial
    | remove f n v rc na fo su =>
      refine step_kept u _ crash fun _ => ⟨_, .none h, (remove_emits w.nst f n v rc na fo su _).mono ?_⟩
      rintro e ⟨-, ⟨_, rfl⟩ | ⟨_, rfl⟩⟩ <;> trivial
    | query f => exact step_kept u _ crash fun _ => ⟨_, .none h, .refl _ _⟩
    | assignTag f t n v st =>
      obtain ⟨hst, honly⟩ := hc
      refine step_kept u _ crash fun m => ?_
      simp only [run]
      rw [assignTag_eq]
      rcases hx : planAssign f n v (stacksOf w.nst st) (w.proc m) with o | s
      · exact ⟨_, .none h, .refl _ _⟩
      · -- the tag goes to stack `s`: the one the command names, or any of the path when it names none
        have hmem := (planAssign_ok hx).1
        refine ⟨AtKey t n f s, .atKey h ?_ ?_, .emit ⟨rfl, rfl, rfl, rfl⟩⟩
        · cases st with
          | some s => rw [List.mem_singleton.mp hmem]; exact hst s rfl
          | none => exact mem_allStacks.mp hmem
        · intro r hr rt rn rf
          rw [honly r hr rt rn rf] at hmem
          exact (List.mem_singleton.mp hmem).symm
    | declare a =>
      obtain ⟨hstack, hcr⟩ := hc
      rcases hcr with rfl | hnone
      · -- the whole `declare`, from a view that agrees with the files
        obtain ⟨m, hv, _, hdb⟩ := step_run hinv u (.declare a)
        rw [hdb]
        exact declare_onePlace hn ⟨hinv.dbinv, hv⟩ hstack h
      · -- killed anywhere, while the tag it would assign is assigned nowhere
        refine step_kept u _ crash fun m => ?_
        cases hr : resolveDeclare w.nst a (w.proc m) with
        | none => exact ⟨_, .none h, (declare_emits w.nst a _).mono fun e ⟨r, hr', _⟩ => by rw [hr] at hr'; cases hr'⟩
        | some r =>
          exact ⟨_, .atKey h (resolveDeclare_target_lt hn hstack hr) fun x hx xt xn xf => (hnone x hx xt xn xf).elim,
            declare_addsOnly hr⟩

theorem history_onePlaceAt (nst : Nat) (hn : 0 < nst) (dirs : List DirEnt) (tfs : List TFile) (h : List WCmd)
    (hp : PlainHist (World.init nst dirs tfs) h) : OneStack nst (runHistory (World.init nst dirs tfs) h).db := by
  unfold runHistory
  suffices ∀ w : World, w.nst = nst → CacheInv w → OneStack nst w.db → PlainHist w h → OneStack nst (h.foldl step w).db from
    this _ rfl (cacheInv_init nst dirs tfs) ⟨nofun, nofun⟩ hp
  clear hp
  induction h with
  | nil => intro w _ _ h1 _; exact h1
  | cons c cs ih =>
    intro w hw hinv h1 hpl
    subst hw
    exact ih _ (step_nst w c) (step_inv hinv c) (step_onePlaceAt hn hinv h1 c hpl.1) hpl.2

end EupsModel.Cache
