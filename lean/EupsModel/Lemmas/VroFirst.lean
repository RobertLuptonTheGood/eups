/-! A loop over a list that stops at the first element whose step answers or raises, without looking at the elements
behind it: the flavor loop of `setup` (`resolve`) and the preferred-tags walk (`findPreferred`) are such loops.  (The
VRO walk itself is not: an entry's answer depends on what follows it; see `AllSkip` in `Lemmas/VroWalk`.)  An instance is
identified by its two equations (`eq_firstAnswer`). -/
namespace EupsModel.Vro

/-- the reference loop: `.ok none` from a step means "go on" -/
def firstAnswer {α ε β : Type} (step : α → Except ε (Option β)) : List α → Except ε (Option β)
  | [] => .ok none
  | a :: l =>
    match step a with
    | .ok none => firstAnswer step l
    | r => r

variable {α ε β : Type} {step : α → Except ε (Option β)}

theorem eq_firstAnswer {f : List α → Except ε (Option β)} (h0 : f [] = .ok none)
    (hc : ∀ a l, f (a :: l) = match step a with | .ok none => f l | r => r) (l : List α) : f l = firstAnswer step l := by
  induction l with
  | nil => exact h0
  | cons a l ih => rw [hc, firstAnswer, ih]

/-- one statement for answers and for errors: any `r` other than "nothing" -/
theorem firstAnswer_eq_iff {l : List α} {r : Except ε (Option β)} (hr : r ≠ .ok none) :
    firstAnswer step l = r ↔ ∃ pre a post, l = pre ++ a :: post ∧ step a = r ∧ ∀ x ∈ pre, step x = .ok none := by
  constructor
  · intro h
    induction l with
    | nil => exact absurd h.symm hr
    | cons e rest ih =>
      rw [firstAnswer] at h
      split at h
      · next hs =>
        obtain ⟨pre, x, post, rfl, hx, hpre⟩ := ih h
        exact ⟨e :: pre, x, post, rfl, hx, List.forall_mem_cons.mpr ⟨hs, hpre⟩⟩
      · exact ⟨[], e, rest, rfl, h, nofun⟩
  · rintro ⟨pre, a, post, rfl, rfl, hpre⟩
    induction pre with
    | nil =>
      rw [List.nil_append, firstAnswer]
      split
      · next hs => exact absurd hs hr
      · rfl
    | cons y pre ih =>
      rw [List.cons_append, firstAnswer, hpre y List.mem_cons_self]
      exact ih fun x hx => hpre x (List.mem_cons_of_mem _ hx)

theorem firstAnswer_congr {step' : α → Except ε (Option β)} {l : List α} (h : ∀ x ∈ l, step x = step' x) :
    firstAnswer step l = firstAnswer step' l := by
  induction l with
  | nil => rfl
  | cons e rest ih =>
    rw [firstAnswer, firstAnswer, h e List.mem_cons_self, ih fun x hx => h x (List.mem_cons_of_mem _ hx)]

end EupsModel.Vro
