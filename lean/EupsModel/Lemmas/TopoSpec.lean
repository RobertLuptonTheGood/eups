import EupsModel.Lemmas.Topo
/-! Specification of the component/condensation part of `Model/Topo.lean`: the reachability sets are the
reflexive-transitive closure of the edge relation, `sccOf` yields a partition into mutual-reachability
classes, what the entries of the condensation are, and a layering holds keys of its graph, each in one layer. -/
namespace EupsModel.Topo

variable {α : Type} [DecidableEq α]

/-- paths along `succs` (reflexive-transitive closure of the edge relation) -/
inductive Path (g : Graph α) : α → α → Prop
  | refl (a : α) : Path g a a
  | step {a b c : α} : b ∈ succs g a → Path g b c → Path g a c

theorem Path.trans {g : Graph α} {a b c : α} (h1 : Path g a b) (h2 : Path g b c) : Path g a c := by
  induction h1 with
  | refl => exact h2
  | step hab _ ih => exact Path.step hab (ih h2)

theorem Path.single {g : Graph α} {a b : α} (h : b ∈ succs g a) : Path g a b := Path.step h (Path.refl b)

theorem mem_frontier {g : Graph α} {S : List α} {y : α} :
    y ∈ frontier g S ↔ y ∉ S ∧ ∃ x ∈ S, y ∈ succs g x := by
  unfold frontier
  rw [mem_dedup]
  simp only [List.mem_filter, List.mem_flatMap, Bool.not_eq_true', List.contains_eq_mem, decide_eq_false_iff_not]
  exact And.comm

theorem frontier_nil_closed {g : Graph α} {S : List α} (h : frontier g S = []) :
    ∀ x ∈ S, ∀ y ∈ succs g x, y ∈ S := by
  intro x hx y hy
  apply Classical.byContradiction
  intro hn
  have : y ∈ frontier g S := mem_frontier.mpr ⟨hn, x, hx, hy⟩
  rw [h] at this
  cases this

theorem closure_spec (g : Graph α) (f : Nat) (S T : List α) (h : closure g f S = some T) :
    (∀ s ∈ S, s ∈ T) ∧ (∀ x ∈ T, ∀ y ∈ succs g x, y ∈ T) ∧ (∀ t ∈ T, ∃ s ∈ S, Path g s t) := by
  fun_induction closure g f S with
  | case1 => cases h
  | case2 _ S hf => cases h; exact ⟨fun s hs => hs, frontier_nil_closed hf, fun t ht => ⟨t, ht, Path.refl t⟩⟩
  | case3 _ S _ ih =>
    obtain ⟨h1, h2, h3⟩ := ih h
    refine ⟨fun s hs => h1 s (List.mem_append_left _ hs), h2, fun t ht => ?_⟩
    -- a node of the frontier is one edge away from `S`
    obtain ⟨s, hs, hp⟩ := h3 t ht
    rcases List.mem_append.mp hs with hs | hs
    · exact ⟨s, hs, hp⟩
    · obtain ⟨_, x, hx, hxy⟩ := mem_frontier.mp hs
      exact ⟨x, hx, Path.step hxy hp⟩

theorem closed_path {g : Graph α} {T : List α} (hc : ∀ x ∈ T, ∀ y ∈ succs g x, y ∈ T) {a b : α}
    (hp : Path g a b) (ha : a ∈ T) : b ∈ T := by
  induction hp with
  | refl => exact ha
  | step hab _ ih => exact ih (hc _ ha _ hab)

theorem reachFrom_spec {g : Graph α} {a : α} {r : List α} (h : reachFrom g a = some r) (b : α) :
    b ∈ r ↔ Path g a b := by
  obtain ⟨h1, h2, h3⟩ := closure_spec g _ _ _ h
  constructor
  · intro hb
    obtain ⟨s, hs, hp⟩ := h3 b hb
    simp at hs; subst hs; exact hp
  · intro hp
    exact closed_path h2 hp (h1 a (by simp))

theorem reachRows_spec {g : Graph α} : ∀ (l : List α) (R : List (α × List α)), reachRows g l = some R →
    ∀ a ∈ l, ∀ b, reaches R a b = true ↔ Path g a b := by
  intro l
  induction l with
  | nil => intro R _ a ha; simp at ha
  | cons x xs ih =>
    intro R h a ha b
    unfold reachRows at h
    cases hr : reachFrom g x with
    | none => simp [hr] at h
    | some r =>
      cases hrs : reachRows g xs with
      | none => simp [hr, hrs] at h
      | some rs =>
        simp only [hr, hrs, Option.some.injEq] at h
        subst h
        by_cases hax : x = a
        · subst hax
          simp only [reaches, List.find?_cons, beq_self_eq_true, List.contains_eq_mem, decide_eq_true_eq]
          exact reachFrom_spec hr b
        · have hmem : a ∈ xs := (List.mem_cons.mp ha).resolve_left (Ne.symm hax)
          have hbeq : (x == a) = false := by simpa using hax
          simp only [reaches, List.find?_cons, hbeq]
          exact ih rs hrs a hmem b

theorem reachTable_spec {g : Graph α} {R : List (α × List α)} (h : reachTable g = some R) :
    ∀ a ∈ keys g, ∀ b, reaches R a b = true ↔ Path g a b := reachRows_spec _ _ h

theorem mem_sccOf {g : Graph α} {R : List (α × List α)} (h : reachTable g = some R) {a b : α}
    (ha : a ∈ keys g) : b ∈ sccOf R (keys g) a ↔ b ∈ keys g ∧ Path g a b ∧ Path g b a := by
  simp only [sccOf, List.mem_filter, Bool.and_eq_true]
  constructor
  · rintro ⟨hb, h1, h2⟩
    exact ⟨hb, (reachTable_spec h a ha b).mp h1, (reachTable_spec h b hb a).mp h2⟩
  · rintro ⟨hb, h1, h2⟩
    exact ⟨hb, (reachTable_spec h a ha b).mpr h1, (reachTable_spec h b hb a).mpr h2⟩

theorem self_mem_sccOf {g : Graph α} {R : List (α × List α)} (h : reachTable g = some R) {a : α}
    (ha : a ∈ keys g) : a ∈ sccOf R (keys g) a :=
  (mem_sccOf h ha).mpr ⟨ha, Path.refl a, Path.refl a⟩

theorem sccOf_eq_of_mem {g : Graph α} {R : List (α × List α)} (h : reachTable g = some R) {a b : α}
    (ha : a ∈ keys g) (hb : b ∈ sccOf R (keys g) a) : sccOf R (keys g) b = sccOf R (keys g) a := by
  obtain ⟨hbk, hab, hba⟩ := (mem_sccOf h ha).mp hb
  unfold sccOf
  apply List.filter_congr
  intro c hc
  rw [Bool.eq_iff_iff]
  simp only [Bool.and_eq_true, reachTable_spec h b hbk c, reachTable_spec h c hc b, reachTable_spec h a ha c,
    reachTable_spec h c hc a]
  exact ⟨fun ⟨h1, h2⟩ => ⟨hab.trans h1, h2.trans hba⟩, fun ⟨h1, h2⟩ => ⟨hba.trans h1, h2.trans hab⟩⟩

theorem sccOf_eq_iff {g : Graph α} {R : List (α × List α)} (h : reachTable g = some R) {a b : α}
    (ha : a ∈ keys g) (hb : b ∈ keys g) :
    sccOf R (keys g) a = sccOf R (keys g) b ↔ Path g a b ∧ Path g b a := by
  constructor
  · intro he
    have : b ∈ sccOf R (keys g) a := by rw [he]; exact self_mem_sccOf h hb
    obtain ⟨_, h1, h2⟩ := (mem_sccOf h ha).mp this
    exact ⟨h1, h2⟩
  · rintro ⟨h1, h2⟩
    exact (sccOf_eq_of_mem h ha ((mem_sccOf h ha).mpr ⟨hb, h1, h2⟩)).symm

theorem succs_map_key (f : α → List α) (l : List α) (a : α) :
    succs (l.map fun x => (x, f x)) a = if a ∈ l then f a else [] := by
  unfold succs
  induction l with
  | nil => rfl
  | cons x xs ih =>
    by_cases hxa : x = a
    · subst hxa; simp
    · have hb : (x == a) = false := by simpa using hxa
      simp only [List.map_cons, List.find?_cons, hb, List.mem_cons, Ne.symm hxa, false_or]
      exact ih

omit [DecidableEq α] in
theorem keys_map_key {γ : Type} (f : α → γ) (l : List α) : (l.map fun x => (x, f x)).map (·.1) = l := by
  simp [List.map_map, Function.comp_def]

theorem keys_normalise (g : Graph α) : keys (normalise g) = dedup (keys g ++ g.flatMap (·.2)) := by
  unfold normalise keys
  exact keys_map_key _ _

theorem keys_normalise_nodup (g : Graph α) : (keys (normalise g)).Nodup := by
  rw [keys_normalise]; exact dedup_nodup _

theorem mem_keys_normalise {g : Graph α} {a : α} : a ∈ keys (normalise g) ↔ a ∈ keys g ∨ ∃ p ∈ g, a ∈ p.2 := by
  rw [keys_normalise, mem_dedup]; simp only [List.mem_append, List.mem_flatMap]

theorem mem_succs_normalise {g : Graph α} {a b : α} :
    b ∈ succs (normalise g) a ↔ b ≠ a ∧ ∃ p ∈ g, p.1 = a ∧ b ∈ p.2 := by
  unfold normalise
  rw [succs_map_key]
  constructor
  · intro h
    split at h
    · simp only [List.mem_filter, mem_dedup, List.mem_flatMap, bne_iff_ne, ne_eq] at h
      obtain ⟨⟨p, hp, hb⟩, hne⟩ := h
      exact ⟨hne, p, hp.1, by simpa using hp.2, hb⟩
    · simp at h
  · rintro ⟨hne, p, hp, rfl, hb⟩
    have hmem : p.1 ∈ dedup (keys g ++ g.flatMap (·.2)) :=
      keys_normalise g ▸ mem_keys_normalise.mpr (Or.inl (List.mem_map_of_mem hp))
    simp only [hmem, if_true, List.mem_filter, mem_dedup, List.mem_flatMap, bne_iff_ne, ne_eq]
    exact ⟨⟨p, ⟨hp, by simp⟩, hb⟩, hne⟩

theorem succs_normalise_closed {g : Graph α} {a b : α} (h : b ∈ succs (normalise g) a) :
    b ∈ keys (normalise g) := by
  obtain ⟨_, p, hp, _, hb⟩ := mem_succs_normalise.mp h
  exact mem_keys_normalise.mpr (Or.inr ⟨p, hp, hb⟩)

theorem keys_condense (g : Graph α) (R : List (α × List α)) :
    keys (condense g R) = components R (keys g) := by
  unfold condense keys
  exact keys_map_key _ _

theorem keys_condense_nodup (g : Graph α) (R : List (α × List α)) : (keys (condense g R)).Nodup := by
  rw [keys_condense]; exact dedup_nodup _

theorem mem_components {R : List (α × List α)} {nodes : List α} {c : List α} :
    c ∈ components R nodes ↔ ∃ a ∈ nodes, c = sccOf R nodes a := by
  simp only [components, mem_dedup, List.mem_map, eq_comm]

theorem mem_condense {g : Graph α} {R : List (α × List α)} {p : List α × List (List α)} (h : p ∈ condense g R) :
    p.1 ∈ components R (keys g) ∧
      ∀ d, d ∈ p.2 ↔ d ≠ p.1 ∧ ∃ a ∈ p.1, ∃ b ∈ succs g a, d = sccOf R (keys g) b := by
  obtain ⟨c, hc, rfl⟩ := List.mem_map.mp h
  refine ⟨hc, fun d => ?_⟩
  rw [mem_dedup]
  simp only [List.mem_filter, List.mem_map, List.mem_flatMap, bne_iff_ne, ne_eq]
  exact ⟨fun ⟨⟨b, ⟨a, ha, hab⟩, hd⟩, hne⟩ => ⟨hne, a, ha, b, hab, hd.symm⟩,
    fun ⟨hne, a, ha, b, hab, hd⟩ => ⟨⟨b, ⟨a, ha, hab⟩, hd.symm⟩, hne⟩⟩

theorem condense_edge {g : Graph α} {R : List (α × List α)} (h : reachTable g = some R)
    {a b : α} (ha : a ∈ keys g) (hab : b ∈ succs g a)
    (hne : sccOf R (keys g) b ≠ sccOf R (keys g) a) :
    ∃ du, (sccOf R (keys g) a, du) ∈ condense g R ∧ sccOf R (keys g) b ∈ du := by
  have hc : sccOf R (keys g) a ∈ keys (condense g R) := keys_condense g R ▸ mem_components.mpr ⟨a, ha, rfl⟩
  obtain ⟨⟨c, du⟩, hp, rfl⟩ := List.mem_map.mp hc
  exact ⟨du, hp, ((mem_condense hp).2 _).mpr ⟨hne, a, self_mem_sccOf h ha, b, hab, rfl⟩⟩

omit [DecidableEq α] in
theorem ready_subset_keys (g : Graph α) : ∀ c ∈ ready g, c ∈ keys g :=
  fun _ hc => List.mem_map.mpr ⟨_, mem_ready.mp hc, rfl⟩

theorem layers_subset_keys (f : Nat) : ∀ (g : Graph α) ls rest, layers f g = some (ls, rest) →
    ∀ l ∈ ls, ∀ c ∈ l, c ∈ keys g := by
  refine layers_induction (motive := fun g ls _ => ∀ l ∈ ls, ∀ c ∈ l, c ∈ keys g) (fun _ _ l hl => nomatch hl) ?_ f
  intro _ g ls' rest _ _ ih l hl c hc
  rcases List.mem_cons.mp hl with rfl | hl
  · exact ready_subset_keys g c hc
  · exact (keys_strip_sublist g).subset (ih l hl c hc)

theorem ready_not_in_strip {g : Graph α} (hk : (keys g).Nodup) {c : α} (hc : c ∈ ready g) :
    c ∉ keys (strip g) := by
  intro hs
  obtain ⟨p, hp, rfl⟩ := List.mem_map.mp hs
  obtain ⟨du, hdu, hne, _⟩ := mem_strip.mp hp
  exact not_ready_of_dep hk hdu hne hc

theorem layer_unique (f : Nat) : ∀ (g : Graph α) ls rest, (keys g).Nodup → layers f g = some (ls, rest) →
    ∀ (i : Nat) (hi : i < ls.length) (c : α), c ∈ ls[i] → level ls c = some i := by
  intro g ls rest hk h
  revert hk
  refine layers_induction (motive := fun g ls _ => (keys g).Nodup →
    ∀ (i : Nat) (hi : i < ls.length) (c : α), c ∈ ls[i] → level ls c = some i) ?_ ?_ f g ls rest h
  · intro g _ _ i hi; simp at hi
  · intro k g ls' rest _ hl' ih hk i hi c hc
    cases i with
    | zero =>
      simp only [List.getElem_cons_zero] at hc
      exact level_cons_mem hc
    | succ j =>
      simp only [List.getElem_cons_succ] at hc
      have hj : j < ls'.length := by simpa using hi
      have hcs : c ∈ keys (strip g) := layers_subset_keys _ _ _ _ hl' _ (List.getElem_mem hj) c hc
      have hnr : c ∉ ready g := fun hrd => ready_not_in_strip hk hrd hcs
      rw [level_cons_not hnr, ih (keys_strip_nodup g hk) j hj c hc]
      rfl

theorem level_some_mem {ls : List (List α)} {c : α} {i : Nat} (h : level ls c = some i) :
    ∃ hi : i < ls.length, c ∈ ls[i] := by
  unfold level at h
  have h1 := List.findIdx?_eq_some_iff_getElem.mp h
  obtain ⟨hi, hp, _⟩ := h1
  exact ⟨hi, by simpa using hp⟩

end EupsModel.Topo
