import EupsModel.Lemmas.FsCrash
/-! What the record-level steps of a command do (C08).  What they write is one predicate, `Writes L ss`, proved once per
operation (`writes_steps`); a record no step writes stays as it is (`always_none`), one written once is old or new after
every prefix (`single_writer`); `Eups.declare` with a tag taken apart (`declare_parts`, `declare_walk`). -/
namespace EupsModel.FsEff
open EupsModel.Store

/-! ## The steps of a command -/

def Within (S : List RPath) (ss : List Step) : Prop := ∀ s ∈ ss, ∀ r, s.record = some r → r ∈ S

theorem Within.append {S : List RPath} {a b : List Step} (ha : Within S a) (hb : Within S b) : Within S (a ++ b) :=
  fun s hs => (List.mem_append.mp hs).elim (ha s) (hb s)

def StepKindOK : Step → Prop
  | .put (.vfile _ _) (.ver _) => True
  | .put (.cfile _ _) (.chain _) => True
  | .put _ _ => False
  | _ => True

def KindsOK (ss : List Step) : Prop := ∀ s ∈ ss, StepKindOK s

theorem KindsOK.append {a b : List Step} (ha : KindsOK a) (hb : KindsOK b) : KindsOK (a ++ b) :=
  fun s hs => (List.mem_append.mp hs).elim (ha s) (hb s)

def cnt (r : RPath) (ss : List Step) : Nat := (ss.filter fun s => s.record = some r).length

theorem cnt_append (r : RPath) (a b : List Step) : cnt r (a ++ b) = cnt r a + cnt r b := by
  simp [cnt, List.filter_append]

theorem cnt_nil (r : RPath) : cnt r [] = 0 := rfl

theorem cnt_zero_iff (r : RPath) (ss : List Step) : cnt r ss = 0 ↔ ∀ s ∈ ss, s.record ≠ some r := by
  simp [cnt, List.filter_eq_nil_iff]

theorem cnt_cons (r : RPath) (s : Step) (ss : List Step) :
    cnt r (s :: ss) = (if s.record = some r then 1 else 0) + cnt r ss := by
  simp only [cnt, List.filter_cons]
  by_cases h : s.record = some r <;> simp [h]; omega

/-- Every step of `ss` writes content of its record's kind, and no record is written more often than `L` lists it.
That a command stays within its `targets` and that it writes a record at most once are facts about the list
(`Writes.within`; `cnt_steps` in `Lemmas/FsEff.lean`). -/
structure Writes (L : List RPath) (ss : List Step) : Prop where
  kinds : KindsOK ss
  count : ∀ r, cnt r ss ≤ L.count r

theorem Writes.nil (L : List RPath) : Writes L [] := ⟨fun _ h => (nomatch h), fun _ => Nat.zero_le _⟩

theorem Writes.append {A B : List RPath} {a b : List Step} (ha : Writes A a) (hb : Writes B b) :
    Writes (A ++ B) (a ++ b) :=
  ⟨ha.kinds.append hb.kinds, fun r => by
    rw [cnt_append, List.count_append]; exact Nat.add_le_add (ha.count r) (hb.count r)⟩

theorem Writes.comm {A B : List RPath} {ss : List Step} (h : Writes (A ++ B) ss) : Writes (B ++ A) ss :=
  ⟨h.kinds, fun r => by rw [List.count_append, Nat.add_comm, ← List.count_append]; exact h.count r⟩

theorem Writes.silent {A : List RPath} {a b : List Step} (ha : Writes A a) (hb : Writes [] b) : Writes A (a ++ b) :=
  List.append_nil A ▸ ha.append hb

theorem Writes.ite {L : List RPath} (c : Prop) [Decidable c] {a b : List Step} (ha : Writes L a) (hb : Writes L b) :
    Writes L (if c then a else b) := by
  split <;> assumption

theorem Writes.single {s : Step} (hk : StepKindOK s) : Writes s.record.toList [s] :=
  ⟨fun _ h => List.mem_singleton.mp h ▸ hk, fun r => by
    rw [cnt_cons, cnt_nil]
    cases s.record with
    | none => exact Nat.le_refl 0
    | some r' => by_cases h : r' = r <;> simp [h]⟩

theorem Writes.within {L : List RPath} {ss : List Step} (h : Writes L ss) : Within L ss := by
  intro s hs r e
  have hpos : 0 < cnt r ss := Nat.pos_of_ne_zero fun h0 => (cnt_zero_iff r ss).mp h0 s hs e
  exact List.count_pos_iff.mp (Nat.lt_of_lt_of_le hpos (h.count r))

theorem writes_writeRec (fs : Fs) {r : RPath} {c : Content} (hk : StepKindOK (.put r c)) : Writes [r] (writeRec fs r c) :=
  Writes.ite _ (Writes.ite _ (Writes.single (s := .remove r) trivial) (Writes.nil _)) (Writes.single hk)

theorem writes_dbAssignTag (fs : Fs) (t p v f : Id) : Writes [.cfile p t] (dbAssignTag fs t p v f) :=
  Writes.ite _ (Writes.nil _) (writes_writeRec _ trivial)

theorem writes_dbUnassignTag (fs : Fs) (t p f : Id) : Writes [.cfile p t] (dbUnassignTag fs t p f) :=
  Writes.ite _ (Writes.nil _) (writes_writeRec _ trivial)

theorem writes_dbDeclare_head (fs fs' : Fs) (p v : Id) (es : List VEntry) :
    Writes [.vfile p v] ((if p ∈ fs.dirs then [] else [Step.mkdir p]) ++ writeRec fs' (.vfile p v) (.ver es)) :=
  (Writes.ite _ (Writes.nil []) (Writes.single (s := .mkdir p) trivial)).append (writes_writeRec fs' trivial)

theorem writes_dbDeclare (fs : Fs) (p v f : Id) (tag : Option Id) :
    Writes (.vfile p v :: tag.toList.map (.cfile p ·)) (dbDeclare fs p v f tag) := by
  refine (writes_dbDeclare_head fs _ p v _).append ?_
  cases tag with
  | none => exact Writes.nil _
  | some t => exact writes_dbAssignTag _ t p v f

theorem writes_unassignAll (p f : Id) (fs : Fs) (ts : List Id) :
    Writes (ts.map (.cfile p ·)) (unassignAll p f fs ts) := by
  induction ts generalizing fs with
  | nil => exact Writes.nil _
  | cons t rest ih => exact (writes_dbUnassignTag fs t p f).append (ih _)

theorem writes_dbUndeclare (fs : Fs) (p v f : Id) :
    Writes ([.vfile p v] ++ (findTags fs p v f).map (.cfile p ·)) (dbUndeclare fs p v f) :=
  -- the steps come in the order tags, version record, `rmdir`; `targets` lists the version record first
  Writes.ite _ (Writes.nil _) <|
    ((Writes.ite _ (writes_unassignAll p f fs _) (Writes.nil _)).append
      (Writes.ite _ (writes_writeRec (r := .vfile p v) (c := .ver _) _ trivial) (Writes.nil _))).comm.silent
      (Writes.ite _ (Writes.single (s := .rmdir p) trivial) (Writes.nil _))

/-- beyond its `targets`: a `declare` that assigns a tag may write the tag's chain record twice more (`Database.declare`
assigns it, then "delete all old occurrences of this tag … and set it in the proper place": known finding D11) -/
def again (fs : Fs) : Cmd → List RPath
  | .declare p _ f tag _ =>
    match declareTag fs p f tag with
    | some t => [.cfile p t, .cfile p t]
    | none => []
  | _ => []

theorem writes_steps (fs : Fs) (c : Cmd) : Writes (targets fs c ++ again fs c) (steps fs c) := by
  have hund : ∀ p v f, Writes ([.vfile p v] ++ (findTags fs p v f).map (.cfile p ·) ++ [])
      (if (!hasFlavorV (vread fs p v) f) = true then [] else dbUndeclare fs p v f) := fun p v f =>
    Writes.ite _ (Writes.nil _) ((List.append_nil _).symm ▸ writes_dbUndeclare fs p v f)
  cases c with
  | declare p v f tag force =>
    simp only [steps, targets, again]
    cases declareTag fs p f tag with
    | none => exact (Writes.ite _ (writes_dbDeclare fs p v f none) (Writes.nil _)).silent (Writes.nil _)
    | some t =>
      refine (Writes.ite _ (writes_dbDeclare fs p v f (some t)) (Writes.nil _)).append
        (Writes.append (A := [.cfile p t]) ?_ (writes_dbAssignTag _ t p v f))
      cases taggedVersion _ t p f with
      | none => exact Writes.nil _
      | some _ => exact writes_dbUnassignTag _ t p f
  | untag t p f v =>
    have hu := writes_dbUnassignTag fs t p f
    simp only [steps, targets, again]
    cases v with
    | none =>
      cases taggedVersion fs t p f with
      | none => exact Writes.nil _
      | some _ => exact hu
    | some v => exact Writes.ite _ (Writes.nil _) (Writes.ite _ hu (Writes.nil _))
  | undeclare p v f => exact hund p v f
  | undeclareAny p f =>
    simp only [steps, targets, again]
    cases soleVersion fs p f with
    | none => exact Writes.nil _
    | some v => exact hund p v f

theorem steps_within (fs : Fs) (c : Cmd) : Within (targets fs c) (steps fs c) := by
  have hag : ∀ r ∈ again fs c, r ∈ targets fs c := by
    cases c with
    | declare p v f tag force =>
      simp only [again, targets]
      cases declareTag fs p f tag with
      | none => nofun
      | some t => simp
    | _ => nofun
  exact fun s hs r e => (List.mem_append.mp ((writes_steps fs c).within s hs r e)).elim id (hag r)

/-! ## Which steps write a given record -/

theorem applySteps_append (fs : Fs) (a b : List Step) : applySteps fs (a ++ b) = applySteps (applySteps fs a) b :=
  List.foldl_append ..

theorem applySteps_cons (fs : Fs) (s : Step) (ss : List Step) : applySteps fs (s :: ss) = applySteps (applyStep fs s) ss :=
  rfl

theorem view_applyStep_other (fs : Fs) (s : Step) (r : RPath) (h : s.record ≠ some r) :
    (applyStep fs s).get (.main r) = fs.get (.main r) := by
  cases s with
  | mkdir p | rmdir p => simp only [applyStep, applyEff]; split <;> rfl
  | put r' c => exact get_set_other fs _ _ _ fun e => h (by cases e; rfl)
  | remove r' => exact get_del_other fs _ _ fun e => h (by cases e; rfl)

theorem always_none (ss : List Step) (r : RPath) (h : ∀ s ∈ ss, s.record ≠ some r) (fs : Fs) :
    Always applyStep (fun s => s.get (.main r) = fs.get (.main r)) fs ss :=
  Always.inv rfl fun x s hs hx => (view_applyStep_other x s r (h s hs)).trans hx

theorem view_applySteps_none (ss : List Step) (r : RPath) (h : ∀ s ∈ ss, s.record ≠ some r) (fs : Fs) :
    (applySteps fs ss).get (.main r) = fs.get (.main r) := (always_none ss r h fs).last

/-- record `r` reads in `s` as at the start (`fs`) or as after the whole run of `ss` -/
def OldOrNew (fs : Fs) (ss : List Step) (r : RPath) (s : Fs) : Prop :=
  read s r = read fs r ∨ read s r = read (applySteps fs ss) r

theorem OldOrNew.of_get_eq {fs s s' : Fs} {ss : List Step} {r : RPath} (h : OldOrNew fs ss r s)
    (e : s'.get (.main r) = s.get (.main r)) : OldOrNew fs ss r s' := by
  unfold OldOrNew read at h ⊢; rwa [e]

theorem OldOrNew.cons {fs x : Fs} {s : Step} {rest : List Step} {r : RPath} (h : OldOrNew (applyStep fs s) rest r x)
    (hs : s.record ≠ some r) : OldOrNew fs (s :: rest) r x := by
  unfold OldOrNew read at h ⊢; rwa [view_applyStep_other fs s r hs] at h

theorem single_writer (r : RPath) (ss : List Step) : cnt r ss ≤ 1 → ∀ fs : Fs, Always applyStep (OldOrNew fs ss r) fs ss := by
  induction ss with
  | nil => exact fun _ fs => Always.nil (Or.inl rfl)
  | cons s rest ih =>
    intro hc fs
    rw [cnt_cons] at hc
    refine Always.cons (Or.inl rfl) ?_
    by_cases hs : s.record = some r
    · -- the one writer: nothing after it touches `r`
      have hnone := (cnt_zero_iff r rest).mp (by rw [if_pos hs] at hc; omega)
      exact fun j => Or.inr (congrArg seenOf ((always_none rest r hnone _ j).trans (view_applySteps_none rest r hnone _).symm))
    · exact fun j => (ih (by rw [if_neg hs] at hc; omega) (applyStep fs s) j).cons hs

/-- `h j` in the terms of `applySteps`: `Always` unfolds to `List.foldl applyStep`, which `rw` with a fact about
`applySteps` does not match -/
theorem always_steps {P : Fs → Prop} {fs : Fs} {ss : List Step} (h : Always applyStep P fs ss) (j : Nat) :
    P (applySteps fs (ss.take j)) := h j

theorem always_writeRec {P : Fs → Prop} {fs : Fs} {r : RPath} {c : Content} (h0 : P fs)
    (h1 : P (applySteps fs (writeRec fs r c))) : Always applyStep P fs (writeRec fs r c) := by
  -- no step, or one
  revert h1
  unfold writeRec
  split
  · split <;> intro h1
    · exact (Always.nil h0).snoc h1
    · exact Always.nil h0
  · exact fun h1 => (Always.nil h0).snoc h1

/-! ## What the record writers leave; the flavor blocks of a chain file -/

theorem get_writeRec (fs : Fs) (r : RPath) (c : Content) :
    (applySteps fs (writeRec fs r c)).get (.main r) = if c.isEmpty then none else some (.complete c) := by
  unfold writeRec; split
  · split
    · exact get_del_same _ _
    · rename_i h; simpa [applySteps] using h
  · exact get_set_same _ _ _

theorem cread_writeRec (fs : Fs) (p t : Id) (es : List CEntry) :
    cread (applySteps fs (writeRec fs (.cfile p t) (.chain es))) p t = es := by
  rw [cread, get_writeRec]
  cases es <;> rfl

theorem tagOf_some (p v f t : Id) (x : FPath × FileC) (h : tagOf p v f x = some t) : x.1 = .main (.cfile p t) := by
  unfold tagOf at h
  split at h
  · split at h
    · rename_i hc
      simp only [Bool.and_eq_true, decide_eq_true_eq] at hc
      rw [← Option.some.inj h, hc.1]
    · cases h
  · cases h

theorem findTags_nodup (fs : Fs) (hn : (fs.files.map (·.1)).Nodup) (p v f : Id) : (findTags fs p v f).Nodup :=
  (List.pairwise_map.mp hn).filterMap _ fun a a' hne t ht t' ht' e =>
    hne (by rw [tagOf_some p v f t a ht, tagOf_some p v f t' a' ht', e])

theorem chainVersion_cons (e : CEntry) (r : List CEntry) (g : Id) :
    chainVersion (e :: r) g = if e.flavor = g then some e.version else chainVersion r g := by
  unfold chainVersion
  rw [List.find?_cons]
  by_cases h : e.flavor = g <;> simp [h]

theorem isStore_chain : IsStore CEntry.flavor CEntry.version chainVersion setVersionC dropFlavorC where
  get_eq es f := by unfold chainVersion; generalize List.find? _ _ = o; cases o <;> rfl
  -- a new block is appended unmarked; a replaced one is marked as modified
  set_nil f v := ⟨⟨f, v, false⟩, rfl, rfl, rfl⟩
  set_cons _ _ f v := ⟨⟨f, v, true⟩, rfl, rfl, rfl⟩
  del_nil _ := rfl
  del_cons _ _ _ := rfl

theorem chainVersion_none_iff (es : List CEntry) (f : Id) : chainVersion es f = none ↔ ∀ e ∈ es, e.flavor ≠ f := by
  simp [isStore_chain.get_eq]

theorem chainVersion_setVersionC (es : List CEntry) (f v g : Id) :
    chainVersion (setVersionC es f v) g = if g = f then some v else chainVersion es g :=
  isStore_chain.get_set es f g v

theorem chainVersion_dropFlavorC (es : List CEntry) (f g : Id) :
    chainVersion (dropFlavorC es f) g = if g = f then none else chainVersion es g :=
  isStore_chain.get_del es f g

theorem hasFlavorV_addFlavorV (es : List VEntry) (f : Id) : hasFlavorV (addFlavorV es f) f = true := by
  unfold hasFlavorV
  fun_induction addFlavorV es f <;> simp_all

theorem vread_congr (fs fs' : Fs) (p v : Id) (h : fs'.get (.main (.vfile p v)) = fs.get (.main (.vfile p v))) :
    vread fs' p v = vread fs p v := by
  simp [vread, h]

theorem vread_writeRec (fs : Fs) (p v : Id) (es : List VEntry) :
    vread (applySteps fs (writeRec fs (.vfile p v) (.ver es))) p v = es := by
  rw [vread, get_writeRec]
  cases es <;> rfl

theorem vread_applySteps_within {S : List RPath} {ss : List Step} (h : Within S ss) {p v : Id} (hr : RPath.vfile p v ∉ S)
    (fs : Fs) : vread (applySteps fs ss) p v = vread fs p v :=
  vread_congr _ _ p v (view_applySteps_none ss _ (fun s hs e => hr (h s hs _ e)) fs)

theorem vread_dbDeclare (fs : Fs) (p v f : Id) (tag : Option Id) :
    hasFlavorV (vread (applySteps fs (dbDeclare fs p v f tag)) p v) f = true := by
  cases tag with
  | none =>
    simp only [dbDeclare, applySteps_append]
    exact (congrArg (hasFlavorV · f) (vread_writeRec ..)).trans (hasFlavorV_addFlavorV _ f)
  | some t =>
    simp only [dbDeclare, applySteps_append]
    rw [vread_applySteps_within (writes_dbAssignTag _ t p v f).within (by simp), vread_writeRec]
    exact hasFlavorV_addFlavorV _ f

/-! ## `Eups.declare` with a tag -/

theorem dbDeclare_parts (fs : Fs) (p v f t : Id) :
    ∃ A : List Step, dbDeclare fs p v f (some t) = A ++ dbAssignTag (applySteps fs A) t p v f ∧ Writes [.vfile p v] A :=
  ⟨(if p ∈ fs.dirs then [] else [Step.mkdir p]) ++
    writeRec (applySteps fs (if p ∈ fs.dirs then [] else [Step.mkdir p])) (.vfile p v)
      (.ver (addFlavorV (vread (applySteps fs (if p ∈ fs.dirs then [] else [Step.mkdir p])) p v) f)),
    by simp only [dbDeclare, applySteps_append], writes_dbDeclare_head fs _ p v _⟩

/-- A `declare` that assigns tag `t`: steps that write the version record only; then — each possibly missing —
`Database.declare`'s own `assignTag` and the `unassignTag` of "delete all old occurrences of this tag"; then `assignTag`
"in the proper place", in a state where `(p, v, f)` is declared. -/
theorem declare_parts (fs : Fs) (p v f : Id) (tag : Option Id) (force : Bool) (t : Id)
    (htag : declareTag fs p f tag = some t) :
    ∃ A B C : List Step,
      steps fs (.declare p v f tag force) = A ++ B ++ C ++ dbAssignTag (applySteps fs (A ++ B ++ C)) t p v f ∧
      Writes [.vfile p v] A ∧
      (B = [] ∨ B = dbAssignTag (applySteps fs A) t p v f) ∧
      (C = [] ∨ C = dbUnassignTag (applySteps fs (A ++ B)) t p f) ∧
      hasFlavorV (vread (applySteps fs (A ++ B ++ C)) p v) f = true := by
  -- `Database.declare`, if it runs
  obtain ⟨A, B, hAB, hA, hB, hv⟩ : ∃ A B : List Step,
      (if (!hasFlavorV (vread fs p v) f || force) = true then dbDeclare fs p v f (some t) else []) = A ++ B ∧
      Writes [.vfile p v] A ∧ (B = [] ∨ B = dbAssignTag (applySteps fs A) t p v f) ∧
      hasFlavorV (vread (applySteps fs (A ++ B)) p v) f = true := by
    split
    · obtain ⟨A, hA, hw⟩ := dbDeclare_parts fs p v f t
      exact ⟨A, _, hA, hw, Or.inr rfl, hA ▸ vread_dbDeclare fs p v f (some t)⟩
    · rename_i hD
      simp only [Bool.or_eq_true, Bool.not_eq_true', not_or, Bool.not_eq_false] at hD
      exact ⟨[], [], rfl, Writes.nil _, Or.inl rfl, hD.1⟩
  simp only [steps, htag, hAB]
  cases taggedVersion (applySteps fs (A ++ B)) t p f with
  | none => exact ⟨A, B, [], by simp only [List.append_nil]; rfl, hA, hB, Or.inl rfl, by simpa using hv⟩
  | some _ =>
    refine ⟨A, B, _, by simp only [List.append_assoc, applySteps_append], hA, hB, Or.inr rfl, ?_⟩
    rw [applySteps_append _ (A ++ B), vread_applySteps_within (writes_dbUnassignTag _ t p f).within (by simp)]
    exact hv

/-- what each operation of such a `declare` keeps holds after every prefix of its steps -/
theorem declare_walk (P : Fs → Prop) (fs : Fs) (p v f : Id) (tag : Option Id) (force : Bool) (t : Id)
    (htag : declareTag fs p f tag = some t)
    (hnone : ∀ A : List Step, (∀ s ∈ A, s.record ≠ some (.cfile p t)) → Always applyStep P fs A)
    (hassign : ∀ s, P s → Always applyStep P s (dbAssignTag s t p v f))
    (hunassign : ∀ s, P s → Always applyStep P s (dbUnassignTag s t p f)) :
    Always applyStep P fs (steps fs (.declare p v f tag force)) := by
  obtain ⟨A, B, C, e, hA, hB, hC, _⟩ := declare_parts fs p v f tag force t htag
  rw [e]
  refine (((hnone A fun s hs e' => nomatch List.mem_singleton.mp (hA.within s hs _ e')).append fun h => ?_).append
    fun h => ?_).append fun h => hassign _ h
  · rcases hB with rfl | rfl
    · exact Always.nil h
    · exact hassign _ h
  · rcases hC with rfl | rfl
    · exact Always.nil h
    · exact hunassign _ h

end EupsModel.FsEff
