import EupsModel.Model.Cond
/-! C11, condition clause, token level: the monad laws of `Res`; `Ev`, a big-step relation for the repaired evaluator
indexed by an upper bound of the fuel needed, and `sound`: a derivation of height `h` is realised by the fuel-based
functions for every fuel `≥ h`. -/
namespace EupsModel.Cond

theorem Res.ok_bind {α β : Type} (a : α) (k : α → Res β) : (Res.ok a).bind k = k a := rfl

theorem Res.bind_ok {α : Type} (x : Res α) : (x.bind fun a => .ok a) = x := by cases x <;> rfl

theorem Res.bind_assoc {α β γ : Type} (x : Res α) (f : α → Res β) (g : β → Res γ) :
    (x.bind f).bind g = x.bind fun a => (f a).bind g := by cases x <;> rfl

inductive Cfg
  | prim (ts : List Val) | term (ts : List Val) | andLoop (l : Val) (ts : List Val) | andE (ts : List Val)
  | orLoop (l : Val) (ts : List Val) | orE (ts : List Val)

def run (env : Env) (f : Nat) : Cfg → R
  | .prim ts => prim env f ts | .term ts => term env f ts | .andLoop l ts => andLoop env f l ts
  | .andE ts => andE env f ts | .orLoop l ts => orLoop env f l ts | .orE ts => orE env f ts

/-- `Ev env c v r h`: started in configuration `c` the evaluator returns `v` and leaves the tokens `r`, and
fuel `h` is enough.  Only the rules needed for `==`, `!=`, `&&`, `||` and parentheses are listed. -/
inductive Ev (env : Env) : Cfg → Val → List Val → Nat → Prop
  | word {ts nx v r h} : peek env ts = .ok nx → nx ≠ .s sLp → nx ≠ .s sBang → nx ≠ .s sNot →
      next env ts = .ok (v, r) → 0 < h → Ev env (.prim ts) v r h
  | paren {ts p r1 v r2 r3 h h1} : peek env ts = .ok (.s sLp) → next env ts = .ok (p, r1) →
      Ev env (.orE r1) v r2 h1 → next env r2 = .ok (.s sRp, r3) → h1 < h → Ev env (.prim ts) v r3 h
  | teq {ts l r op r1 x r2 h h1 h2} : Ev env (.prim ts) l r h1 → next env r = .ok (op, r1) → opOf op = .eq →
      Ev env (.prim r1) x r2 h2 → h1 < h → h2 < h → Ev env (.term ts) (.b (eqOrIn l x)) r2 h
  | tne {ts l r op r1 x r2 h h1 h2} : Ev env (.prim ts) l r h1 → next env r = .ok (op, r1) → opOf op = .ne →
      Ev env (.prim r1) x r2 h2 → h1 < h → h2 < h → Ev env (.term ts) (.b (!eqOrIn l x)) r2 h
  | tstop {ts l r op r1 h h1} : Ev env (.prim ts) l r h1 → next env r = .ok (op, r1) →
      (opOf op = .or ∨ opOf op = .and ∨ opOf op = .other) → h1 < h → Ev env (.term ts) l (push op r1) h
  | teof {ts l r op r1 h h1} : Ev env (.prim ts) l r h1 → next env r = .ok (op, r1) → opOf op = .eof →
      h1 < h → Ev env (.term ts) l r1 h
  | astep {l ts op r x r2 v' r' h h1 h2} : next env ts = .ok (op, r) → opOf op = .and →
      Ev env (.term r) x r2 h1 → Ev env (.andLoop (pyAnd l x) r2) v' r' h2 → h1 < h → h2 < h →
      Ev env (.andLoop l ts) v' r' h
  | astop {l ts op r h} : next env ts = .ok (op, r) → opOf op ≠ .and → 0 < h → Ev env (.andLoop l ts) l (push op r) h
  | ande {ts l r v' r' h h1 h2} : Ev env (.term ts) l r h1 → Ev env (.andLoop l r) v' r' h2 → h1 < h → h2 < h →
      Ev env (.andE ts) v' r' h
  | ostep {l ts op r x r2 v' r' h h1 h2} : next env ts = .ok (op, r) → opOf op = .or →
      Ev env (.andE r) x r2 h1 → Ev env (.orLoop (pyOr l x) r2) v' r' h2 → h1 < h → h2 < h →
      Ev env (.orLoop l ts) v' r' h
  | ostop {l ts op r h} : next env ts = .ok (op, r) → opOf op ≠ .or → 0 < h → Ev env (.orLoop l ts) l (push op r) h
  | ore {ts l r v' r' h h1 h2} : Ev env (.andE ts) l r h1 → Ev env (.orLoop l r) v' r' h2 → h1 < h → h2 < h →
      Ev env (.orE ts) v' r' h

theorem Ev.weaken {env : Env} {c : Cfg} {v : Val} {r : List Val} {h h' : Nat} (e : Ev env c v r h) (hle : h ≤ h') :
    Ev env c v r h' := by
  cases e with
  | word a b c d e f => exact .word a b c d e (by omega)
  | paren a b c d e => exact .paren a b c d (by omega)
  | teq a b c d e f => exact .teq a b c d (by omega) (by omega)
  | tne a b c d e f => exact .tne a b c d (by omega) (by omega)
  | tstop a b c d => exact .tstop a b c (by omega)
  | teof a b c d => exact .teof a b c (by omega)
  | astep a b c d e f => exact .astep a b c d (by omega) (by omega)
  | astop a b c => exact .astop a b (by omega)
  | ande a b c d => exact .ande a b (by omega) (by omega)
  | ostep a b c d e f => exact .ostep a b c d (by omega) (by omega)
  | ostop a b c => exact .ostop a b (by omega)
  | ore a b c d => exact .ore a b (by omega) (by omega)

/-- every rule has a positive height, so the fuel is some `k + 1` and the function takes the step of the rule; the
premises give the calls at fuel `k` -/
theorem sound {env : Env} {c : Cfg} {v : Val} {r : List Val} {h : Nat} (e : Ev env c v r h) :
    ∀ f, h ≤ f → run env f c = .ok (v, r) := by
  induction e with
    (intro f hf; obtain ⟨k, rfl⟩ := Nat.exists_eq_succ_of_ne_zero (n := f) (by omega); dsimp only [run] at *)
  | word hp h1 h2 h3 hn hh => simp [prim, hp, Res.bind, h1, h2, h3, hn]
  | paren hp hn _ hn2 hh ih => simp [prim, hp, Res.bind, hn, ih k (by omega), hn2]
  | teq _ hn ho _ hh1 hh2 ih1 ih2 => simp [term, ih1 k (by omega), Res.bind, hn, ho, ih2 k (by omega)]
  | tne _ hn ho _ hh1 hh2 ih1 ih2 => simp [term, ih1 k (by omega), Res.bind, hn, ho, ih2 k (by omega)]
  | tstop _ hn ho hh ih => rcases ho with ho | ho | ho <;> simp [term, ih k (by omega), Res.bind, hn, ho]
  | teof _ hn ho hh ih => simp [term, ih k (by omega), Res.bind, hn, ho]
  | astep hn ho _ _ hh1 hh2 ih1 ih2 => simp [andLoop, Res.bind, hn, ho, ih1 k (by omega), ih2 k (by omega)]
  | astop hn ho _ => simp [andLoop, Res.bind, hn]     -- `ho`, taken from the context, sends the `match` to its default
  | ande _ _ hh1 hh2 ih1 ih2 => simp [andE, Res.bind, ih1 k (by omega), ih2 k (by omega)]
  | ostep hn ho _ _ hh1 hh2 ih1 ih2 => simp [orLoop, Res.bind, hn, ho, ih1 k (by omega), ih2 k (by omega)]
  | ostop hn ho _ => simp [orLoop, Res.bind, hn]
  | ore _ _ hh1 hh2 ih1 ih2 => simp [orE, Res.bind, ih1 k (by omega), ih2 k (by omega)]

end EupsModel.Cond
