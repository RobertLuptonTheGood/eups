/-! Facts about `List`, and a few about `Except`, in the form their users ask for.  A fact stands here when lemmas of two
or more groups need it and core (Lean 4.33) does not state it; `foldl_invariant` is the one exception, core's
`List.foldlRecOn` read for a property of the accumulator, kept for its implicit binders.  In the order of the file: runs of
elements that pass a test, `isPrefixOf`, `find?` and `lookup`, `map` and `flatMap`, `foldl`, functions that keep first
occurrences, `Except`. -/
namespace EupsModel
variable {α : Type} {p : α → Bool}

/-! ## a run of elements that pass a test, and what stops it -/

/-- a run of elements that pass the test, followed by nothing or by an element that fails it -/
theorem span_append {l d : List α} (hl : ∀ c ∈ l, p c = true) (hd : ∀ c ∈ d.head?, p c = false) :
    (l ++ d).takeWhile p = l ∧ (l ++ d).dropWhile p = d := by
  rw [List.takeWhile_append_of_pos hl, List.dropWhile_append_of_pos hl]
  cases d with
  | nil => simp
  | cons c cs => simp [hd c rfl]

theorem span_append_cons {l : List α} (c : α) (r : List α) (hl : ∀ x ∈ l, p x = true) (hc : p c = false) :
    (l ++ c :: r).takeWhile p = l ∧ (l ++ c :: r).dropWhile p = c :: r :=
  span_append hl (by simpa using hc)

theorem takeWhile_all {l : List α} (h : ∀ x ∈ l, p x = true) : l.takeWhile p = l := by
  simpa using (span_append (d := []) h (by simp)).1

theorem dropWhile_all {l : List α} (h : ∀ x ∈ l, p x = true) : l.dropWhile p = [] := by
  simpa using (span_append (d := []) h (by simp)).2

theorem dropWhile_head {l : List α} (h : ∀ c ∈ l.head?, p c = false) : l.dropWhile p = l :=
  (span_append (l := []) (by simp) h).2

theorem mem_takeWhile_pos {l : List α} {x : α} (h : x ∈ l.takeWhile p) : p x = true := by
  induction l with
  | nil => simp at h
  | cons a as ih =>
    rw [List.takeWhile_cons] at h
    split at h
    · rcases List.mem_cons.mp h with rfl | h'
      · assumption
      · exact ih h'
    · simp at h

/-- the test `· != c` holds throughout a list without `c` (and `· == c` fails throughout: `Text.free_of_not_mem`) -/
theorem all_ne [BEq α] [LawfulBEq α] {c : α} {l : List α} (h : c ∉ l) : ∀ x ∈ l, (x != c) = true :=
  fun _ hx => bne_iff_ne.mpr fun e => h (e ▸ hx)

/-- two elements that a test tells apart are different -/
theorem ne_of_class {c d : α} (hc : p c = true) (hd : p d = false) : c ≠ d :=
  fun e => by simp [e, hd] at hc

/-! ## `isPrefixOf` -/

theorem isPrefixOf_append_self [BEq α] [LawfulBEq α] (a b : List α) : a.isPrefixOf (a ++ b) = true :=
  List.isPrefixOf_iff_prefix.mpr (List.prefix_append a b)

theorem isPrefixOf_append_false [BEq α] [LawfulBEq α] (a x b : List α) (h : a.isPrefixOf b = false) :
    (a ++ x).isPrefixOf b = false := by
  rw [← Bool.not_eq_true, List.isPrefixOf_iff_prefix] at h ⊢
  exact fun hp => h ((List.prefix_append a x).trans hp)

theorem isPrefixOf_head_ne [BEq α] [LawfulBEq α] (c x : α) (ds xs : List α) (h : x ≠ c) :
    (c :: ds).isPrefixOf (x :: xs) = false := by
  simp [List.isPrefixOf, Ne.symm h]

theorem isPrefixOf_not_mem [BEq α] [LawfulBEq α] {c : α} (ds : List α) :
    ∀ {s : List α}, c ∉ s → (c :: ds).isPrefixOf s = false
  | [], _ => rfl
  | x :: xs, h => isPrefixOf_head_ne c x ds xs fun e => h (e ▸ List.mem_cons_self ..)

/-- whether a pattern without `c` matches is settled before the first `c` of the text -/
theorem isPrefixOf_stop [BEq α] [LawfulBEq α] {c : α} :
    ∀ {p : List α} (w t : List α), c ∉ p → p.isPrefixOf (w ++ c :: t) = p.isPrefixOf w
  | [], _, _, _ => by simp
  | a :: p, [], t, hc => isPrefixOf_head_ne a c p t fun e => hc (e ▸ List.mem_cons_self ..)
  | a :: p, b :: w, t, hc => by
    simp [List.isPrefixOf, isPrefixOf_stop w t fun m => hc (List.mem_cons_of_mem _ m)]

/-! ## `find?`, `lookup` -/

/-- `find?` answers `a` when `a` is the only element of the list that passes the test -/
theorem find?_eq_some_of_unique {l : List α} {a : α} (hu : ∀ y ∈ l, p y = true → y = a) (ha : a ∈ l) (hp : p a = true) :
    l.find? p = some a := by
  cases h : l.find? p with
  | none => exact absurd hp (List.find?_eq_none.mp h a ha)
  | some b => rw [hu b (List.mem_of_find?_eq_some h) (List.find?_some h)]

theorem mem_of_lookup_eq_some {β γ : Type} [BEq β] [LawfulBEq β] {l : List (β × γ)} {k : β} {v : γ}
    (h : l.lookup k = some v) : (k, v) ∈ l := by
  obtain ⟨l₁, l₂, rfl, _⟩ := List.lookup_eq_some_iff.mp h
  exact List.mem_append_right _ (List.mem_cons_self ..)

/-! ## `map`, `flatMap` -/

theorem map_eq_self {f : α → α} {l : List α} (h : ∀ c ∈ l, f c = c) : l.map f = l := by
  simpa using List.map_congr_left (g := id) h

theorem flatMap_congr' {β : Type} {f g : α → List β} {l : List α} (h : ∀ x ∈ l, f x = g x) :
    l.flatMap f = l.flatMap g := by
  simp only [List.flatMap_def, List.map_congr_left h]

theorem flatMap_rel {β γ : Type} {R : List β → List γ → Prop} (h0 : R [] [])
    (happ : ∀ {a c : List β} {b d : List γ}, R a b → R c d → R (a ++ c) (b ++ d)) {f : α → List β} {g : α → List γ} :
    ∀ {xs : List α}, (∀ x ∈ xs, R (f x) (g x)) → R (xs.flatMap f) (xs.flatMap g)
  | [], _ => h0
  | x :: xs, h => by
    simpa using happ (h x (List.mem_cons_self ..)) (flatMap_rel h0 happ fun y hy => h y (List.mem_cons_of_mem _ hy))

/-! ## `foldl` -/

/-- what holds at the start of a fold and is kept by every step over an element of the list holds at its end -/
theorem foldl_invariant {β : Type} {P : β → Prop} {f : β → α → β} {l : List α} {b : β} (h0 : P b)
    (hs : ∀ b, ∀ a ∈ l, P b → P (f b a)) : P (l.foldl f b) :=
  List.foldlRecOn l f h0 fun b hb a ha => hs b a ha hb

theorem foldl_fixed {β : Type} {f : β → α → β} {l : List α} {b : β} (h : ∀ a ∈ l, f b a = b) : l.foldl f b = b :=
  foldl_invariant (P := (· = b)) rfl fun _ a ha hx => hx ▸ h a ha

section keepFirst
/-! `f` keeps the first occurrence of every element: the models write this function out once each (`Topo.dedup`,
`PathAlg.uniq`, `Cache.dedup`, `LockCmd.dedup`), and its two equations are all that is known of it here. -/
variable [BEq α] [LawfulBEq α] {f : List α → List α} (h0 : f [] = [])
  (hc : ∀ x xs, f (x :: xs) = x :: (f xs).filter (· != x))
include h0 hc

theorem mem_keepFirst (l : List α) (a : α) : a ∈ f l ↔ a ∈ l := by
  induction l with
  | nil => simp [h0]
  | cons x xs ih =>
    simp only [hc, List.mem_cons, List.mem_filter, ih]
    by_cases h : a = x <;> simp [h]

theorem nodup_keepFirst (l : List α) : (f l).Nodup := by
  induction l with
  | nil => simp [h0]
  | cons x xs ih =>
    simp only [hc, List.nodup_cons, List.mem_filter]
    exact ⟨by simp, ih.filter _⟩

end keepFirst

/-! ## what an `Except` computation that succeeded (or failed) came from -/

theorem map_eq_ok_iff {ε β γ : Type} {f : β → γ} {x : Except ε β} {c : γ} :
    x.map f = .ok c ↔ ∃ b, x = .ok b ∧ f b = c := by
  cases x <;> simp [Except.map]

theorem map_eq_error_iff {ε α β : Type} {f : α → β} {x : Except ε α} {e : ε} :
    x.map f = .error e ↔ x = .error e := by
  cases x <;> simp [Except.map]

theorem bind_eq_ok {ε α β : Type} {x : Except ε α} {f : α → Except ε β} {b : β} :
    (x >>= f) = .ok b ↔ ∃ a, x = .ok a ∧ f a = .ok b := by
  cases x <;> simp [bind, Except.bind]

theorem mapM_cons_ok {ε α β : Type} {f : α → Except ε β} {a : α} {l : List α} {cs : List β}
    (h : (a :: l).mapM f = .ok cs) : ∃ b bs, f a = .ok b ∧ l.mapM f = .ok bs ∧ cs = b :: bs := by
  simp only [List.mapM_cons, bind_eq_ok] at h
  obtain ⟨b, hb, bs, hbs, h⟩ := h
  exact ⟨b, bs, hb, hbs, by cases h; rfl⟩

theorem mapM_ok_mem {ε α β : Type} {f : α → Except ε β} {l : List α} {cs : List β} (h : l.mapM f = .ok cs) :
    ∀ c ∈ cs, ∃ a ∈ l, f a = .ok c := by
  induction l generalizing cs with
  | nil => simp [pure, Except.pure] at h; subst h; simp
  | cons a rest ih =>
    obtain ⟨b, bs, ha, hr, rfl⟩ := mapM_cons_ok h
    intro c hc
    rcases List.mem_cons.mp hc with rfl | hc
    · exact ⟨a, by simp, ha⟩
    · obtain ⟨x, hx, hfx⟩ := ih hr c hc
      exact ⟨x, by simp [hx], hfx⟩

end EupsModel
