import EupsModel.Lemmas.VroWalk
import EupsModel.Lemmas.VroDefault
/-! The complete reading of the VRO `selectVRO` builds (default configuration): what the walk meets is the -t tags in
command-line order, then `version` `versionExpr`, then the -T tags in command-line order, then `current` (`walk_selected`);
and the first -t tag that designates a version answers whatever follows it (`pretag_first_designating`).  In front of
that, for any VRO: what a run of tag entries answers (`firstDesignating`, `walk_tags_append`), and which entries may be
struck without changing the walk (`walk_filter_skips`, `walk_uniqFirst`). -/
namespace EupsModel.Vro

/-- the first tag of the list that designates a version (`key t` = the name the chain records of `t` are kept under) -/
def firstDesignating (C : Ctx) (r : Req) (key : Str → Str) : List Str → Option Hit
  | [] => none
  | t :: ts =>
    match lookupTag C.db (key t) r.name r.flavor with
    | some p => some ⟨p, t, t⟩
    | none => firstDesignating C r key ts

theorem firstDesignating_eq (C : Ctx) (r : Req) (key : Str → Str) (l : List Str) :
    firstDesignating C r key l = l.findSome? fun t => (lookupTag C.db (key t) r.name r.flavor).map (⟨·, t, t⟩) := by
  induction l with
  | nil => rfl
  | cons t ts ih =>
    rw [firstDesignating, List.findSome?_cons, ih]
    cases lookupTag C.db (key t) r.name r.flavor <;> rfl

theorem firstDesignating_append (C : Ctx) (r : Req) (key : Str → Str) (l m : List Str) :
    firstDesignating C r key (l ++ m) = (firstDesignating C r key l).or (firstDesignating C r key m) := by
  simp only [firstDesignating_eq, List.findSome?_append]

theorem firstDesignating_none_of {C : Ctx} {r : Req} {key : Str → Str} {l : List Str}
    (h : ∀ t ∈ l, lookupTag C.db (key t) r.name r.flavor = none) : firstDesignating C r key l = none := by
  rw [firstDesignating_eq, List.findSome?_eq_none_iff]
  intro t ht; rw [h t ht]; rfl

theorem walk_tags_append (C : Ctx) (r : Req) (key : Str → Str) (l rest : List Str)
    (h : ∀ t ∈ l, IsTagEntry C t (key t)) :
    walk C r (l ++ rest) =
      match firstDesignating C r key l with
      | some hit => .ok (some hit)
      | none => walk C r rest := by
  induction l with
  | nil => rfl
  | cons t ts ih =>
    have ht := h t (by simp)
    simp only [List.cons_append, firstDesignating]
    cases hl : lookupTag C.db (key t) r.name r.flavor with
    | none =>
      have : lookupEntry C r t (ts ++ rest) = .ok .skip := by rw [lookupEntry_tagKey _ ht, hl]
      rw [walk_cons_skip this]
      exact ih (fun x hx => h x (List.mem_cons_of_mem _ hx))
    | some p =>
      have : lookupEntry C r t (ts ++ rest) = .ok (.hit p t) := by rw [lookupEntry_tagKey _ ht, hl]
      rw [walk_cons_hit this]

theorem walk_tags (C : Ctx) (r : Req) (key : Str → Str) (l : List Str) (h : ∀ t ∈ l, IsTagEntry C t (key t)) :
    walk C r l = .ok (firstDesignating C r key l) := by
  have := walk_tags_append C r key l [] h
  rw [List.append_nil] at this
  rw [this]
  cases firstDesignating C r key l <;> rfl

/-! ## striking entries from the VRO -/

theorem vtSame_filter (q : Str → Bool) (hq : ∀ e, isVT e = true → q e = true) (l : List Str) : vtSame l (l.filter q) :=
  vtSame_of_mem (fun x hv => by simp [List.mem_filter, hq x hv])

theorem walk_filter_skips (C : Ctx) (r : Req) (sk : Str → Bool) (l : List Str)
    (hs : ∀ e ∈ l, sk e = true → Skips C r e) (hvt : ∀ e, isVT e = true → sk e = false) :
    walk C r l = walk C r (l.filter (fun e => !sk e)) := by
  induction l with
  | nil => rfl
  | cons e rest ih =>
    have ih' := ih (fun x hx => hs x (List.mem_cons_of_mem _ hx))
    cases hsk : sk e with
    | true =>
      simp only [List.filter_cons, hsk, Bool.not_true, Bool.false_eq_true, if_false]
      rw [walk_cons_skip (hs e (by simp) hsk rest)]
      exact ih'
    | false =>
      simp only [List.filter_cons, hsk, Bool.not_false, if_true]
      have hsame := vtSame_filter (fun e => !sk e) (by intro x hx; simp [hvt x hx]) rest
      exact walk_cons_congr (lookupEntry_congr C r e hsame) (fun _ => ih')

/-- when the walk reaches a repetition of an entry whose answer does not depend on what follows, the first occurrence has said
"continue", and so does the repetition -/
theorem walk_uniqFirst (C : Ctx) (r : Req) (l : List Str)
    (hi : ∀ e ∈ l, isVT e = false → Indep C r e) (hnd : (l.filter isVT).Nodup) :
    walk C r (uniqFirst l) = walk C r l := by
  induction l with
  | nil => rfl
  | cons e rest ih =>
    have hndr : (rest.filter isVT).Nodup := by
      cases hv : isVT e
      · simpa [List.filter_cons, hv] using hnd
      · have : (e :: rest.filter isVT).Nodup := by simpa [List.filter_cons, hv] using hnd
        exact (List.nodup_cons.mp this).2
    have ih' := ih (fun x hx => hi x (List.mem_cons_of_mem _ hx)) hndr
    -- a version entry of `rest` is not `e`: version entries are listed once
    have hne : ∀ x ∈ rest, isVT x = true → x ≠ e := by
      intro x hx hv hxe
      subst hxe
      have : (x :: rest.filter isVT).Nodup := by simpa [List.filter_cons, hv] using hnd
      exact (List.nodup_cons.mp this).1 (List.mem_filter.mpr ⟨hx, hv⟩)
    have hsame : vtSame ((uniqFirst rest).filter (· != e)) rest := vtSame_of_mem (fun x hv => by
      simp only [List.mem_filter, mem_uniqFirst]
      exact ⟨fun h => h.1, fun h => ⟨h, by simpa using hne x h hv⟩⟩)
    rw [uniqFirst]
    refine walk_cons_congr (lookupEntry_congr C r e hsame) (fun hsk => ?_)
    rw [← ih']
    cases hv : isVT e
    · -- `e` said "continue" here, so it does wherever it stands again: strike it
      have hS : Skips C r e := fun post => (hi e (by simp) hv post _).trans hsk
      exact (walk_filter_skips C r (· == e) (uniqFirst rest) (fun x _ hx => by rw [beq_iff_eq.mp hx]; exact hS)
        (fun x hx => Bool.eq_false_iff.mpr (fun h => by rw [beq_iff_eq.mp h, hv] at hx; cases hx))).symm
    · rw [List.filter_eq_self.mpr]
      intro x hx
      have hxr := (mem_uniqFirst x rest).mp hx
      have : x ≠ e := fun hxe => hne e (hxe ▸ hxr) hv rfl
      simpa using this

/-! ## the VRO of the default configuration -/

/-- the words of the default VRO that are neither tags nor version entries -/
def fixedSkip (e : Str) : Bool := e == kKeep || e == kTypeExact || e == kCommandLine

theorem fixedSkip_goodTag {c : VroCfg} {t : Str} (g : GoodTag c t) : fixedSkip t = false := by
  simp [fixedSkip, g.ne_pseudo (k := kKeep) (by decide), g.ne_typeExact, g.ne_pseudo (k := kCommandLine) (by decide)]

theorem filter_fixed_placed {c : VroCfg} (keep : Bool) {tags post : List Str}
    (ht : ∀ t ∈ tags, GoodTag c t) (hp : ∀ t ∈ post, GoodTag c t) :
    (placed keep tags post).filter (fun e => !fixedSkip e) = tags ++ ([kVersion, kVersionExpr] ++ (post ++ [kCurrent])) := by
  have hid : ∀ l : List Str, (∀ t ∈ l, GoodTag c t) → l.filter (fun e => !fixedSkip e) = l := by
    intro l hl
    apply List.filter_eq_self.mpr
    intro x hx
    simp [fixedSkip_goodTag (hl x hx)]
  have hk : (keepPart keep).filter (fun e => !fixedSkip e) = [] := by cases keep <;> decide
  have h1 : [kTypeExact, kCommandLine].filter (fun e => !fixedSkip e) = [] := by decide
  have h2 : [kVersion, kVersionExpr].filter (fun e => !fixedSkip e) = [kVersion, kVersionExpr] := by decide
  have h3 : [kCurrent].filter (fun e => !fixedSkip e) = [kCurrent] := by decide
  simp only [placed, List.filter_append, hk, hid tags ht, hid post hp, h1, h2, h3, List.nil_append, List.append_assoc]

theorem skips_fixed {C : Ctx} {r : Req} (hr : r.already = none) {e : Str}
    (he : e = kTypeExact ∨ e = kCommandLine) : Skips C r e := by
  intro post
  rcases he with rfl | rfl
  · exact lookupEntry_typeExact _
  · exact lookupEntry_commandLine_fresh _ hr

theorem skips_keep {C : Ctx} {r : Req} (hr : r.already = none) (hdepth : 0 < r.depth) : Skips C r kKeep :=
  fun _ => lookupEntry_keep_fresh _ hr hdepth

/-- `hkeep`: with `--keep` at the top level the `keep` entry is looked up as a tag named `keep` — excluded. -/
theorem walk_selected {c : VroCfg} {tags post : List Str} (inexact : Bool)
    (ht : ∀ t ∈ tags, GoodTag c t) (hp : ∀ t ∈ post, GoodTag c t)
    (C : Ctx) (r : Req) (hr : r.already = none) (hkeep : c.keep = false ∨ 0 < r.depth)
    (key : Str → Str) (htag : ∀ t ∈ tags ++ post ++ [kCurrent], IsTagEntry C t (key t)) :
    walk C r (inexF inexact (uniqFirst (placed c.keep tags post))) =
      walk C r (tags ++ ([kVersion, kVersionExpr] ++ (post ++ [kCurrent]))) := by
  have hvt : ∀ e, isVT e = true → fixedSkip e = false := by
    intro e he
    rcases isVT_cases he with rfl | rfl | rfl <;> decide
  have hskip : ∀ e ∈ placed c.keep tags post, fixedSkip e = true → Skips C r e := by
    intro e he hf
    have : e = kKeep ∨ e = kTypeExact ∨ e = kCommandLine := by simpa [fixedSkip, or_assoc] using hf
    rcases this with rfl | h
    · rcases hkeep with hk | hdep
      · -- `keep` is not on the list: none of the eight kinds of entry (`mem_placed`) is it
        rcases mem_placed.mp he with ⟨h, _⟩ | h | h | h | h | h | h | h
        · rw [hk] at h; cases h
        · exact absurd h (by decide)
        · exact absurd h (by decide)
        · exact absurd rfl ((ht _ h).ne_pseudo (k := kKeep) (by decide))
        · exact absurd h (by decide)
        · exact absurd h (by decide)
        · exact absurd rfl ((hp _ h).ne_pseudo (k := kKeep) (by decide))
        · exact absurd h (by decide)
      · exact skips_keep hr hdep
    · exact skips_fixed hr h
  -- the fixed words are struck first (`type:exact`, which `--inexact` strikes, is one of them), so that what is left to
  -- deduplicate is tags and the two version entries
  have hfil : (inexF inexact (uniqFirst (placed c.keep tags post))).filter (fun e => !fixedSkip e)
      = uniqFirst (tags ++ ([kVersion, kVersionExpr] ++ (post ++ [kCurrent]))) := by
    rw [← filter_fixed_placed c.keep ht hp, uniqFirst_filter]
    unfold inexF
    split
    · rw [List.filter_filter]
      refine List.filter_congr fun e _ => ?_
      by_cases h : e = kTypeExact
      · subst h; decide
      · simp [h]
    · rfl
  rw [walk_filter_skips C r fixedSkip _ (fun e he => hskip e ((mem_uniqFirst e _).mp (mem_inexF.mp he).1)) hvt, hfil]
  have hid : ∀ l : List Str, (∀ t ∈ l, GoodTag c t) → l.filter isVT = [] := fun l hl =>
    List.filter_eq_nil_iff.mpr fun x hx => by simp [(hl x hx).isVT]
  refine walk_uniqFirst C r _ (fun e he hv => indep_tagEntry (htag e ?_)) ?_
  · simp only [List.mem_append, List.mem_cons, List.not_mem_nil, or_false] at he ⊢
    rcases he with h | (rfl | rfl) | h | rfl
    · exact .inl (.inl h)
    · cases hv
    · cases hv
    · exact .inl (.inr h)
    · exact .inr rfl
  · simp only [List.filter_append, hid _ ht, hid _ hp, List.nil_append]
    decide +kernel

/-! ## the first -t tag that designates a version answers -/

theorem beforeP_selected {c : VroCfg} (keep inexact : Bool) {tags ta tb post : List Str} {t : Str}
    (hsplit : tags = ta ++ t :: tb) (ht : ∀ t ∈ tags, GoodTag c t) :
    BeforeP (fun x => x ∈ [kKeep, kTypeExact, kCommandLine] ∨ x ∈ ta) t
      (inexF inexact (uniqFirst (placed keep tags post))) := by
  subst hsplit
  refine BeforeP.inexF (BeforeP.uniqFirst ?_) inexact (ht t (by simp)).ne_typeExact
  refine ⟨keepPart keep ++ [kTypeExact, kCommandLine] ++ ta, tb ++ [kVersion, kVersionExpr] ++ post ++ [kCurrent],
    by simp [placed], ?_⟩
  intro x hx
  simp only [List.mem_append, List.mem_cons, List.not_mem_nil, or_false] at hx
  rcases hx with (hx | hx) | hx
  · rw [eq_keep_of_mem_keepPart hx]; simp
  · rcases hx with rfl | rfl <;> simp
  · right; exact hx

theorem find_selected (c : VroCfg) (a : VroArgs) (d : DefaultCfg c)
    (ht : ∀ t ∈ a.tags, GoodTag c t) (hp : ∀ t ∈ a.postTags, GoodTag c t)
    (out : VroOut) (hsel : selectVRO c a = .ok out)
    (C : Ctx) (r : Req) (hr : r.already = none) (hkeep : c.keep = false ∨ 0 < r.depth)
    (key : Str → Str) (htag : ∀ t ∈ a.tags ++ a.postTags ++ [kCurrent], IsTagEntry C t (key t)) :
    find C r out.vro =
      match firstDesignating C r key a.tags with
      | some hit => .ok (some hit)
      | none => walk C r ([kVersion, kVersionExpr] ++ (a.postTags ++ [kCurrent])) := by
  rw [selectVRO_default_eq c d a ht hp] at hsel
  cases hsel
  rw [find_eq_walk _ hr, walk_selected a.inexact ht hp C r hr hkeep key htag,
    walk_tags_append C r key a.tags _ (fun t h => htag t (by simp [h]))]

/-- not a corollary of `find_selected`: only the -t tags need be tag entries of `C`, since what stands in front of the first
designating one is `keep`, `type:exact`, `commandLine` and -t tags -/
theorem pretag_first_designating (c : VroCfg) (a : VroArgs) (d : DefaultCfg c)
    (ht : ∀ t ∈ a.tags, GoodTag c t) (hp : ∀ t ∈ a.postTags, GoodTag c t)
    (out : VroOut) (hsel : selectVRO c a = .ok out)
    (C : Ctx) (r : Req) (hr : r.already = none) (hdepth : 0 < r.depth)
    (key : Str → Str) (htag : ∀ t ∈ a.tags, IsTagEntry C t (key t))
    (ta tb : List Str) (x : Str) (hsplit : a.tags = ta ++ x :: tb)
    (p : Prod) (hxp : lookupTag C.db (key x) r.name r.flavor = some p)
    (hbefore : ∀ t ∈ ta, lookupTag C.db (key t) r.name r.flavor = none) :
    find C r out.vro = .ok (some ⟨p, x, x⟩) := by
  have hx : x ∈ a.tags := by rw [hsplit]; simp
  have hta : ∀ t ∈ ta, t ∈ a.tags := by intro t h; rw [hsplit]; simp [h]
  rw [selectVRO_default_eq c d a ht hp] at hsel
  cases hsel
  obtain ⟨A, B, hAB, hxA, hA⟩ := (beforeP_selected (post := a.postTags) c.keep a.inexact hsplit ht).first
  rw [find_eq_walk _ hr]
  apply (walk_hit_iff (h := ⟨p, x, x⟩)).mpr
  refine ⟨A, B, hAB, ?_, ?_⟩
  · show lookupEntry C r x B = _
    rw [lookupEntry_tagKey B (htag x hx), hxp]
  · refine allSkip_of_skips _ fun e heA => ?_
    rcases hA e heA with h | h
    · simp only [List.mem_cons, List.not_mem_nil, or_false] at h
      rcases h with rfl | rfl | rfl
      · exact skips_keep hr hdepth
      · exact skips_fixed hr (.inl rfl)
      · exact skips_fixed hr (.inr rfl)
    · intro post
      rw [lookupEntry_tagKey _ (htag e (hta e h)), hbefore e h]

theorem pretag_overrides_any_tag (c : VroCfg) (a : VroArgs) (d : DefaultCfg c)
    (ht : ∀ t ∈ a.tags, GoodTag c t) (hp : ∀ t ∈ a.postTags, GoodTag c t)
    (out : VroOut) (hsel : selectVRO c a = .ok out)
    (C : Ctx) (r : Req) (hr : r.already = none) (hdepth : 0 < r.depth)
    (key : Str → Str) (htag : ∀ t ∈ a.tags, IsTagEntry C t (key t))
    (x : Str) (hx : x ∈ a.tags) (p : Prod) (hxp : lookupTag C.db (key x) r.name r.flavor = some p)
    (hothers : ∀ t ∈ a.tags, t ≠ x → lookupTag C.db (key t) r.name r.flavor = none) :
    find C r out.vro = .ok (some ⟨p, x, x⟩) := by
  obtain ⟨ta, tb, hsplit, hxa⟩ := List.eq_append_cons_of_mem hx
  exact pretag_first_designating c a d ht hp out hsel C r hr hdepth key htag ta tb x hsplit p hxp
    (fun t h => hothers t (by rw [hsplit]; simp [h]) (fun hc => hxa (hc ▸ h)))

end EupsModel.Vro
