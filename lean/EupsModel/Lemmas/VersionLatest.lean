import EupsModel.Lemmas.VersionConv
/-! `latest` (C10).  The loops of the model work on names paired with their split forms and compare with `cmpSort`; the
properties speak of names and of `stdCompare`.  `cmpN` is the comparator on names (`stdCompare_cmpN`, `good_cmpN`),
`lexPairs` is `map withLex` on accepted names, and the one-pass selection finds the last maximum (`Order.IsLastMax`) — of
the pairs (`lastMax_isLastMax`), hence of the names (`lastMax_names`).  At the end: the first position of a name in a
list, and the database branch (`dbOrder`) enumerates the same versions. -/
namespace EupsModel.VersionCmp
open EupsModel EupsModel.Order

def Accepted (v : Str) : Prop := ∃ l, lex v = .ok l

/-- the split form of an accepted name -/
def lexOr (v : Str) : Lexed :=
  match lex v with
  | .ok l => l
  | .error _ => .absent

def withLex (v : Str) : Str × Lexed := (v, lexOr v)

/-- the comparator on accepted names: `stdCompare false` without the error case -/
def cmpN (a b : Str) : Int := cmpSort (lexOr a) (lexOr b)

theorem lexOr_of_lex {v : Str} {l : Lexed} (h : lex v = .ok l) : lexOr v = l := by simp [lexOr, h]

theorem stdCompare_cmpN {a b : Str} (ha : Accepted a) (hb : Accepted b) : stdCompare false a b = .ok (cmpN a b) := by
  obtain ⟨la, hla⟩ := ha
  obtain ⟨lb, hlb⟩ := hb
  rw [stdCompare_sort hla hlb, cmpN, lexOr_of_lex hla, lexOr_of_lex hlb]

theorem exists_stdCompare_iff {a b : Str} (ha : Accepted a) (hb : Accepted b) (p : Int → Prop) :
    (∃ r, stdCompare false a b = .ok r ∧ p r) ↔ p (cmpN a b) := by
  rw [stdCompare_cmpN ha hb]; simp

theorem convName_iff {a : Str} : convName a = true ↔ Accepted a ∧ convLexed (lexOr a) = true := by
  simp only [convName, Accepted, lexOr]
  cases lex a <;> simp

theorem Accepted.of_conv {a : Str} (h : convName a = true) : Accepted a := (convName_iff.mp h).1

theorem good_cmpN : GoodOn (fun a : Str => convName a = true) cmpN :=
  (good_pullback good_cmpSort lexOr).mono fun _ h => (convName_iff.mp h).2

theorem lexPairs_ok_iff {names : List Str} {ps : List (Str × Lexed)} :
    lexPairs names = .ok ps ↔ (∀ v ∈ names, Accepted v) ∧ ps = names.map withLex := by
  induction names generalizing ps with
  | nil => simp [lexPairs, eq_comm]
  | cons v vs ih =>
    rw [lexPairs]
    cases hl : lex v with
    | error e => simp [Accepted, hl]
    | ok l =>
      cases hr : lexPairs vs with
      | error e =>
        have : ¬ ∀ v ∈ vs, Accepted v := fun h => by
          have := (ih (ps := vs.map withLex)).mpr ⟨h, rfl⟩
          rw [hr] at this; cases this
        simp [this]
      | ok ls =>
        obtain ⟨h1, rfl⟩ := ih.mp hr
        have hv : withLex v = (v, l) := by rw [withLex, lexOr_of_lex hl]
        simp only [Except.ok.injEq, List.map_cons, hv, List.forall_mem_cons]
        exact ⟨fun e => ⟨⟨⟨l, hl⟩, h1⟩, e.symm⟩, fun h => h.2.symm⟩

theorem lexPairs_eq {names : List Str} (h : ∀ v ∈ names, Accepted v) : lexPairs names = .ok (names.map withLex) :=
  lexPairs_ok_iff.mpr ⟨h, rfl⟩

theorem lexPairs_fst {names : List Str} {ps : List (Str × Lexed)} (h : lexPairs names = .ok ps) :
    ps.map Prod.fst = names := by
  simp [(lexPairs_ok_iff.mp h).2, List.map_map, Function.comp_def, withLex]

/-- the comparator of the pass and of the listing's sort, on names paired with their split forms -/
theorem good_cmpP : GoodOn (fun p : Str × Lexed => convLexed p.2 = true) (cmpSort ·.2 ·.2) :=
  good_pullback good_cmpSort Prod.snd

theorem lastMax_some_isLastMax {seen xs : List (Str × Lexed)} {b : Str × Lexed}
    (hc : ∀ p ∈ seen ++ xs, convLexed p.2 = true) (hb : IsLastMax (cmpSort ·.2 ·.2) b seen) :
    ∃ m, lastMax (some b) xs = some m ∧ IsLastMax (cmpSort ·.2 ·.2) m (seen ++ xs) := by
  induction xs generalizing seen b with
  | nil => exact ⟨b, rfl, by simpa using hb⟩
  | cons x xs ih =>
    have e : seen ++ x :: xs = (seen ++ [x]) ++ xs := by simp
    rw [e] at hc ⊢
    have step : lastMax (some b) (x :: xs) = lastMax (some (if 0 ≤ cmpSort x.2 b.2 then x else b)) xs := by
      rw [lastMax, apply_ite (fun o => lastMax (some o) xs)]
    rw [step]
    exact ih hc (hb.snoc good_cmpP.flip good_cmpP.trans (x := x) (fun y hy => hc y (by simp [hy])) (hc x (by simp)))

theorem lastMax_isLastMax {xs : List (Str × Lexed)} (hne : xs ≠ []) (hc : ∀ p ∈ xs, convLexed p.2 = true) :
    ∃ m, lastMax none xs = some m ∧ IsLastMax (cmpSort ·.2 ·.2) m xs := by
  cases xs with
  | nil => exact absurd rfl hne
  | cons x xs => exact lastMax_some_isLastMax (seen := [x]) hc (IsLastMax.singleton x)

theorem conv_withLex {names : List Str} (hconv : ∀ v ∈ names, convName v = true) :
    ∀ p ∈ names.map withLex, convLexed p.2 = true :=
  List.forall_mem_map.mpr fun v hv => (convName_iff.mp (hconv v hv)).2

theorem lastMax_names {names : List Str} (hne : names ≠ []) (hconv : ∀ v ∈ names, convName v = true) :
    ∃ m, lastMax none (names.map withLex) = some (withLex m) ∧ IsLastMax cmpN m names := by
  obtain ⟨m, hm, hmax⟩ := lastMax_isLastMax (xs := names.map withLex) (by simpa using hne) (conv_withLex hconv)
  obtain ⟨m', rfl, hmax'⟩ := hmax.of_map
  exact ⟨m', hm, hmax'⟩

theorem latest_isLastMax {names : List Str} (hne : names ≠ []) (hconv : ∀ v ∈ names, convName v = true) :
    ∃ m, IsLastMax cmpN m names ∧ latest names = .ok (some (names.findIdx (· == m))) := by
  obtain ⟨m, hm, hmax⟩ := lastMax_names hne hconv
  exact ⟨m, hmax, by simp only [latest, lexPairs_eq fun v hv => .of_conv (hconv v hv), hm]; rfl⟩

theorem findIdx_beq_spec (l : List Str) (v : Str) (hv : v ∈ l) :
    l[l.findIdx (· == v)]? = some v ∧ ∀ j, j < l.findIdx (· == v) → l[j]? ≠ some v := by
  have hlt : l.findIdx (· == v) < l.length := List.findIdx_lt_length_of_exists ⟨v, hv, by simp⟩
  refine ⟨?_, fun j hj e => ?_⟩
  · rw [List.getElem?_eq_getElem hlt, eq_of_beq (List.findIdx_getElem (w := hlt))]
  · have := List.not_of_lt_findIdx hj
    rw [List.getElem?_eq_getElem (by omega), Option.some.injEq] at e
    simp [e] at this

theorem mem_insertStr (x v : Str) (l : List Str) : v ∈ insertStr x l ↔ v = x ∨ v ∈ l := by
  induction l with
  | nil => simp [insertStr]
  | cons y ys ih =>
    rw [insertStr]
    split
    · exact List.mem_cons
    · rw [List.mem_cons, ih, List.mem_cons, or_left_comm]

theorem mem_dbOrder (v : Str) (l : List Str) : v ∈ dbOrder l ↔ v ∈ l := by
  induction l with
  | nil => simp [dbOrder]
  | cons x xs ih => simp only [dbOrder, mem_insertStr, ih, List.mem_cons]

theorem mem_flatten_dbOrder (v : Str) (stacks : List (List Str)) :
    v ∈ (stacks.map dbOrder).flatten ↔ v ∈ stacks.flatten := by
  simp only [List.mem_flatten, List.mem_map]
  constructor
  · rintro ⟨l, ⟨st, hst, rfl⟩, hv⟩
    exact ⟨st, hst, (mem_dbOrder v st).mp hv⟩
  · rintro ⟨st, hst, hv⟩
    exact ⟨dbOrder st, ⟨st, hst, rfl⟩, (mem_dbOrder v st).mpr hv⟩

theorem forall_mem_map_dbOrder {P : Str → Prop} {stacks : List (List Str)} (h : ∀ st ∈ stacks, ∀ v ∈ st, P v) :
    ∀ st ∈ stacks.map dbOrder, ∀ v ∈ st, P v := by
  simpa only [List.forall_mem_map, mem_dbOrder] using h

end EupsModel.VersionCmp
