import EupsModel.Lemmas.PathAlgRef
import EupsModel.Lemmas.PathAlgSeq
/-! The sequence theorems of `PathAlgSeq` at the string level of one environment variable (`pathRun`).  The run is
stated as an equation (`pathRun_eq`); setup-then-unsetup and setup-twice are two such equations and `Env.set_set`. -/
namespace EupsModel.PathAlg

/-- the table's lines on `var`, (append?, value) in table order, executed in direction `fwd`; stops at the first
refusal -/
def pathRun (c : Nat) (var : Str) (fwd : Bool) : List (Bool × Str) → Env → Outcome
  | [], env => .ok env
  | (app, v) :: rest, env => match envPrepend app fwd var v [c] env with
    | .ok env' => pathRun c var fwd rest env'
    | .runtimeError => .runtimeError

theorem setupAll_old (c : Nat) (acts : List (Bool × Str)) (oldl : List Str)
    (hgood : ∀ a ∈ acts, GoodPiece c a.2) (hold : ∀ e ∈ oldl, OldPiece c e) :
    ∀ e ∈ setupAll acts oldl, OldPiece c e := by
  intro e he
  rcases (mem_setupAll acts oldl e).mp he with h | h
  · obtain ⟨a, ha, rfl⟩ := List.mem_map.mp h
    exact (hgood a ha).old
  · exact hold e h

/-- A run as a function of the environment; an empty table is left out because it leaves an unbound variable
unbound. -/
theorem pathRun_eq (c : Nat) (var : Str) (fwd : Bool) (acts : List (Bool × Str)) (oldl : List Str) (env : Env)
    (hgood : ∀ a ∈ acts, GoodPiece c a.2) (hold : ∀ e ∈ oldl, OldPiece c e)
    (henv : (env.get var).getD [] = join [c] oldl) (hne : acts ≠ []) :
    pathRun c var fwd acts env
      = .ok (env.set var (join [c] (acts.foldl (fun l a => applyL a.1 fwd [a.2] l) oldl))) := by
  induction acts generalizing oldl env with
  | nil => exact absurd rfl hne
  | cons a rest ih =>
    obtain ⟨app, v⟩ := a
    have hv : GoodPiece c v := hgood (app, v) (by simp)
    simp only [pathRun, envPrepend_lifts_old c app fwd var v oldl env hold hv henv, List.foldl_cons]
    by_cases hr : rest = []
    · subst hr; rfl
    · rw [ih _ _ (fun b hb => hgood b (by simp [hb]))
        (applyL_forall (OldPiece c) app fwd [v] oldl hold (by simpa using hv.old))
        (by rw [Env.get_set_same]; rfl) hr, Env.set_set]

theorem pathRun_fold (c : Nat) (var : Str) (fwd : Bool) (acts : List (Bool × Str)) (oldl : List Str) (env : Env)
    (hgood : ∀ a ∈ acts, GoodPiece c a.2) (hold : ∀ e ∈ oldl, OldPiece c e)
    (henv : (env.get var).getD [] = join [c] oldl) :
    ∃ env', pathRun c var fwd acts env = .ok env'
      ∧ (env'.get var).getD [] = join [c] (acts.foldl (fun l a => applyL a.1 fwd [a.2] l) oldl)
      ∧ ∀ k, k ≠ var → env'.get k = env.get k := by
  by_cases hne : acts = []
  · subst hne; exact ⟨env, rfl, henv, fun _ _ => rfl⟩
  · exact ⟨_, pathRun_eq c var fwd acts oldl env hgood hold henv hne, by rw [Env.get_set_same]; rfl,
      fun _ hk => Env.get_set_other _ _ _ _ hk⟩

theorem pathRun_setup_getD (c : Nat) (var : Str) (acts : List (Bool × Str)) (oldl : List Str) (env : Env)
    (hgood : ∀ a ∈ acts, GoodPiece c a.2) (hold : ∀ e ∈ oldl, OldPiece c e)
    (henv : (env.get var).getD [] = join [c] oldl) :
    ∃ env', pathRun c var true acts env = .ok env'
      ∧ (env'.get var).getD [] = join [c] (setupAll acts oldl)
      ∧ ∀ k, k ≠ var → env'.get k = env.get k :=
  pathRun_fold c var true acts oldl env hgood hold henv

theorem pathRun_unsetup_getD (c : Nat) (var : Str) (acts : List (Bool × Str)) (oldl : List Str) (env : Env)
    (hgood : ∀ a ∈ acts, GoodPiece c a.2) (hold : ∀ e ∈ oldl, OldPiece c e)
    (henv : (env.get var).getD [] = join [c] oldl) :
    ∃ env', pathRun c var false acts env = .ok env'
      ∧ (env'.get var).getD [] = join [c] (unsetupAll acts oldl)
      ∧ ∀ k, k ≠ var → env'.get k = env.get k :=
  pathRun_fold c var false acts oldl env hgood hold henv

theorem pathRun_ok (c : Nat) (var : Str) (fwd : Bool) (acts : List (Bool × Str)) (oldl : List Str) (env : Env)
    (hgood : ∀ a ∈ acts, GoodPiece c a.2) (hold : ∀ e ∈ oldl, OldPiece c e)
    (henv : (env.get var).getD [] = join [c] oldl) :
    pathRun c var fwd acts env ≠ .runtimeError := by
  obtain ⟨env', hrun, _⟩ := pathRun_fold c var fwd acts oldl env hgood hold henv
  rw [hrun]; intro h; cases h

theorem pathRun_after_setup (c : Nat) (var : Str) (fwd : Bool) (acts : List (Bool × Str)) (oldl : List Str)
    (env : Env) (hgood : ∀ a ∈ acts, GoodPiece c a.2) (hold : ∀ e ∈ oldl, OldPiece c e)
    (henv : (env.get var).getD [] = join [c] oldl) (hne : acts ≠ []) :
    pathRun c var true acts env = .ok (env.set var (join [c] (setupAll acts oldl)))
      ∧ pathRun c var fwd acts (env.set var (join [c] (setupAll acts oldl)))
          = .ok (env.set var (join [c] (acts.foldl (fun l a => applyL a.1 fwd [a.2] l) (setupAll acts oldl)))) := by
  refine ⟨pathRun_eq c var true acts oldl env hgood hold henv hne, ?_⟩
  rw [pathRun_eq c var fwd acts (setupAll acts oldl) _ hgood (setupAll_old c acts oldl hgood hold)
    (by rw [Env.get_set_same]; rfl) hne, Env.set_set]

/-- String-level inverse without the hypothesis that the table's values are new: those that were there before are
gone as well. -/
theorem pathRun_roundtrip_filter (c : Nat) (var : Str) (acts : List (Bool × Str)) (oldl : List Str) (env : Env)
    (hgood : ∀ a ∈ acts, GoodPiece c a.2) (hold : ∀ e ∈ oldl, OldPiece c e)
    (henv : (env.get var).getD [] = join [c] oldl) (hne : acts ≠ []) :
    ∃ env1 env2, pathRun c var true acts env = .ok env1 ∧ pathRun c var false acts env1 = .ok env2
      ∧ env2.get var
          = some (join [c] ((uniq oldl).filter (fun x => decide (x ∉ acts.map (·.2)))))
      ∧ ∀ k, k ≠ var → env2.get k = env.get k := by
  obtain ⟨h1, h2⟩ := pathRun_after_setup c var false acts oldl env hgood hold henv hne
  refine ⟨_, _, h1, h2, ?_, fun _ hk => Env.get_set_other _ _ _ _ hk⟩
  rw [Env.get_set_same]
  show some (join [c] (unsetupAll acts (setupAll acts oldl))) = _
  rw [unsetupAll_setupAll_filter acts oldl hne]
  congr 2
  apply List.filter_congr
  intro x _
  exact decide_eq_decide.mpr Iff.rfl

theorem pathRun_twice_value (c : Nat) (var : Str) (acts : List (Bool × Str)) (oldl : List Str) (env : Env)
    (hgood : ∀ a ∈ acts, GoodPiece c a.2) (hold : ∀ e ∈ oldl, OldPiece c e)
    (henv : (env.get var).getD [] = join [c] oldl) (hne : acts ≠ []) :
    ∃ env1 env2, pathRun c var true acts env = .ok env1 ∧ pathRun c var true acts env1 = .ok env2
      ∧ env1.get var = some (join [c] (setupAll acts oldl))
      ∧ env2.get var = some (join [c] (setupAll acts oldl))
      ∧ ∀ k, k ≠ var → env2.get k = env.get k := by
  obtain ⟨h1, h2⟩ := pathRun_after_setup c var true acts oldl env hgood hold henv hne
  refine ⟨_, _, h1, h2, Env.get_set_same _ _ _, ?_, fun _ hk => Env.get_set_other _ _ _ _ hk⟩
  rw [Env.get_set_same]
  exact congrArg (fun l => some (join [c] l)) (setupAll_idem acts oldl)

/-! `P = /usr/bin:/usr/bin:/bin`, the table says `envPrepend(P, /a/bin)` then `envAppend(P, /b/bin)`
(`:` = 58, `/` = 47, `P` = 80). -/

/-- `/usr/bin` -/ private def usrbin : Str := [47, 117, 115, 114, 47, 98, 105, 110]
/-- `/bin` -/ private def bin : Str := [47, 98, 105, 110]
/-- `/a/bin` -/ private def abin : Str := [47, 97, 47, 98, 105, 110]
/-- `/b/bin` -/ private def bbin : Str := [47, 98, 47, 98, 105, 110]
private def env0 : Env := [([80], usrbin ++ [58] ++ usrbin ++ [58] ++ bin)]
private def acts0 : List (Bool × Str) := [(false, abin), (true, bbin)]

example : pathRun 58 [80] true acts0 env0
    = .ok [([80], abin ++ [58] ++ usrbin ++ [58] ++ bin ++ [58] ++ bbin)] := by decide +kernel

example : pathRun 58 [80] false acts0 [([80], abin ++ [58] ++ usrbin ++ [58] ++ bin ++ [58] ++ bbin)]
    = .ok [([80], usrbin ++ [58] ++ bin)] := by decide +kernel

example : pathRun 58 [80] true acts0 [([80], abin ++ [58] ++ usrbin ++ [58] ++ bin ++ [58] ++ bbin)]
    = .ok [([80], abin ++ [58] ++ usrbin ++ [58] ++ bin ++ [58] ++ bbin)] := by decide +kernel

/-- a value that was there before is gone after the round trip: `P = /bin` -/
example : (match pathRun 58 [80] true [(false, usrbin)] env0 with
      | .ok e => pathRun 58 [80] false [(false, usrbin)] e
      | .runtimeError => .runtimeError)
    = .ok [([80], bin)] := by decide +kernel

example : (∀ a ∈ acts0, GoodPiece 58 a.2) ∧ (∀ e ∈ [usrbin, usrbin, bin], OldPiece 58 e)
    ∧ (env0.get [80]).getD [] = join [58] [usrbin, usrbin, bin] := by
  refine ⟨?_, ?_, by decide⟩
  · intro a ha
    simp only [acts0, List.mem_cons, List.not_mem_nil, or_false] at ha
    rcases ha with rfl | rfl <;> exact ⟨by decide, by decide, by decide⟩
  · intro e he
    simp only [List.mem_cons, List.not_mem_nil, or_false] at he
    rcases he with rfl | rfl | rfl <;> exact ⟨by decide, by decide⟩

end EupsModel.PathAlg
