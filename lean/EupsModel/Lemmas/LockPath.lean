import EupsModel.Model.LockPath
import EupsModel.Lemmas.LockEx
import EupsModel.Lemmas.LockPathGen
/-! C09, pinned protocol, several stacks — every component of a path run is a run of the single-directory model, and the
exclusive-only invariant of the path model: a process in its command body holds every stack of its path, and a process is
"inside" a stack only while its control state still owes that stack a release.  `mstep_branch` shows a transition of the
path model to be a `LockPathGen.Branch` over `Lock.step`; the bookkeeping clauses of `PInv` are that layer's invariants.
-/
namespace EupsModel.LockPath
open EupsModel.Lock
open EupsModel.LockPathGen (Seen)

variable {S : PSt} {i : Pid}

@[simp] theorem setCtl_comp (S : PSt) (i : Pid) (c : Ctl) : (setCtl S i c).comp = S.comp := rfl
@[simp] theorem setCtl_path (S : PSt) (i : Pid) (c : Ctl) : (setCtl S i c).path = S.path := rfl
@[simp] theorem setCtl_explicit (S : PSt) (i : Pid) (c : Ctl) : (setCtl S i c).explicit = S.explicit := rfl
@[simp] theorem setCtl_ctl_same (S : PSt) (i : Pid) (c : Ctl) : (setCtl S i c).ctl i = c := by simp [setCtl]
theorem setCtl_ctl_other (S : PSt) (i j : Pid) (c : Ctl) (h : j ≠ i) : (setCtl S i c).ctl j = S.ctl j := by
  simp [setCtl, h]
@[simp] theorem setComp_ctl (S : PSt) (d : Dir) (s : St) : (setComp S d s).ctl = S.ctl := rfl
@[simp] theorem setComp_path (S : PSt) (d : Dir) (s : St) : (setComp S d s).path = S.path := rfl
@[simp] theorem setComp_explicit (S : PSt) (d : Dir) (s : St) : (setComp S d s).explicit = S.explicit := rfl
@[simp] theorem setComp_comp_same (S : PSt) (d : Dir) (s : St) : (setComp S d s).comp d = s := by simp [setComp]
theorem setComp_comp_other (S : PSt) (d x : Dir) (s : St) (h : x ≠ d) : (setComp S d s).comp x = S.comp x := by
  simp [setComp, h]

theorem relComp_is_run (s : St) (i : Pid) : ∃ n, relComp s i = run s (List.replicate n i) := by
  unfold relComp
  split
  · exact ⟨2, rfl⟩
  · exact ⟨1, rfl⟩

theorem setComp_self (S : PSt) (d : Dir) : setComp S d (S.comp d) = S := by
  cases S; exact congrArg (PSt.mk · _ _ _) (fupd_self _ d)

theorem setCtl_self (S : PSt) (i : Pid) : setCtl S i (S.ctl i) = S := by
  cases S; exact congrArg (PSt.mk _ _ _) (fupd_self _ i)

/-- how the path layer reads the program counter process `i` is left with -/
def seen (i : Pid) (s : St) : Seen → Prop
  | .hold => s.pc i = .hold
  | .unlocked => s.pc i = .unlocked
  | .failedAcq e => s.pc i = .failedAcq e
  | .done => s.pc i = .done
  | .failedRel e => s.pc i = .failedRel e

def view : Ctl → LockPathGen.Ctl Out
  | .acq k => .acq k
  | .unw j k e => .unw j k e
  | .body n reg => .body n reg
  | .rel j n more o => .rel j n more o
  | .fin o => .fin o

def outs : LockPathGen.Outs Out := ⟨.done, .failedAcq, firstFailure⟩

abbrev PBranch (S : PSt) (i : Pid) : LockPathGen.Ctl Out → Dir → St → LockPathGen.Ctl Out → Prop :=
  LockPathGen.Branch outs (step · i) (relComp · i) (seen i) S.comp (S.path i) (S.explicit i)

theorem mstep_branch (S : PSt) (i : Pid) :
    ∃ d s' c', PBranch S i (view (S.ctl i)) d s' (view c') ∧ mstep S i = setCtl (setComp S d s') i c' := by
  have stuck : ∃ d s' c', PBranch S i (view (S.ctl i)) d s' (view c') ∧ S = setCtl (setComp S d s') i c' :=
    ⟨0, _, _, .stuck _ 0, by rw [setComp_self, setCtl_self]⟩
  have only : ∀ {c' b}, PBranch S i (view (S.ctl i)) 0 (S.comp 0) (view c') → b = setCtl S i c' →
      ∃ d s' c', PBranch S i (view (S.ctl i)) d s' (view c') ∧ b = setCtl (setComp S d s') i c' :=
    fun hb he => ⟨0, _, _, hb, by rw [setComp_self]; exact he⟩
  -- one case per path through `mstep`, in the order of its text; the two `_` are its `let`s (`s'`, `S'`)
  fun_cases mstep S i
  next => exact stuck
  next k hc d hp _ _ hpc hlt => exact ⟨d, _, .acq _, hc ▸ .acqNext hp hpc hlt, rfl⟩
  next k hc d hp _ _ hpc hlt => exact ⟨d, _, .body _ true, hc ▸ .acqLast hp hpc hlt, rfl⟩
  next k hc d hp _ _ hpc => exact ⟨d, _, .body _ false, hc ▸ .acqUnlocked hp hpc, rfl⟩
  next d _ _ e hpc hc hp => exact ⟨d, _, .fin (.failedAcq e), hc ▸ .acqFailFirst hp hpc, rfl⟩
  next k hc d hp _ _ e hpc hk => exact ⟨d, _, .unw 0 _ e, hc ▸ .acqFailLater hp hpc hk, rfl⟩
  next k hc d hp _ _ h1 h2 h3 => exact ⟨d, _, S.ctl i, hc ▸ .acqStay hp h1 h2 h3, (setCtl_self _ i).symm⟩
  next => exact stuck
  next j k e hc d hp _ _ hpc hlt => exact ⟨d, _, .unw _ _ _, hc ▸ .unwNext hp hpc hlt, rfl⟩
  next j k e hc d hp _ _ hpc hlt => exact ⟨d, _, .fin (.failedAcq _), hc ▸ .unwEnd hp hpc hlt, rfl⟩
  next j k e hc d hp _ _ e' hpc => exact ⟨d, _, .fin (.failedAcq e'), hc ▸ .unwFail hp hpc, rfl⟩
  next j k e hc d hp _ _ h1 h2 => exact ⟨d, _, S.ctl i, hc ▸ .unwStay hp h1 h2, (setCtl_self _ i).symm⟩
  next reg hx hc => exact only (c' := .fin .done) (hc ▸ .bodyFin 0 (.inl rfl)) rfl
  next n reg hc hx hn => exact only (c' := .rel 0 _ _ .done) (hc ▸ .bodyGive 0 hx hn) rfl
  next n reg hc hx hr =>
    have hr' : reg = true ∧ n ≠ 0 := by simpa using hr
    exact only (c' := .rel 0 _ false .done) (hc ▸ .bodyExit 0 (by simpa using hx) hr'.1 hr'.2) rfl
  next n reg hc hx hr =>
    refine only (c' := .fin .done) (hc ▸ .bodyFin 0 ?_) rfl
    cases reg
    · exact .inr ⟨by simpa using hx, rfl⟩
    · exact .inl (by simpa using hr)
  next => exact stuck
  next j n more o hc d hp _ _ hpc hlt => exact ⟨d, _, .rel _ _ _ _, hc ▸ .relNext hp hpc hlt, rfl⟩
  next j n more o hc d hp _ _ hpc hlt => exact ⟨d, _, .fin _, hc ▸ .relEnd hp hpc hlt, rfl⟩
  next j n more o hc d hp _ _ e hpc hm =>
    have hm' : more = true ∧ j + 1 < n := by simpa using hm
    exact ⟨d, _, .rel _ _ false (firstFailure _ e), hc ▸ .relFailNext hp hpc hm'.1 hm'.2, rfl⟩
  next j n more o hc d hp _ _ e hpc hm =>
    exact ⟨d, _, .fin (firstFailure _ e), hc ▸ .relFailEnd hp hpc (by simpa using hm), rfl⟩
  next j n more o hc d hp _ _ h1 h2 => exact ⟨d, _, S.ctl i, hc ▸ .relStay hp h1 h2, (setCtl_self _ i).symm⟩
  next => exact stuck

/-- one transition of `i`: at most one component changes, by a run of `Lock.step` of `i` -/
structure Effect (S S' : PSt) (i : Pid) : Prop where
  path     : S'.path = S.path
  explicit : S'.explicit = S.explicit
  ctlOther : ∀ q, q ≠ i → S'.ctl q = S.ctl q
  comp     : ∃ d0 n, ∀ d, S'.comp d = if d = d0 then run (S.comp d) (List.replicate n i) else S.comp d

theorem effect_setComp_setCtl (S : PSt) (i : Pid) (d0 : Dir) (n : Nat) (c : Ctl) :
    Effect S (setCtl (setComp S d0 (run (S.comp d0) (List.replicate n i))) i c) i :=
  ⟨rfl, rfl, fun q hq => setCtl_ctl_other _ _ _ _ hq, ⟨d0, n, fun d => by
    by_cases h : d = d0
    · subst h; simp
    · simp [h, setComp_comp_other S d0 d _ h]⟩⟩

theorem PBranch.isRun {S : PSt} {i : Pid} {d : Dir} {s' : St} {c c' : LockPathGen.Ctl Out} (h : PBranch S i c d s' c') :
    ∃ n, s' = run (S.comp d) (List.replicate n i) := by
  rcases h.comp_cases with e | e | e
  · exact ⟨0, e⟩
  · exact ⟨1, e⟩
  · exact e ▸ relComp_is_run _ _

theorem mstep_effect (S : PSt) (i : Pid) : Effect S (mstep S i) i := by
  obtain ⟨d, s', c', hb, he⟩ := mstep_branch S i
  obtain ⟨n, hn⟩ := hb.isRun
  rw [he, hn]; exact effect_setComp_setCtl S i d n c'

theorem Effect.comp_run {S S' : PSt} {i : Pid} (h : Effect S S' i) (d : Dir) :
    ∃ n, S'.comp d = run (S.comp d) (List.replicate n i) := by
  obtain ⟨d0, n, hc⟩ := h.comp
  rw [hc d]
  split
  · exact ⟨n, rfl⟩
  · exact ⟨0, rfl⟩

theorem Effect.pc_other {S S' : PSt} {i : Pid} (h : Effect S S' i) (q : Pid) (hq : q ≠ i) (d : Dir) :
    (S'.comp d).pc q = (S.comp d).pc q := by
  obtain ⟨n, hn⟩ := h.comp_run d
  rw [hn]; exact run_replicate_pc_other _ i q n hq

theorem Effect.kind {S S' : PSt} {i : Pid} (h : Effect S S' i) (d : Dir) : (S'.comp d).kind = (S.comp d).kind := by
  obtain ⟨n, hn⟩ := h.comp_run d
  rw [hn, run_kind]

theorem Effect.lp {S S' : PSt} {i : Pid} (h : Effect S S' i) (d : Dir) : (S'.comp d).lp = (S.comp d).lp := by
  obtain ⟨n, hn⟩ := h.comp_run d
  rw [hn, run_lp]

theorem Effect.exInv {S S' : PSt} {i : Pid} (h : Effect S S' i) (hex : ∀ d, ExInv (S.comp d)) (d : Dir) :
    ExInv (S'.comp d) := by
  obtain ⟨n, hn⟩ := h.comp_run d
  rw [hn]; exact exInv_run _ _ (hex d)

theorem mrun_comp_is_run (S : PSt) (sched : List Pid) (d : Dir) :
    ∃ sd, (mrun S sched).comp d = run (S.comp d) sd := by
  refine foldl_keeps (P := fun S' : PSt => ∃ sd, S'.comp d = run (S.comp d) sd) (fun S' i ⟨sd, hsd⟩ => ?_) sched
    ⟨[], rfl⟩
  obtain ⟨n, hn⟩ := (mstep_effect S' i).comp_run d
  exact ⟨sd ++ List.replicate n i, by rw [hn, hsd, run_append]⟩

def owed (c : Ctl) (path : List Dir) : List Dir := LockPathGen.owed (view c) path

def Held (S : PSt) (p : Pid) : Prop :=
  LockPathGen.Held (seen p) S.comp (S.path p) (view (S.ctl p))

structure PInv (S : PSt) : Prop where
  ex    : ∀ d, ExInv (S.comp d)
  nodup : ∀ p, (S.path p).Nodup
  ok    : ∀ p, LockPathGen.Ok (fun _ => True) (view (S.ctl p))
  owes  : ∀ p d, inside ((S.comp d).pc p) = true → d ∈ owed (S.ctl p) (S.path p)
  held  : ∀ p, Held S p

theorem PInv.finished_clear {S : PSt} (h : PInv S) {p : Pid} (hf : finished (S.ctl p) = true) (d : Dir) :
    inside ((S.comp d).pc p) = false := by
  cases hin : inside ((S.comp d).pc p) with
  | false => rfl
  | true =>
    have := h.owes p d hin
    cases hc : S.ctl p with
    | fin o => rw [hc] at this; cases this
    | _ => rw [hc] at hf; cases hf

theorem Held.body_hold {S : PSt} {q : Pid} {d : Dir} (h : Held S q) (hq : inBodyM (S.ctl q) = true)
    (hd : d ∈ S.path q) : (S.comp d).pc q = .hold := by
  unfold Held at h
  cases hc : S.ctl q with
  | body n reg => rw [hc] at h; exact LockPathGen.Held.body h hd
  | _ => rw [hc] at hq; cases hq

theorem PInv.mutexM {S : PSt} (h : PInv S) : MutexM S := fun d p q hpq _ _ hbq _ hdq hp _ =>
  hpq ((h.ex d).gate.uniq p q (by rw [hp]; rfl) (by rw [(h.held q).body_hold hbq hdq]; rfl))

theorem pinv_minit (kind : Pid → Kind) (lp : Pid → Option Pid) (tries : Pid → Nat) (path : Pid → List Dir)
    (explicit : Pid → Bool) (hk : ∀ i, kind i = .ex) (hl : ∀ i, lp i = none) (hn : ∀ p, (path p).Nodup) :
    PInv (minit kind lp tries path explicit) := by
  refine ⟨fun _ => exInv_init kind lp tries hk hl, hn, fun p => ?_, ?_, fun p => ?_⟩
  · simp only [minit]; split <;> simp [view, LockPathGen.Ok]
  · intro p d h; simp [minit, init, inside] at h
  · simp only [Held, minit]
    cases hp : path p <;> simp [view, LockPathGen.Held]

theorem pinv_mstep (S : PSt) (i : Pid) (h : PInv S) : PInv (mstep S i) := by
  obtain ⟨d, s', c', hb, he⟩ := mstep_branch S i
  obtain ⟨n, hn⟩ := hb.isRun
  have e : Effect S (mstep S i) i := mstep_effect S i
  -- exclusive requesters without `EUPS_LOCK_PID` neither leave `takeLocks` without the lock nor fail a release
  have okpc : okPC (s'.pc i) = true := by rw [hn]; exact (exInv_run _ _ (h.ex d)).okpc i
  have hu : ¬ seen i s' .unlocked := fun hs => by rw [show s'.pc i = _ from hs] at okpc; cases okpc
  have hf : ∀ e, ¬ seen i s' (.failedRel e) := fun e hs => by rw [show s'.pc i = _ from hs] at okpc; cases okpc
  have hgone : (seen i s' .done ∨ ∃ e, seen i s' (.failedAcq e)) → inside (s'.pc i) = false := by
    rintro (hs | ⟨e, hs⟩) <;> rw [show s'.pc i = _ from hs] <;> rfl
  have howes := hb.owes (busy := fun s => inside (s.pc i)) hu hf hgone (h.ok i) (h.owes i)
  have other : ∀ p, p ≠ i → (mstep S i).ctl p = S.ctl p ∧ ∀ x, ((mstep S i).comp x).pc p = (S.comp x).pc p :=
    fun p hp => ⟨e.ctlOther p hp, e.pc_other p hp⟩
  refine ⟨e.exInv h.ex, fun p => by rw [e.path]; exact h.nodup p, fun p => ?_, fun p x hin => ?_, fun p => ?_⟩
  · by_cases hp : p = i
    · subst hp; rw [he, setCtl_ctl_same]; exact hb.ok hu hf trivial (fun _ => trivial) (h.ok p)
    · rw [(other p hp).1]; exact h.ok p
  · rw [e.path]
    by_cases hp : p = i
    · subst hp
      rw [he] at hin ⊢
      rw [setCtl_ctl_same]; exact howes x hin
    · rw [(other p hp).1]; rw [(other p hp).2] at hin; exact h.owes p x hin
  · unfold Held
    rw [e.path]
    by_cases hp : p = i
    · subst hp
      rw [he, setCtl_ctl_same]
      exact hb.held (h.nodup p) hu (h.held p)
    · rw [(other p hp).1]
      exact (h.held p).congr (fun x hx => ((other p hp).2 x).trans hx)

theorem pinv_mrun (S : PSt) (sched : List Pid) (h : PInv S) : PInv (mrun S sched) :=
  foldl_keeps (P := PInv) pinv_mstep sched h

end EupsModel.LockPath
