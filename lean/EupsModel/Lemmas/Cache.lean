import EupsModel.Model.Cache
import EupsModel.Lemmas.Db
/-! Helper lemmas about `Model/Cache.lean`: loading the caches does not change the database (`OnlyCaches`); one process
in one piece (`stepG_run`); what a command of a history does to the database is, from any world, the `Database` calls
(`dbCall`) of the effects it performed (`stepG_db`), which are among those the command emits (`stepG_trace_sub`: a kill
cuts the trace); hence a property of the database that every effect the command can emit keeps, the process keeps
(`stepG_run_rule`; the rule speaks of `World.db` only).  A process whose command emits nothing loads the caches and
that is all, in every field of the world (`stepG_of_empty_run`). -/
namespace EupsModel.Cache
open EupsModel.Db

def OnlyCaches (w w' : World) : Prop := ∃ cs n, w' = { w with caches := cs, now := n }

theorem OnlyCaches.refl (w : World) : OnlyCaches w w := ⟨w.caches, w.now, rfl⟩

theorem OnlyCaches.trans {a b c : World} (h : OnlyCaches a b) (k : OnlyCaches b c) : OnlyCaches a c := by
  obtain ⟨_, _, rfl⟩ := h
  obtain ⟨_, _, rfl⟩ := k
  exact ⟨_, _, rfl⟩

theorem OnlyCaches.db {w w' : World} (h : OnlyCaches w w') : w'.db = w.db := by obtain ⟨_, _, rfl⟩ := h; rfl
theorem OnlyCaches.nst {w w' : World} (h : OnlyCaches w w') : w'.nst = w.nst := by obtain ⟨_, _, rfl⟩ := h; rfl

theorem saveAll_only (u : User) (s : Nat) (m : Spec) (fs : List Flav) (w : World) :
    OnlyCaches w (saveAll u s m fs w) := by
  induction fs generalizing w with
  | nil => exact .refl w
  | cons f fs ih => exact OnlyCaches.trans ⟨_, _, rfl⟩ (ih _)

theorem loadStack_only (w : World) (u : User) (self : Flav) (s : Nat) : OnlyCaches w (loadStack w u self s).w := by
  unfold loadStack
  split
  · exact .refl w
  · split
    · exact .refl w
    · exact saveAll_only ..

theorem loadFrom_only (u : User) (self : Flav) (ss : List Nat) (m : Spec) (fl : List (Nat × List Flav)) (w : World) :
    OnlyCaches w (loadFrom u self ss m fl w).2.2 := by
  induction ss generalizing m fl w with
  | nil => exact .refl w
  | cons s ss ih => exact (loadStack_only w u self s).trans (ih ..)

theorem load_only (w : World) (u : User) (self : Flav) : OnlyCaches w (load w u self).2.2 := loadFrom_only ..

/-- What the `Database` call of an effect does to the content: `applyDb`, and nothing when the call finds nothing to
write (`effWrites`).  It is what `applyDbW` does to `World.db` and what `DbFile.applyF` does to the record files, from
any content; on a content without dangling tags it is `applyDb` (`dbCall_eq`). -/
def dbCall (e : Eff) (db : Spec) : Spec := if effWrites db e then applyDb e db else db

theorem applyDb_eq_of_not_writes (e : Eff) (db : Spec) (hdb : NoDangling db) (h : effWrites db e = false) :
    applyDb e db = db := by
  cases e with
  | declare d tag => cases h
  | undeclare s n v f =>
    exact Spec.delDecl_of_not_hasDecl h (hdb.toN s f n)
  | assign s t n f v => exact applyDb_of_not_fires h
  | unassign s t n f => exact Spec.delTag_of_not_hasTag h
  | rmTree _ => rfl
  | copyExtra _ => rfl

theorem dbCall_eq {db : Spec} (h : NoDangling db) (e : Eff) : dbCall e db = applyDb e db := by
  unfold dbCall
  split
  · rfl
  · rename_i hw; exact (applyDb_eq_of_not_writes e db h (by simpa using hw)).symm

theorem foldl_dbCall_eq {db : Spec} (h : DbInv db) (es : List Eff) :
    es.foldl (fun c e => dbCall e c) db = es.foldl (fun c e => applyDb e c) db := by
  induction es generalizing db with
  | nil => rfl
  | cons e es ih => rw [List.foldl_cons, List.foldl_cons, dbCall_eq h.nd, ih (h.apply e)]

theorem dbCall_preserves {P : Spec → Prop} {e : Eff} {c : Spec} (hP : P c → P (applyDb e c)) (h : P c) :
    P (dbCall e c) := by
  unfold dbCall; split
  · exact hP h
  · exact h

theorem applyDbW_dbCall (w : World) (e : Eff) : (applyDbW w e).db = dbCall e w.db := by
  unfold applyDbW dbCall
  cases e with
  | rmTree d => rfl
  | copyExtra x => rfl
  | _ => -- the four that have a file (`effKey`)
    dsimp only [effKey]
    split <;> rfl

theorem applyDbW_nst (w : World) (e : Eff) : (applyDbW w e).nst = w.nst := by
  unfold applyDbW
  split
  · rfl
  · dsimp only
    split <;> rfl

theorem applySaveW_db_nst (u : User) (held : Nat → List Flav) (w : World) (m m' : Spec) (e : Eff) :
    (applySaveW u held w m m' e).db = w.db ∧ (applySaveW u held w m m' e).nst = w.nst := by
  unfold applySaveW
  split
  · exact ⟨rfl, rfl⟩
  · exact ⟨rfl, rfl⟩
  · split
    · exact ⟨rfl, rfl⟩
    · exact ⟨(saveAll_only ..).db, (saveAll_only ..).nst⟩

theorem applyW_dbCall (fixed : Bool) (u : User) (held : Nat → List Flav) (wm : World × Spec) (e : Eff) :
    (applyW fixed u held wm e).1.db = dbCall e wm.1.db :=
  (applySaveW_db_nst ..).1.trans (applyDbW_dbCall ..)

theorem applyW_nst (fixed : Bool) (u : User) (held : Nat → List Flav) (wm : World × Spec) (e : Eff) :
    (applyW fixed u held wm e).1.nst = wm.1.nst :=
  (applySaveW_db_nst ..).2.trans (applyDbW_nst ..)

theorem foldl_applyW_dbCall (fixed : Bool) (u : User) (held : Nat → List Flav) (es : List Eff) (wm : World × Spec) :
    (es.foldl (applyW fixed u held) wm).1.db = es.foldl (fun c e => dbCall e c) wm.1.db := by
  induction es generalizing wm with
  | nil => rfl
  | cons e es ih => rw [List.foldl_cons, ih, applyW_dbCall]; rfl

theorem replay_dbCall (fixed : Bool) (u : User) (held : Nat → List Flav) (wm : World × Spec) (es : List Eff)
    (last : Option Eff) :
    (replay fixed u held wm es last).db = (es ++ last.toList).foldl (fun c e => dbCall e c) wm.1.db := by
  unfold replay
  cases last with
  | none => simpa using foldl_applyW_dbCall fixed u held es wm
  | some e => dsimp only; rw [applyDbW_dbCall, foldl_applyW_dbCall]; simp [List.foldl_append]

theorem replay_nst (fixed : Bool) (u : User) (held : Nat → List Flav) (wm : World × Spec) (es : List Eff)
    (last : Option Eff) : (replay fixed u held wm es last).nst = wm.1.nst := by
  have h : (es.foldl (applyW fixed u held) wm).1.nst = wm.1.nst :=
    foldl_invariant (P := fun x : World × Spec => x.1.nst = wm.1.nst) rfl fun x e _ hx => (applyW_nst ..).trans hx
  unfold replay
  cases last with
  | none => exact h
  | some e => exact (applyDbW_nst ..).trans h

theorem cutAfterDb_sublist (es : List Eff) (k : Nat) :
    ((cutAfterDb es k).1 ++ (cutAfterDb es k).2.toList).Sublist es := by
  induction es generalizing k with
  | nil => cases k <;> exact List.Sublist.refl _
  | cons e es ih =>
    cases k with
    | zero => exact List.nil_sublist _
    | succ k =>
      simp only [cutAfterDb]
      split
      · split
        · simp
        · simpa using (ih k).cons_cons e
      · simpa using (ih (k + 1)).cons_cons e

theorem cutBeforeDb_eq (es : List Eff) (j : Nat) : cutBeforeDb es j = (cutAfterDb es j).1 := by
  induction es generalizing j with
  | nil => cases j <;> rfl
  | cons e es ih =>
    cases j with
    | zero => rfl
    | succ j =>
      simp only [cutBeforeDb, cutAfterDb]
      split
      · split
        · rfl
        · rw [ih]
      · rw [ih]

theorem cutAt_sublist (es : List Eff) (k : Nat) : ((cutAt es k).1 ++ (cutAt es k).2.toList).Sublist es := by
  unfold cutAt
  split
  · exact cutAfterDb_sublist es k
  · rw [cutBeforeDb_eq]
    simpa using (List.sublist_append_left ..).trans (cutAfterDb_sublist es (k - killBase))

theorem cutAt_nil (k : Nat) : cutAt [] k = ([], none) := by
  unfold cutAt
  split
  · cases k <;> rfl
  · cases (k - killBase) <;> rfl

theorem step_rmCache_db (fixed : Bool) (w : World) (u : User) (s : Nat) (f : Flav) :
    (stepG fixed w (.rmCache u s f)).w.db = w.db := rfl

theorem stepG_adminBuild_only (fixed : Bool) (w : World) (u : User) (self : Flav) :
    OnlyCaches w (stepG fixed w (.adminBuild u self)).w ∧ (stepG fixed w (.adminBuild u self)).trace = [] :=
  ⟨.trans ⟨_, _, rfl⟩ (load_only { w with caches := w.caches.filter fun x => x.user != u } sysUser self), rfl⟩

/-- the process a command of a history starts as: the files, directories and extra files of the world, the view the
process has loaded, no effect yet -/
abbrev World.proc (w : World) (m : Spec) : Proc := ⟨w.db, m, w.dirs, [], w.extras, w.tfiles⟩

/-- What one process of a history is, in one piece: it loads the stacks (view `m`, flavors `fl`, world `w1`), which
writes cache files and nothing else; it runs the command on the view loaded; it performs the trace `es`, and of `last`
the `Database` call only — the whole trace unless it is killed. -/
structure IsRun (fixed : Bool) (w : World) (u : User) (c : Cmd) (crash : Option Nat) (m : Spec)
    (fl : List (Nat × List Flav)) (w1 : World) (es : List Eff) (last : Option Eff) : Prop where
  load : load w u c.self = (m, fl, w1)
  only : OnlyCaches w w1
  sub : (es ++ last.toList).Sublist (run w.nst c (w.proc m)).2.tr
  whole : crash = none → es = (run w.nst c (w.proc m)).2.tr ∧ last = none
  eq : stepG fixed w (.run u c crash) =
    ⟨(run w.nst c (w.proc m)).1,
     last.isSome || decide (es.length < (run w.nst c (w.proc m)).2.tr.length),
     fl, m, es ++ last.toList, wouldDo w.nst c (w.proc m),
     replay fixed u (heldOf fl) (w1, m) es last⟩

theorem stepG_run (fixed : Bool) (w : World) (u : User) (c : Cmd) (crash : Option Nat) :
    ∃ m fl w1 es last, IsRun fixed w u c crash m fl w1 es last := by
  obtain ⟨cs, n, hl⟩ := load_only w u c.self
  rcases hld : load w u c.self with ⟨m, fl, w1⟩
  rw [hld] at hl
  subst hl
  cases crash with
  | none => exact ⟨m, fl, _, _, none, hld, ⟨cs, n, rfl⟩, by simp, fun _ => ⟨rfl, rfl⟩, by simp only [stepG, hld]⟩
  | some k => exact ⟨m, fl, _, _, _, hld, ⟨cs, n, rfl⟩, cutAt_sublist _ k, nofun, by simp only [stepG, hld]⟩

theorem stepG_db (fixed : Bool) (w : World) (c : WCmd) :
    (stepG fixed w c).w.db = (stepG fixed w c).trace.foldl (fun c e => dbCall e c) w.db := by
  cases c with
  | rmCache u s f => rfl
  | clearCache u => rfl
  | envRmDir d => rfl
  | adminBuild u self =>
    obtain ⟨h1, h6⟩ := stepG_adminBuild_only fixed w u self
    rw [h1.db, h6]; rfl
  | run u c crash =>
    obtain ⟨m, fl, w1, es, last, r⟩ := stepG_run fixed w u c crash
    rw [r.eq, replay_dbCall, r.only.db]

theorem step_nst (w : World) (c : WCmd) : (step w c).nst = w.nst := by
  cases c with
  | rmCache u s f => rfl
  | clearCache u => rfl
  | envRmDir d => rfl
  | adminBuild u self => exact (stepG_adminBuild_only true w u self).1.nst
  | run u c crash =>
    obtain ⟨m, fl, w1, es, last, r⟩ := stepG_run true w u c crash
    rw [step, r.eq, replay_nst]
    exact r.only.nst

theorem history_nst (w : World) (h : List WCmd) : (runHistory w h).nst = w.nst :=
  foldl_invariant (P := fun w' : World => w'.nst = w.nst) rfl fun w' c _ hw => (step_nst w' c).trans hw

theorem stepG_trace_sub (fixed : Bool) (w : World) (u : User) (c : Cmd) (crash : Option Nat) :
    ∃ m : Spec, (stepG fixed w (.run u c crash)).trace.Sublist
      (run w.nst c (w.proc m)).2.tr := by
  obtain ⟨m, fl, w1, es, last, r⟩ := stepG_run fixed w u c crash
  exact ⟨m, r.eq ▸ r.sub⟩

theorem stepG_preserves (P : Spec → Prop) (hP : ∀ c e, P c → P (applyDb e c))
    (fixed : Bool) (w : World) (c : WCmd) (h : P w.db) : P (stepG fixed w c).w.db := by
  rw [stepG_db]
  exact foldl_invariant h fun b e _ => dbCall_preserves (hP b e)

theorem history_dbInv (fixed : Bool) (nst : Nat) (dirs : List DirEnt) (tfs : List TFile) (h : List WCmd) :
    DbInv (h.foldl (fun w c => (stepG fixed w c).w) (World.init nst dirs tfs)).db :=
  foldl_invariant (P := fun w : World => DbInv w.db) dbInv_empty fun w c _ hw =>
    stepG_preserves DbInv (fun _ e hc => hc.apply e) fixed w c hw

/-- **The rule of a process.**  There is a view (the one the process loads) such that a property of the database kept
by every effect the command can emit from it (`Q`, read off `run_emits` or a sharper `Emits` lemma) is kept by the process
that runs the command — from any world, for any user, killed anywhere or not. -/
theorem stepG_run_rule (fixed : Bool) (w : World) (u : User) (c : Cmd) (crash : Option Nat) :
    ∃ m, ∀ (Q : Eff → Prop) (P : Spec → Prop),
      Emits Q (w.proc m) (run w.nst c (w.proc m)).2 →
      (∀ db e, Q e → P db → P (applyDb e db)) → P w.db → P (stepG fixed w (.run u c crash)).w.db := by
  obtain ⟨m, hs⟩ := stepG_trace_sub fixed w u c crash
  refine ⟨m, fun Q P hQ hP h => ?_⟩
  rw [stepG_db]
  exact foldl_invariant h fun db e he => dbCall_preserves (hP db e (hQ.tr_nil rfl e (hs.subset he)))

/-- `h` is asked of every view, the caller not knowing which one the process loads; its premise lets the caller use what
it knows of the outcome (`C06_refused_redeclare_is_noop`: the command was refused) -/
theorem stepG_of_empty_run (fixed : Bool) (w : World) (u : User) (c : Cmd) (crash : Option Nat)
    (h : ∀ m : Spec, (stepG fixed w (.run u c crash)).out = (run w.nst c (w.proc m)).1 →
      (run w.nst c (w.proc m)).2.tr = []) :
    (stepG fixed w (.run u c crash)).w = (load w u c.self).2.2 ∧ (stepG fixed w (.run u c crash)).trace = [] := by
  obtain ⟨m, fl, w1, es, last, r⟩ := stepG_run fixed w u c crash
  have hnil := r.sub
  rw [h m (by rw [r.eq]), List.sublist_nil, List.append_eq_nil_iff] at hnil
  obtain ⟨rfl, hlast⟩ := hnil
  cases last with
  | none => rw [r.eq, r.load]; exact ⟨rfl, rfl⟩
  | some e => cases hlast

theorem stepG_of_empty_run_db (fixed : Bool) (w : World) (u : User) (c : Cmd) (crash : Option Nat)
    (h : ∀ m : Spec, (stepG fixed w (.run u c crash)).out = (run w.nst c (w.proc m)).1 →
      (run w.nst c (w.proc m)).2.tr = []) :
    (stepG fixed w (.run u c crash)).w.db = w.db ∧ (stepG fixed w (.run u c crash)).w.dirs = w.dirs ∧
      (stepG fixed w (.run u c crash)).w.touch = w.touch ∧ (stepG fixed w (.run u c crash)).w.extras = w.extras := by
  obtain ⟨_, _, hl⟩ := load_only w u c.self
  rw [(stepG_of_empty_run fixed w u c crash h).1, hl]
  exact ⟨rfl, rfl, rfl, rfl⟩

end EupsModel.Cache
