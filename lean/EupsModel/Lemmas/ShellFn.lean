import EupsModel.Lemmas.ShellRead
/-! C05, the second layer of the shell model (`stepF`: functions, `echo`, double quotes, exit status).
Inside a command the words are read as `stepW` reads them (`feedF_of_feedW`); at the end of a simple command the layer
does `execF` with the words; a function definition is read by its own lemmas; `GoodSeq`: every command of a list finds
the state it needs.  The round trips of this layer for any old environment that tracks the caller's
(`roundtrip_aliases_tracks`, `noaction_prints_tracks`).
Further code points: 36 `$`, 45 `-`, 92 backslash, 96 backquote. -/
namespace EupsModel.ShellEmit

theorem feedF_nil (st : ShF) : feedF st [] = some st := rfl

theorem feedF_cons (st : ShF) (c : Nat) (r : Str) : feedF st (c :: r) = (stepF st c).bind fun s => feedF s r := by
  simp [feedF, List.foldlM_cons]

theorem feedF_append (st : ShF) (a b : Str) : feedF st (a ++ b) = (feedF st a).bind fun s => feedF s b := by
  simp [feedF, List.foldlM_append]

theorem stepF_inq (st : ShF) (c : Nat) (hm : st.mode = .cmd) (hq : st.sh.inq = true) :
    stepF st c = (stepChar st.sh c).map fun s => { st with sh := s } := by
  simp [stepF, hm, hq]

/-- the second layer while it reads a command: `s` the words so far, `q` = a quote has been read -/
def inCmd (fs : Env) (out : List Str) (stt : Nat) (q : Bool) (s : Sh) : ShF :=
  { sh := s, funcs := fs, out := out, status := stt, q := q }

theorem stepF_of_stepW (fs : Env) (out : List Str) (stt : Nat) (q : Bool) {s s' : Sh} {c : Nat}
    (h : stepW s c = some s') :
    ∃ q', stepF (inCmd fs out stt q s) c = some (inCmd fs out stt q' s') ∧ (c ≠ 39 → q' = q) := by
  obtain ⟨hs, hc⟩ := stepW_some h
  cases hq : s.inq with
  | true => exact ⟨q, by rw [stepF_inq _ c rfl hq]; simp [inCmd, hs], fun _ => rfl⟩
  | false =>
    obtain ⟨h10, h59⟩ := hc.resolve_left (by simp [hq])
    by_cases h39 : c = 39
    · subst h39
      exact ⟨true, by simp [stepF, inCmd, hq, hs], fun h => absurd rfl h⟩
    · -- `"` and `(` are not read by `stepChar`; every other character `stepF` hands to it
      have h34 : c ≠ 34 := by rintro rfl; simp [stepChar, hq, show isSafe 34 = false by decide] at hs
      have h40 : c ≠ 40 := by rintro rfl; simp [stepChar, hq, show isSafe 40 = false by decide] at hs
      exact ⟨q, by simp [stepF, inCmd, hq, h10, h59, h34, h40, h39, hs], fun _ => rfl⟩

theorem feedF_of_feedW (fs : Env) (out : List Str) (stt : Nat) : ∀ (t : Str) (q : Bool) (s s' : Sh),
    feedW s t = some s' →
    ∃ q', feedF (inCmd fs out stt q s) t = some (inCmd fs out stt q' s') ∧ ((∀ c ∈ t, c ≠ 39) → q' = q) := by
  intro t
  induction t with
  | nil => intro q s s' h; cases h; exact ⟨q, rfl, fun _ => rfl⟩
  | cons c r ih =>
    intro q s s' h
    rw [feedW_cons] at h
    obtain ⟨s1, hs, h⟩ := Option.bind_eq_some_iff.mp h
    obtain ⟨q1, h1, hq1⟩ := stepF_of_stepW fs out stt q hs
    obtain ⟨q2, h2, hq2⟩ := ih q1 s1 s' h
    refine ⟨q2, by rw [feedF_cons, h1]; exact h2, fun hn => ?_⟩
    rw [hq2 (fun d hd => hn d (by simp [hd])), hq1 (hn c (by simp))]

theorem feedF_of_feedW_nq (fs : Env) (out : List Str) (stt : Nat) (q : Bool) {t : Str} {s s' : Sh}
    (h : feedW s t = some s') (hn : ∀ c ∈ t, c ≠ 39) :
    feedF (inCmd fs out stt q s) t = some (inCmd fs out stt q s') := by
  obtain ⟨q', hf, hq'⟩ := feedF_of_feedW fs out stt t q s s' h
  rw [hf, hq' hn]

/-- between two commands -/
def cleanF (env fs : Env) (out : List Str) (stt : Nat) : ShF :=
  { sh := clean env, funcs := fs, out := out, status := stt }

theorem cleanF_eq_inCmd (env fs : Env) (out : List Str) (stt : Nat) :
    cleanF env fs out stt = inCmd fs out stt false (clean env) := rfl

theorem stepF_newline_cleanF (env fs : Env) (out : List Str) (stt : Nat) :
    stepF (cleanF env fs out stt) 10 = some (cleanF env fs out stt) := by
  simp [stepF, cleanF, clean, endWord]

theorem finishF_cleanF (env fs : Env) (out : List Str) (stt : Nat) :
    finishF (cleanF env fs out stt) = some (cleanF env fs out stt) := by
  simp [finishF, stepF, cleanF, clean, endWord]

/-! ### a simple command -/

/-- what the second layer does, between two commands, with the words of a simple command: the branch of `stepF` at `;`
or a newline, as a function of the words (`stepF_end`) -/
def execF (env fs : Env) (out : List Str) : List Str → Option ShF
  | [] => none
  | w :: rest =>
    if w == sEcho then (echoLine rest).map fun l => cleanF env fs (out ++ [l]) 0
    else if w == sUnset && rest.head? != some sDashF && !unsetVarsOk env fs rest then none
    else (exec env (w :: rest)).map fun e' => cleanF e' (fnEffect (w :: rest) fs) out (if w == sFalse then 1 else 0)

theorem execF_idle {env fs : Env} {out : List Str} {ws : List Str} {r : ShF} (h : execF env fs out ws = some r) :
    finishF r = some r := by
  revert h
  fun_cases execF env fs out ws <;> intro h
  · cases h
  · obtain ⟨_, _, rfl⟩ := Option.map_eq_some_iff.mp h; exact finishF_cleanF ..
  · cases h
  · obtain ⟨_, _, rfl⟩ := Option.map_eq_some_iff.mp h; exact finishF_cleanF ..

/-- a command other than `echo` that passes the test on `unset NAME` (`Cmd.GoodAt`): the first layer's `exec`, and the
bookkeeping -/
theorem execF_of_exec {env e' : Env} {w : Str} {rest : List Str} (he : exec env (w :: rest) = some e') (fs : Env)
    (out : List Str) (hw : (w == sEcho) = false)
    (hu : (w == sUnset && rest.head? != some sDashF && !unsetVarsOk env fs rest) = false) :
    execF env fs out (w :: rest) = some (cleanF e' (fnEffect (w :: rest) fs) out (if w == sFalse then 1 else 0)) := by
  simp only [execF, hw, hu, he, Bool.false_eq_true, if_false, Option.map_some]

theorem execF_echo {rest : List Str} {l : Str} (h : echoLine rest = some l) (env fs : Env) (out : List Str) :
    execF env fs out (sEcho :: rest) = some (cleanF env fs (out ++ [l]) 0) := by
  simp only [execF, beq_self_eq_true, if_true, h, Option.map_some]

theorem stepF_end (fs : Env) (out : List Str) (stt : Nat) (q : Bool) (s : Sh) (hq : s.inq = false) (w : Str)
    (rest : List Str) (hargs : (endWord s).args = w :: rest) (t : Nat) (ht : t = 59 ∨ t = 10) :
    stepF (inCmd fs out stt q s) t = execF s.env fs out (w :: rest) := by
  have ht' : (t == 10 || t == 59) = true := by rcases ht with rfl | rfl <;> rfl
  have h34 : (t == 34) = false := by rcases ht with rfl | rfl <;> rfl
  have h39 : (t == 39) = false := by rcases ht with rfl | rfl <;> rfl
  have h40 : (t == 40) = false := by rcases ht with rfl | rfl <;> rfl
  simp only [stepF, inCmd, hq, Bool.false_eq_true, if_false, h34, h39, h40, ht', if_true, hargs, execF,
    stepChar_end hq hargs ht]
  cases exec s.env (w :: rest) <;> rfl

/-- on the second layer `t` is read between two commands, up to its end, as the words `ws` of one simple command -/
def SpellsF (t : Str) (ws : List Str) : Prop :=
  ∀ env fs out stt, ∃ q s, feedF (cleanF env fs out stt) t = some (inCmd fs out stt q s) ∧ s.inq = false ∧ s.env = env ∧
    (endWord s).args = ws

theorem spellsF_of_spells {t : Str} {ws : List Str} (h : Spells t ws) : SpellsF t ws := by
  intro env fs out stt
  obtain ⟨m, hm, hq, henv, hargs⟩ := h env []
  obtain ⟨q', hf, _⟩ := feedF_of_feedW fs out stt t false _ _ hm
  exact ⟨q', m, hf, hq, henv, hargs⟩

theorem readsF_of_spellsF {t : Str} {ws : List Str} (h : SpellsF t ws) {env fs : Env} {out : List Str} {r : ShF}
    (he : execF env fs out ws = some r) (stt : Nat) : Reads stepF finishF (cleanF env fs out stt) t r := by
  obtain ⟨q, s, hf, hq, rfl, hargs⟩ := h env fs out stt
  cases ws with
  | nil => cases he
  | cons w rest =>
    have hend := fun t ht => (stepF_end fs out stt q s hq w rest hargs t ht).trans he
    refine ⟨_, hf, hend 59 (.inl rfl), hend 10 (.inr rfl), ?_⟩
    rw [execF_idle he, ← hend 10 (.inr rfl)]
    simp [finishF, inCmd, hq]

/-! ### a function definition -/

theorem stepBody_safe (cm : List (List Str)) (a : List Str) (w : Option Str) (c : Nat) (hc : isSafe c = true) :
    stepBody { cmds := cm, args := a, cur := w } c = some (.inr { cmds := cm, args := a, cur := push w c }) := by
  have ne : ∀ d, isSafe d = false → c ≠ d := fun _ => ne_of_class hc
  simp [stepBody, hc, ne 39 rfl, ne 32 rfl, ne 9 rfl, ne 10 rfl, ne 59 rfl, ne 34 rfl, ne 36 rfl, ne 125 rfl]

theorem stepBody_blank (cm : List (List Str)) (a : List Str) (w : Option Str) (c : Nat) (hc : (c == 32 || c == 9) = true) :
    stepBody { cmds := cm, args := a, cur := w } c = some (.inr { cmds := cm, args := flushW a w, cur := none }) := by
  have : c = 32 ∨ c = 9 := by simpa using hc
  rcases this with rfl | rfl <;> cases w <;> rfl

theorem stepF_body {st : ShF} {k : Str} {b b' : Body} {c : Nat} (hm : st.mode = .body k b)
    (h : stepBody b c = some (.inr b')) : stepF st c = some { st with mode := .body k b' } := by
  simp only [stepF, hm, h]

theorem feedF_body_simple (k : Str) (cm : List (List Str)) (s : List Str × Option Str) (v : Str)
    (hv : ∀ c ∈ v, isSafe c = true ∨ c = 32 ∨ c = 9) :
    ∀ st : ShF, st.mode = .body k { cmds := cm, args := s.1, cur := s.2 } →
      feedF st v = some { st with mode := .body k { cmds := cm, args := (scanW s v).1, cur := (scanW s v).2 } } := by
  fun_induction scanW s v with
  | case1 s => intro st hm; rw [feedF_nil, ← hm]
  | case2 a w c r hc ih =>
    intro st hm
    rw [feedF_cons, stepF_body hm (stepBody_blank cm a w c hc)]
    exact ih (fun d hd => hv d (by simp [hd])) _ rfl
  | case3 a w c r hc ih =>
    intro st hm
    rw [feedF_cons, stepF_body hm (stepBody_safe cm a w c ((hv c (by simp)).resolve_right (by simpa using hc)))]
    exact ih (fun d hd => hv d (by simp [hd])) _ rfl

theorem feedF_fn_close (k : Str) (st : ShF) (a : List Str) (w' : Option Str) (w : Str) (r : List Str)
    (hm : st.mode = .body k { cmds := [], args := a, cur := w' }) (hw : flushW a w' = w :: r)
    (hres : reservedWords.contains w = false) :
    feedF st [32, 59, 32, 125] =
      some { st with mode := .afterFn, funcs := st.funcs.set k (joinWith [32] (w :: r)), status := 0 } := by
  have h2 : stepBody { cmds := [], args := w :: r, cur := none } 59 =
      some (.inr { cmds := [w :: r], args := [], cur := none }) := by
    have hres' : w ∉ reservedWords := by simpa using hres
    simp [stepBody, Body.endWord, Body.endCmd, hres']
  rw [feedF_cons, stepF_body hm (stepBody_blank [] a w' 32 rfl), hw, Option.bind_some, feedF_cons, stepF_body rfl h2]
  rfl  -- the blank and `}` by computation

theorem feedF_fn_open (env fs : Env) (out : List Str) (stt : Nat) (k : Str) (hk : fnNameOk k = true) :
    feedF (inCmd fs out stt false { env := env, args := [], cur := some k, inq := false }) [40, 41, 32, 123, 32] =
      some { cleanF env fs out stt with mode := .body k {} } := by
  rw [feedF_cons, show stepF _ 40 = some { cleanF env fs out stt with mode := .fnParen k } by simp [stepF, inCmd, hk, cleanF]]
  rfl

/-- state after `NAME() { BODY ; }`, before the terminator -/
def afterF (env fs : Env) (out : List Str) : ShF :=
  { sh := clean env, funcs := fs, out := out, status := 0, mode := .afterFn }

theorem feedF_aliasDef (env fs : Env) (out : List Str) (stt : Nat) (k v : Str) (hk : fnNameOk k = true)
    (hv : SimpleBody v) :
    feedF (cleanF env fs out stt) (Cmd.text (.aliasDef k v)) =
      some (afterF env (fs.set k (canon v)) out) := by
  have hid := fnNameOk_ident hk
  have hks := ident_safe hid
  obtain ⟨hchars, w, r, hw, hres⟩ := hv
  have hname : feedF (cleanF env fs out stt) k =
      some (inCmd fs out stt false { env := env, args := [], cur := some k, inq := false }) :=
    feedF_of_feedW_nq fs out stt false (feedW_safe k (clean env) rfl hks (ident_ne_nil hid))
      fun c hc => ne_of_class (hks c hc) rfl
  rw [Cmd.text, List.append_assoc, List.append_assoc, feedF_append, hname, Option.bind_some, feedF_append,
    feedF_fn_open env fs out stt k hk, Option.bind_some, feedF_append,
    feedF_body_simple k [] ([], none) v hchars _ rfl, Option.bind_some, feedF_fn_close k _ _ _ w r rfl hw hres, canon, hw]
  rfl  -- the updates `{ st with mode := … }` the steps stacked on `cleanF …` are `afterF …` field by field

theorem stepF_afterF (env fs : Env) (out : List Str) (t : Nat) (ht : t = 59 ∨ t = 10) :
    stepF (afterF env fs out) t = some (cleanF env fs out 0) := by
  rcases ht with rfl | rfl <;> simp [stepF, afterF, cleanF]

theorem finishF_afterF (env fs : Env) (out : List Str) : finishF (afterF env fs out) = some (cleanF env fs out 0) := by
  simp [finishF, afterF, cleanF, clean]

/-! ### the command list -/

/-- the state matters for `unset NAME` only: with a function NAME and no variable, bash and dash differ and `stepF`
refuses (`unsetVarsOk`) -/
def Cmd.GoodAt (env fs : Env) : Cmd → Prop
  | .setVar k v => isIdent k = true ∧ Writable v
  | .unsetVar k => isIdent k = true ∧ (env.has k = true ∨ fs.has k = false)
  | .aliasDef k v => fnNameOk k = true ∧ SimpleBody v
  | .aliasDel k => isIdent k = true

theorem readsF_goodAt (env fs : Env) (out : List Str) (stt : Nat) (c : Cmd) (h : c.GoodAt env fs) :
    Reads stepF finishF (cleanF env fs out stt) c.text (cleanF (c.apply env) (c.applyF fs) out 0) := by
  cases c with
  | setVar k v =>
    exact readsF_of_spellsF (spellsF_of_spells (spells_setVar k v h.1 h.2))
      (execF_of_exec (exec_export env k v h.1) fs out rfl rfl) stt
  | unsetVar k =>
    have h5 : unsetVarsOk env fs [k] = true := by rcases h.2 with h | h <;> simp [unsetVarsOk, h]
    have := readsF_of_spellsF (spellsF_of_spells (spells_unsetVar k h.1))
      (execF_of_exec (exec_unset env k h.1) fs out rfl (by simp [h5])) stt
    rwa [show fnEffect [sUnset, k] fs = fs by simp [fnEffect, ident_ne_dashF h.1]] at this
  | aliasDef k v =>
    exact ⟨_, feedF_aliasDef env fs out stt k v h.1 h.2, stepF_afterF env _ out 59 (.inl rfl),
      stepF_afterF env _ out 10 (.inr rfl), (finishF_afterF env _ out).trans (finishF_cleanF ..).symm⟩
  | aliasDel k =>
    exact readsF_of_spellsF (spellsF_of_spells (spells_aliasDel k h))
      (execF_of_exec (exec_unset_f env k h) fs out rfl rfl) stt

/-- every command is good in the state its predecessors leave -/
def GoodSeq : Env → Env → List Cmd → Prop
  | _, _, [] => True
  | env, fs, c :: r => c.GoodAt env fs ∧ GoodSeq (c.apply env) (c.applyF fs) r

theorem goodSeq_append (a b : List Cmd) : ∀ env fs, GoodSeq env fs (a ++ b) ↔
    GoodSeq env fs a ∧ GoodSeq (applyAll a env) (applyAllF a fs) b := by
  induction a with
  | nil => intro env fs; simp [GoodSeq, applyAll_nil, applyAllF]
  | cons c r ih =>
    intro env fs
    simp only [List.cons_append, GoodSeq, applyAll_cons, applyAllF_cons, ih, and_assoc]

theorem foldl_apply_applyF (cmds : List Cmd) : ∀ env fs : Env,
    cmds.foldl (fun (a : Env × Env) c => (c.apply a.1, c.applyF a.2)) (env, fs) = (applyAll cmds env, applyAllF cmds fs) := by
  induction cmds with
  | nil => intro _ _; rfl
  | cons c r ih => intro env fs; exact ih _ _

theorem shEvalF_join (cmds : List Cmd) (nl : Bool) (env fs : Env) (hg : GoodSeq env fs cmds) :
    shEvalF env fs (join (cmds.map Cmd.text) ++ (if nl then [10] else [])) =
      some (cleanF (applyAll cmds env) (applyAllF cmds fs) [] 0) := by
  have := reads_join stepF finishF Cmd.text (fun a : Env × Env => cleanF a.1 a.2 [] 0)
    (fun c a => (c.apply a.1, c.applyF a.2)) (fun a c => c.GoodAt a.1 a.2) (fun _ => stepF_newline_cleanF ..)
    (fun a c hc => readsF_goodAt a.1 a.2 [] 0 c hc) nl cmds (env, fs)
    (fun pre c post hx => by rw [hx, goodSeq_append] at hg; rw [foldl_apply_applyF]; exact hg.2.1)
  rw [foldl_apply_applyF, finishF_cleanF] at this
  exact this

theorem goodSeq_static (l : List Cmd) : ∀ env fs, (∀ c ∈ l, ∀ env fs, c.GoodAt env fs) → GoodSeq env fs l := by
  induction l with
  | nil => intro _ _ _; trivial
  | cons c r ih =>
    intro env fs h
    exact ⟨h c (by simp) env fs, ih _ _ (fun d hd => h d (by simp [hd]))⟩

theorem goodSeq_unsets (o : Opts) (new fs : Env) (oldl : OldEnv) : ∀ e : Env, (oldl.map (·.1)).Nodup →
    (∀ p ∈ oldl, isIdent p.1 = true ∧ e.has p.1 = true) → GoodSeq e fs (oldl.filterMap (unsetCmd? o new)) := by
  induction oldl with
  | nil => intro _ _ _; trivial
  | cons p rest ih =>
    intro e hnd hall
    have hnd' : (rest.map (·.1)).Nodup := (List.nodup_cons.mp hnd).2
    have hp : p.1 ∉ rest.map (·.1) := (List.nodup_cons.mp hnd).1
    cases hc : unsetCmd? o new p with
    | none =>
      simp only [List.filterMap_cons, hc]
      exact ih e hnd' (fun q hq => hall q (by simp [hq]))
    | some c =>
      have hcv := unsetCmd?_some hc
      subst hcv
      simp only [List.filterMap_cons, hc]
      refine ⟨⟨(hall p (by simp)).1, Or.inl (hall p (by simp)).2⟩, ?_⟩
      apply ih (e.unset p.1) hnd'
      intro q hq
      refine ⟨(hall q (by simp [hq])).1, ?_⟩
      have hne : q.1 ≠ p.1 := fun h => hp (List.mem_map.mpr ⟨q, hq, h⟩)
      have := (hall q (by simp [hq])).2
      simpa [Env.has, Env.get_unset_other e p.1 q.1 hne] using this

/-- each `unset NAME` finds the variable NAME still there (the caller's environment is a dictionary) -/
theorem goodSeq_vars (o : Opts) (hna : o.noaction = false) (old : OldEnv) (base new fs : Env) (ht : Tracks old base)
    (hidb : ∀ p ∈ base, isIdent p.1 = true) (hbnd : (base.map (·.1)).Nodup)
    (hidn : ∀ p ∈ new, isIdent p.1 = true) (hnd : (new.map (·.1)).Nodup)
    (halpha : ∀ p ∈ new, old.lookup p.1 ≠ some (some p.2) → Writable p.2) :
    GoodSeq base fs (emitVarsOn o old new) := by
  rw [emitVarsOn, goodSeq_append]
  constructor
  · refine goodSeq_static _ _ _ fun c hc _ _ => ?_
    obtain ⟨p, hp, hpc⟩ := List.mem_filterMap.mp hc
    obtain ⟨rfl, hl⟩ := setCmd?_some hpc
    exact ⟨hidn p hp, halpha p hp hl⟩
  · apply goodSeq_unsets
    · rw [ht.keys]; exact hbnd
    · intro p hp
      refine ⟨tracks_ident ht hidb p hp, ?_⟩
      have hb := (has_iff_mem_keys base p.1).mpr (tracks_key_mem ht hp)
      have := exports_spec o hna old new hnd base (fun p _ hl => ht.value p.1 p.2 hl) p.1
      simp only [Env.has] at hb ⊢
      rw [this]
      cases Env.get new p.1 with
      | some v => rfl
      | none => exact hb

theorem aliasCmds_static (al : List (Str × Str)) (oal : List (Str × Option Str))
    (hal : ∀ p ∈ al, fnNameOk p.1 = true ∧ SimpleBody p.2) (hoal : ∀ p ∈ oal, isIdent p.1 = true) :
    ∀ c ∈ emitAliases al oal, ∀ env fs, c.GoodAt env fs := by
  intro c hc _ _
  rcases mem_emitAliases hc with ⟨p, hp, rfl⟩ | ⟨p, hp, rfl⟩
  · exact hal p hp
  · exact hoal p hp

/-- the round trip of the complete text (variables and aliases) in its general form: with `--force` the old environment
has forgotten values (`tracks_runActs`) -/
theorem roundtrip_aliases_tracks (old : OldEnv) (base new funcs0 : Env) (ht : Tracks old base)
    (aliases : List (Str × Str)) (oldAliases : List (Str × Option Str)) (nl : Bool)
    (hidb : ∀ p ∈ base, isIdent p.1 = true) (hbnd : (base.map (·.1)).Nodup)
    (hidn : ∀ p ∈ new, isIdent p.1 = true) (hnd : (new.map (·.1)).Nodup)
    (halpha : ∀ p ∈ new, old.lookup p.1 ≠ some (some p.2) → Writable p.2)
    (hprot : ∀ k, isProtected k = true → base.has k = true → new.has k = true)
    (hal : ∀ p ∈ aliases, fnNameOk p.1 = true ∧ SimpleBody p.2) (haldict : (aliases.map (·.1)).Nodup)
    (hoal : ∀ p ∈ oldAliases, isIdent p.1 = true)
    (htrack : ∀ p ∈ aliases, defCmd? oldAliases p = none → funcs0.get p.1 = some (canon p.2)) :
    ∃ cmds r, emit {} old new aliases oldAliases = some cmds ∧
      shEvalF base funcs0 (join cmds ++ (if nl then [10] else [])) = some r ∧
      SameEnv r.sh.env new ∧
      (∀ n, r.funcs.get n = match Env.get aliases n with
                            | some v => some (canon v)
                            | none => if oldAliases.any (·.1 == n) then none else funcs0.get n) ∧
      r.out = [] ∧ r.status = 0 := by
  have hgs : GoodSeq base funcs0 (emitVarsOn {} old new ++ emitAliases aliases oldAliases) :=
    (goodSeq_append ..).mpr ⟨goodSeq_vars {} rfl _ base new funcs0 ht hidb hbnd hidn hnd halpha,
      goodSeq_static _ _ _ (aliasCmds_static aliases oldAliases hal hoal)⟩
  refine ⟨_, _, mapM_render_sh {} rfl rfl _, shEvalF_join _ nl base funcs0 hgs,
    emitCmds_apply {} rfl _ base new ht hnd (.inr hprot) aliases oldAliases, fun n => ?_, rfl, rfl⟩
  show (applyAllF (emitVarsOn {} _ new ++ _) funcs0).get n = _
  rw [applyAllF_append, applyAllF_vars]
  exact aliases_spec aliases oldAliases funcs0 haldict htrack n

/-! ### `-n` -/

/-- literal inside double quotes: all but `"`, `$`, backquote, backslash -/
abbrev DqOk (c : Nat) : Prop := c ≠ 34 ∧ c ≠ 36 ∧ c ≠ 96 ∧ c ≠ 92

theorem feedF_dquoted (t : Str) (st : ShF) (hm : st.mode = .cmd) (hq : st.sh.inq = false) (hd : st.dq = false)
    (ht : ∀ c ∈ t, DqOk c) :
    feedF st (34 :: (t ++ [34])) =
      some { st with q := true, sh := { st.sh with cur := some (st.sh.cur.getD [] ++ t) } } := by
  have h0 : stepF st 34 = some { st with dq := true, q := true, sh := { st.sh with cur := some (st.sh.cur.getD []) } } := by
    simp [stepF, hm, hq, hd]
  have := foldlM_run stepF (fun a => { st with dq := true, q := true, sh := { st.sh with cur := some a } }) DqOk
    (fun a c ⟨h1, h2, h3, h4⟩ => by simp [stepF, hm, hq, h1, h2, h3, h4, push]) t (st.sh.cur.getD []) ht
  rw [feedF_cons, h0, Option.bind_some, feedF_append]
  simp only [feedF] at this ⊢
  rw [this]
  simp [stepF, hm, hq, hd]

theorem spellsF_echo (t : Str) (ht : ∀ c ∈ t, DqOk c) : SpellsF (echoText t) [sEcho, t] := by
  intro env fs out stt
  refine ⟨true, { env := env, args := [sEcho], cur := some t, inq := false }, ?_, rfl, rfl, rfl⟩
  unfold echoText
  rw [show ([101, 99, 104, 111, 32, 34] ++ t ++ [34] : Str) = (sEcho ++ [32]) ++ (34 :: (t ++ [34])) by simp [sEcho],
    feedF_append, cleanF_eq_inCmd,
    feedF_of_feedW_nq fs out stt false (feedW_word (clean env) sEcho rfl rfl (by decide) (by decide)) (by decide),
    Option.bind_some, feedF_dquoted t _ rfl rfl rfl ht]
  rfl

/-- texts `echo "…"` prints as they are (dash's `echo` interprets options and backslash escapes) -/
def Echoable (t : Str) : Prop := (∀ c ∈ t, DqOk c) ∧ t.head? ≠ some 45

theorem readsF_echo (env fs : Env) (out : List Str) (stt : Nat) (t : Str) (ht : Echoable t) :
    Reads stepF finishF (cleanF env fs out stt) (echoText t) (cleanF env fs (out ++ [t]) 0) := by
  refine readsF_of_spellsF (spellsF_echo t ht.1) (execF_echo ?_ env fs out) stt
  have hb : (92 : Nat) ∉ t := fun h => (ht.1 92 h).2.2.2 rfl
  simp [echoLine, ht.2, hb, joinWith]

theorem shEvalF_join_echo (ts : List Str) (nl : Bool) (env fs : Env) (hg : ∀ t ∈ ts, Echoable t) :
    shEvalF env fs (join (ts.map echoText) ++ (if nl then [10] else [])) = some (cleanF env fs ts 0) := by
  have := reads_join stepF finishF echoText (fun out => cleanF env fs out 0) (fun t out => out ++ [t])
    (fun _ t => Echoable t) (fun _ => stepF_newline_cleanF ..) (fun out t ht => readsF_echo env fs out 0 t ht) nl ts []
    (fun _ t _ hx => hg t (by simp [hx]))
  rw [finishF_cleanF, List.foldl_append_eq_append, ← List.flatMap_def, List.flatMap_singleton', List.nil_append] at this
  exact this

theorem alpha_dqOk {c : Nat} (h : isSafe c = true ∨ isShMeta c = true) : DqOk c :=
  ⟨alpha_ne h rfl rfl, alpha_ne h rfl rfl, alpha_ne h rfl rfl, alpha_ne h rfl rfl⟩

/-- the alphabet has none of `"`, `$`, backquote, backslash -/
theorem good_text_echoable (c : Cmd) (h : c.Good InAlphabet) : Echoable c.text := by
  have hw : ∀ w ∈ [sExport, sUnset, sDashF, [61], [32]], ∀ d ∈ w, DqOk d := by decide
  have hid : ∀ {k}, isIdent k = true → ∀ d ∈ k, DqOk d := fun hk d hd => alpha_dqOk (.inl (ident_safe hk d hd))
  have hval : ∀ {v}, InAlphabet v → ∀ d ∈ emitVal v, DqOk d := by
    intro v hv
    rcases emitVal_alpha hv with he | ⟨he, _⟩
    · rw [he, ← List.singleton_append]
      simp only [List.forall_mem_append]
      exact ⟨by decide, fun d hd => alpha_dqOk (hv d hd), by decide⟩
    · rw [he]; exact fun d hd => alpha_dqOk (hv d hd)
  -- one component per piece of `Cmd.text`, from left to right
  cases c with
  | setVar k v =>
    refine ⟨?_, by simp [Cmd.text, sExport]⟩
    simp only [Cmd.text, List.forall_mem_append]
    exact ⟨⟨⟨⟨hw _ (by simp), hw _ (by simp)⟩, hid h.1⟩, hw _ (by simp)⟩, hval h.2⟩
  | unsetVar k =>
    refine ⟨?_, by simp [Cmd.text, sUnset]⟩
    simp only [Cmd.text, List.forall_mem_append]
    exact ⟨⟨hw _ (by simp), hw _ (by simp)⟩, hid h⟩
  | aliasDef k v => exact h.elim
  | aliasDel k =>
    refine ⟨?_, by simp [Cmd.text, sUnset]⟩
    simp only [Cmd.text, List.forall_mem_append]
    exact ⟨⟨⟨⟨hw _ (by simp), hw _ (by simp)⟩, hw _ (by simp)⟩, hw _ (by simp)⟩, hid h⟩

/-- `-n` in its general form (with `--force` the old environment has forgotten values: `tracks_runActs`): the shell only
prints the commands, one per line -/
theorem noaction_prints_tracks (o : Opts) (ho : o.noaction = true) (hsh : o.shell = .sh) (old : OldEnv)
    (base new funcs0 : Env) (ht : Tracks old base) (nl : Bool)
    (hidb : ∀ p ∈ base, isIdent p.1 = true) (hidn : ∀ p ∈ finalEnv o new, isIdent p.1 = true)
    (halpha : ∀ p ∈ finalEnv o new, old.lookup p.1 ≠ some (some p.2) → InAlphabet p.2) :
    ∃ cmds r, emit o old new [] [] = some cmds ∧
      shEvalF base funcs0 (join cmds ++ (if nl then [10] else [])) = some r ∧
      r.sh.env = base ∧ r.funcs = funcs0 ∧ r.status = 0 ∧
      r.out = (emitVars o old new).map Cmd.text := by
  have hgood := emitVarsOn_good (P := InAlphabet) o old base (finalEnv o new) ht hidb hidn halpha
  have hev := shEvalF_join_echo ((emitVars o old new).map Cmd.text) nl base funcs0 (fun t hm => by
    obtain ⟨c, hc, rfl⟩ := List.mem_map.mp hm
    exact good_text_echoable c (hgood c hc))
  rw [List.map_map] at hev
  refine ⟨_, _, ?_, hev, rfl, rfl, rfl, rfl⟩
  unfold emit emitCmds
  rw [show emitAliases [] [] = [] from rfl, List.append_nil]
  exact mapM_eq_some_map _ fun c hc => render_noaction o ho hsh c (hgood c hc)

end EupsModel.ShellEmit
