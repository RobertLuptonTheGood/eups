import EupsModel.Lemmas.Db
/-! Every command of `Model/Db.lean` as a decision followed by an action.  The decision (`plan`) is the command up to its
first dry-run guard; it never reads a `noaction` field, so the dry run, the real run and `wouldDo` (which reports what the
decision says) decide alike.  The action (`Act.exec`) is what is left of the command, with the flag.  Each `*_plan`
equation unfolds a command once, together with its `wouldDo` branch: one case analysis serves both, hence the
conjunctions.  `declare_eq`, `undeclare_cases`, `assignTag_eq`: the command under its own flag, as a `match` on its
decision. -/
namespace EupsModel.Db

/-- What a command has settled when it reaches its first dry-run guard. -/
inductive Act
  | untag (f : Flav) (t : Tag) (n : Name) (s : Nat)
  /-- the tail of `Eups.assignTag`, which has no guard: it acts under either flag -/
  | assign (s : Nat) (t : Tag) (n : Name) (f : Flav) (v : Ver)
  | declare (a : DeclareArgs) (r : Resolved) (tag : Option Tag) (rd : Redeclare)
  /-- `untagFirst`, then `removeVersion`, of version `v` in stack `s`; `rm`: the directory `Eups.remove` deletes
  afterwards, and whether it is there -/
  | unversion (a : UndeclareArgs) (v : Ver) (s : Nat) (rm : Option (Dir × Bool))

def Act.exec (nst : Nat) (b : Bool) : Act → Proc → Outcome × Proc
  | .untag f t n s, p => doUnassign f t n s b p
  | .assign s t n f v, p => (.ok, p.emit (.assign s t n f v))
  | .declare a r tag rd, p => declareFinish nst { a with noaction := b } r tag rd p
  | .unversion a v s rm, p =>
    let r := removeVersion { a with noaction := b } v s (untagFirst nst { a with noaction := b } v s p)
    match rm with
    | none => r
    | some (dir, there) =>
      match r with
      | (.ok, p1) => if b then (.ok, p1) else if there then (.ok, p1.emit (.rmTree dir)) else (.failed, p1)
      | r => r

/-- what the dry run of `declare` announces once the redeclaration check has passed -/
def declareSays (r : Resolved) (tag : Option Tag) (rd : Redeclare) : List Msg :=
  (if rd == .write then [.declaring r.target tag] else []) ++
    (match tag with | some t => [.assigning t] | none => []) ++ r.saveList.map (fun e => Msg.copy e.1)

def Act.says (nst : Nat) (m : Spec) : Act → List Msg
  | .untag _ t _ _ => [.untag t]
  | .assign _ t _ _ _ => [.assigning t]
  | .declare _ r tag rd => declareSays r tag rd
  | .unversion a v s rm =>
    (match a.tag with
      | some t => if saysUntag nst a.self t a.name (some v) (some s) m then [.untag t] else []
      | none => []) ++ (match rm with | none => [.removing v s] | some (dir, _) => [.removing v s, .rmrf dir])

/-- a decision carried out: the outcome it stops with (`.error`; it may be `ok`: a message and nothing else), or the
action -/
def decided (nst : Nat) (b : Bool) (p : Proc) : Except Outcome Act → Outcome × Proc
  | .error o => (o, p)
  | .ok act => act.exec nst b p

def said (nst : Nat) (m : Spec) : Except Outcome Act → List Msg
  | .error _ => []
  | .ok act => act.says nst m

/-- the stack `unassignTag` takes the tag from (`.error .ok`: it stops with a message and ends well, see `decided`) -/
def planUnassign (nst : Nat) (f : Flav) (t : Tag) (n : Name) (v : Option Ver) (st : Option Nat) (m : Spec) :
    Except Outcome Nat :=
  match v with
  | some v =>
    match m.findIn (stacksOf nst st) n v f with
    | none => .error .notFound
    | some prod => if (m.tagsOf prod).contains t then .ok prod.stack else .error .ok
  | none =>
    match st with
    | some s => .ok s
    | none =>
      match m.findTagged (allStacks nst) n t f with
      | some prod => .ok prod.stack
      | none => if m.anyVersion (allStacks nst) n f then .error .ok else .error .notFound

/-- the stack `assignTag` assigns the tag in -/
def planAssign (f : Flav) (n : Name) (v : Ver) (stacks : List Nat) (p : Proc) : Except Outcome Nat :=
  match p.mem.findIn stacks n v f with
  | none => .error .notFound
  | some prod => if !(p.db.hasDecl prod.stack n v f) then .error .notFound else .ok prod.stack

/-- the version `undeclareVersion` settles on and the product it finds -/
def planUnversion (nst : Nat) (a : UndeclareArgs) (ver : Option Ver) (m : Spec) : Except Outcome (Ver × Decl) :=
  match inferVersion nst a ver m with
  | .error o => .error o
  | .ok v =>
    match m.findIn (stacksOf nst a.stack) a.name v a.self with
    | none => .error .notFound
    | some prod => if isSetup a m prod.stack v && !a.force then .error .refused else .ok (v, prod)

/-- the arguments `declare` resolves and what it decides about the version record -/
def planDeclare (nst : Nat) (a : DeclareArgs) (p : Proc) : Except Outcome (Resolved × Redeclare) :=
  match resolveDeclare nst a p with
  | none => .error .refused
  | some r =>
    match redeclare (p.mem.findDecl r.target a.name a.ver a.self)
        ((p.mem.findDecl r.target a.name a.ver a.self).bind p.tableContent) r.d r.content
        (declareTag nst a p.mem).isSome a.force (extDiff p a r.target r.diffList) with
    | .refuse => .error .refused
    | rd => .ok (r, rd)

def planUndeclare (nst : Nat) (a : UndeclareArgs) (m : Spec) : Except Outcome Act :=
  match a.tag with
  | none => (planUnversion nst a a.ver m).map fun x => .unversion a x.1 x.2.stack none
  | some t =>
    if a.versionAndTag then
      let ver : Option Ver := match a.ver with
        | some v => some v
        | none =>
          match findProducts m nst a.self a.name (some t) (stacksOf nst a.stack) with
          | [d] => some d.ver
          | _ => none
      (planUnversion nst a ver m).map fun x => .unversion a x.1 x.2.stack none
    else (planUnassign nst a.self t a.name a.ver a.stack m).map (.untag a.self t a.name)

def planRemove (nst : Nat) (f : Flav) (n : Name) (v : Ver) (rc fo : Bool) (su : Option (Ver × Flav × Nat)) (p : Proc) :
    Except Outcome Act :=
  match p.mem.findIn (allStacks nst) n v f with
  | none => .error .notFound
  | some prod =>
    if rc && prod.table != .none && (p.tableContent prod).isNone then .error .tableMissing else
    (planUnversion nst ⟨f, n, some v, none, none, false, false, fo, su⟩ (some v) p.mem).map fun x =>
      .unversion ⟨f, n, some v, none, none, false, false, fo, su⟩ x.1 x.2.stack (some (prod.dir, p.dirExists prod.dir))

def plan (nst : Nat) (c : Cmd) (p : Proc) : Except Outcome Act :=
  match c with
  | .declare a => (planDeclare nst a p).map fun x => .declare a x.1 (declareTag nst a p.mem) x.2
  | .undeclare a => planUndeclare nst a p.mem
  | .assignTag f t n v st => (planAssign f n v (stacksOf nst st) p).map fun s => .assign s t n f v
  | .unassignTag f t n v st _ => (planUnassign nst f t n v st p.mem).map (.untag f t n)
  | .remove f n v rc _ fo su => planRemove nst f n v rc fo su p
  | .query _ => .error .ok

/-- the same command with the dry-run flag set to `b` (`assignTag` and queries have none) -/
def Cmd.withNoaction (b : Bool) : Cmd → Cmd
  | .declare a => .declare { a with noaction := b }
  | .undeclare a => .undeclare { a with noaction := b }
  | .unassignTag f t n v st _ => .unassignTag f t n v st b
  | .remove f n v rc _ fo su => .remove f n v rc b fo su
  | .assignTag f t n v st => .assignTag f t n v st
  | .query f => .query f

/-- the commands C15 speaks of (those with a dry-run flag of their own): declare, undeclare, tag removal, remove -/
def Cmd.dryable : Cmd → Bool
  | .declare _ => true
  | .undeclare _ => true
  | .unassignTag .. => true
  | .remove .. => true
  | _ => false

theorem Cmd.withNoaction_self (b : Bool) (c : Cmd) : (c.withNoaction b).self = c.self := by cases c <;> rfl

theorem Cmd.withNoaction_noaction (c : Cmd) (h : c.dryable = true) : (c.withNoaction true).noaction = true := by
  cases c <;> first | rfl | simp [Cmd.dryable] at h

theorem Cmd.withNoaction_same (c : Cmd) : c.withNoaction c.noaction = c := by cases c <;> rfl

theorem planAssign_error {f : Flav} {n : Name} {v : Ver} {stacks : List Nat} {p : Proc} {o : Outcome}
    (h : planAssign f n v stacks p = .error o) : o = .notFound := by
  unfold planAssign at h
  split at h
  · cases h; rfl
  · split at h <;> cases h; rfl

theorem planAssign_ok {f : Flav} {n : Name} {v : Ver} {stacks : List Nat} {p : Proc} {s : Nat}
    (h : planAssign f n v stacks p = .ok s) : s ∈ stacks ∧ p.db.hasDecl s n v f = true := by
  unfold planAssign at h
  split at h
  · cases h
  · rename_i prod hf
    split at h
    · cases h
    · rename_i hd; cases h; exact ⟨findIn_mem hf, by simpa using hd⟩

theorem planUnversion_error {nst : Nat} {a : UndeclareArgs} {ver : Option Ver} {m : Spec} {o : Outcome}
    (h : planUnversion nst a ver m = .error o) : o ≠ .ok := by
  unfold planUnversion at h
  split at h
  · rename_i hi; cases h; exact inferVersion_error_ne_ok hi
  · split at h
    · cases h; simp
    · split at h <;> cases h; simp

theorem planUnversion_ok {nst : Nat} {a : UndeclareArgs} {ver : Option Ver} {m : Spec} {x : Ver × Decl}
    (h : planUnversion nst a ver m = .ok x) : ∀ v', ver = some v' → x.1 = v' := by
  unfold planUnversion at h
  split at h
  · cases h
  · rename_i v hi
    split at h
    · cases h
    · split at h
      · cases h
      · cases h; exact inferVersion_some hi

theorem planDeclare_error {nst : Nat} {a : DeclareArgs} {p : Proc} {o : Outcome}
    (h : planDeclare nst a p = .error o) : o = .refused := by
  unfold planDeclare at h
  split at h
  · cases h; rfl
  · split at h <;> cases h; rfl

theorem planDeclare_ok {nst : Nat} {a : DeclareArgs} {p : Proc} {x : Resolved × Redeclare}
    (h : planDeclare nst a p = .ok x) : resolveDeclare nst a p = some x.1 := by
  unfold planDeclare at h
  split at h
  · cases h
  · rename_i r hr
    split at h
    · cases h
    · cases h; exact hr

theorem planUndeclare_cases (nst : Nat) (a : UndeclareArgs) (m : Spec) :
    (∃ t, a.tag = some t ∧ a.versionAndTag = false ∧
      planUndeclare nst a m = (planUnassign nst a.self t a.name a.ver a.stack m).map (.untag a.self t a.name)) ∨
    ∃ ver, (a.tag = none ∨ a.versionAndTag = true) ∧ (∀ v', a.ver = some v' → ver = some v') ∧
      planUndeclare nst a m = (planUnversion nst a ver m).map fun x => .unversion a x.1 x.2.stack none := by
  unfold planUndeclare
  cases ht : a.tag with
  | none => exact .inr ⟨a.ver, .inl rfl, fun _ h => h, rfl⟩
  | some t =>
    dsimp only
    cases hv : a.versionAndTag with
    | false => exact .inl ⟨t, rfl, rfl, rfl⟩
    | true => exact .inr ⟨_, .inr rfl, fun v' h => by simp [h], rfl⟩

theorem unassignTag_plan (nst : Nat) (f : Flav) (t : Tag) (n : Name) (v : Option Ver) (st : Option Nat) (b : Bool)
    (p : Proc) :
    unassignTag nst f t n v st b p = decided nst b p ((planUnassign nst f t n v st p.mem).map (.untag f t n)) ∧
    saysUntag nst f t n v st p.mem = (planUnassign nst f t n v st p.mem).isOk := by
  unfold unassignTag saysUntag planUnassign
  cases v with
  | some v =>
    dsimp only
    cases p.mem.findIn (stacksOf nst st) n v f with
    | none => exact ⟨rfl, rfl⟩
    | some prod => dsimp only; cases (p.mem.tagsOf prod).contains t <;> exact ⟨rfl, rfl⟩
  | none =>
    dsimp only
    cases st with
    | some s => exact ⟨rfl, rfl⟩
    | none =>
      dsimp only
      cases p.mem.findTagged (allStacks nst) n t f with
      | some prod => exact ⟨rfl, rfl⟩
      | none => dsimp only; cases p.mem.anyVersion (allStacks nst) n f <;> exact ⟨rfl, rfl⟩

theorem assignTag_eq (f : Flav) (t : Tag) (n : Name) (v : Ver) (stacks : List Nat) (p : Proc) :
    assignTag f t n v stacks p =
      match planAssign f n v stacks p with
      | .error o => (o, p)
      | .ok s => (.ok, p.emit (.assign s t n f v)) := by
  unfold assignTag planAssign
  cases p.mem.findIn stacks n v f with
  | none => rfl
  | some prod => dsimp only; cases p.db.hasDecl prod.stack n v f <;> rfl

theorem undeclareVersion_plan (nst : Nat) (a : UndeclareArgs) (ver : Option Ver) (b : Bool) (p : Proc) :
    undeclareVersion nst { a with noaction := b } ver p =
      decided nst b p ((planUnversion nst a ver p.mem).map fun x => .unversion a x.1 x.2.stack none) ∧
    sayUndeclareVersion nst a ver p.mem =
      match planUnversion nst a ver p.mem with
      | .error _ => ([], none)
      | .ok x => ((Act.unversion a x.1 x.2.stack none).says nst p.mem, some x.2) := by
  obtain ⟨self, name, ver0, stack, tag, vat, na, force, setup⟩ := a
  unfold undeclareVersion sayUndeclareVersion planUnversion
  -- the command scrutinises `inferVersion` of the arguments with flag `b`, the decision that of `a`: the same by
  -- unfolding (the flag is not read), not for `cases`; each `show`, here and in `declare_plan`, gives the command the
  -- decision's term
  show (match inferVersion nst ⟨self, name, ver0, stack, tag, vat, na, force, setup⟩ ver p.mem with
    | .error o => _ | .ok v => _) = _ ∧ _
  cases inferVersion nst ⟨self, name, ver0, stack, tag, vat, na, force, setup⟩ ver p.mem with
  | error o => exact ⟨rfl, rfl⟩
  | ok v =>
    dsimp only
    cases p.mem.findIn (stacksOf nst stack) name v self with
    | none => exact ⟨rfl, rfl⟩
    | some prod =>
      dsimp only
      show (if (isSetup ⟨self, name, ver0, stack, tag, vat, na, force, setup⟩ p.mem prod.stack v && !force) = true
        then _ else _) = _ ∧ _
      cases (isSetup ⟨self, name, ver0, stack, tag, vat, na, force, setup⟩ p.mem prod.stack v && !force)
      · exact ⟨rfl, rfl⟩
      · exact ⟨rfl, rfl⟩

theorem saysUntag_said (nst : Nat) (f : Flav) (t : Tag) (n : Name) (v : Option Ver) (st : Option Nat) (p : Proc) :
    (if saysUntag nst f t n v st p.mem then [Msg.untag t] else []) =
      said nst p.mem ((planUnassign nst f t n v st p.mem).map (.untag f t n)) := by
  rw [(unassignTag_plan nst f t n v st false p).2]
  cases planUnassign nst f t n v st p.mem <;> rfl

theorem sayUndeclareVersion_said (nst : Nat) (a : UndeclareArgs) (ver : Option Ver) (p : Proc) :
    (sayUndeclareVersion nst a ver p.mem).1 =
      said nst p.mem ((planUnversion nst a ver p.mem).map fun x => .unversion a x.1 x.2.stack none) := by
  rw [(undeclareVersion_plan nst a ver false p).2]
  cases planUnversion nst a ver p.mem <;> rfl

theorem undeclare_plan (nst : Nat) (a : UndeclareArgs) (b : Bool) (p : Proc) :
    undeclare nst { a with noaction := b } p = decided nst b p (planUndeclare nst a p.mem) ∧
    wouldDo nst (.undeclare a) p = said nst p.mem (planUndeclare nst a p.mem) := by
  obtain ⟨self, name, ver0, stack, tag, vat, na, force, setup⟩ := a
  unfold undeclare wouldDo planUndeclare
  cases tag with
  | none =>
    exact ⟨(undeclareVersion_plan nst ⟨self, name, ver0, stack, none, vat, na, force, setup⟩ _ b p).1,
      sayUndeclareVersion_said ..⟩
  | some t =>
    dsimp only
    cases vat with
    | true =>
      exact ⟨(undeclareVersion_plan nst ⟨self, name, ver0, stack, some t, true, na, force, setup⟩ _ b p).1,
        sayUndeclareVersion_said ..⟩
    | false => exact ⟨(unassignTag_plan nst self t name ver0 stack b p).1, saysUntag_said ..⟩

theorem remove_plan (nst : Nat) (f : Flav) (n : Name) (v : Ver) (rc na b fo : Bool) (su : Option (Ver × Flav × Nat))
    (p : Proc) :
    remove nst f n v rc b fo su p = decided nst b p (planRemove nst f n v rc fo su p) ∧
    wouldDo nst (.remove f n v rc na fo su) p = said nst p.mem (planRemove nst f n v rc fo su p) := by
  unfold remove wouldDo planRemove
  dsimp only
  cases p.mem.findIn (allStacks nst) n v f with
  | none => exact ⟨rfl, rfl⟩
  | some prod =>
    dsimp only
    -- `split` on a goal of this size is slow to check, hence `by_cases`
    by_cases hc : (rc && prod.table != .none && (p.tableContent prod).isNone) = true
    · rw [if_pos hc, if_pos hc, if_pos hc]; exact ⟨rfl, rfl⟩
    · rw [if_neg hc, if_neg hc, if_neg hc]
      have hu : undeclare nst ⟨f, n, some v, none, none, false, b, fo, su⟩ p = _ :=
        (undeclareVersion_plan nst ⟨f, n, some v, none, none, false, false, fo, su⟩ (some v) b p).1
      have hs : sayUndeclareVersion nst ⟨f, n, some v, none, none, false, true, fo, su⟩ (some v) p.mem = _ :=
        (undeclareVersion_plan nst ⟨f, n, some v, none, none, false, false, fo, su⟩ (some v) b p).2
      rw [hu, hs]
      cases hpl : planUnversion nst ⟨f, n, some v, none, none, false, false, fo, su⟩ (some v) p.mem with
      | error o => have := planUnversion_error hpl; cases o <;> first | exact ⟨rfl, rfl⟩ | exact absurd rfl this
      | ok x => exact ⟨rfl, rfl⟩

theorem declare_plan (nst : Nat) (a : DeclareArgs) (b : Bool) (p : Proc) :
    declare nst { a with noaction := b } p =
      decided nst b p ((planDeclare nst a p).map fun x => .declare a x.1 (declareTag nst a p.mem) x.2) ∧
    wouldDo nst (.declare a) p =
      said nst p.mem ((planDeclare nst a p).map fun x => .declare a x.1 (declareTag nst a p.mem) x.2) := by
  unfold declare wouldDo planDeclare
  dsimp only
  show (match resolveDeclare nst a p with | none => _ | some r => _) = _ ∧ _
  cases resolveDeclare nst a p with
  | none => exact ⟨rfl, rfl⟩
  | some r =>
    dsimp only
    show (match redeclare (p.mem.findDecl r.target a.name a.ver a.self)
        ((p.mem.findDecl r.target a.name a.ver a.self).bind p.tableContent) r.d r.content
        (declareTag nst a p.mem).isSome a.force (extDiff p a r.target r.diffList) with
      | .refuse => _ | rd => _) = _ ∧ _
    cases redeclare (p.mem.findDecl r.target a.name a.ver a.self)
        ((p.mem.findDecl r.target a.name a.ver a.self).bind p.tableContent) r.d r.content
        (declareTag nst a p.mem).isSome a.force (extDiff p a r.target r.diffList) <;> exact ⟨rfl, rfl⟩

theorem run_plan (nst : Nat) (c : Cmd) (b : Bool) (p : Proc) :
    run nst (c.withNoaction b) p = decided nst b p (plan nst c p) := by
  cases c with
  | declare a => exact (declare_plan nst a b p).1
  | undeclare a => exact (undeclare_plan nst a b p).1
  | assignTag f t n v st =>
    simp only [run, Cmd.withNoaction, plan]
    rw [assignTag_eq]
    cases planAssign f n v (stacksOf nst st) p <;> rfl
  | unassignTag f t n v st na => exact (unassignTag_plan nst f t n v st b p).1
  | remove f n v rc na fo su => exact (remove_plan nst f n v rc na b fo su p).1
  | query f => rfl

theorem wouldDo_plan (nst : Nat) (c : Cmd) (hc : c.dryable = true) (p : Proc) :
    wouldDo nst c p = said nst p.mem (plan nst c p) := by
  cases c with
  | declare a => exact (declare_plan nst a false p).2
  | undeclare a => exact (undeclare_plan nst a false p).2
  | unassignTag f t n v st na => exact saysUntag_said nst f t n v st p
  | remove f n v rc na fo su => exact (remove_plan nst f n v rc na false fo su p).2
  | assignTag f t n v st => cases hc
  | query f => cases hc

theorem declare_eq (nst : Nat) (a : DeclareArgs) (p : Proc) :
    declare nst a p =
      match planDeclare nst a p with
      | .error o => (o, p)
      | .ok x => declareFinish nst a x.1 (declareTag nst a p.mem) x.2 p :=
  (declare_plan nst a a.noaction p).1.trans (by cases planDeclare nst a p <;> rfl)

theorem undeclare_cases (nst : Nat) (a : UndeclareArgs) (p : Proc) :
    (∃ t, a.tag = some t ∧ a.versionAndTag = false ∧
      undeclare nst a p =
        match planUnassign nst a.self t a.name a.ver a.stack p.mem with
        | .error o => (o, p)
        | .ok s => doUnassign a.self t a.name s a.noaction p) ∨
    ∃ ver, (a.tag = none ∨ a.versionAndTag = true) ∧ (∀ v', a.ver = some v' → ver = some v') ∧
      undeclare nst a p =
        match planUnversion nst a ver p.mem with
        | .error o => (o, p)
        | .ok x => removeVersion a x.1 x.2.stack (untagFirst nst a x.1 x.2.stack p) := by
  rw [(undeclare_plan nst a a.noaction p).1]
  rcases planUndeclare_cases nst a p.mem with ⟨t, ht, hvat, hc⟩ | ⟨ver, hform, hver, hc⟩ <;> rw [hc]
  · exact .inl ⟨t, ht, hvat, by cases planUnassign nst a.self t a.name a.ver a.stack p.mem <;> rfl⟩
  · exact .inr ⟨ver, hform, hver, by cases planUnversion nst a ver p.mem <;> rfl⟩

theorem declareCore_outcome (nst : Nat) (a : DeclareArgs) (r : Resolved) (tag : Option Tag) (rd : Redeclare) (p : Proc) :
    (declareCore nst a r tag rd p).1 = .ok ∨ (declareCore nst a r tag rd p).1 = .notFound := by
  unfold declareCore
  dsimp only
  split
  · exact Or.inl rfl
  · split
    · exact Or.inl rfl
    · rw [assignTag_eq]
      cases hx : planAssign a.self a.name a.ver [r.target] _ with
      | error o => exact .inr (planAssign_error hx ▸ rfl)
      | ok s => exact .inl rfl

theorem declareFinish_fst (nst : Nat) (a : DeclareArgs) (r : Resolved) (tag : Option Tag) (rd : Redeclare) (p : Proc) :
    (declareFinish nst a r tag rd p).1 = (declareCore nst a r tag rd p).1 := by
  unfold declareFinish
  split
  · rename_i p2 heq; rw [heq]; split <;> rfl
  · rfl

theorem declareFinish_db (nst : Nat) (a : DeclareArgs) (r : Resolved) (tag : Option Tag) (rd : Redeclare) (p : Proc) :
    (declareFinish nst a r tag rd p).2.db = (declareCore nst a r tag rd p).2.db := by
  unfold declareFinish
  split
  · rename_i p2 heq; rw [heq]; split
    · rfl
    · exact saveExtras_db _ _ _ _
  · rfl

theorem Act.exec_ne_refused (nst : Nat) (b : Bool) (act : Act) (p : Proc) : (act.exec nst b p).1 ≠ .refused := by
  intro h
  cases act with
  | untag f t n s => rw [Act.exec, doUnassign_fst] at h; cases h
  | assign s t n f v => cases h
  | declare a r tag rd =>
    rw [Act.exec, declareFinish_fst] at h
    rcases declareCore_outcome nst { a with noaction := b } r tag rd p with k | k <;> rw [k] at h <;> cases h
  | unversion a v s rm =>
    have k := removeVersion_outcome { a with noaction := b } v s (untagFirst nst { a with noaction := b } v s p)
    simp only [Act.exec] at h
    generalize removeVersion { a with noaction := b } v s (untagFirst nst { a with noaction := b } v s p) = r at h k
    obtain ⟨o, p1⟩ := r
    rcases k with rfl | rfl
    · cases rm with
      | none => cases h
      | some dt => obtain ⟨dir, there⟩ := dt; cases b <;> cases there <;> cases h
    · cases rm <;> cases h

/-- the refusals are decisions -/
theorem run_refused (nst : Nat) (c : Cmd) (p : Proc) (h : (run nst c p).1 = .refused) : (run nst c p).2 = p := by
  have hr := run_plan nst c c.noaction p
  rw [c.withNoaction_same] at hr
  rw [hr] at h ⊢
  cases hp : plan nst c p with
  | error o => rfl
  | ok act => rw [hp] at h; exact absurd h (act.exec_ne_refused nst _ p)

theorem unassignTag_emits (nst : Nat) (f : Flav) (t : Tag) (n : Name) (v : Option Ver) (st : Option Nat) (na : Bool)
    (p : Proc) : Emits (fun e => na = false ∧ ∃ s, e = .unassign s t n f) p (unassignTag nst f t n v st na p).2 := by
  rw [(unassignTag_plan nst f t n v st na p).1]
  cases planUnassign nst f t n v st p.mem with
  | error o => exact .refl _ p
  | ok s => exact (doUnassign_emits f t n s na p).mono fun _ h => ⟨h.1, s, h.2⟩

theorem assignTag_emits (f : Flav) (t : Tag) (n : Name) (v : Ver) (stacks : List Nat) (p : Proc) :
    Emits (fun e => ∃ s ∈ stacks, e = .assign s t n f v) p (assignTag f t n v stacks p).2 := by
  rw [assignTag_eq]
  cases hx : planAssign f n v stacks p with
  | error o => exact .refl _ p
  | ok s => exact .emit ⟨s, (planAssign_ok hx).1, rfl⟩

/-- the effects of a `declare` that is not a dry run, once its arguments are resolved to `r` and its tag to `tag`:
the version record with the tag, the removal of the tag from any stack, its assignment in the target stack, copies
of extra files -/
def DeclareEff (a : DeclareArgs) (r : Resolved) (tag : Option Tag) (e : Eff) : Prop :=
  a.noaction = false ∧
    (e = .declare ⟨r.target, a.name, a.ver, a.self, r.d, r.table⟩ tag ∨
     (∃ t, tag = some t ∧ ((∃ s, e = .unassign s t a.name a.self) ∨ e = .assign r.target t a.name a.self a.ver)) ∨
     ∃ x, e = .copyExtra x)

theorem declareCore_emits (nst : Nat) (a : DeclareArgs) (r : Resolved) (tag : Option Tag) (rd : Redeclare) (p : Proc) :
    Emits (DeclareEff a r tag) p (declareCore nst a r tag rd p).2 := by
  unfold declareCore
  dsimp only
  have h1 : Emits (DeclareEff a r tag) p (if (rd == .write && !a.noaction) = true then
      p.emit (.declare ⟨r.target, a.name, a.ver, a.self, r.d, r.table⟩ tag) else p) := by
    split
    · rename_i h
      rw [Bool.and_eq_true, Bool.not_eq_true'] at h
      exact .emit ⟨h.2, .inl rfl⟩
    · exact .refl _ p
  split
  · exact h1
  · rename_i t
    split
    · exact h1
    · rename_i hna
      refine (h1.trans ((purgeAll_emits ..).mono fun e h => ?_)).trans ((assignTag_emits ..).mono fun e h => ?_)
      · exact ⟨by simpa using hna, .inr (.inl ⟨t, rfl, .inl h⟩)⟩
      · obtain ⟨s, hs, rfl⟩ := h
        exact ⟨by simpa using hna, .inr (.inl ⟨t, rfl, .inr (by rw [List.mem_singleton.mp hs])⟩)⟩

theorem declareFinish_emits (nst : Nat) (a : DeclareArgs) (r : Resolved) (tag : Option Tag) (rd : Redeclare) (p : Proc) :
    Emits (DeclareEff a r tag) p (declareFinish nst a r tag rd p).2 := by
  have hc := declareCore_emits nst a r tag rd p
  unfold declareFinish
  split
  · rename_i p2 heq
    rw [heq] at hc
    split
    · exact hc
    · rename_i hna
      exact hc.trans ((saveExtras_emits ..).mono fun e h => ⟨by simpa using hna, .inr (.inr h)⟩)
  · exact hc

theorem untagFirst_emits (nst : Nat) (a : UndeclareArgs) (v : Ver) (s : Nat) (p : Proc) :
    Emits (fun e => a.noaction = false ∧ ∃ t s, a.tag = some t ∧ e = .unassign s t a.name a.self) p
      (untagFirst nst a v s p) := by
  unfold untagFirst
  split
  · rename_i t ht
    exact (unassignTag_emits ..).mono fun e ⟨hna, s, he⟩ => ⟨hna, t, s, ht, he⟩
  · exact .refl _ p

theorem untagFirst_hasDecl (nst : Nat) (a : UndeclareArgs) (v : Ver) (s : Nat) (p : Proc)
    (s' : Nat) (n' : Name) (v' : Ver) (f' : Flav) :
    (untagFirst nst a v s p).db.hasDecl s' n' v' f' = p.db.hasDecl s' n' v' f' := by
  refine (untagFirst_emits nst a v s p).invariant (P := fun r => r.db.hasDecl s' n' v' f' = p.db.hasDecl s' n' v' f') rfl ?_
  rintro r e hr ⟨-, t, s, -, rfl⟩
  rw [Proc.db_emit]; exact hr

/-- the effects of an `undeclare` that is not a dry run: its tag goes, from any stack; a version among `vs` is
undeclared -/
def UndeclareEff (a : UndeclareArgs) (vs : Ver → Prop) (e : Eff) : Prop :=
  a.noaction = false ∧
    ((∃ t s, a.tag = some t ∧ e = .unassign s t a.name a.self) ∨ ∃ s v, vs v ∧ e = .undeclare s a.name v a.self)

theorem unversion_emits (nst : Nat) (a : UndeclareArgs) (v : Ver) (s : Nat) (p : Proc) :
    Emits (UndeclareEff a (· = v)) p (removeVersion a v s (untagFirst nst a v s p)).2 :=
  ((untagFirst_emits nst a v s p).mono fun _ h => ⟨h.1, .inl h.2⟩).trans
    ((removeVersion_emits a v s _).mono fun _ h => ⟨h.1, .inr ⟨_, v, rfl, h.2⟩⟩)

theorem declare_emits (nst : Nat) (a : DeclareArgs) (p : Proc) :
    Emits (fun e => ∃ r, resolveDeclare nst a p = some r ∧ DeclareEff a r (declareTag nst a p.mem) e) p
      (declare nst a p).2 := by
  rw [declare_eq]
  cases hx : planDeclare nst a p with
  | error o => exact .refl _ p
  | ok x => exact (declareFinish_emits nst a x.1 _ x.2 p).mono fun e k => ⟨x.1, planDeclare_ok hx, k⟩

theorem undeclare_emits (nst : Nat) (a : UndeclareArgs) (p : Proc) :
    Emits (UndeclareEff a (Cmd.fpVer (.undeclare a))) p (undeclare nst a p).2 := by
  rcases undeclare_cases nst a p with ⟨t, ht, _, hc⟩ | ⟨ver, hform, hver, hc⟩ <;> rw [hc]
  · cases planUnassign nst a.self t a.name a.ver a.stack p.mem with
    | error o => exact .refl _ p
    | ok s => exact (doUnassign_emits a.self t a.name s a.noaction p).mono fun _ k => ⟨k.1, .inl ⟨t, s, ht, k.2⟩⟩
  · cases hx : planUnversion nst a ver p.mem with
    | error o => exact .refl _ p
    | ok x =>
      refine (unversion_emits nst a x.1 x.2.stack p).mono fun e k => ⟨k.1, k.2.imp_right ?_⟩
      rintro ⟨s, v, rfl, he⟩
      exact ⟨s, _, ⟨hform, fun v' hv' => planUnversion_ok hx v' (hver v' hv')⟩, he⟩

theorem remove_emits (nst : Nat) (f : Flav) (n : Name) (v : Ver) (rc na fo : Bool) (su : Option (Ver × Flav × Nat))
    (p : Proc) :
    Emits (fun e => na = false ∧ ((∃ s, e = .undeclare s n v f) ∨ ∃ d, e = .rmTree d)) p
      (remove nst f n v rc na fo su p).2 := by
  have hu : Emits (fun e => na = false ∧ ((∃ s, e = .undeclare s n v f) ∨ ∃ d, e = .rmTree d)) p
      (undeclare nst ⟨f, n, some v, none, none, false, na, fo, su⟩ p).2 := by
    refine (undeclare_emits ..).mono fun e h => ⟨h.1, ?_⟩
    rcases h.2 with ⟨_, _, ht, _⟩ | ⟨s, v', hv, rfl⟩
    · cases ht
    · rw [hv.2 v rfl]; exact .inl ⟨s, rfl⟩
  unfold remove
  -- the outcome of `undeclare` is looked at through a variable, so that its cases are small goals
  generalize undeclare nst ⟨f, n, some v, none, none, false, na, fo, su⟩ p = r at hu ⊢
  obtain ⟨o, p1⟩ := r
  split
  · exact .refl _ p
  · split
    · exact .refl _ p
    · cases o with
      | ok =>
        dsimp only
        split
        · exact hu
        · rename_i hna
          split
          · exact hu.trans (.emit ⟨by simpa using hna, .inr ⟨_, rfl⟩⟩)
          · exact hu
      | _ => exact hu

theorem run_emits (nst : Nat) (c : Cmd) (p : Proc) :
    Emits (fun e => c.noaction = false ∧ Within c.name c.self c.fpVer c.fpTag e) p (run nst c p).2 := by
  cases c with
  | declare a =>
    refine (declare_emits nst a p).mono ?_
    rintro e ⟨r, -, hna, rfl | ⟨t, ht, ⟨s, rfl⟩ | rfl⟩ | ⟨x, rfl⟩⟩
    · exact ⟨hna, rfl, rfl, rfl, declareTag_spec⟩
    · exact ⟨hna, rfl, rfl, declareTag_spec t ht⟩
    · exact ⟨hna, rfl, rfl, declareTag_spec t ht⟩
    · exact ⟨hna, trivial⟩
  | undeclare a =>
    refine (undeclare_emits nst a p).mono ?_
    rintro e ⟨hna, ⟨t, s, ht, rfl⟩ | ⟨s, v, hv, rfl⟩⟩
    · exact ⟨hna, rfl, rfl, ht⟩
    · exact ⟨hna, rfl, rfl, hv⟩
  | assignTag f t n v st =>
    refine (assignTag_emits f t n v (stacksOf nst st) p).mono ?_
    rintro e ⟨s, -, rfl⟩
    exact ⟨rfl, rfl, rfl, rfl⟩
  | unassignTag f t n v st na =>
    refine (unassignTag_emits nst f t n v st na p).mono ?_
    rintro e ⟨hna, s, rfl⟩
    exact ⟨hna, rfl, rfl, rfl⟩
  | remove f n v rc na fo su =>
    refine (remove_emits nst f n v rc na fo su p).mono ?_
    rintro e ⟨hna, ⟨s, rfl⟩ | ⟨d, rfl⟩⟩
    · exact ⟨hna, rfl, rfl, rfl⟩
    · exact ⟨hna, trivial⟩
  | query f => exact .refl _ p

theorem run_noaction (nst : Nat) (c : Cmd) (h : c.noaction = true) (p : Proc) : (run nst c p).2 = p :=
  (run_emits nst c p).eq fun _ k => by rw [h] at k; cases k.1

theorem declare_conflict_refused {nst : Nat} {a : DeclareArgs} {p : Proc} {r : Resolved} {o : Decl}
    (hr : resolveDeclare nst a p = some r) (hold : p.mem.findDecl r.target a.name a.ver a.self = some o)
    (hforce : a.force = false) (htag : declareTag nst a p.mem = none)
    (hdiff : o.dir ≠ r.d ∨ ∃ c, r.content = some c ∧ p.tableContent o ≠ some c) :
    declare nst a p = (.refused, p) := by
  have : redeclare (some o) (p.tableContent o) r.d r.content false false (extDiff p a r.target r.diffList) = .refuse := by
    rcases hdiff with h | ⟨c, h1, h2⟩
    · simp [redeclare, h]
    · simp [redeclare, h1, tableDiff, h2]
  have hp : planDeclare nst a p = .error .refused := by
    simp only [planDeclare, hr, hold, htag, hforce, Option.isSome_none, Option.bind_some, this]
  rw [declare_eq, hp]

theorem undeclare_ok {nst : Nat} {a : UndeclareArgs} {p : Proc}
    (hok : (undeclare nst a p).1 = .ok) (hna : a.noaction = false)
    (hform : a.tag = none ∨ a.versionAndTag = true) :
    ∃ s v, (∀ v', a.ver = some v' → v = v') ∧ p.db.hasDecl s a.name v a.self = true ∧
      (undeclare nst a p).2.db.hasDecl s a.name v a.self = false ∧
      ∀ r ∈ (undeclare nst a p).2.db.tags, r.pointsAt s a.name v a.self = false := by
  rcases undeclare_cases nst a p with ⟨t, ht, hvat, _⟩ | ⟨ver, _, hver, hc⟩
  · rcases hform with k | k
    · rw [ht] at k; cases k
    · rw [hvat] at k; cases k
  rw [hc] at hok ⊢
  cases hx : planUnversion nst a ver p.mem with
  | error o => rw [hx] at hok; exact absurd hok (planUnversion_error hx)
  | ok x =>
    rw [hx] at hok
    dsimp only at hok ⊢
    refine ⟨x.2.stack, x.1, fun v' hv' => planUnversion_ok hx v' (hver v' hv'), ?_⟩
    unfold removeVersion at hok ⊢
    rw [hna] at hok ⊢
    simp only [Bool.false_eq_true, if_false] at hok ⊢
    cases hd : (untagFirst nst a x.1 x.2.stack p).db.hasDecl x.2.stack a.name x.1 a.self with
    | false => rw [hd] at hok; cases hok
    | true =>
      simp only [Bool.not_true, Bool.false_eq_true, if_false, Proc.db_emit, applyDb]
      exact ⟨by rw [← untagFirst_hasDecl nst a x.1 x.2.stack p]; exact hd, Spec.hasDecl_delDecl_self ..,
        fun r hr => (Spec.mem_delDecl_tags.mp hr).2⟩

theorem assignTag_ok {f : Flav} {t : Tag} {n : Name} {v : Ver} {stacks : List Nat} {p : Proc}
    (hok : (assignTag f t n v stacks p).1 = .ok) :
    ∃ s ∈ stacks, (assignTag f t n v stacks p).2.db.tagVer s t n f = some v ∧
      (assignTag f t n v stacks p).2.db.hasDecl s n v f = true := by
  rw [assignTag_eq] at hok ⊢
  cases hx : planAssign f n v stacks p with
  | error o => rw [hx, planAssign_error hx] at hok; cases hok
  | ok s =>
    obtain ⟨hs, hd⟩ := planAssign_ok hx
    simp only [Proc.db_emit, applyDb, Spec.assign, hd, if_true]
    exact ⟨s, hs, Spec.tagVer_setTag_self p.db ⟨s, t, n, f, v⟩, hd⟩

theorem declare_ok_tag {nst : Nat} {a : DeclareArgs} {p : Proc} {t : Tag}
    (hok : (declare nst a p).1 = .ok) (hna : a.noaction = false) (htag : declareTag nst a p.mem = some t) :
    ∃ r, resolveDeclare nst a p = some r ∧
      (declare nst a p).2.db.tagVer r.target t a.name a.self = some a.ver ∧
      (declare nst a p).2.db.hasDecl r.target a.name a.ver a.self = true := by
  rw [declare_eq] at hok ⊢
  cases hx : planDeclare nst a p with
  | error o => rw [hx, planDeclare_error hx] at hok; cases hok
  | ok x =>
    rw [hx] at hok
    refine ⟨x.1, planDeclare_ok hx, ?_⟩
    dsimp only at hok ⊢
    rw [declareFinish_fst] at hok
    rw [declareFinish_db]
    unfold declareCore at hok ⊢
    rw [htag, hna] at hok ⊢
    simp only [Bool.false_eq_true, if_false] at hok ⊢
    obtain ⟨s, hs, h1, h2⟩ := assignTag_ok hok
    rw [List.mem_singleton.mp hs] at h1 h2
    exact ⟨h1, h2⟩

end EupsModel.Db
