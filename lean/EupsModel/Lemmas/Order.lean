/-! Comparators (`α → α → Int`, sign convention of Python's `cmp`): one is `GoodOn` a set when it is reflexive,
antisymmetric and transitive there, and the ways comparators are put together here preserve that.  Every lexicographic
comparison has the shape `if c ≠ 0 then c else r`; `lex_antisym` and `GoodOn.lex_trans` are the two facts about that
shape, used once per layer.  At the end: the last maximum of a list (`IsLastMax`). -/
namespace EupsModel.Order

structure GoodOn {α : Type} (P : α → Prop) (cmp : α → α → Int) : Prop where
  refl : ∀ a, P a → cmp a a = 0
  antisym : ∀ a b, P a → P b → cmp a b = - cmp b a
  trans : ∀ a b c, P a → P b → P c → cmp a b ≤ 0 → cmp b c ≤ 0 → cmp a c ≤ 0

variable {α : Type} {P : α → Prop} {cmp : α → α → Int}

/-- `a < b ≤ c`: were `c ≤ a`, transitivity would give `b ≤ a` -/
theorem GoodOn.lt_of_lt_le (g : GoodOn P cmp) {a b c : α} (ha : P a) (hb : P b) (hc : P c)
    (h1 : cmp a b < 0) (h2 : cmp b c ≤ 0) : cmp a c < 0 := by
  have hac := g.trans a b c ha hb hc (by omega) h2
  have hba := g.trans b c a hb hc ha h2
  rw [g.antisym c a hc ha, g.antisym b a hb ha] at hba
  omega

theorem GoodOn.lt_of_le_lt (g : GoodOn P cmp) {a b c : α} (ha : P a) (hb : P b) (hc : P c)
    (h1 : cmp a b ≤ 0) (h2 : cmp b c < 0) : cmp a c < 0 := by
  have hac := g.trans a b c ha hb hc h1 (by omega)
  have hcb := g.trans c a b hc ha hb
  rw [g.antisym c a hc ha, g.antisym c b hc hb] at hcb
  omega

theorem GoodOn.total {α} {P : α → Prop} {c : α → α → Int} (g : GoodOn P c) {a b : α} (ha : P a) (hb : P b) :
    c a b ≤ 0 ∨ c b a ≤ 0 := by
  have := g.antisym a b ha hb
  omega

theorem lex_antisym {c c' r r' : Int} (hc : c = -c') (hr : r = -r') :
    (if c ≠ 0 then c else r) = -(if c' ≠ 0 then c' else r') := by
  split <;> split <;> omega

/-- `a ≤ b ≤ c` lexicographically: the first comparisons are `≤`, hence so is that of `a` and `c`; if it says
"equal", so did the other two (`lt_of_lt_le`, `lt_of_le_lt`), and the remainders `r` decide -/
theorem GoodOn.lex_trans (g : GoodOn P cmp) {a b c : α} (ha : P a) (hb : P b) (hc : P c) {r₁ r₂ r₃ : Int}
    (hr : r₁ ≤ 0 → r₂ ≤ 0 → r₃ ≤ 0)
    (h1 : (if cmp a b ≠ 0 then cmp a b else r₁) ≤ 0) (h2 : (if cmp b c ≠ 0 then cmp b c else r₂) ≤ 0) :
    (if cmp a c ≠ 0 then cmp a c else r₃) ≤ 0 := by
  have hab : cmp a b ≤ 0 := by split at h1 <;> omega
  have hbc : cmp b c ≤ 0 := by split at h2 <;> omega
  have hac := g.trans a b c ha hb hc hab hbc
  by_cases e : cmp a c = 0
  · have e1 : cmp a b = 0 := by
      have := fun h => g.lt_of_lt_le ha hb hc h hbc
      omega
    have e2 : cmp b c = 0 := by
      have := fun h => g.lt_of_le_lt ha hb hc hab h
      omega
    rw [if_neg (by omega)] at h1 h2 ⊢
    exact hr h1 h2
  · rw [if_pos e]; exact hac

def lexList {α : Type} (cmp : α → α → Int) : List α → List α → Int
  | [], [] => 0
  | [], _ :: _ => -1
  | _ :: _, [] => 1
  | a :: as, b :: bs => if cmp a b ≠ 0 then cmp a b else lexList cmp as bs

theorem lexList_self {l : List α} (h : ∀ x ∈ l, cmp x x = 0) : lexList cmp l l = 0 := by
  induction l with
  | nil => rfl
  | cons a as ih =>
    rw [lexList, if_neg (by simp [h a]), ih fun x hx => h x (by simp [hx])]

theorem lexList_antisym {l m : List α} (h : ∀ x ∈ l, ∀ y ∈ m, cmp x y = - cmp y x) :
    lexList cmp l m = - lexList cmp m l := by
  induction l generalizing m with
  | nil => cases m <;> rfl
  | cons a as ih =>
    cases m with
    | nil => rfl
    | cons b bs =>
      exact lex_antisym (h a (by simp) b (by simp)) (ih fun x hx y hy => h x (by simp [hx]) y (by simp [hy]))

theorem lexList_append_left {l : List α} (h : ∀ x ∈ l, cmp x x = 0) (a b : List α) :
    lexList cmp (l ++ a) (l ++ b) = lexList cmp a b := by
  induction l with
  | nil => rfl
  | cons x xs ih =>
    rw [List.cons_append, List.cons_append, lexList, if_neg (by simp [h x]), ih fun y hy => h y (by simp [hy])]

theorem lexList_prefix {l e : List α} (h : ∀ x ∈ l, cmp x x = 0) (he : e ≠ []) : lexList cmp l (l ++ e) = -1 := by
  have := lexList_append_left h [] e
  rw [List.append_nil] at this
  rw [this]
  cases e with
  | nil => exact absurd rfl he
  | cons a as => rfl

theorem good_lexList {α} {P : α → Prop} {cmp : α → α → Int} (g : GoodOn P cmp) :
    GoodOn (fun l : List α => ∀ x ∈ l, P x) (lexList cmp) := by
  refine ⟨fun l hl => lexList_self fun x hx => g.refl x (hl x hx),
    fun l m hl hm => lexList_antisym fun x hx y hy => g.antisym x y (hl x hx) (hm y hy), ?_⟩
  intro l
  induction l with
  | nil => intro m n _ _ _ _ _; cases n <;> simp [lexList]
  | cons a as ih =>
    intro m n hl hm hn h1 h2
    cases m with
    | nil => simp [lexList] at h1
    | cons b bs =>
      cases n with
      | nil => simp [lexList] at h2
      | cons c cs =>
        exact g.lex_trans (hl a (by simp)) (hm b (by simp)) (hn c (by simp))
          (ih bs cs (fun x hx => hl x (by simp [hx])) (fun x hx => hm x (by simp [hx])) (fun x hx => hn x (by simp [hx])))
          h1 h2

def lexPair {α β : Type} (c1 : α → α → Int) (c2 : β → β → Int) (x y : α × β) : Int :=
  if c1 x.1 y.1 ≠ 0 then c1 x.1 y.1 else c2 x.2 y.2

variable {β : Type} {c1 : α → α → Int} {c2 : β → β → Int}

theorem lexPair_self {x : α × β} (h1 : c1 x.1 x.1 = 0) (h2 : c2 x.2 x.2 = 0) : lexPair c1 c2 x x = 0 := by
  rw [lexPair, if_neg (by omega), h2]

theorem lexPair_antisym {x y : α × β} (h1 : c1 x.1 y.1 = - c1 y.1 x.1) (h2 : c2 x.2 y.2 = - c2 y.2 x.2) :
    lexPair c1 c2 x y = - lexPair c1 c2 y x := lex_antisym h1 h2

theorem good_lexPair {α β} {P : α → Prop} {Q : β → Prop} {c1 : α → α → Int} {c2 : β → β → Int}
    (g1 : GoodOn P c1) (g2 : GoodOn Q c2) : GoodOn (fun x : α × β => P x.1 ∧ Q x.2) (lexPair c1 c2) :=
  ⟨fun _ hx => lexPair_self (g1.refl _ hx.1) (g2.refl _ hx.2),
   fun _ _ hx hy => lexPair_antisym (g1.antisym _ _ hx.1 hy.1) (g2.antisym _ _ hx.2 hy.2),
   fun _ _ _ hx hy hz => g1.lex_trans hx.1 hy.1 hz.1 (g2.trans _ _ _ hx.2 hy.2 hz.2)⟩

theorem good_pullback {β : Type} {Q : β → Prop} {c : β → β → Int} (g : GoodOn Q c) (key : α → β) :
    GoodOn (fun a => Q (key a)) (fun a b => c (key a) (key b)) :=
  ⟨fun _ h => g.refl _ h, fun _ _ ha hb => g.antisym _ _ ha hb, fun _ _ _ ha hb hd => g.trans _ _ _ ha hb hd⟩

theorem good_congr {α} {P : α → Prop} {c c' : α → α → Int} (g : GoodOn P c)
    (h : ∀ a b, P a → P b → c' a b = c a b) : GoodOn P c' :=
  ⟨fun a ha => by rw [h a a ha ha]; exact g.refl a ha,
   fun a b ha hb => by rw [h a b ha hb, h b a hb ha]; exact g.antisym a b ha hb,
   fun a b d ha hb hd h1 h2 => by
     rw [h a b ha hb] at h1; rw [h b d hb hd] at h2; rw [h a d ha hd]; exact g.trans a b d ha hb hd h1 h2⟩

theorem GoodOn.mono {Q : α → Prop} (g : GoodOn P cmp) (h : ∀ a, Q a → P a) : GoodOn Q cmp :=
  ⟨fun a ha => g.refl a (h a ha), fun a b ha hb => g.antisym a b (h a ha) (h b hb),
   fun a b d ha hb hd => g.trans a b d (h a ha) (h b hb) (h d hd)⟩

/-- "present" elements compared by `c`, an absent one above every present one -/
def absentTop {α : Type} (present : α → Bool) (c : α → α → Int) (x y : α) : Int :=
  if present x && present y then c x y else if present x then -1 else if present y then 1 else 0

theorem absentTop_self {present : α → Bool} {a : α} (h : cmp a a = 0) : absentTop present cmp a a = 0 := by
  cases hp : present a <;> simp [absentTop, hp, h]

theorem absentTop_absent {present : α → Bool} {a b : α} (ha : present a = false) (hb : present b = false) :
    absentTop present cmp a b = 0 := by
  simp [absentTop, ha, hb]

theorem absentTop_antisym {present : α → Bool} {a b : α} (h : cmp a b = - cmp b a) :
    absentTop present cmp a b = - absentTop present cmp b a := by
  cases h1 : present a <;> cases h2 : present b <;> simp [absentTop, h1, h2, h]

theorem good_absentTop (present : α → Bool) (g : GoodOn P cmp) : GoodOn P (absentTop present cmp) := by
  refine ⟨fun a ha => absentTop_self (g.refl a ha), fun a b ha hb => absentTop_antisym (g.antisym a b ha hb), ?_⟩
  intro a b d ha hb hd
  have := g.trans a b d ha hb hd
  -- three present elements: `g.trans`; in the seven other cases both sides are among the constants `-1`, `0`, `1`
  cases h1 : present a <;> cases h2 : present b <;> cases h3 : present d <;>
    simp [absentTop, h1, h2, h3] <;> assumption

/-! ## the last maximum

Only the signs of the comparisons matter here, so these lemmas take the sign facts they use as hypotheses (`GoodOn.flip`,
`GoodOn.anti`, `GoodOn.trans` for a `GoodOn` comparator), not `cmp a b = - cmp b a`: `Vro.GoodOrdOn` (`Model/Vro.lean`), which has
`refl`, `flip`, `trans` and no antisymmetry, is served as well. -/

theorem GoodOn.flip (g : GoodOn P cmp) (a b : α) (ha : P a) (hb : P b) (h : 0 ≤ cmp a b) : cmp b a ≤ 0 := by
  rw [g.antisym b a hb ha]; omega

theorem GoodOn.anti (g : GoodOn P cmp) (a b : α) (ha : P a) (hb : P b) (h : cmp a b ≤ 0) : 0 ≤ cmp b a := by
  rw [g.antisym b a hb ha]; omega

/-- `m` is the last of the maximal elements of `xs`: what `vers.sort(cmp); vers[-1]` returns — found by one pass that
replaces the candidate whenever the next element is not smaller (`snoc`), put last by every stable sort
(`getLast_stableSort`) -/
def IsLastMax (cmp : α → α → Int) (m : α) (xs : List α) : Prop :=
  ∃ pre post, xs = pre ++ m :: post ∧ (∀ y ∈ pre, cmp y m ≤ 0) ∧ ∀ y ∈ post, cmp y m < 0

theorem IsLastMax.mem {m : α} {xs : List α} (h : IsLastMax cmp m xs) : m ∈ xs := by
  obtain ⟨pre, post, rfl, _⟩ := h; simp

theorem IsLastMax.le {m : α} {xs : List α} (h : IsLastMax cmp m xs) (hm : cmp m m ≤ 0) : ∀ y ∈ xs, cmp y m ≤ 0 := by
  obtain ⟨pre, post, rfl, h1, h2⟩ := h
  intro y hy
  rcases List.mem_append.mp hy with hy | hy
  · exact h1 y hy
  · rcases List.mem_cons.mp hy with rfl | hy
    · exact hm
    · exact Int.le_of_lt (h2 y hy)

theorem IsLastMax.singleton (x : α) : IsLastMax cmp x [x] := ⟨[], [], rfl, nofun, nofun⟩

theorem IsLastMax.snoc (flip : ∀ a b, P a → P b → 0 ≤ cmp a b → cmp b a ≤ 0)
    (trans : ∀ a b c, P a → P b → P c → cmp a b ≤ 0 → cmp b c ≤ 0 → cmp a c ≤ 0)
    {m x : α} {xs : List α} (hxs : ∀ y ∈ xs, P y) (hx : P x) (h : IsLastMax cmp m xs) :
    IsLastMax cmp (if 0 ≤ cmp x m then x else m) (xs ++ [x]) := by
  have hm := hxs m h.mem
  have hmm : cmp m m ≤ 0 := by
    have := flip m m hm hm
    omega
  split
  · rename_i hge
    exact ⟨xs, [], rfl, fun y hy => trans y m x (hxs y hy) hm hx (h.le hmm y hy) (flip x m hx hm hge), nofun⟩
  · rename_i hlt
    obtain ⟨pre, post, rfl, h1, h2⟩ := h
    refine ⟨pre, post ++ [x], by simp, h1, fun y hy => ?_⟩
    rcases List.mem_append.mp hy with hy | hy
    · exact h2 y hy
    · rw [List.mem_singleton.mp hy]; omega

theorem IsLastMax.of_map {β : Type} {f : β → α} {m : α} {xs : List β} (h : IsLastMax cmp m (xs.map f)) :
    ∃ m', m = f m' ∧ IsLastMax (fun a b => cmp (f a) (f b)) m' xs := by
  obtain ⟨pre, post, e, h1, h2⟩ := h
  obtain ⟨pre', r, rfl, rfl, e'⟩ := List.map_eq_append_iff.mp e
  obtain ⟨m', post', rfl, rfl, rfl⟩ := List.map_eq_cons_iff.mp e'
  exact ⟨m', rfl, pre', post', rfl, fun y hy => h1 _ (List.mem_map_of_mem hy), fun y hy => h2 _ (List.mem_map_of_mem hy)⟩

/-- `s` is a stable sort of `l`: a permutation, ordered, the elements equivalent to `m` (those `q` accepts) in the order
they have in `l` -/
theorem IsLastMax.getLast_stableSort (refl : ∀ a, P a → cmp a a ≤ 0) (anti : ∀ a b, P a → P b → cmp a b ≤ 0 → 0 ≤ cmp b a)
    {l s : List α} {m : α} (hP : ∀ y ∈ l, P y) (hm : IsLastMax cmp m l) (q : α → Bool)
    (hq : ∀ y, P y → (q y = true ↔ cmp y m ≤ 0 ∧ cmp m y ≤ 0))
    (hperm : s.Perm l) (hsorted : s.Pairwise (fun a b => cmp a b ≤ 0)) (hstable : s.filter q = l.filter q) :
    s.getLast? = some m := by
  have hPm := hP m hm.mem
  have hmm := refl m hPm
  rcases List.eq_nil_or_concat s with rfl | ⟨init, e, rfl⟩
  · exact absurd (hperm.symm.subset hm.mem) (by simp)
  rw [List.concat_eq_append] at *
  have hPe : P e := hP e (hperm.subset (by simp))
  -- `e ≤ m` (a maximum) and `m ≤ e` (`e` is last in an ordered list): `e` is in the class of `m`
  have hme : cmp m e ≤ 0 := by
    rcases List.mem_append.mp (hperm.symm.subset hm.mem) with hi | hi
    · exact (List.pairwise_append.mp hsorted).2.2 m hi e (by simp)
    · rw [List.mem_singleton.mp hi]; exact refl e hPe
  have hqe : q e = true := (hq e hPe).mpr ⟨hm.le hmm e (hperm.subset (by simp)), hme⟩
  -- the last of that class is `e` in `s` and `m` in `l`
  have hls : ((init ++ [e]).filter q).getLast? = some e := by simp [List.filter_append, hqe]
  obtain ⟨pre, post, rfl, _, hpost⟩ := hm
  have hll : ((pre ++ m :: post).filter q).getLast? = some m := by
    have : post.filter q = [] := List.filter_eq_nil_iff.mpr fun y hy hqy => by
      have hy' := hP y (by simp [hy])
      have := anti m y hPm hy' ((hq y hy').mp hqy).2
      have := hpost y hy
      omega
    simp [List.filter_append, (hq m hPm).mpr ⟨hmm, hmm⟩, this]
  rw [hstable, hll] at hls
  simp only [List.getLast?_append, List.getLast?_singleton, Option.some_or]
  exact hls.symm ▸ rfl

/-- … for a `GoodOn` comparator, the class of `m` being `cmp · m == 0` -/
theorem IsLastMax.getLast_stableSort_of_goodOn (g : GoodOn P cmp) {l s : List α} {m : α} (hP : ∀ y ∈ l, P y)
    (hm : IsLastMax cmp m l) (hperm : s.Perm l) (hsorted : s.Pairwise (fun a b => cmp a b ≤ 0))
    (hstable : s.filter (fun y => cmp y m == 0) = l.filter (fun y => cmp y m == 0)) : s.getLast? = some m := by
  refine hm.getLast_stableSort (fun a ha => Int.le_of_eq (g.refl a ha)) g.anti hP _ (fun y hy => ?_) hperm hsorted hstable
  rw [beq_iff_eq, g.antisym m y (hP m hm.mem) hy]
  omega

end EupsModel.Order
