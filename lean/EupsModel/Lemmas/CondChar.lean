import EupsModel.Spec.C11
/-! Character classes of the condition tokeniser against each other: white space, token characters `[\w.+]`, quotes, `$`;
and the well-formedness of a written comparison (`Atom.ok`, `plainWord`) taken apart once. -/
namespace EupsModel.Cond
open EupsModel.C11Spec

theorem plainWord_parts {w : Str} (h : plainWord w = true) :
    w ≠ [] ∧ w.all isTokCh = true ∧ parseInt w = none ∧ Str.lower w ≠ sFlavor ∧ Str.lower w ≠ sType ∧ w ≠ sTrue ∧
      w ≠ sFalse ∧ w ≠ sEOF ∧ w ≠ sNot := by
  simpa [plainWord, and_assoc] using h

theorem atom_parts {a : Atom} (h : a.ok = true) :
    Str.lower a.kw = a.var.kw ∧ plainWord a.word = true ∧ (a.quote = none ∨ a.quote = some 39 ∨ a.quote = some 34) ∧
      blank a.sp1 = true ∧ blank a.sp2 = true ∧ blank a.sp3 = true := by
  simpa [Atom.ok, and_assoc, or_assoc] using h

theorem blank_cons {c : Nat} {s : Str} : blank (c :: s) = true ↔ Str.isSpace c = true ∧ blank s = true := by
  simp [blank]

theorem tokCh_not_quote {c : Nat} (h : isTokCh c = true) : isQuote c = false := by
  simp only [isTokCh, isWordCh, Str.isAlnum, Str.isAlpha, Str.isUpper, Str.isLower, Str.isDigit, Bool.or_eq_true,
    Bool.and_eq_true, decide_eq_true_eq, beq_iff_eq] at h
  simp only [isQuote, Bool.or_eq_false_iff, beq_eq_false_iff_ne, ne_eq]
  omega

theorem space_not_quote {c : Nat} (h : Str.isSpace c = true) : isQuote c = false := by
  simp only [Str.isSpace, Bool.or_eq_true, Bool.and_eq_true, decide_eq_true_eq, beq_iff_eq] at h
  simp only [isQuote, Bool.or_eq_false_iff, beq_eq_false_iff_ne, ne_eq]
  omega

theorem space_not_tokCh {c : Nat} (h : Str.isSpace c = true) : isTokCh c = false := by
  simp only [Str.isSpace, Bool.or_eq_true, Bool.and_eq_true, decide_eq_true_eq, beq_iff_eq] at h
  simp only [isTokCh, isWordCh, Str.isAlnum, Str.isAlpha, Str.isUpper, Str.isLower, Str.isDigit, Bool.or_eq_false_iff,
    Bool.and_eq_false_iff, decide_eq_false_iff_not, beq_eq_false_iff_ne, ne_eq]
  omega

theorem space_ne_dollar {c : Nat} (h : Str.isSpace c = true) : (c == 36) = false := by
  simp only [Str.isSpace, Bool.or_eq_true, Bool.and_eq_true, decide_eq_true_eq, beq_iff_eq] at h
  simp only [beq_eq_false_iff_ne, ne_eq]; omega

theorem tokCh_ne_dollar {c : Nat} (h : isTokCh c = true) : (c == 36) = false := by
  simp only [isTokCh, isWordCh, Str.isAlnum, Str.isAlpha, Str.isUpper, Str.isLower, Str.isDigit, Bool.or_eq_true,
    Bool.and_eq_true, decide_eq_true_eq, beq_iff_eq] at h
  simp only [beq_eq_false_iff_ne, ne_eq]; omega

end EupsModel.Cond
