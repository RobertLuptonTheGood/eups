import EupsModel.Model.FsCache
import EupsModel.Lemmas.FsTab
/-! Lemmas for the product cache under a kill (C08): the record part of the extended effect list is the effect list of
`Model/FsEff.lean`; with the order *close, then rename* every prefix keeps every cache file in place complete. -/
namespace EupsModel.FsEff
open EupsModel.Store

def Eff3.rec? : Eff3 → Option Eff
  | .onRec e => some e
  | _ => none

def Eff3.cache? : Eff3 → Option CEff
  | .onCache e => some e
  | _ => none

theorem filterMap_map_of_some {α β : Type} (f : β → Option α) (g : α → β) (h : ∀ x, f (g x) = some x) (l : List α) :
    (l.map g).filterMap f = l := by
  simp [List.filterMap_map, Function.comp_def, h]

theorem filterMap_map_of_none {α β γ : Type} (f : β → Option γ) (g : α → β) (h : ∀ x, f (g x) = none) (l : List α) :
    (l.map g).filterMap f = [] := by
  simp [List.filterMap_map, Function.comp_def, h]

theorem filterMap_take {α β : Type} (f : α → Option β) (l : List α) (k : Nat) :
    ∃ k', (l.take k).filterMap f = (l.filterMap f).take k' :=
  ⟨((l.take k).filterMap f).length, by
    have h : l.filterMap f = (l.take k).filterMap f ++ (l.drop k).filterMap f := by
      rw [← List.filterMap_append, List.take_append_drop]
    rw [h, List.take_left' rfl]⟩

theorem applyAll3_fs (db : Db3) (es : List Eff3) : (applyAll3 db es).fs = applyAll db.fs (es.filterMap Eff3.rec?) :=
  foldl_proj Db3.fs Eff3.rec? (fun _ e => by cases e <;> rfl) es db

theorem applyAll3_cache (db : Db3) (es : List Eff3) : (applyAll3 db es).cache = applyCAll db.cache (es.filterMap Eff3.cache?) :=
  foldl_proj Db3.cache Eff3.cache? (fun _ e => by cases e <;> rfl) es db

theorem expandAll_append (atomic : Bool) (fs : Fs) (a b : List Step) :
    expandAll atomic fs (a ++ b) = expandAll atomic fs a ++ expandAll atomic (applySteps fs a) b := by
  induction a generalizing fs with
  | nil => rfl
  | cons s r ih =>
    simp only [List.cons_append, expandAll, ih, List.append_assoc]
    rfl

theorem rec_effectsG (cfg : Cfg3) (flavors : List Id) (fs : Fs) (gs : List (List Step)) (i0 gen : Nat) :
    (effectsG cfg flavors fs gs i0 gen).filterMap Eff3.rec? = expandAll cfg.atomic fs gs.flatten := by
  induction gs generalizing fs i0 gen with
  | nil => rfl
  | cons g r ih =>
    rw [effectsG, List.filterMap_append, List.filterMap_append, ih, List.flatten_cons, expandAll_append,
      filterMap_map_of_some Eff3.rec? Eff3.onRec fun _ => rfl]
    split
    · rw [List.filterMap_nil, List.append_nil]
    · rw [filterMap_map_of_none Eff3.rec? Eff3.onCache fun _ => rfl, List.append_nil]

theorem groups_flatten (fs : Fs) (c : Cmd) : (groups fs c).flatten = steps fs c := by
  cases c with
  | declare p v f tag force =>
    simp only [groups, steps]
    cases declareTag fs p f tag with
    | none => simp
    | some t =>
      simp only [List.flatten_cons, List.flatten_nil, List.append_nil]
      generalize htv : taggedVersion (applySteps fs (if (!hasFlavorV (vread fs p v) f || force) = true then
        dbDeclare fs p v f (some t) else [])) t p f = tv
      cases tv <;> rfl
  | untag t p f v => simp [groups]
  | undeclare p v f => simp [groups]
  | undeclareAny p f => simp [groups]

theorem rec_effects3 (cfg : Cfg3) (flavors : List Id) (db : Db3) (c : Cmd2) :
    (effects3 cfg flavors db c).filterMap Eff3.rec? = effects { atomic := cfg.atomic } db.fs c.onRecords := by
  rw [effects3, List.filterMap_append, filterMap_map_of_none Eff3.rec? Eff3.onTab fun _ => rfl,
    List.append_nil, rec_effectsG, groups_flatten, effects]

theorem isStore_cache : IsStore Prod.fst Prod.snd cget cset cdel where
  get_eq t f := by unfold cget; generalize List.find? _ _ = o; cases o <;> rfl
  set_nil f c := ⟨(f, c), rfl, rfl, rfl⟩
  set_cons := fun (_, _) _ f c => ⟨(f, c), rfl, rfl, rfl⟩
  del_nil _ := rfl
  del_cons := fun (_, _) _ _ => rfl

theorem cget_cset (t : CacheFs) (f g : CPath) (c : CFile) : cget (cset t f c) g = if g = f then some c else cget t g :=
  isStore_cache.get_set t f g c

theorem cget_cdel (t : CacheFs) (f g : CPath) : cget (cdel t f) g = if g = f then none else cget t g :=
  isStore_cache.get_del t f g

def CacheOK (t : CacheFs) : Prop := ∀ f, cget t (.main f) ≠ some .empty

def Safe (es : List CEff) : Prop := ∀ t, CacheOK t → Always applyCEff CacheOK t es

theorem safe_nil : Safe [] := fun _ h => Always.nil h

theorem safe_append {a b : List CEff} (ha : Safe a) (hb : Safe b) : Safe (a ++ b) := fun t h =>
  (ha t h).append (hb _)

/-- buffered writes: only `close` puts the pickle into the file -/
def CEff.toS : CEff → SEff CPath CFile
  | .creat i => .set (.tmp i) .empty
  | .write _ => .nop
  | .fsync _ => .nop
  | .close i gen => .set (.tmp i) (.full gen)
  | .rename i f => .rename (.tmp i) (.main f)

theorem cget_applyCEff (t : CacheFs) (e : CEff) : cget (applyCEff t e) = e.toS.apply (cget t) := by
  cases e with
  | creat i | close i gen => exact funext fun g => cget_cset ..
  | write i | fsync i => rfl
  | rename i f =>
    simp only [applyCEff, CEff.toS, SEff.apply]
    cases cget t (.tmp i) with
    | none => rfl
    | some c => exact funext fun g => by rw [cget_cset, cget_cdel]

/-- one `AtomicFile`: close, then rename -/
theorem safe_atomicFile (i gen : Nat) (f : Id) : Safe (atomicFile false i gen f) := by
  intro t h j g
  rw [foldl_view cget CEff.toS cget_applyCEff, List.map_take]
  -- creat, write, fsync, close touch only the temporary file, which then holds the pickle
  rcases atomic_write [.set (.tmp i) .empty, .nop, .nop, .set (.tmp i) (.full gen)] (.tmp i) (.main f) (.full gen) (cget t)
    (by simp [SEff.touched]) (by simp [SEff.apply]) (.main g) nofun j with e | ⟨_, e⟩
  · exact e ▸ h g
  · exact e ▸ nofun

theorem safe_saveEffects (i0 gen : Nat) (fl : List Id) : Safe (saveEffects false i0 gen fl) := by
  induction fl generalizing i0 with
  | nil => exact safe_nil
  | cons f r ih => exact safe_append (safe_atomicFile i0 gen f) (ih (i0 + 1))

theorem safe_cache_effectsG (atomic : Bool) (flavors : List Id) (fs : Fs) (gs : List (List Step)) (i0 gen : Nat) :
    Safe ((effectsG { atomic := atomic, renameFirst := false } flavors fs gs i0 gen).filterMap Eff3.cache?) := by
  induction gs generalizing fs i0 gen with
  | nil => exact safe_nil
  | cons g r ih =>
    rw [effectsG, List.filterMap_append, List.filterMap_append,
      filterMap_map_of_none Eff3.cache? Eff3.onRec fun _ => rfl, List.nil_append]
    refine safe_append ?_ (ih _ _ _)
    split
    · exact safe_nil
    · rw [filterMap_map_of_some Eff3.cache? Eff3.onCache fun _ => rfl]; exact safe_saveEffects _ _ _

theorem safe_cache_effects3 (atomic : Bool) (flavors : List Id) (db : Db3) (c : Cmd2) :
    Safe ((effects3 { atomic := atomic, renameFirst := false } flavors db c).filterMap Eff3.cache?) := by
  rw [effects3, List.filterMap_append, filterMap_map_of_none Eff3.cache? Eff3.onTab fun _ => rfl,
    List.append_nil]
  exact safe_cache_effectsG atomic flavors _ _ _ _

end EupsModel.FsEff
