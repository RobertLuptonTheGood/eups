import EupsModel.Lemmas.List
/-! What the three stores of C08 (`Fs.files`, `TabFs`, `CacheFs`) share: the form of a statement about crash points
(`Always`), the laws of lookup, update and removal (`IsStore`, which the flavor blocks of a chain file obey too), and one
vocabulary for their effects (`SEff`) in which frame and the atomic writer are proved once. -/
namespace EupsModel.Store

section always
variable {σ ε : Type}

/-- `P` holds in whatever state a kill leaves behind: after every prefix of the run of `l` from `s` -/
def Always (step : σ → ε → σ) (P : σ → Prop) (s : σ) (l : List ε) : Prop := ∀ j, P ((l.take j).foldl step s)

variable {step : σ → ε → σ} {P : σ → Prop} {s : σ}

theorem Always.last {l : List ε} (h : Always step P s l) : P (l.foldl step s) := by
  have := h l.length; rwa [List.take_length] at this

theorem Always.nil (h : P s) : Always step P s [] := fun j => by rw [List.take_nil]; exact h

theorem Always.append {a b : List ε} (ha : Always step P s a) (hb : P (a.foldl step s) → Always step P (a.foldl step s) b) :
    Always step P s (a ++ b) := by
  intro j
  rw [List.take_append]
  by_cases h : j ≤ a.length
  · rw [Nat.sub_eq_zero_of_le h, List.take_zero, List.append_nil]; exact ha j
  · rw [List.take_of_length_le (Nat.le_of_not_le h), List.foldl_append]; exact hb ha.last _

theorem Always.snoc {a : List ε} {e : ε} (ha : Always step P s a) (he : P (step (a.foldl step s) e)) :
    Always step P s (a ++ [e]) :=
  ha.append fun h j => by cases j with
    | zero => exact h
    | succ j => rw [List.take_succ_cons, List.take_nil]; exact he

theorem Always.cons {e : ε} {l : List ε} (h0 : P s) (h : Always step P (step s e) l) : Always step P s (e :: l)
  | 0 => h0
  | j + 1 => h j

theorem Always.tail {e : ε} {l : List ε} (h : Always step P s (e :: l)) : Always step P (step s e) l := fun j => h (j + 1)

theorem Always.inv {l : List ε} (h0 : P s) (hs : ∀ x, ∀ e ∈ l, P x → P (step x e)) : Always step P s l := fun _ =>
  foldl_invariant h0 fun x e he => hs x e (List.mem_of_mem_take he)

theorem foldl_proj {σ' ε' : Type} {step' : σ' → ε' → σ'} (π : σ' → σ) (f : ε' → Option ε)
    (h : ∀ x e, π (step' x e) = match f e with | some e' => step (π x) e' | none => π x) (l : List ε') (x : σ') :
    π (l.foldl step' x) = (l.filterMap f).foldl step (π x) := by
  induction l generalizing x with
  | nil => rfl
  | cons e r ih =>
    rw [List.foldl_cons, ih, h, List.filterMap_cons]
    cases f e <;> rfl

end always

section store
variable {κ α β : Type} [DecidableEq κ]

/-- The three stores, and the flavor blocks of a chain file, are association lists, each with its own copy of lookup,
update (in place, or appended) and removal; this is what the copies have in common — every field holds by `rfl`, up to
the `match` in the lookup.  The entry an update writes may depend on whether it replaces one (`ChainFile.setVersion`
stamps a replaced block as modified); only its key and value matter. -/
structure IsStore (key : β → κ) (val : β → α) (get : List β → κ → Option α) (set : List β → κ → α → List β)
    (del : List β → κ → List β) : Prop where
  get_eq : ∀ l k, get l k = (l.find? (key · = k)).map val
  set_nil : ∀ f c, ∃ b, key b = f ∧ val b = c ∧ set [] f c = [b]
  set_cons : ∀ x r f c, ∃ b, key b = f ∧ val b = c ∧ set (x :: r) f c = if key x = f then b :: r else x :: set r f c
  del_nil : ∀ f, del [] f = []
  del_cons : ∀ x r f, del (x :: r) f = if key x = f then del r f else x :: del r f

variable {key : β → κ} {val : β → α} {get : List β → κ → Option α} {set : List β → κ → α → List β}
  {del : List β → κ → List β}

theorem IsStore.get_set (h : IsStore key val get set del) (l : List β) (f g : κ) (c : α) :
    get (set l f c) g = if g = f then some c else get l g := by
  simp only [h.get_eq]
  induction l with
  | nil =>
    obtain ⟨b, hk, hv, e⟩ := h.set_nil f c
    by_cases hg : g = f <;> simp [e, hk, hv, hg, eq_comm]
  | cons x r ih =>
    obtain ⟨b, hk, hv, e⟩ := h.set_cons x r f c
    rw [e]
    by_cases ha : key x = f
    · by_cases hg : g = f <;> simp [ha, hk, hv, hg, eq_comm]
    · rw [if_neg ha]
      by_cases hg : key x = g
      · have hgf : g ≠ f := fun e => ha (hg.trans e)
        simp [hg, hgf]
      · simpa [hg] using ih

theorem IsStore.get_del (h : IsStore key val get set del) (l : List β) (f g : κ) :
    get (del l f) g = if g = f then none else get l g := by
  simp only [h.get_eq]
  induction l with
  | nil => rw [h.del_nil]; simp
  | cons x r ih =>
    rw [h.del_cons]
    by_cases ha : key x = f
    · rw [if_pos ha, ih]
      by_cases hg : g = f
      · rw [if_pos hg, if_pos hg]
      · simp [ha, Ne.symm hg, hg]
    · rw [if_neg ha]
      by_cases hg : key x = g
      · have hgf : g ≠ f := fun e => ha (hg.trans e)
        simp [hg, hgf]
      · simpa [hg] using ih

theorem IsStore.set_append (h : IsStore key val get set del) (l r : List β) (f : κ) (c : α) (hl : ∀ x ∈ l, key x ≠ f) :
    set (l ++ r) f c = l ++ set r f c := by
  induction l with
  | nil => rfl
  | cons x l ih =>
    obtain ⟨_, _, _, e⟩ := h.set_cons x (l ++ r) f c
    rw [List.cons_append, e, if_neg (hl x List.mem_cons_self), ih fun y hy => hl y (List.mem_cons_of_mem _ hy),
      List.cons_append]

theorem IsStore.del_append (h : IsStore key val get set del) (l r : List β) (f : κ) (hl : ∀ x ∈ l, key x ≠ f) :
    del (l ++ r) f = l ++ del r f := by
  induction l with
  | nil => rfl
  | cons x l ih =>
    rw [List.cons_append, h.del_cons, if_neg (hl x List.mem_cons_self), ih fun y hy => hl y (List.mem_cons_of_mem _ hy),
      List.cons_append]

/-- What a file-system call does to a store, seen as a partial function from names to contents.  The effect types of
the three models are read in this vocabulary (`toS`, with the lemma that the lookup after an effect is `apply` of the
lookup before). -/
inductive SEff (κ α : Type) where
  | set (k : κ) (a : α)
  | del (k : κ)
  | rename (a b : κ)
  | nop

def SEff.touched : SEff κ α → List κ
  | .set k _ => [k]
  | .del k => [k]
  | .rename a b => [a, b]
  | .nop => []

def SEff.apply (v : κ → Option α) : SEff κ α → κ → Option α
  | .set k a => fun g => if g = k then some a else v g
  | .del k => fun g => if g = k then none else v g
  | .rename a b => match v a with
    | some c => fun g => if g = b then some c else if g = a then none else v g
    | none => v
  | .nop => v

theorem foldl_view {σ ε : Type} {step : σ → ε → σ} (view : σ → κ → Option α) (toS : ε → SEff κ α)
    (h : ∀ s e, view (step s e) = (toS e).apply (view s)) (es : List ε) (s : σ) :
    view (es.foldl step s) = (es.map toS).foldl SEff.apply (view s) :=
  (foldl_proj view (some ∘ toS) h es s).trans (by rw [List.filterMap_eq_map])

theorem apply_other (v : κ → Option α) (e : SEff κ α) (g : κ) (h : g ∉ e.touched) : e.apply v g = v g := by
  cases e with
  | nop => rfl
  | set k a => exact if_neg fun hk => h (List.mem_singleton.mpr hk)
  | del k => exact if_neg fun hk => h (List.mem_singleton.mpr hk)
  | rename a b =>
    simp only [SEff.touched, List.mem_cons, List.not_mem_nil, or_false, not_or] at h
    simp only [SEff.apply]
    cases v a with
    | none => rfl
    | some c => exact (if_neg h.2).trans (if_neg h.1)

theorem frame (v : κ → Option α) (es : List (SEff κ α)) (g : κ) (h : ∀ e ∈ es, g ∉ e.touched) :
    Always SEff.apply (fun w => w g = v g) v es :=
  Always.inv rfl fun w e he hw => (apply_other w e g (h e he)).trans hw

/-- **The atomic writer.**  A writer that touches only its temporary file and, when that holds `c`, renames it into
place: after every prefix every other name reads as before, except that `main` may already read `c`. -/
theorem atomic_write (body : List (SEff κ α)) (tmp main : κ) (c : α) (v : κ → Option α)
    (hb : ∀ e ∈ body, ∀ g ∈ e.touched, g = tmp) (hc : body.foldl SEff.apply v tmp = some c)
    (g : κ) (hg : g ≠ tmp) :
    Always SEff.apply (fun w => w g = v g ∨ g = main ∧ w g = some c) v (body ++ [.rename tmp main]) := by
  have hfr := frame v body g fun e he hm => hg (hb e he g hm)
  refine Always.snoc (fun j => Or.inl (hfr j)) ?_
  simp only [SEff.apply, hc]
  by_cases hm : g = main
  · exact Or.inr ⟨hm, if_pos hm⟩
  · exact Or.inl ((if_neg hm).trans ((if_neg hg).trans hfr.last))

end store
end EupsModel.Store
