import EupsModel.Model.VroApi
import EupsModel.Lemmas.Str
import EupsModel.Lemmas.List
import EupsModel.Lemmas.Text
/-! Print/parse theorems for the tag-file reader `tagFileLine` / `tagFileVersion`
(`Eups._findTaggedProductFromFile`): the reader reads back what a writer wrote — (T1) a plain `product version` line,
(T2) a `setupRequired(…)` line, (T4) a file; (T3) examples: each side condition is needed.
Code points: 10 newline, 32 space, 35 `#`, 40 `(`, 41 `)`, 45 `-`, 91 `[`, 93 `]`, 124 `|`. -/
namespace EupsModel.Vro

/-! ## the model's strip and split functions are those of `Lemmas/Text` -/

def IsWord (w : Str) : Prop := w ≠ [] ∧ ∀ c ∈ w, Str.isSpace c = false

def IsBlank (bs : Str) : Prop := ∀ c ∈ bs, Str.isSpace c = true

theorem isBlank_space : IsBlank [32] := by simp [IsBlank, Str.isSpace]

def BlankHead (r : Str) : Prop := ∀ c ∈ r.head?, Str.isSpace c = true

theorem blankHead_nil : BlankHead [] := by simp [BlankHead]

theorem blankHead_cons {c : Nat} {r : Str} (h : Str.isSpace c = true) : BlankHead (c :: r) := by
  simp [BlankHead, h]

theorem skipSpaces_eq (s : Str) : skipSpaces s = s.dropWhile Str.isSpace := by
  induction s with
  | nil => rfl
  | cons c cs ih => by_cases h : Str.isSpace c <;> simp [skipSpaces, h, ih]

theorem stripLead_eq (s : Str) : stripLead s = s.dropWhile fun c => c == 124 || Str.isSpace c := by
  induction s with
  | nil => rfl
  | cons c cs ih => by_cases h : (c == 124 || Str.isSpace c) <;> simp_all [stripLead]

theorem stripTrail_eq (s : Str) : stripTrail s = Text.stripR Str.isSpace s := by rw [stripTrail, skipSpaces_eq]; rfl

/-- what `^[|\s]*` removes -/
def IsLead (lead : Str) : Prop := ∀ c ∈ lead, (c == 124 || Str.isSpace c) = true

theorem stripLead_append (lead s : Str) (h : IsLead lead) :
    stripLead (lead ++ s) = stripLead s := by
  simp only [stripLead_eq, List.dropWhile_append_of_pos h]

theorem stripLead_cons {c : Nat} (cs : Str) (h : (c == 124 || Str.isSpace c) = false) :
    stripLead (c :: cs) = c :: cs := by
  simp [stripLead, h]

theorem stripTrail_nil : stripTrail [] = [] := rfl

theorem stripTrail_append_of_ne_nil (a r : Str) (h : stripTrail r ≠ []) : stripTrail (a ++ r) = a ++ stripTrail r := by
  simpa only [stripTrail_eq] using Text.stripR_append_of_ne_nil a (stripTrail_eq r ▸ h)

theorem stripTrail_cons {c : Nat} (r : Str) (h : Str.isSpace c = false) : stripTrail (c :: r) = c :: stripTrail r := by
  simpa only [stripTrail_eq] using Text.stripR_cons h r

theorem stripTrail_word_append (w r : Str) (hw : ∀ c ∈ w, Str.isSpace c = false) :
    stripTrail (w ++ r) = w ++ stripTrail r := by
  simpa only [stripTrail_eq] using Text.stripR_append hw r

theorem stripTrail_blank (bs : Str) (h : IsBlank bs) : stripTrail bs = [] := (stripTrail_eq bs).trans (Text.stripR_blank h)

theorem stripTrail_prefix (r : Str) : ∃ bs, r = stripTrail r ++ bs := by
  obtain ⟨⟨b, hb, -⟩, -⟩ := Text.stripR_spec (p := Str.isSpace) r
  exact ⟨b, by rwa [stripTrail_eq]⟩

theorem blankHead_stripTrail {r : Str} (h : BlankHead r) : BlankHead (stripTrail r) := by
  obtain ⟨bs, hbs⟩ := stripTrail_prefix r
  cases hs : stripTrail r with
  | nil => exact blankHead_nil
  | cons c t =>
    rw [hs] at hbs
    rw [hbs] at h
    exact blankHead_cons (h c (by simp))

theorem splitWs_eq (s : Str) : splitWs s = Text.tokens Str.isSpace s :=
  Text.acc_tokens_rev (fun _ => rfl) (fun cur c cs => by cases cur <;> rfl) s

theorem splitWs_blank (bs : Str) (h : IsBlank bs) : splitWs bs = [] := (splitWs_eq _).trans (Text.tokens_blank h)

theorem splitWs_two (p sep v r : Str) (hp : IsWord p) (hsep : IsBlank sep) (hsep0 : sep ≠ []) (hv : IsWord v)
    (hr : BlankHead r) : splitWs (p ++ sep ++ v ++ r) = p :: v :: splitWs r := by
  simp only [splitWs_eq, List.append_assoc, Text.tokens_word_gap hp hsep hsep0, Text.tokens_word_append hv hr]

/-! ## (T1) plain lines -/

theorem tagFileLineWith_plain (d : Str → Str) (line l p v : Str) (t : List Str)
    (hl : stripTrail (stripLead line) = l) (hne : l ≠ []) (hc : l.head? ≠ some 35)
    (hk : kSetupRequiredParen.isPrefixOf l = false) (hs : splitWs l = p :: v :: t) :
    tagFileLineWith d line = .ok (some (p, v)) := by
  unfold tagFileLineWith
  simp only [hl]
  have h1 : (l.isEmpty || l.head? == some 35) = false := by
    cases l with
    | nil => exact absurd rfl hne
    | cons a t => simpa using hc
  simp [h1, hk, hs]

/-- the side conditions on the product name of a plain `product version` line -/
structure PlainName (p : Str) : Prop where
  word : IsWord p
  notHash : p.head? ≠ some 35
  notBar : p.head? ≠ some 124
  notSetup : kSetupRequiredParen.isPrefixOf p = false

theorem kSetupRequiredParen_noBlank : ∀ c ∈ kSetupRequiredParen, Str.isSpace c = false := by decide

/-- (T1), general form; the option-stripping substitution `d` is not reached -/
theorem tagFileLineWith_plain_gen (d : Str → Str) (lead p sep v rest : Str) (hp : PlainName p) (hv : IsWord v)
    (hlead : IsLead lead) (hsep : IsBlank sep) (hsep0 : sep ≠ []) (hrest : BlankHead rest) :
    tagFileLineWith d (lead ++ p ++ sep ++ v ++ rest) = .ok (some (p, v)) := by
  obtain ⟨hpw, hp35, hp124, hpk⟩ := hp
  have hr' := blankHead_stripTrail hrest
  have hvr : stripTrail (v ++ rest) = v ++ stripTrail rest := stripTrail_word_append v rest hv.2
  have hvne : stripTrail (v ++ rest) ≠ [] := by
    rw [hvr]; intro h; exact hv.1 (List.append_eq_nil_iff.mp h).1
  have hl : stripTrail (stripLead (lead ++ p ++ sep ++ v ++ rest)) = p ++ sep ++ v ++ stripTrail rest := by
    have e : lead ++ p ++ sep ++ v ++ rest = lead ++ (p ++ sep ++ v ++ rest) := by simp
    rw [e, stripLead_append _ _ hlead]
    obtain ⟨a, p', rfl⟩ := List.exists_cons_of_ne_nil hpw.1
    have ha : (a == 124 || Str.isSpace a) = false := by
      have h1 : a ≠ 124 := by simpa using hp124
      have h2 := hpw.2 a (by simp)
      simp [h1, h2]
    rw [show a :: p' ++ sep ++ v ++ rest = a :: (p' ++ sep ++ v ++ rest) by simp, stripLead_cons _ ha]
    rw [show a :: (p' ++ sep ++ v ++ rest) = (a :: p' ++ sep) ++ (v ++ rest) by simp,
      stripTrail_append_of_ne_nil _ _ hvne, hvr]
    simp
  apply tagFileLineWith_plain d _ _ p v (splitWs (stripTrail rest)) hl
  · intro h; simp at h; exact hpw.1 h.1
  · cases p with
    | nil => exact absurd rfl hpw.1
    | cons a p' => simpa using hp35
  · cases sep with
    | nil => exact absurd rfl hsep0
    | cons b sep' =>
      have hb : b ∉ kSetupRequiredParen := fun hm => by
        have := kSetupRequiredParen_noBlank b hm
        rw [hsep b (by simp)] at this; cases this
      simpa [hpk] using isPrefixOf_stop p (sep' ++ v ++ stripTrail rest) hb
  · exact splitWs_two p sep v _ hpw hsep hsep0 hv hr'

theorem tagFileLine_plain (p v : Str) (hp : PlainName p) (hv : IsWord v) :
    tagFileLine (p ++ [32] ++ v) = .ok (some (p, v)) := by
  have := tagFileLineWith_plain_gen dropOptions [] p [32] v [] hp hv (by simp [IsLead]) isBlank_space (by simp)
    blankHead_nil
  simpa [tagFileLine] using this

theorem tagFileLine_plain_nl (p v : Str) (hp : PlainName p) (hv : IsWord v) :
    tagFileLine (p ++ [32] ++ v ++ [10]) = .ok (some (p, v)) := by
  have := tagFileLineWith_plain_gen dropOptions [] p [32] v [10] hp hv (by simp [IsLead]) isBlank_space (by simp)
    (blankHead_cons (by decide))
  simpa [tagFileLine] using this

/-! ## `dropOptions` -/

/-- the scanner is at a word start -/
def OptState.AtStart (s : OptState) : Prop := s = .start ∨ s = .inWs

/-- the scanner is copying (no option pending, none just removed) -/
def OptState.Plain (s : OptState) : Prop := s = .start ∨ s = .mid

theorem dropOptionsGo_mid_word (w r : Str) (hw : ∀ c ∈ w, Str.isSpace c = false) :
    dropOptionsGo .mid (w ++ r) = w ++ dropOptionsGo .mid r := by
  induction w with
  | nil => rfl
  | cons c cs ih =>
    simp only [List.cons_append, dropOptionsGo, hw c (by simp), Bool.false_eq_true, if_false]
    rw [ih (fun x hx => hw x (List.mem_cons_of_mem _ hx))]

theorem dropOptionsGo_atStart_word (s : OptState) (hs : s.AtStart) (w r : Str) (hw : IsWord w)
    (h45 : w.head? ≠ some 45) : dropOptionsGo s (w ++ r) = w ++ dropOptionsGo .mid r := by
  obtain ⟨a, w', rfl⟩ := List.exists_cons_of_ne_nil hw.1
  have ha : (a == 45) = false := by simpa using h45
  have hsp := hw.2 a (by simp)
  have hw' : ∀ c ∈ w', Str.isSpace c = false := fun x hx => hw.2 x (List.mem_cons_of_mem _ hx)
  rcases hs with rfl | rfl <;>
    simp only [List.cons_append, dropOptionsGo, ha, hsp, Bool.false_eq_true, if_false] <;>
    rw [dropOptionsGo_mid_word w' r hw']

theorem dropOptionsGo_plain_blank (s : OptState) (hs : s.Plain) (b : Nat) (r : Str) (hb : Str.isSpace b = true) :
    dropOptionsGo s (b :: r) = b :: dropOptionsGo .start r := by
  have h45 : (b == 45) = false := by
    have : b ≠ 45 := ne_of_class hb (by decide)
    simpa using this
  rcases hs with rfl | rfl <;> simp [dropOptionsGo, h45, hb]

theorem dropOptionsGo_plain_blanks (s : OptState) (hs : s.Plain) (bs r : Str) (hb : IsBlank bs) :
    dropOptionsGo s (bs ++ r) = bs ++ dropOptionsGo (if bs = [] then s else .start) r := by
  induction bs generalizing s with
  | nil => rfl
  | cons b bs ih =>
    rw [List.cons_append, dropOptionsGo_plain_blank s hs b _ (hb b (by simp)),
      ih .start (.inl rfl) fun x hx => hb x (List.mem_cons_of_mem _ hx)]
    simp

theorem OptState.plain_ite (bs : Str) : (if bs = [] then OptState.mid else .start).Plain := by
  split
  · exact .inr rfl
  · exact .inl rfl

theorem dropOptionsGo_plain_nil (s : OptState) (hs : s.Plain) : dropOptionsGo s [] = [] := by
  rcases hs with rfl | rfl <;> rfl

theorem dropOptionsGo_inOpt_word (buf w r : Str) (b : Nat) (hw : ∀ c ∈ w, Str.isSpace c = false)
    (hb : Str.isSpace b = true) (hlen : 2 ≤ buf.length + w.length) :
    dropOptionsGo (.inOpt buf) (w ++ b :: r) = dropOptionsGo .inWs r := by
  induction w generalizing buf with
  | nil =>
    have : 2 ≤ buf.length := by simpa using hlen
    simp [dropOptionsGo, hb, this]
  | cons c cs ih =>
    simp only [List.cons_append, dropOptionsGo, hw c (by simp), Bool.false_eq_true, if_false]
    apply ih _ (fun x hx => hw x (List.mem_cons_of_mem _ hx))
    simp only [List.length_cons] at hlen ⊢
    omega

/-- an option word inside `setupRequired(...)` -/
structure IsOpt (o : Str) : Prop where
  dash : o.head? = some 45
  two : 2 ≤ o.length
  noBlank : ∀ c ∈ o, Str.isSpace c = false
  noParen : 41 ∉ o

theorem dropOptionsGo_atStart_opt (s : OptState) (hs : s.AtStart) (o r : Str) (b : Nat) (ho : IsOpt o)
    (hb : Str.isSpace b = true) : dropOptionsGo s (o ++ b :: r) = dropOptionsGo .inWs r := by
  obtain ⟨hd, h2, hnb, _⟩ := ho
  cases o with
  | nil => simp at hd
  | cons a o' =>
    have ha : a = 45 := by simpa using hd
    subst ha
    have hw' : ∀ c ∈ o', Str.isSpace c = false := fun x hx => hnb x (List.mem_cons_of_mem _ hx)
    have hlen : 2 ≤ [45].length + o'.length := by simp only [List.length_cons] at h2 ⊢; simp; omega
    have h45 : Str.isSpace 45 = false := by decide
    rcases hs with rfl | rfl
    · simp only [List.cons_append, dropOptionsGo, beq_self_eq_true, if_true]
      exact dropOptionsGo_inOpt_word [45] o' r b hw' hb hlen
    · simp only [List.cons_append, dropOptionsGo, h45, Bool.false_eq_true, if_false, beq_self_eq_true, if_true]
      exact dropOptionsGo_inOpt_word [45] o' r b hw' hb hlen

/-- option words as a writer puts them: each followed by one space -/
def optsText (opts : List Str) : Str := opts.flatMap (· ++ [32])

/-- option words in general: each followed by a non-empty run of blanks -/
inductive IsOptsText : Str → Prop
  | nil : IsOptsText []
  | cons (o bs rest : Str) : IsOpt o → IsBlank bs → bs ≠ [] → IsOptsText rest → IsOptsText (o ++ bs ++ rest)

theorem dropOptionsGo_inWs_blanks (bs r : Str) (hb : IsBlank bs) :
    dropOptionsGo .inWs (bs ++ r) = dropOptionsGo .inWs r := by
  induction bs with
  | nil => rfl
  | cons b bs ih =>
    simp only [List.cons_append, dropOptionsGo, hb b (by simp), if_true]
    exact ih (fun x hx => hb x (List.mem_cons_of_mem _ hx))

theorem dropOptionsGo_isOptsText (s : OptState) (hs : s.AtStart) (ot r : Str) (ho : IsOptsText ot) :
    ∃ s' : OptState, s'.AtStart ∧ dropOptionsGo s (ot ++ r) = dropOptionsGo s' r := by
  induction ho generalizing s with
  | nil => exact ⟨s, hs, rfl⟩
  | cons o bs rest hopt hbs hbs0 _ ih =>
    obtain ⟨s', hs', h'⟩ := ih .inWs (Or.inr rfl)
    refine ⟨s', hs', ?_⟩
    obtain ⟨b, bs', rfl⟩ := List.exists_cons_of_ne_nil hbs0
    have e : o ++ b :: bs' ++ rest ++ r = o ++ b :: (bs' ++ (rest ++ r)) := by simp
    rw [e, dropOptionsGo_atStart_opt s hs o _ b hopt (hbs b (by simp)),
      dropOptionsGo_inWs_blanks bs' _ (fun x hx => hbs x (List.mem_cons_of_mem _ hx)), h']

theorem isOptsText_optsText (opts : List Str) (ho : ∀ o ∈ opts, IsOpt o) : IsOptsText (optsText opts) := by
  induction opts with
  | nil => exact .nil
  | cons o os ih =>
    have e : optsText (o :: os) = o ++ [32] ++ optsText os := by simp [optsText]
    rw [e]
    exact .cons o [32] _ (ho o (by simp)) isBlank_space (by simp)
      (ih (fun x hx => ho x (List.mem_cons_of_mem _ hx)))

theorem dropOptionsGo_optsText (s : OptState) (hs : s.AtStart) (opts : List Str) (r : Str)
    (ho : ∀ o ∈ opts, IsOpt o) :
    ∃ s' : OptState, s'.AtStart ∧ dropOptionsGo s (optsText opts ++ r) = dropOptionsGo s' r :=
  dropOptionsGo_isOptsText s hs _ r (isOptsText_optsText opts ho)

theorem IsOptsText.noParen {ot : Str} (h : IsOptsText ot) : 41 ∉ ot := by
  induction h with
  | nil => simp
  | cons o bs rest hopt hbs _ _ ih =>
    have hbs41 : 41 ∉ bs := fun hm => ne_of_class (hbs 41 hm) (by decide) rfl
    simp [hopt.noParen, hbs41, ih]

theorem dropOptionsGo_snoc (s : OptState) (t : Str) {c : Nat} (h : Str.isSpace c = false) (h45 : c ≠ 45) :
    dropOptionsGo s (t ++ [c]) = dropOptionsGo s t ++ [c] := by
  -- every branch emits the head, the pending buffer or nothing, and recurses; the last character is copied from any state
  fun_induction dropOptionsGo s t <;> simp [dropOptionsGo, *]

theorem not_mem_dropOptionsGo {x : Nat} (s : OptState) (t : Str) (ht : x ∉ t) (hs : ∀ buf, s = .inOpt buf → x ∉ buf) :
    x ∉ dropOptionsGo s t := by
  -- what a branch emits is a character of `t` or the pending buffer
  fun_induction dropOptionsGo s t <;> simp_all
  -- left: `start` and `mid` copying a character; the scanner goes on in `start` or `mid`, where nothing is pending
  case case6 ih | case7 ih => exact ih fun buf => by split <;> nofun

theorem dropOptionsGo_close (s : OptState) (t : Str) (ht : 93 ∉ t) (hs : ∀ buf, s = .inOpt buf → 93 ∉ buf) :
    ∃ y, dropOptionsGo s (t ++ [93]) = y ++ [93] ∧ 93 ∉ y :=
  ⟨_, dropOptionsGo_snoc s t (by decide) (by decide), not_mem_dropOptionsGo s t ht hs⟩

theorem dropOptionsGo_plain_bracket (s : OptState) (hs : s.Plain) (x : Str) (hx0 : x ≠ []) (hx : 93 ∉ x) :
    ∃ y, y ≠ [] ∧ 93 ∉ y ∧ dropOptionsGo s (91 :: x ++ [93]) = 91 :: y ++ [93] := by
  obtain ⟨c, t, rfl⟩ := List.exists_cons_of_ne_nil hx0
  have hc : 93 ≠ c := fun e => hx (by simp [e])
  have ht' : 93 ∉ t := fun hm => hx (List.mem_cons_of_mem _ hm)
  have h91 : Str.isSpace 91 = false := by decide
  obtain ⟨y, hy, hy'⟩ : ∃ y, dropOptionsGo (if Str.isSpace c = true then .start else .mid) (t ++ [93])
      = y ++ [93] ∧ 93 ∉ y := by
    apply dropOptionsGo_close _ t ht'
    intro buf hb; by_cases hsp : Str.isSpace c = true <;> simp [hsp] at hb
  refine ⟨c :: y, by simp, by simp [hc, hy'], ?_⟩
  rcases hs with rfl | rfl <;> simp [dropOptionsGo, h91, hy]

/-! ## `dropBrackets` -/

theorem dropBracketsGo_char (ws : Str) (c : Nat) (r : Str) (hsp : Str.isSpace c = false) (h91 : c ≠ 91) :
    dropBracketsGo (.normal ws) (c :: r) = ws.reverse ++ c :: dropBracketsGo (.normal []) r := by
  have : (c == 91) = false := by simpa using h91
  simp [dropBracketsGo, hsp, this]

theorem dropBracketsGo_noBlank (w r : Str) (hw : ∀ c ∈ w, Str.isSpace c = false) (h91 : 91 ∉ w) :
    dropBracketsGo (.normal []) (w ++ r) = w ++ dropBracketsGo (.normal []) r := by
  induction w with
  | nil => rfl
  | cons c cs ih =>
    have hc : c ≠ 91 := fun e => h91 (by simp [e])
    rw [List.cons_append, dropBracketsGo_char [] c _ (hw c (by simp)) hc,
      ih (fun x hx => hw x (List.mem_cons_of_mem _ hx)) (fun hm => h91 (List.mem_cons_of_mem _ hm))]
    rfl

theorem dropBracketsGo_word (ws w r : Str) (hw : IsWord w) (h91 : 91 ∉ w) :
    dropBracketsGo (.normal ws) (w ++ r) = ws.reverse ++ w ++ dropBracketsGo (.normal []) r := by
  obtain ⟨c, cs, rfl⟩ := List.exists_cons_of_ne_nil hw.1
  have hc : c ≠ 91 := fun e => h91 (by simp [e])
  rw [List.cons_append, dropBracketsGo_char ws c _ (hw.2 c (by simp)) hc,
    dropBracketsGo_noBlank cs r (fun x hx => hw.2 x (List.mem_cons_of_mem _ hx))
      (fun hm => h91 (List.mem_cons_of_mem _ hm))]
  simp

theorem dropBracketsGo_blanks (ws bs r : Str) (hb : IsBlank bs) :
    dropBracketsGo (.normal ws) (bs ++ r) = dropBracketsGo (.normal (bs.reverse ++ ws)) r := by
  induction bs generalizing ws with
  | nil => rfl
  | cons b bs ih =>
    simp only [List.cons_append, dropBracketsGo, hb b (by simp), if_true]
    rw [ih _ (fun x hx => hb x (List.mem_cons_of_mem _ hx))]
    simp

theorem dropBracketsGo_inBr (ws buf y r : Str) (hy : 93 ∉ y) (hlen : 2 ≤ buf.length + y.length) :
    dropBracketsGo (.inBr ws buf) (y ++ 93 :: r) = dropBracketsGo (.normal []) r := by
  induction y generalizing buf with
  | nil =>
    have : 2 ≤ buf.length := by simpa using hlen
    simp [dropBracketsGo, this]
  | cons c cs ih =>
    have hc : (c == 93) = false := by
      have : c ≠ 93 := fun e => hy (by simp [e])
      simpa using this
    simp only [List.cons_append, dropBracketsGo, hc, Bool.false_eq_true, if_false]
    apply ih _ (fun hm => hy (List.mem_cons_of_mem _ hm))
    simp only [List.length_cons] at hlen ⊢
    omega

theorem dropBracketsGo_bracket (ws y r : Str) (hy0 : y ≠ []) (hy : 93 ∉ y) :
    dropBracketsGo (.normal ws) (91 :: y ++ 93 :: r) = dropBracketsGo (.normal []) r := by
  have h91 : Str.isSpace 91 = false := by decide
  have hlen : 2 ≤ [91].length + y.length := by
    cases y with
    | nil => exact absurd rfl hy0
    | cons a t => simp only [List.length_cons]; omega
  simp only [List.cons_append, dropBracketsGo, h91, Bool.false_eq_true, if_false, beq_self_eq_true, if_true]
  exact dropBracketsGo_inBr ws [91] y r hy hlen

/-! ## (T2) `setupRequired(...)` lines -/

/-- the side conditions on the product and the version inside `setupRequired(...)` -/
structure SetupWord (w : Str) : Prop where
  word : IsWord w
  notDash : w.head? ≠ some 45
  noParen : 41 ∉ w
  noBracket : 91 ∉ w

/-- what may stand behind the version: blanks, or blanks and a final `[x]` with `x` non-empty, without `]` -/
def BodyTail (tl : Str) : Prop :=
  IsBlank tl ∨ ∃ bs x, IsBlank bs ∧ x ≠ [] ∧ 93 ∉ x ∧ tl = bs ++ 91 :: x ++ [93]

theorem BodyTail.blanks {bs : Str} (h : IsBlank bs) : BodyTail bs := Or.inl h

theorem BodyTail.expr {bs x : Str} (hbs : IsBlank bs) (hx0 : x ≠ []) (hx : 93 ∉ x) :
    BodyTail (bs ++ 91 :: x ++ [93]) := Or.inr ⟨bs, x, hbs, hx0, hx, rfl⟩

theorem splitWs_setup_body (ot p sep v tl : Str) (ho : IsOptsText ot)
    (hp : SetupWord p) (hsep : IsBlank sep) (hsep0 : sep ≠ []) (hv : SetupWord v) (htl : BodyTail tl) :
    splitWs (dropBrackets (dropOptions (ot ++ p ++ sep ++ v ++ tl))) = [p, v] := by
  -- the options go, the rest is copied, the body of the bracket may change
  have hopt : ∃ tl', BodyTail tl' ∧
      dropOptions (ot ++ p ++ sep ++ v ++ tl) = p ++ sep ++ v ++ tl' := by
    unfold dropOptions
    obtain ⟨s1, hs1, e1⟩ := dropOptionsGo_isOptsText .start (Or.inl rfl) ot (p ++ sep ++ v ++ tl) ho
    have e0 : ot ++ p ++ sep ++ v ++ tl = ot ++ (p ++ sep ++ v ++ tl) := by simp
    have e2 : p ++ sep ++ v ++ tl = p ++ (sep ++ (v ++ tl)) := by simp
    rw [e0, e1, e2, dropOptionsGo_atStart_word s1 hs1 p _ hp.word hp.notDash,
      dropOptionsGo_plain_blanks .mid (Or.inr rfl) sep _ hsep, if_neg hsep0,
      dropOptionsGo_atStart_word .start (Or.inl rfl) v _ hv.word hv.notDash]
    rcases htl with hbs | ⟨bs, x, hbs, hx0, hx, rfl⟩
    · have e3 := dropOptionsGo_plain_blanks .mid (Or.inr rfl) tl [] hbs
      refine ⟨tl, .blanks hbs, ?_⟩
      rw [List.append_nil] at e3
      rw [e3, dropOptionsGo_plain_nil _ (OptState.plain_ite tl)]
      simp
    · obtain ⟨y, hy0, hy, e4⟩ := dropOptionsGo_plain_bracket _ (OptState.plain_ite bs) x hx0 hx
      refine ⟨bs ++ 91 :: y ++ [93], .expr hbs hy0 hy, ?_⟩
      have e5 : bs ++ 91 :: x ++ [93] = bs ++ (91 :: x ++ [93]) := by simp
      rw [e5, dropOptionsGo_plain_blanks .mid (Or.inr rfl) bs _ hbs, e4]
      simp
  obtain ⟨tl', htl', e⟩ := hopt
  rw [e]
  -- the bracket goes, with the blanks before it
  have hbr : ∃ bs, IsBlank bs ∧ dropBrackets (p ++ sep ++ v ++ tl') = p ++ sep ++ v ++ bs := by
    unfold dropBrackets
    have e2 : p ++ sep ++ v ++ tl' = p ++ (sep ++ (v ++ tl')) := by simp
    rw [e2, dropBracketsGo_word [] p _ hp.word hp.noBracket, dropBracketsGo_blanks [] sep _ hsep,
      dropBracketsGo_word _ v _ hv.word hv.noBracket]
    rcases htl' with hbs | ⟨bs, y, hbs, hy0, hy, rfl⟩
    · refine ⟨tl', hbs, ?_⟩
      have := dropBracketsGo_blanks [] tl' [] hbs
      rw [List.append_nil] at this
      rw [this]
      simp [dropBracketsGo]
    · refine ⟨[], by simp [IsBlank], ?_⟩
      have e5 : bs ++ 91 :: y ++ [93] = bs ++ (91 :: y ++ 93 :: []) := by simp
      rw [e5, dropBracketsGo_blanks [] bs _ hbs, dropBracketsGo_bracket _ y [] hy0 hy]
      simp [dropBracketsGo]
  obtain ⟨bs, hbs, e'⟩ := hbr
  rw [e']
  have hbh : BlankHead bs := by
    cases bs with
    | nil => exact blankHead_nil
    | cons b t => exact blankHead_cons (hbs b (by simp))
  rw [splitWs_two p sep v bs hp.word hsep hsep0 hv.word hbh, splitWs_blank bs hbs]

theorem tagFileLineWith_setup (d : Str → Str) (line body tail p v : Str)
    (hl : stripTrail (stripLead line) = kSetupRequiredParen ++ body ++ 41 :: tail) (hb0 : body ≠ [])
    (hb : 41 ∉ body) (hs : splitWs (dropBrackets (d body)) = [p, v]) :
    tagFileLineWith d line = .ok (some (p, v)) := by
  unfold tagFileLineWith
  simp only [hl]
  have e : kSetupRequiredParen ++ body ++ 41 :: tail = kSetupRequiredParen ++ (body ++ 41 :: tail) := by simp
  have h1 : ((kSetupRequiredParen ++ body ++ 41 :: tail).isEmpty
      || (kSetupRequiredParen ++ body ++ 41 :: tail).head? == some 35) = false := by
    simp [kSetupRequiredParen]
  have h2 : kSetupRequiredParen.isPrefixOf (kSetupRequiredParen ++ body ++ 41 :: tail) = true := by
    rw [e]; exact isPrefixOf_append_self _ _
  have h3 : (kSetupRequiredParen ++ body ++ 41 :: tail).drop kSetupRequiredParen.length = body ++ 41 :: tail := by
    rw [e]; exact List.drop_left
  have h4 : (!body.isEmpty && decide (body.length < (body ++ 41 :: tail).length)) = true := by
    cases body with
    | nil => exact absurd rfl hb0
    | cons a t => simp
  simp only [h1, h2, h3, (span_append_cons 41 tail (all_ne hb) (by simp)).1, h4, Bool.false_eq_true, if_false, if_true, hs]

theorem stripLead_setupRequired (s : Str) : stripLead (kSetupRequiredParen ++ s) = kSetupRequiredParen ++ s :=
  stripLead_cons (c := 115) _ (by decide)

/-- (T2), the form behind both general forms: `tl` is what stands between the version and the `)` (`BodyTail`) -/
theorem tagFileLine_setup_core (lead ot p sep v tl tail : Str) (hlead : IsLead lead)
    (ho : IsOptsText ot) (hp : SetupWord p) (hsep : IsBlank sep) (hsep0 : sep ≠ []) (hv : SetupWord v)
    (htl : BodyTail tl) (htl41 : 41 ∉ tl) :
    tagFileLine (lead ++ kSetupRequiredParen ++ ot ++ p ++ sep ++ v ++ tl ++ 41 :: tail)
      = .ok (some (p, v)) := by
  apply tagFileLineWith_setup dropOptions _ (ot ++ p ++ sep ++ v ++ tl) (stripTrail tail) p v
  · have e : lead ++ kSetupRequiredParen ++ ot ++ p ++ sep ++ v ++ tl ++ 41 :: tail
        = lead ++ (kSetupRequiredParen ++ ((ot ++ p ++ sep ++ v ++ tl) ++ 41 :: tail)) := by simp
    have h41 : stripTrail (41 :: tail) = 41 :: stripTrail tail := stripTrail_cons tail (by decide)
    rw [e, stripLead_append _ _ hlead, stripLead_setupRequired, ← List.append_assoc,
      stripTrail_append_of_ne_nil _ _ (by rw [h41]; simp), h41]
  · intro h; simp at h; exact hp.word.1 h.2.1
  · have ho41 : 41 ∉ ot := ho.noParen
    have hsep41 : 41 ∉ sep := fun hm => ne_of_class (hsep 41 hm) (by decide) rfl
    simp only [List.mem_append, not_or]
    exact ⟨⟨⟨⟨ho41, hp.noParen⟩, hsep41⟩, hv.noParen⟩, htl41⟩
  · exact splitWs_setup_body ot p sep v tl ho hp hsep hsep0 hv htl

/-- (T2), general form without a relative expression -/
theorem tagFileLine_setup_gen (lead ot p sep v bs tail : Str) (hlead : IsLead lead)
    (ho : IsOptsText ot) (hp : SetupWord p) (hsep : IsBlank sep) (hsep0 : sep ≠ []) (hv : SetupWord v)
    (hbs : IsBlank bs) :
    tagFileLine (lead ++ kSetupRequiredParen ++ ot ++ p ++ sep ++ v ++ bs ++ 41 :: tail)
      = .ok (some (p, v)) :=
  tagFileLine_setup_core lead ot p sep v bs tail hlead ho hp hsep hsep0 hv (.blanks hbs)
    (fun hm => ne_of_class (hbs 41 hm) (by decide) rfl)

/-- (T2), general form with a relative expression `[x]` directly before the `)` -/
theorem tagFileLine_setup_expr_gen (lead ot p sep v bs x tail : Str) (hlead : IsLead lead)
    (ho : IsOptsText ot) (hp : SetupWord p) (hsep : IsBlank sep) (hsep0 : sep ≠ []) (hv : SetupWord v)
    (hbs : IsBlank bs) (hx0 : x ≠ []) (hx93 : 93 ∉ x) (hx41 : 41 ∉ x) :
    tagFileLine (lead ++ kSetupRequiredParen ++ ot ++ p ++ sep ++ v ++ bs ++ 91 :: x ++ 93 :: 41 :: tail)
      = .ok (some (p, v)) := by
  have := tagFileLine_setup_core lead ot p sep v (bs ++ 91 :: x ++ [93]) tail hlead ho hp hsep hsep0 hv
    (.expr hbs hx0 hx93) (by
      have hbs41 : 41 ∉ bs := fun hm => ne_of_class (hbs 41 hm) (by decide) rfl
      simp [hbs41, hx41])
  simpa using this

theorem tagFileLine_setup_opts (opts : List Str) (p v : Str) (ho : ∀ o ∈ opts, IsOpt o) (hp : SetupWord p)
    (hv : SetupWord v) :
    tagFileLine (kSetupRequiredParen ++ opts.flatMap (· ++ [32]) ++ p ++ [32] ++ v ++ [41]) = .ok (some (p, v)) := by
  have := tagFileLine_setup_gen [] (optsText opts) p [32] v [] [] (by simp [IsLead])
    (isOptsText_optsText opts ho) hp isBlank_space (by simp) hv (by simp [IsBlank])
  simpa [optsText] using this

theorem tagFileLine_setup_opts_expr (opts : List Str) (p v x : Str) (ho : ∀ o ∈ opts, IsOpt o) (hp : SetupWord p)
    (hv : SetupWord v) (hx0 : x ≠ []) (hx93 : 93 ∉ x) (hx41 : 41 ∉ x) :
    tagFileLine (kSetupRequiredParen ++ opts.flatMap (· ++ [32]) ++ p ++ [32] ++ v ++ [32, 91] ++ x ++ [93, 41])
      = .ok (some (p, v)) := by
  have := tagFileLine_setup_expr_gen [] (optsText opts) p [32] v [32] x [] (by simp [IsLead])
    (isOptsText_optsText opts ho) hp isBlank_space (by simp) hv isBlank_space hx0 hx93 hx41
  simpa [optsText] using this

theorem tagFileLine_setup (p v : Str) (hp : SetupWord p) (hv : SetupWord v) :
    tagFileLine (kSetupRequiredParen ++ p ++ [32] ++ v ++ [41]) = .ok (some (p, v)) := by
  simpa using tagFileLine_setup_opts [] p v nofun hp hv

/-- (T2) `setupRequired(p v [x])` — the statement D92 violated for `v = 2.0-rc1` -/
theorem tagFileLine_setup_expr (p v x : Str) (hp : SetupWord p) (hv : SetupWord v)
    (hx0 : x ≠ []) (hx93 : 93 ∉ x) (hx41 : 41 ∉ x) :
    tagFileLine (kSetupRequiredParen ++ p ++ [32] ++ v ++ [32, 91] ++ x ++ [93, 41]) = .ok (some (p, v)) := by
  simpa using tagFileLine_setup_opts_expr [] p v x nofun hp hv hx0 hx93 hx41

/-! ## (T4) files -/

/-- `readlines()` of newline-terminated lines without inner newlines -/
theorem splitLines_lines (ls : List Str) (h : ∀ l ∈ ls, 10 ∉ l) :
    splitLines [] (ls.flatMap (· ++ [10])) = ls.map (· ++ [10]) := by
  -- `splitLines` as a reader of lines: it carries the line begun reversed, and gives a line out with its newline
  have h0 : ∀ cur : Str, splitLines cur.reverse [] = if cur.isEmpty then [] else [cur] := fun cur => by
    cases cur <;> simp [splitLines]
  have h1 : ∀ cur c cs, splitLines cur.reverse (c :: cs) =
      if c == 10 then (cur ++ [c]) :: splitLines [] cs else splitLines (cur ++ [c]).reverse cs := fun cur c cs => by
    simp [splitLines]
  simpa using Text.acc_terminated (f := fun cur s => splitLines cur.reverse s) (emit := fun l c => l ++ [c]) h0 h1
    (c := 10) rfl ls fun l hl => Text.free_of_not_mem (h l hl)

theorem word_noNl {w : Str} (hw : IsWord w) : 10 ∉ w :=
  fun hm => ne_of_class (by decide) (hw.2 10 hm) rfl

/-- a tag file as a writer puts it: `product version` lines -/
def render (ps : List (Str × Str)) : Str := ps.flatMap (fun pv => pv.1 ++ [32] ++ pv.2 ++ [10])

/-! ### files with lines of every kind -/

theorem tagFileLine_comment (lead t : Str) (hlead : IsLead lead) : tagFileLine (lead ++ 35 :: t) = .ok none := by
  unfold tagFileLine tagFileLineWith
  rw [stripLead_append _ _ hlead, stripLead_cons _ (by decide), stripTrail_cons _ (by decide)]
  simp

theorem tagFileLine_blank (l : Str) (hl : IsLead l) : tagFileLine l = .ok none := by
  unfold tagFileLine tagFileLineWith
  have : stripLead l = [] := by
    have := stripLead_append l [] hl
    rw [List.append_nil] at this
    rw [this]; rfl
  rw [this, stripTrail_nil]
  simp

theorem tagFileVersion_known (ls : List (Str × Option (Str × Str))) (n : Str)
    (h : ∀ e ∈ ls, 10 ∉ e.1 ∧ tagFileLine (e.1 ++ [10]) = .ok e.2) :
    tagFileVersion (ls.flatMap (fun e => e.1 ++ [10])) n
      = .ok (((ls.filterMap (·.2)).find? (·.1 == n)).map (·.2)) := by
  unfold tagFileVersion
  have e : ls.flatMap (fun e => e.1 ++ [10]) = (ls.map (·.1)).flatMap (· ++ [10]) := by
    simp [List.flatMap_map]
  have hnl : ∀ l ∈ ls.map (·.1), 10 ∉ l := by
    intro l hl
    obtain ⟨e, he, rfl⟩ := List.mem_map.mp hl
    exact (h e he).1
  rw [e, splitLines_lines _ hnl]
  clear e hnl
  induction ls with
  | nil => rfl
  | cons e ls ih =>
    obtain ⟨l, r⟩ := e
    have hl : tagFileLine (l ++ [10]) = .ok r := (h (l, r) (by simp)).2
    have ih' := ih (fun x hx => h x (List.mem_cons_of_mem _ hx))
    simp only [List.map_cons, tagFileVersionGo, hl]
    cases r with
    | none => simpa using ih'
    | some pv =>
      obtain ⟨p, v⟩ := pv
      by_cases hn : (p == n) = true
      · simp [hn]
      · simp only [hn, Bool.false_eq_true, if_false]
        simpa [List.find?_cons, hn] using ih'

theorem tagFileVersion_render (ps : List (Str × Str)) (n : Str)
    (h : ∀ pv ∈ ps, PlainName pv.1 ∧ IsWord pv.2) :
    tagFileVersion (render ps) n = .ok ((ps.find? (·.1 == n)).map (·.2)) := by
  have := tagFileVersion_known (ps.map fun pv => (pv.1 ++ [32] ++ pv.2, some pv)) n (by
    intro e he
    obtain ⟨pv, hpv, rfl⟩ := List.mem_map.mp he
    obtain ⟨hp, hv⟩ := h pv hpv
    exact ⟨by simp [word_noNl hp.word, word_noNl hv], tagFileLine_plain_nl pv.1 pv.2 hp hv⟩)
  simpa [render, List.flatMap_map, List.filterMap_map, Function.comp_def] using this

/-- the lines a writer may put into a tag file -/
inductive Entry where
  | plain (p v : Str)
  | setup (opts : List Str) (p v : Str)
  | setupExpr (opts : List Str) (p v x : Str)
  | comment (t : Str)
  | blank

def Entry.text : Entry → Str
  | .plain p v => p ++ [32] ++ v
  | .setup opts p v => kSetupRequiredParen ++ optsText opts ++ p ++ [32] ++ v ++ [41]
  | .setupExpr opts p v x => kSetupRequiredParen ++ optsText opts ++ p ++ [32] ++ v ++ [32, 91] ++ x ++ [93, 41]
  | .comment t => 35 :: t
  | .blank => []

def Entry.pair : Entry → Option (Str × Str)
  | .plain p v => some (p, v)
  | .setup _ p v => some (p, v)
  | .setupExpr _ p v _ => some (p, v)
  | .comment _ => none
  | .blank => none

def Entry.Ok : Entry → Prop
  | .plain p v => PlainName p ∧ IsWord v
  | .setup opts p v => (∀ o ∈ opts, IsOpt o) ∧ SetupWord p ∧ SetupWord v
  | .setupExpr opts p v x =>
    (∀ o ∈ opts, IsOpt o) ∧ SetupWord p ∧ SetupWord v ∧ x ≠ [] ∧ 93 ∉ x ∧ 41 ∉ x ∧ 10 ∉ x
  | .comment t => 10 ∉ t
  | .blank => True

theorem optsText_noNl (opts : List Str) (ho : ∀ o ∈ opts, IsOpt o) : 10 ∉ optsText opts := by
  intro hm
  simp only [optsText, List.mem_flatMap, List.mem_append, List.mem_singleton] at hm
  obtain ⟨o, ho', h | h⟩ := hm
  · exact ne_of_class (by decide) ((ho o ho').noBlank 10 h) rfl
  · cases h

theorem kSetupRequiredParen_noNl : 10 ∉ kSetupRequiredParen := by decide

theorem Entry.text_noNl (e : Entry) (he : e.Ok) : 10 ∉ e.text := by
  cases e with
  | plain p v =>
    have h1 := word_noNl he.1.word
    have h2 := word_noNl he.2
    simp [Entry.text, h1, h2]
  | setup opts p v =>
    obtain ⟨ho, hp, hv⟩ := he
    have h0 := optsText_noNl opts ho
    have h1 := word_noNl hp.word
    have h2 := word_noNl hv.word
    have hk := kSetupRequiredParen_noNl
    simp [Entry.text, h0, h1, h2, hk]
  | setupExpr opts p v x =>
    obtain ⟨ho, hp, hv, _, _, _, hx⟩ := he
    have h0 := optsText_noNl opts ho
    have h1 := word_noNl hp.word
    have h2 := word_noNl hv.word
    have hk := kSetupRequiredParen_noNl
    simp [Entry.text, h0, h1, h2, hk, hx]
  | comment t =>
    have : 10 ∉ t := he
    simp [Entry.text, this]
  | blank => simp [Entry.text]

theorem Entry.tagFileLine_text (e : Entry) (he : e.Ok) : tagFileLine (e.text ++ [10]) = .ok e.pair := by
  cases e with
  | plain p v => exact tagFileLine_plain_nl p v he.1 he.2
  | setup opts p v =>
    obtain ⟨ho, hp, hv⟩ := he
    have := tagFileLine_setup_gen [] (optsText opts) p [32] v [] [10] (by simp [IsLead])
      (isOptsText_optsText opts ho) hp isBlank_space (by simp) hv
      (by simp [IsBlank])
    simpa [Entry.text, Entry.pair] using this
  | setupExpr opts p v x =>
    obtain ⟨ho, hp, hv, hx0, hx93, hx41, _⟩ := he
    have := tagFileLine_setup_expr_gen [] (optsText opts) p [32] v [32] x [10] (by simp [IsLead])
      (isOptsText_optsText opts ho) hp isBlank_space
      (by simp) hv isBlank_space hx0 hx93 hx41
    simpa [Entry.text, Entry.pair] using this
  | comment t =>
    have := tagFileLine_comment [] (t ++ [10]) (by simp [IsLead])
    simpa [Entry.text, Entry.pair] using this
  | blank => exact tagFileLine_blank [10] (by simp [IsLead, Str.isSpace])

theorem tagFileVersion_entries (es : List Entry) (n : Str) (h : ∀ e ∈ es, e.Ok) :
    tagFileVersion (es.flatMap (fun e => e.text ++ [10])) n
      = .ok (((es.filterMap Entry.pair).find? (·.1 == n)).map (·.2)) := by
  have := tagFileVersion_known (es.map (fun e => (e.text, e.pair))) n (by
    intro x hx
    obtain ⟨e, he, rfl⟩ := List.mem_map.mp hx
    exact ⟨e.text_noNl (h e he), e.tagFileLine_text (h e he)⟩)
  simpa [List.flatMap_map, List.filterMap_map, Function.comp_def] using this

/-! ## (T3) examples; the side conditions are needed -/

private abbrev s (x : String) : Str := Str.ofString x

/-- D92: the pinned pattern `-\S+\s+` cuts `-rc1 ` out of the version; the fixed one does not -/
theorem d92_pinned :
    tagFileLinePinned (s "setupRequired(p  2.0-rc1 [>= 1.0])") = .ok (some (s "p", s "2.0")) := by unfold s; decide_lit

theorem d92_fixed :
    tagFileLine (s "setupRequired(p  2.0-rc1 [>= 1.0])") = .ok (some (s "p", s "2.0-rc1")) := by unfold s; decide_lit

example : tagFileLine (s "# a comment") = .ok none := by unfold s; decide_lit
example : tagFileLine (s "   \n") = .ok none := by unfold s; decide_lit
example : tagFileLine (s "| |  q   1.0   current") = .ok (some (s "q", s "1.0")) := by unfold s; decide_lit
example : tagFileLine (s "setupRequired(-j -k\tp  2.0  [== 2.0 || > 3])  # trailing")
    = .ok (some (s "p", s "2.0")) := by unfold s; decide_lit
example : tagFileLine (s "onlyone") = .error .invalid := by unfold s; decide_lit
example : tagFileLine (s "setupRequired(a b c)") = .error .suspicious := by unfold s; decide_lit
example : tagFileVersion (s "# tags\np 1.0\nsetupRequired(-j q 2.0-rc1 [>= 2])\nq 3.0\n") (s "q")
    = .ok (some (s "2.0-rc1")) := by unfold s; decide_lit

-- (T1) `PlainName.notHash`: a name starting with `#` makes the line a comment
example : tagFileLine (s "#p 1.0") = .ok none := by unfold s; decide_lit
-- (T1) `PlainName.notBar`: a leading `|` is stripped from the name
example : tagFileLine (s "|p 1.0") = .ok (some (s "p", s "1.0")) := by unfold s; decide_lit
-- (T1) `PlainName.notSetup`: a name starting with `setupRequired(` is read as a setupRequired line
example : tagFileLine (s "setupRequired(a) 1.0") = .error .invalid := by unfold s; decide_lit
-- (T2) `SetupWord.notDash` for the version: `-2.0` followed by a blank is an option …
example : tagFileLine (s "setupRequired(p -2.0 [>= 1])") = .error .invalid := by unfold s; decide_lit
-- … (directly before the `)` it is not, the pattern wants a blank behind the option)
example : tagFileLine (s "setupRequired(p -2.0)") = .ok (some (s "p", s "-2.0")) := by unfold s; decide_lit
-- (T2) `SetupWord.notDash` for the product
example : tagFileLine (s "setupRequired(-p 2.0)") = .error .invalid := by unfold s; decide_lit
-- (T2) `SetupWord.noBracket`: `[…]` inside a word is cut out
example : tagFileLine (s "setupRequired(p[1] 2.0)") = .ok (some (s "p", s "2.0")) := by unfold s; decide_lit
example : tagFileLine (s "setupRequired(p 2.0[1])") = .ok (some (s "p", s "2.0")) := by unfold s; decide_lit
-- (T2) `SetupWord.noParen`: the first `)` ends the body
example : tagFileLine (s "setupRequired(p) 2.0)") = .error .invalid := by unfold s; decide_lit
-- (T2) `IsOpt.two`: a lone `-` is not an option
example : tagFileLine (s "setupRequired(- p 2.0)") = .error .suspicious := by unfold s; decide_lit
-- (T2) `IsOpt.noParen`
example : tagFileLine (s "setupRequired(-j) p 2.0)") = .error .invalid := by unfold s; decide_lit
-- (T2) the expression: non-empty, no `]`, no `)`, and the `]` directly before the `)`
example : tagFileLine (s "setupRequired(p 2.0 [])") = .error .suspicious := by unfold s; decide_lit
example : tagFileLine (s "setupRequired(p 2.0 [a]])") = .ok (some (s "p", s "2.0]")) := by unfold s; decide_lit
example : tagFileLine (s "setupRequired(p 2.0 [a)b])") = .error .suspicious := by unfold s; decide_lit
example : tagFileLine (s "setupRequired(p 2.0 [a -x] )") = .error .suspicious := by unfold s; decide_lit
-- the expression may contain option-like words and `[`
example : tagFileLine (s "setupRequired(p 2.0 [ -x [>= -1 ])") = .ok (some (s "p", s "2.0")) := by unfold s; decide_lit

end EupsModel.Vro
