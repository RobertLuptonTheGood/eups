import EupsModel.Lemmas.RecordDict
import EupsModel.Lemmas.List
import EupsModel.Lemmas.Str
import EupsModel.Lemmas.Text
/-! One printed line of a record file (C16): the strings of the readers' patterns, the labels of the writers (`KeyLine`,
`LabelOK`), the loop of both readers (`runLines`), what reading a line the writers print does to a reader's state
(`Kind.Reads`), and that `VersionFile._read` and `ChainFile._read` do so (`vStep_reads`, `cStep_reads`). -/
namespace EupsModel.Record

/-- a value the round-trip theorem covers: non-empty, free of `#`, newline, carriage return and quote characters,
no blank at either end -/
structure Clean (s : Str) : Prop where
  ne : s ≠ []
  no35 : 35 ∉ s
  no10 : 10 ∉ s
  no13 : 13 ∉ s
  no34 : 34 ∉ s
  headNS : ∀ c, s.head? = some c → Str.isSpace c = false
  lastNS : ∀ c, s.getLast? = some c → Str.isSpace c = false

/-- what the line patterns of the readers need of a value (it may hold quote characters) -/
structure Plain (v : Str) : Prop where
  ne : v ≠ []
  no35 : 35 ∉ v
  no10 : 10 ∉ v
  headNS : ∀ c, v.head? = some c → Str.isSpace c = false
  lastNS : ∀ c, v.getLast? = some c → Str.isSpace c = false

theorem Clean.plain {v : Str} (h : Clean v) : Plain v := ⟨h.ne, h.no35, h.no10, h.headNS, h.lastNS⟩

instance (s : Str) : Decidable (Clean s) :=
  decidable_of_iff (s ≠ [] ∧ 35 ∉ s ∧ 10 ∉ s ∧ 13 ∉ s ∧ 34 ∉ s ∧
      (∀ c ∈ s.head?, Str.isSpace c = false) ∧ (∀ c ∈ s.getLast?, Str.isSpace c = false))
    ⟨fun ⟨a, b, c, d, e, f, g⟩ => ⟨a, b, c, d, e, f, g⟩, fun h => ⟨h.ne, h.no35, h.no10, h.no13, h.no34, h.headNS, h.lastNS⟩⟩

def Word (k : Str) : Prop := ∀ c ∈ k, isWord c = true
instance (k : Str) : Decidable (Word k) := by unfold Word; infer_instance

theorem isWord_not_space (c : Nat) (h : isWord c = true) : Str.isSpace c = false := by
  simp only [isWord, Str.isAlnum, Str.isAlpha, Str.isUpper, Str.isLower, Str.isDigit, Str.isSpace,
    Bool.or_eq_true, Bool.and_eq_true, decide_eq_true_eq, beq_iff_eq] at h ⊢
  simp only [Bool.or_eq_false_iff, Bool.and_eq_false_iff, decide_eq_false_iff_not, beq_eq_false_iff_ne]
  omega

theorem removeComment_id (s : Str) (h : 35 ∉ s) : removeComment s = s := takeWhile_all (all_ne h)

theorem stripR_id (s : Str) (h : ∀ c, s.getLast? = some c → Str.isSpace c = false) : stripR s = s :=
  Text.stripR_of_last h

theorem getLast?_append_ne (a b : Str) (hb : b ≠ []) : (a ++ b).getLast? = b.getLast? := by
  cases h : b.getLast? with
  | none => exact absurd (List.getLast?_eq_none_iff.mp h) hb
  | some x => simp [List.getLast?_append, h]

theorem stripL_indent (n c : Nat) (r : Str) (hc : isWord c = true) : stripL (List.replicate n 32 ++ c :: r) = c :: r :=
  (span_append_cons c r (fun x hx => by rw [(List.mem_replicate.mp hx).2]; rfl) (isWord_not_space c hc)).2

/-- `^(\w+)\s*=\s*(.*)` on `KEY = value` -/
theorem keyVal_kv (K v : Str) (hK : Word K) (hKne : K ≠ []) (hh : ∀ c, v.head? = some c → Str.isSpace c = false)
    (h10 : 10 ∉ v) : keyVal (K ++ 32 :: 61 :: 32 :: v) = some (K, v) := by
  have hw32 : isWord 32 = false := by decide +kernel
  have hKe : K.isEmpty = false := List.isEmpty_eq_false_iff.mpr hKne
  have h2 : (32 :: 61 :: 32 :: v).dropWhile Str.isSpace = 61 :: 32 :: v := rfl
  have h3 : (32 :: v).dropWhile Str.isSpace = v := dropWhile_head hh
  unfold keyVal
  rw [(span_append_cons 32 _ hK hw32).1, (span_append_cons 32 _ hK hw32).2]
  simp only [hKe, Bool.false_eq_true, if_false, h2, h3, takeWhile_all (all_ne h10)]

theorem isGroupEnd_kv (K r : Str) (hne : K ≠ []) (hE : K.head? ≠ some 69) (hG : K.head? ≠ some 71) :
    isGroupEnd (K ++ r) = false := by
  cases K with
  | nil => exact absurd rfl hne
  | cons c K =>
    have h1 : c ≠ 69 := fun e => hE (by simp [e])
    have h2 : c ≠ 71 := fun e => hG (by simp [e])
    simp [isGroupEnd, List.isPrefixOf, Ne.symm h1, Ne.symm h2]

theorem stripQuotePair_id (v : Str) (h : 34 ∉ v) : stripQuotePair v = v := by
  cases v with
  | nil => rfl
  | cons c r =>
    have : c ≠ 34 := fun e => h (by simp [e])
    simp only [stripQuotePair]
    split
    · rename_i heq; simp at heq; exact absurd heq.1 this
    · rfl

theorem stripQuote1_id (v : Str) (h : 34 ∉ v) : stripQuote1 v = v := by
  have hl : v.getLast? ≠ some 34 := fun e => h (List.mem_of_getLast? e)
  cases v with
  | nil => rfl
  | cons c r =>
    have : c ≠ 34 := fun e => h (by simp [e])
    simp only [stripQuote1]
    split
    · rename_i heq; simp at heq; exact absurd heq.1 this
    · simp [dropLastIf, hl]

theorem dropWhile_quote_id (s : Str) (h : 34 ∉ s) : s.dropWhile (· == 34) = s :=
  dropWhile_head fun c hc => by
    have : c ≠ 34 := fun e => h (e ▸ List.mem_of_mem_head? hc)
    simp [this]

theorem stripQuotesAll_id (v : Str) (h : 34 ∉ v) : stripQuotesAll v = v := by
  unfold stripQuotesAll
  rw [dropWhile_quote_id v h, dropWhile_quote_id v.reverse (by simpa using h), List.reverse_reverse]

theorem stripQuotePair_quoted (q : Str) : stripQuotePair (34 :: (q ++ [34])) = q := by
  simp [stripQuotePair, List.getLast?_append]

theorem stripQuotesAll_quoted (q : Str) (h : 34 ∉ q) : stripQuotesAll (34 :: (q ++ [34])) = q := by
  cases q with
  | nil => rfl
  | cons c r =>
    have h1 : (34 :: (c :: r ++ [34])).dropWhile (· == 34) = c :: r ++ [34] := by
      have : c ≠ 34 := fun e => h (by simp [e])
      simp [List.dropWhile, this]
    have h2 : ((c :: r ++ [34]).reverse).dropWhile (· == 34) = (c :: r).reverse := by
      rw [List.reverse_append]
      exact dropWhile_quote_id _ (fun m => h (List.mem_reverse.mp m))
    unfold stripQuotesAll
    rw [h1, h2, List.reverse_reverse]

theorem plain_quoted (q : Str) (h35 : 35 ∉ q) (h10 : 10 ∉ q) : Plain (34 :: (q ++ [34])) := by
  refine ⟨by simp, by simp [h35], by simp [h10], fun c hc => by cases hc; rfl, fun c hc => ?_⟩
  rw [show 34 :: (q ++ [34]) = (34 :: q) ++ [34] from rfl, getLast?_append_ne _ _ (by simp)] at hc
  cases hc; rfl

theorem splitOn_eq (c : Nat) (s : Str) : splitOn c s = Text.pieces (· == c) s := by
  induction s with
  | nil => rfl
  | cons x xs ih =>
    cases h : Text.pieces (· == c) xs with
    | nil => exact absurd h (Text.pieces_ne_nil xs)
    | cons p ps => by_cases hx : x = c <;> simp [splitOn, Text.pieces, ih, h, hx]

theorem joinWith_eq (c : Nat) (ls : List Str) : joinWith c ls = Text.join [c] ls := by
  induction ls with
  | nil => rfl
  | cons l r ih => cases r <;> simp_all [joinWith, Text.join]

theorem unlines_eq (ls : List Str) : unlines ls = ls.flatMap (· ++ [10]) := by
  induction ls with
  | nil => rfl
  | cons l r ih => simp [unlines, ih]

theorem splitOn_append (c : Nat) (l rest : Str) (h : c ∉ l) : splitOn c (l ++ c :: rest) = l :: splitOn c rest := by
  simpa only [splitOn_eq] using Text.pieces_cut (Text.free_of_not_mem h) (beq_self_eq_true c) rest

theorem splitOn_unlines (ls : List Str) (h : ∀ l ∈ ls, 10 ∉ l) : splitOn 10 (unlines ls) = ls ++ [[]] := by
  rw [splitOn_eq, unlines_eq, Text.pieces_terminated rfl ls fun l hl => Text.free_of_not_mem (h l hl)]

theorem splitOn_none (c : Nat) (l : Str) (h : c ∉ l) : splitOn c l = [l] :=
  (splitOn_eq c l).trans (Text.pieces_free (Text.free_of_not_mem h))

theorem splitOn_joinWith (c : Nat) (segs : List Str) (hne : segs ≠ []) (h : ∀ s ∈ segs, c ∉ s) :
    splitOn c (joinWith c segs) = segs := by
  rw [splitOn_eq, joinWith_eq, Text.pieces_join (sep := (· == c)) (beq_self_eq_true c) hne fun l hl => Text.free_of_not_mem (h l hl)]

/-- A label of the writers: indentation, a key word `K`, ` = `.  Both readers strip `label ++ value` down to `K = value`
and dispatch on `key`, the key word in lower case.  `noE`, `noG` (69, 71): the reader of version files tests for `End:` /
`Group:` first, and the first character settles that test. -/
structure KeyLine (label K key : Str) : Prop where
  indent : ∃ n, label = List.replicate n 32 ++ (K ++ [32, 61, 32])
  word : Word K
  ne : K ≠ []
  noE : K.head? ≠ some 69
  noG : K.head? ≠ some 71
  lower : lowerS K = key

theorem KeyLine.of {label K key : Str} (n : Nat)
    (h : label = List.replicate n 32 ++ (K ++ [32, 61, 32]) ∧ Word K ∧ K ≠ [] ∧ K.head? ≠ some 69 ∧ K.head? ≠ some 71 ∧
      lowerS K = key) : KeyLine label K key :=
  ⟨⟨n, h.1⟩, h.2.1, h.2.2.1, h.2.2.2.1, h.2.2.2.2.1, h.2.2.2.2.2⟩

theorem KeyLine.eq {label K key : Str} (h : KeyLine label K key) (v : Str) :
    ∃ n, label ++ v = List.replicate n 32 ++ (K ++ 32 :: 61 :: 32 :: v) := by
  obtain ⟨n, hn⟩ := h.indent
  exact ⟨n, by rw [hn]; simp⟩

theorem keyLine_product : KeyLine lProduct (Str.ofString "PRODUCT") kProduct := .of 0 (by decide_lit)
theorem keyLine_version : KeyLine lVersion (Str.ofString "VERSION") kVersion := .of 0 (by decide_lit)
theorem keyLine_chain : KeyLine lChain (Str.ofString "CHAIN") kChain := .of 0 (by decide_lit)
theorem keyLine_flavor : KeyLine lFlavor (Str.ofString "FLAVOR") kFlavor := .of 3 (by decide_lit)
/-- `lQualifiers` ends with the opening quote: the label proper is the rest -/
theorem keyLine_qualifiers : KeyLine lQualifiers.dropLast (Str.ofString "QUALIFIERS") kQualifiers := .of 3 (by decide_lit)

theorem qualifiers_line (q : Str) : lQualifiers ++ q ++ [34] = lQualifiers.dropLast ++ (34 :: (q ++ [34])) := rfl

/-- a field label of the writers and the dictionary key the readers derive from it; `notSpecial`: none of the keys the
readers have a branch for -/
structure LabelOK (label key : Str) : Prop where
  line : ∃ K, KeyLine label K key
  notSpecial : key ≠ kFile ∧ key ≠ kProduct ∧ key ≠ kFlavor ∧ key ≠ kQualifiers
  no10 : 10 ∉ label

theorem labelOK_iversion : LabelOK lIVersion kVersion :=
  ⟨⟨Str.ofString "VERSION", .of 3 (by decide_lit)⟩, by decide +kernel, by decide +kernel⟩
theorem labelOK_declarer : LabelOK lDeclarer kDeclarer :=
  ⟨⟨Str.ofString "DECLARER", .of 3 (by decide_lit)⟩, by decide +kernel, by decide +kernel⟩
theorem labelOK_declared : LabelOK lDeclared kDeclared :=
  ⟨⟨Str.ofString "DECLARED", .of 3 (by decide_lit)⟩, by decide +kernel, by decide +kernel⟩
theorem labelOK_modifier : LabelOK lModifier kModifier :=
  ⟨⟨Str.ofString "MODIFIER", .of 3 (by decide_lit)⟩, by decide +kernel, by decide +kernel⟩
theorem labelOK_modified : LabelOK lModified kModified :=
  ⟨⟨Str.ofString "MODIFIED", .of 3 (by decide_lit)⟩, by decide +kernel, by decide +kernel⟩
theorem labelOK_prodDir : LabelOK lProdDir kProdDir :=
  ⟨⟨Str.ofString "PROD_DIR", .of 3 (by decide_lit)⟩, by decide +kernel, by decide +kernel⟩
theorem labelOK_upsDir : LabelOK lUpsDir kUpsDir :=
  ⟨⟨Str.ofString "UPS_DIR", .of 3 (by decide_lit)⟩, by decide +kernel, by decide +kernel⟩
theorem labelOK_tableFile : LabelOK lTableFile kTableFile :=
  ⟨⟨Str.ofString "TABLE_FILE", .of 3 (by decide_lit)⟩, by decide +kernel, by decide +kernel⟩

/-- a line reader run over the lines of a file (`vLines`, `cLines`) -/
def runLines {S : Type} (step : S → Str → Except Err S) (st : S) : List Str → Except Err S
  | [] => .ok st
  | l :: ls => match step st l with
    | .ok st' => runLines step st' ls
    | .error e => .error e

theorem runLines_append {S : Type} (step : S → Str → Except Err S) (st : S) (a b : List Str) :
    runLines step st (a ++ b) = match runLines step st a with | .ok st' => runLines step st' b | .error e => .error e := by
  induction a generalizing st with
  | nil => rfl
  | cons l r ih =>
    simp only [List.cons_append, runLines]
    cases step st l with
    | error e => rfl
    | ok st' => exact ih st'

/-- the blocks read so far, as a dictionary, and the key of the block being filled -/
abbrev Blocks (β : Type) := List (Str × β) × Option Str

/-- what a reader has made of the lines so far: product name and version (or tag), then the blocks -/
abbrev RState (β : Type) := (Option Str × Option Str) × Blocks β

/-- What the two kinds of record file differ in: how a field is stored in a block, the empty block, the identity line
(third of the file: `VERSION = ` / `CHAIN = `, key `version` / `chain`; not a field of a block), the blocks that need no
fix-up when a separator line closes them, and the separator lines (`Group:`, `End:` / `#Group:`, `#End:`).  The label
and the separators hold no newline. -/
structure Kind (β : Type) where
  set : β → Str → Str → β
  empty : β
  idLabel : Str
  idKey : Str
  Settled : β → Prop
  Sep : Str → Prop
  sep10 : ∀ l, Sep l → 10 ∉ l
  id10 : 10 ∉ idLabel

namespace Kind
variable {β : Type} (K : Kind β)

/-- no block is open, or the open one is settled: a separator line then changes nothing (`f ≠ []`: `_read` tests the
truthiness of `flavor`) -/
def Between (d : Blocks β) : Prop := d.2 = none ∨ ∃ f i, d.2 = some f ∧ f ≠ [] ∧ dget d.1 f = some i ∧ K.Settled i

/-- **What reading one printed line does to the state**: a rule for each line the writers print.  A name or version preset
by the caller stands, so it must be the one in the file; `FLAVOR = f` opens the block `f`, a non-empty `QUALIFIERS = "q"`
renames it to `f:q`.  `vStep_reads` and `cStep_reads` say that the two readers do this; the round trip is proved from the
rules alone. -/
inductive Reads : Str → RState β → RState β → Prop
  | file s : Reads lFileVersion s s
  | product n nm x d : Clean n → nm = none ∨ nm = some n → Reads (lProduct ++ n) ((nm, x), d) ((some n, x), d)
  | ident v nm x d : Clean v → x = none ∨ x = some v → Reads (K.idLabel ++ v) ((nm, x), d) ((nm, some v), d)
  | stars s : Reads lStars s s
  | blank s : Reads [] s s
  | sep l s : K.Sep l → K.Between s.2 → Reads l s s
  | flavor f h l o : Clean f → dget l f = none → Reads (lFlavor ++ f) (h, l, o) (h, l ++ [(f, K.empty)], some f)
  | noQualifiers h l f : Reads (lQualifiers ++ [34]) (h, l, some f) (h, l, some f)
  | qualifiers q h l f i : q ≠ [] → 34 ∉ q → 35 ∉ q → 10 ∉ q → dget l f = some i →
      Reads (lQualifiers ++ q ++ [34]) (h, l, some f) (h, ddel (dset l (f ++ 58 :: q) i) f, some (f ++ 58 :: q))
  | field label key v h l f i : LabelOK label key → key ≠ K.idKey → Clean v → dget l f = some i →
      Reads (label ++ v) (h, l, some f) (h, dset l f (K.set i key v), some f)

inductive ReadsAll : List Str → RState β → RState β → Prop
  | nil s : ReadsAll [] s s
  | cons {t r s s' s''} : K.Reads t s s' → ReadsAll r s' s'' → ReadsAll (t :: r) s s''

variable {K}

theorem ReadsAll.append {a b : List Str} {s s' s'' : RState β} (h : K.ReadsAll a s s') (h' : K.ReadsAll b s' s'') :
    K.ReadsAll (a ++ b) s s'' := by
  induction h with
  | nil => exact h'
  | cons h1 _ ih => exact .cons h1 (ih h')

/-- a line the rules accept holds no newline, so a text made of such lines splits into them again -/
theorem Reads.no10 {t : Str} {s s' : RState β} (h : K.Reads t s s') : 10 ∉ t := by
  cases h with
  | file | stars | blank | noQualifiers => decide
  | product n _ _ _ hn _ => exact List.not_mem_append (by decide +kernel) hn.no10
  | ident v _ _ _ hv _ => exact List.not_mem_append K.id10 hv.no10
  | sep _ _ hs _ => exact K.sep10 _ hs
  | flavor f _ _ _ hf _ => exact List.not_mem_append (by decide +kernel) hf.no10
  | qualifiers q _ _ _ _ _ _ _ h10 _ => exact List.not_mem_append (List.not_mem_append (by decide +kernel) h10) (by decide +kernel)
  | field label key v _ _ _ _ hl _ hv _ => exact List.not_mem_append hl.no10 hv.no10

theorem ReadsAll.no10 {ls : List Str} {s s' : RState β} (h : K.ReadsAll ls s s') : ∀ l ∈ ls, 10 ∉ l := by
  induction h with
  | nil => exact fun _ h => nomatch h
  | cons h1 _ ih => exact List.forall_mem_cons.mpr ⟨h1.no10, ih⟩

theorem ReadsAll.run {S : Type} {step : S → Str → Except Err S} (mk : RState β → S)
    (sim : ∀ {t s s'}, K.Reads t s s' → step (mk s) t = .ok (mk s')) {ls : List Str} {s s' : RState β}
    (h : K.ReadsAll ls s s') : runLines step (mk s) ls = .ok (mk s') := by
  induction h with
  | nil => rfl
  | cons h1 _ ih => simp only [runLines, sim h1, ih]

end Kind

theorem vLines_eq_run (st : VState) (ls : List Str) : vLines st ls = runLines vStep st ls := by
  induction ls generalizing st with
  | nil => rfl
  | cons l r ih => simp only [vLines, runLines]; cases vStep st l <;> simp [ih]

theorem vLines_append (st : VState) (a b : List Str) :
    vLines st (a ++ b) = match vLines st a with | .ok st' => vLines st' b | .error e => .error e := by
  rw [vLines_eq_run, runLines_append, ← vLines_eq_run]
  cases vLines st a <;> simp only [vLines_eq_run]

theorem vStep_skip (st : VState) (raw : Str) (h : removeComment (strip raw) = []) : vStep st raw = .ok st := by
  simp [vStep, h]

/-- version files: a block is settled when the fix-up at `Group:` / `End:` leaves it alone -/
def vKind : Kind Info where
  set := Info.set
  empty := {}
  idLabel := lVersion
  idKey := kVersion
  Settled i := i.fixup = i
  Sep l := l = lGroup ∨ l = lEnd
  sep10 _ h := by rcases h with rfl | rfl <;> decide
  id10 := by decide +kernel

theorem vKind_idLabel : vKind.idLabel = lVersion := rfl

theorem vStep_groupend (st : VState) (line : Str) (h : removeComment (strip line) = line) (hne : line ≠ [])
    (hg : isGroupEnd line = true) (hfl : vKind.Between (st.cur.flavors, st.flavor)) : vStep st line = .ok st := by
  have hne' : line.isEmpty = false := List.isEmpty_eq_false_iff.mpr hne
  rcases hfl with (h0 : st.flavor = none) |
    ⟨f, i, (hf : st.flavor = some f), hfne, (hget : dget st.cur.flavors f = some i), (hfix : i.fixup = i)⟩
  · simp [vStep, h, hne', hg, h0, optTruthy]
  · have ht : optTruthy (some f) = true := by cases f <;> simp_all [optTruthy]
    obtain ⟨⟨n, v, fl⟩, fv⟩ := st
    simp only at hf hget
    subst hf
    simp only [vStep, h, hne', hg, ht, hget, hfix, dset_same _ _ _ hget, Bool.false_eq_true, if_false, if_true]

theorem vStep_kv (st : VState) (label K v : Str) {key : Str} (hl : KeyLine label K key) (hv : Plain v) :
    vStep st (label ++ v) = vKeyVal st K v := by
  obtain ⟨n, hn⟩ := hl.eq v
  obtain ⟨c, K, rfl⟩ := List.exists_cons_of_ne_nil hl.ne
  have hs : strip (label ++ v) = c :: (K ++ 32 :: 61 :: 32 :: v) := by
    rw [hn, strip, List.cons_append, stripL_indent n c _ (hl.word c (by simp))]
    apply stripR_id
    intro x hx
    rw [show c :: (K ++ 32 :: 61 :: 32 :: v) = (c :: K ++ [32, 61, 32]) ++ v by simp, getLast?_append_ne _ _ hv.ne] at hx
    exact hv.lastNS x hx
  have h35 : 35 ∉ c :: (K ++ 32 :: 61 :: 32 :: v) :=
    List.not_mem_append (s := c :: K) (fun h => absurd (hl.word 35 h) (by decide +kernel))
      (List.not_mem_append (t := v) (by decide +kernel : 35 ∉ [32, 61, 32]) hv.no35)
  have hg : isGroupEnd (c :: (K ++ 32 :: 61 :: 32 :: v)) = false := isGroupEnd_kv (c :: K) _ hl.ne hl.noE hl.noG
  have hk : keyVal (c :: (K ++ 32 :: 61 :: 32 :: v)) = some (c :: K, v) :=
    keyVal_kv (c :: K) v hl.word hl.ne hv.headNS hv.no10
  simp [vStep, hs, removeComment_id _ h35, hg, hk]

theorem vStep_file (st : VState) : vStep st lFileVersion = .ok st := by
  have hl : removeComment (strip lFileVersion) = lFileVersion := by decide +kernel
  have hg : isGroupEnd lFileVersion = false := by decide +kernel
  have hkv : keyVal lFileVersion = some (Str.ofString "FILE", kVersion) := by decide_lit
  have hlow : lowerS (Str.ofString "FILE") = kFile := by decide_lit
  have hv : lowerS (stripQuote1 kVersion) = kVersion := by decide +kernel
  have hne : lFileVersion.isEmpty = false := by decide +kernel
  simp [vStep, hl, hg, hkv, vKeyVal, hlow, hv, hne]

def vState (s : RState Info) : VState := ⟨⟨s.1.1, s.1.2, s.2.1⟩, s.2.2⟩

theorem vState_mk (n v : Option Str) (l : List (Str × Info)) (o : Option Str) : vState ((n, v), l, o) = ⟨⟨n, v, l⟩, o⟩ := rfl

/-- **`VersionFile._read` on the printed lines.**  The cases of a key line are `vStep_kv` and the branch of `vKeyVal` for its
key: once `KeyLine.lower` has put in the key, the tests `key = kFile`, … are between constants and `decide` settles them. -/
theorem vStep_reads {t : Str} {s s' : RState Info} (h : vKind.Reads t s s') : vStep (vState s) t = .ok (vState s') := by
  cases h with
  | file => exact vStep_file _
  | product n _ _ _ hn h =>
    rw [vStep_kv _ _ _ _ keyLine_product hn.plain]
    simp only [vKeyVal, keyLine_product.lower]
    rcases h with rfl | rfl <;> simp (decide := true) [stripQuote1_id n hn.no34, optTruthy, vState]
  | ident v _ _ _ hv h =>
    rw [vKind_idLabel, vStep_kv _ _ _ _ keyLine_version hv.plain]
    simp only [vKeyVal, keyLine_version.lower]
    rcases h with rfl | rfl <;> simp (decide := true) [stripQuote1_id v hv.no34, optTruthy, vState]
  | stars => exact vStep_skip _ lStars (by decide +kernel)
  | blank => exact vStep_skip _ [] rfl
  | sep _ _ hs hb =>
    rcases hs with rfl | rfl
    · exact vStep_groupend _ lGroup (by decide +kernel) (by decide +kernel) (by decide +kernel) hb
    · exact vStep_groupend _ lEnd (by decide +kernel) (by decide +kernel) (by decide +kernel) hb
  | flavor f _ _ _ hf hfresh =>
    rw [vStep_kv _ _ _ _ keyLine_flavor hf.plain]
    simp only [vKeyVal, keyLine_flavor.lower]
    simp (decide := true) [stripQuote1_id f hf.no34, hfresh, vKind, vState]
  | noQualifiers =>
    rw [show lQualifiers ++ [34] = lQualifiers ++ [] ++ [34] from rfl]
    rw [qualifiers_line, vStep_kv _ _ _ _ keyLine_qualifiers (plain_quoted [] (by simp) (by simp))]
    simp only [vKeyVal, keyLine_qualifiers.lower]
    simp (decide := true) [vState]
  | qualifiers q _ _ f i hq _ h35 h10 hget =>
    rw [qualifiers_line, vStep_kv _ _ _ _ keyLine_qualifiers (plain_quoted q h35 h10)]
    simp only [vKeyVal, keyLine_qualifiers.lower]
    simp (decide := true) [stripQuotePair_quoted, vState, hget, hq]
  | field label key v _ _ f i hl hk hv hget =>
    obtain ⟨K, hline⟩ := hl.line
    obtain ⟨h1, h2, h4, h5⟩ := hl.notSpecial
    rw [vStep_kv _ label K v hline hv.plain]
    simp [vKeyVal, hline.lower, h1, h2, show key ≠ kVersion from hk, h4, h5, hget, stripQuotePair_id v hv.no34, vKind, vState]

theorem cLines_eq_run (st : CState) (ls : List Str) : cLines st ls = runLines cStep st ls := by
  induction ls generalizing st with
  | nil => rfl
  | cons l r ih => simp only [cLines, runLines]; cases cStep st l <;> simp [ih]

theorem cLines_append (st : CState) (a b : List Str) :
    cLines st (a ++ b) = match cLines st a with | .ok st' => cLines st' b | .error e => .error e := by
  rw [cLines_eq_run, runLines_append, ← cLines_eq_run]
  cases cLines st a <;> simp only [cLines_eq_run]

theorem cStep_skip (st : CState) (raw : Str) (h : (stripL raw).isEmpty || (stripL raw).head? == some 35) :
    cStep st raw = .ok st := by
  simp only [cStep, h, if_true]

theorem cStep_kv (st : CState) (label K v : Str) {key : Str} (hl : KeyLine label K key) (hv : Plain v) :
    cStep st (label ++ v) = cKeyVal st K v := by
  obtain ⟨n, hn⟩ := hl.eq v
  obtain ⟨c, K, rfl⟩ := List.exists_cons_of_ne_nil hl.ne
  have hc := hl.word c (by simp)
  have hk : keyVal (c :: (K ++ 32 :: 61 :: 32 :: v)) = some (c :: K, v) :=
    keyVal_kv (c :: K) v hl.word hl.ne hv.headNS hv.no10
  have hc35 : c ≠ 35 := by intro e; subst e; exact absurd hc (by decide +kernel)
  simp [cStep, hn, stripL_indent n c _ hc, hk, hc35]

theorem cStep_file (st : CState) : cStep st lFileVersion = .ok st := by
  have hl : stripL lFileVersion = lFileVersion := by decide +kernel
  have hkv : keyVal lFileVersion = some (Str.ofString "FILE", kVersion) := by decide_lit
  have hlow : lowerS (Str.ofString "FILE") = kFile := by decide_lit
  have hv : lowerS (stripQuotesAll kVersion) = kVersion := by decide +kernel
  have hne : (lFileVersion.isEmpty || lFileVersion.head? == some 35) = false := by decide +kernel
  simp [cStep, hl, hkv, cKeyVal, hlow, hv, hne]

/-- chain files: `#Group:` and `#End:` are comments to the reader, and no block needs a fix-up -/
def cKind : Kind CInfo where
  set := CInfo.set
  empty := {}
  idLabel := lChain
  idKey := kChain
  Settled _ := True
  Sep l := l = lHGroup ∨ l = lHEnd
  sep10 _ h := by rcases h with rfl | rfl <;> decide
  id10 := by decide +kernel

theorem cKind_idLabel : cKind.idLabel = lChain := rfl

def cState (s : RState CInfo) : CState := ⟨⟨s.1.1, s.1.2, s.2.1⟩, s.2.2⟩

theorem cState_mk (n t : Option Str) (l : List (Str × CInfo)) (o : Option Str) : cState ((n, t), l, o) = ⟨⟨n, t, l⟩, o⟩ := rfl

theorem cStep_reads {t : Str} {s s' : RState CInfo} (h : cKind.Reads t s s') : cStep (cState s) t = .ok (cState s') := by
  cases h with
  | file => exact cStep_file _
  | product n _ _ _ hn h =>
    rw [cStep_kv _ _ _ _ keyLine_product hn.plain]
    simp only [cKeyVal, keyLine_product.lower]
    rcases h with rfl | rfl <;> simp (decide := true) [stripQuotesAll_id n hn.no34, optTruthy, cState]
  | ident t _ _ _ ht h =>
    rw [cKind_idLabel, cStep_kv _ _ _ _ keyLine_chain ht.plain]
    simp only [cKeyVal, keyLine_chain.lower]
    rcases h with rfl | rfl <;> simp (decide := true) [stripQuotesAll_id t ht.no34, optTruthy, cState]
  | stars => exact cStep_skip _ lStars (by decide +kernel)
  | blank => exact cStep_skip _ [] rfl
  | sep _ _ hs _ =>
    rcases hs with rfl | rfl
    · exact cStep_skip _ lHGroup (by decide +kernel)
    · exact cStep_skip _ lHEnd (by decide +kernel)
  | flavor f _ _ _ hf hfresh =>
    rw [cStep_kv _ _ _ _ keyLine_flavor hf.plain]
    simp only [cKeyVal, keyLine_flavor.lower]
    simp (decide := true) [stripQuotesAll_id f hf.no34, dset_absent _ _ _ hfresh, cKind, cState]
  | noQualifiers =>
    rw [show lQualifiers ++ [34] = lQualifiers ++ [] ++ [34] from rfl]
    rw [qualifiers_line, cStep_kv _ _ _ _ keyLine_qualifiers (plain_quoted [] (by simp) (by simp))]
    simp only [cKeyVal, keyLine_qualifiers.lower]
    simp (decide := true) [cState]
  | qualifiers q _ _ f i hq h34 h35 h10 hget =>
    rw [qualifiers_line, cStep_kv _ _ _ _ keyLine_qualifiers (plain_quoted q h35 h10)]
    simp only [cKeyVal, keyLine_qualifiers.lower]
    simp (decide := true) [stripQuotesAll_quoted q h34, cState, hget, hq]
  | field label key v _ _ f i hl hk hv hget =>
    obtain ⟨K, hline⟩ := hl.line
    obtain ⟨h1, h2, h4, h5⟩ := hl.notSpecial
    rw [cStep_kv _ label K v hline hv.plain]
    simp [cKeyVal, hline.lower, h1, h2, show key ≠ kChain from hk, h4, h5, hget, stripQuotesAll_id v hv.no34, cKind, cState]

end EupsModel.Record
