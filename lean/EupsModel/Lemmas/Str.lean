import EupsModel.Model.Str
/-! `Str.ofString` of a string literal as the list of its code points, and the tactic that evaluates closed test
vectors holding such literals. -/
namespace EupsModel.Str

theorem ofString_ofList (l : List Char) : ofString (String.ofList l) = l.map Char.toNat := by
  simp [ofString]

/-- Evaluates a closed goal in the kernel after replacing every `Str.ofString "…"` in it by the list of its code
points.  The detour is there because the kernel, left to itself, decodes the literal's UTF-8 byte array, in time quadratic
in its length; `rw` unifies the literal with `String.ofList _` at no cost.  Test data hidden in a definition has to be
unfolded first.  For names of a few characters plain `decide +kernel` does as well. -/
macro "decide_lit" : tactic => `(tactic| ((repeat rw [ofString_ofList]); decide +kernel))

end EupsModel.Str
