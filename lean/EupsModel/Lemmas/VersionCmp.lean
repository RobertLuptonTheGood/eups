import EupsModel.Model.VersionCmp
import EupsModel.Lemmas.Order
import EupsModel.Lemmas.List
/-! The version comparator (C10), on every name.  The string order and the component loop are `Order.lexList`s; the pair of
integers the loop reads off two components is the same pair on swapped arguments, swapped (`compInts_swap`).  The strict
loop is the sorting loop behind a symmetric guard (`sortable`).  The comparison of split names is the lexicographic
comparison of `keyL`, whence its antisymmetry. -/
namespace EupsModel.VersionCmp
open EupsModel EupsModel.Order

theorem cmpNat_self (a : Nat) : cmpNat a a = 0 := by simp [cmpNat]
theorem cmpNat_antisym (a b : Nat) : cmpNat a b = - cmpNat b a := by unfold cmpNat; omega
theorem cmpNat_le {a b : Nat} : cmpNat a b ≤ 0 ↔ a ≤ b := by unfold cmpNat; omega

theorem cmpInt_self (a : Int) : cmpInt a a = 0 := by simp [cmpInt]
theorem cmpInt_antisym (a b : Int) : cmpInt a b = - cmpInt b a := by unfold cmpInt; omega
theorem cmpInt_ofNat (a b : Nat) : cmpInt (Int.ofNat a) (Int.ofNat b) = cmpNat a b := by
  simp only [cmpInt, cmpNat, Int.ofNat_eq_natCast, Int.ofNat_lt]

theorem strCmp_eq_lexList (s t : Str) : Str.cmp s t = lexList cmpNat s t := by
  induction s generalizing t with
  | nil => cases t <;> rfl
  | cons a as ih =>
    cases t with
    | nil => rfl
    | cons b bs =>
      simp only [Str.cmp, lexList, cmpNat, ih bs]
      split
      · simp
      · split <;> simp

theorem strCmp_self (s : Str) : Str.cmp s s = 0 := by
  rw [strCmp_eq_lexList]; exact lexList_self fun a _ => cmpNat_self a

theorem strCmp_antisym (s t : Str) : Str.cmp s t = - Str.cmp t s := by
  rw [strCmp_eq_lexList, strCmp_eq_lexList]; exact lexList_antisym fun a _ b _ => cmpNat_antisym a b

theorem strCmp_eq_zero {s t : Str} (h : Str.cmp s t = 0) : s = t := by
  induction s generalizing t with
  | nil => cases t with
    | nil => rfl
    | cons b bs => simp [Str.cmp] at h
  | cons a as ih =>
    cases t with
    | nil => simp [Str.cmp] at h
    | cons b bs =>
      simp only [Str.cmp] at h
      split at h
      · omega
      · split at h
        · omega
        · have : a = b := by omega
          rw [this, ih h]

theorem strCmp_prefix_lt {s t : Str} (h : s <+: t) (hne : s ≠ t) : Str.cmp s t = -1 := by
  obtain ⟨e, rfl⟩ := h
  rw [strCmp_eq_lexList]
  exact lexList_prefix (fun a _ => cmpNat_self a) fun he => hne (by rw [he, List.append_nil])

theorem allDigits_iff {d : Str} : allDigits d = true ↔ d ≠ [] ∧ ∀ c ∈ d, isDig c = true := by
  simp [allDigits]

theorem allDigits_ne_nil {d : Str} (h : allDigits d = true) : d ≠ [] := (allDigits_iff.mp h).1

theorem allDigits_head {d : Str} (h : allDigits d = true) : ∃ c cs, d = c :: cs ∧ isDig c = true := by
  cases d with
  | nil => exact absurd rfl (allDigits_ne_nil h)
  | cons c cs => exact ⟨c, cs, rfl, (allDigits_iff.mp h).2 c (by simp)⟩

theorem pdSplit_eq_some {x p d : Str} (h : pdSplit x = some (p, d)) :
    x = p ++ d ∧ p ≠ [] ∧ (∀ c ∈ p, isDig c = false) ∧ allDigits d = true := by
  simp only [pdSplit] at h
  split at h
  · rename_i hc
    simp only [Option.some.injEq, Prod.mk.injEq] at h
    obtain ⟨rfl, rfl⟩ := h
    simp only [Bool.and_eq_true, Bool.not_eq_true', List.isEmpty_eq_false_iff] at hc
    exact ⟨List.takeWhile_append_dropWhile.symm, hc.1, fun c hc' => by simpa using mem_takeWhile_pos hc', hc.2⟩
  · simp at h

theorem pdSplit_append {p d : Str} (hp : p ≠ []) (hnd : ∀ c ∈ p, isDig c = false) (hd : allDigits d = true) :
    pdSplit (p ++ d) = some (p, d) := by
  obtain ⟨c, cs, rfl, hc⟩ := allDigits_head hd
  obtain ⟨htw, hdw⟩ := span_append (p := fun c => !isDig c) (l := p) (d := c :: cs) (by intro a ha; simp [hnd a ha])
    (by intro a ha; cases ha; simp [hc])
  simp only [pdSplit, htw, hdw, hd]
  cases p with
  | nil => exact absurd rfl hp
  | cons a as => simp

theorem matchesPD_iff {p y : Str} : matchesPD p y = true ↔ ∃ d, y = p ++ d ∧ allDigits d = true := by
  simp only [matchesPD, Bool.and_eq_true, List.isPrefixOf_iff_prefix]
  constructor
  · rintro ⟨⟨t, rfl⟩, h2⟩
    exact ⟨t, rfl, by simpa using h2⟩
  · rintro ⟨d, rfl, hd⟩
    exact ⟨List.prefix_append p d, by simpa using hd⟩

/-- the first alternative of `compInts`, on its own (`compInts_eq`) -/
def pdMatch (x y : Str) : Option (Int × Int) :=
  match pdSplit x with
  | some (p, d) => if matchesPD p y then some (Int.ofNat (Str.toNat d), Int.ofNat (Str.toNat (y.drop p.length))) else none
  | none => none

theorem compInts_eq (x y : Str) : compInts x y =
    match pdMatch x y with
    | some r => some r
    | none => match parseInt x, parseInt y with
      | some a, some b => some (a, b)
      | _, _ => none := by
  rfl

theorem pdMatch_eq_some {x y : Str} {a b : Int} (h : pdMatch x y = some (a, b)) :
    ∃ p d d', x = p ++ d ∧ y = p ++ d' ∧ p ≠ [] ∧ (∀ c ∈ p, isDig c = false) ∧ allDigits d = true ∧
      allDigits d' = true ∧ a = Int.ofNat (Str.toNat d) ∧ b = Int.ofNat (Str.toNat d') := by
  simp only [pdMatch] at h
  split at h
  · rename_i p d hs
    split at h
    · rename_i hm
      obtain ⟨hx, hp, hnd, hd⟩ := pdSplit_eq_some hs
      obtain ⟨d', rfl, hd'⟩ := matchesPD_iff.mp hm
      simp only [List.drop_left, Option.some.injEq, Prod.mk.injEq] at h
      exact ⟨p, d, d', hx, rfl, hp, hnd, hd, hd', h.1.symm, h.2.symm⟩
    · simp at h
  · simp at h

theorem pdMatch_append {p d d' : Str} (hp : p ≠ []) (hnd : ∀ c ∈ p, isDig c = false) (hd : allDigits d = true)
    (hd' : allDigits d' = true) :
    pdMatch (p ++ d) (p ++ d') = some (Int.ofNat (Str.toNat d), Int.ofNat (Str.toNat d')) := by
  simp [pdMatch, pdSplit_append hp hnd hd, matchesPD_iff.mpr ⟨d', rfl, hd'⟩]

theorem pdMatch_swap (x y : Str) : pdMatch y x = (pdMatch x y).map Prod.swap := by
  have key : ∀ {x y a b}, pdMatch x y = some (a, b) → pdMatch y x = some (b, a) := fun h => by
    obtain ⟨p, d, d', rfl, rfl, hp, hnd, hd, hd', rfl, rfl⟩ := pdMatch_eq_some h
    exact pdMatch_append hp hnd hd' hd
  cases h : pdMatch x y with
  | some r => exact key h
  | none =>
    cases h' : pdMatch y x with
    | none => rfl
    | some r => rw [key h'] at h; cases h

theorem pdMatch_self {x : Str} {a b : Int} (h : pdMatch x x = some (a, b)) : a = b := by
  have := pdMatch_swap x x
  rw [h] at this
  exact (Prod.mk.inj (Option.some.inj this)).1

theorem compInts_swap (x y : Str) : compInts y x = (compInts x y).map Prod.swap := by
  rw [compInts_eq, compInts_eq, pdMatch_swap]
  cases pdMatch x y <;> cases parseInt x <;> cases parseInt y <;> rfl

theorem cmpComp_symm (x y : Str) : (cmpComp y x).1 = - (cmpComp x y).1 ∧ (cmpComp y x).2 = (cmpComp x y).2 := by
  simp only [cmpComp, compInts_swap x y]
  cases compInts x y with
  | none => exact ⟨strCmp_antisym y x, rfl⟩
  | some r => exact ⟨cmpInt_antisym r.2 r.1, rfl⟩

theorem cmpComp_self (x : Str) : (cmpComp x x).1 = 0 := by
  have := (cmpComp_symm x x).1
  omega

theorem cmpComp_nonintegral {x y : Str} (h : (cmpComp x y).2 = false) : (cmpComp x y).1 = Str.cmp x y := by
  simp only [cmpComp] at h ⊢
  cases hc : compInts x y with
  | none => rfl
  | some r => simp [hc] at h

theorem cmpC_self (x : Str) : cmpC x x = 0 := cmpComp_self x
theorem cmpC_antisym (x y : Str) : cmpC x y = - cmpC y x := by
  have := (cmpComp_symm y x).1
  simpa [cmpC] using this

theorem cmpComps_eq_lexList (l m : List Str) : cmpComps l m = lexList cmpC l m := by
  induction l generalizing m with
  | nil => cases m <;> rfl
  | cons a as ih =>
    cases m with
    | nil => rfl
    | cons b bs => simp only [cmpComps, lexList, ih bs]

theorem cmpComps_self (l : List Str) : cmpComps l l = 0 := by
  rw [cmpComps_eq_lexList]; exact lexList_self fun x _ => cmpC_self x

theorem cmpComps_antisym (l m : List Str) : cmpComps l m = - cmpComps m l := by
  rw [cmpComps_eq_lexList, cmpComps_eq_lexList]; exact lexList_antisym fun x _ y _ => cmpC_antisym x y

theorem cmpComps_common_prefix (cs : List Str) (x y : Str) (r1 r2 : List Str) :
    cmpComps (cs ++ x :: r1) (cs ++ y :: r2) = if cmpC x y ≠ 0 then cmpC x y else cmpComps r1 r2 := by
  rw [cmpComps_eq_lexList, lexList_append_left fun c _ => cmpC_self c, cmpComps_eq_lexList]; rfl

theorem cmpComps_longer (l e : List Str) (he : e ≠ []) : cmpComps l (l ++ e) = -1 := by
  rw [cmpComps_eq_lexList]; exact lexList_prefix (fun c _ => cmpC_self c) he

/-- the strict loop answers: the first components that differ are integral, or they are the last of one of the lists and
one is a string prefix of the other.  The strict mode is the sorting mode behind this guard (`cmpCompsStrict_eq`). -/
def sortable : List Str → List Str → Bool
  | x :: xs, y :: ys =>
    if (cmpComp x y).1 ≠ 0 then
      (cmpComp x y).2 || ((xs.isEmpty || ys.isEmpty) && (x.isPrefixOf y || y.isPrefixOf x))
    else sortable xs ys
  | _, _ => true

theorem sortable_self (l : List Str) : sortable l l = true := by
  induction l with
  | nil => rfl
  | cons a as ih => rw [sortable, if_neg (by simp [cmpComp_self]), ih]

theorem sortable_symm (l m : List Str) : sortable m l = sortable l m := by
  induction l generalizing m with
  | nil => cases m <;> rfl
  | cons x xs ih =>
    cases m with
    | nil => rfl
    | cons y ys =>
      obtain ⟨h1, h2⟩ := cmpComp_symm x y
      simp only [sortable, h1, h2, ih ys, Int.neg_ne_zero, Bool.or_comm ys.isEmpty, Bool.or_comm (y.isPrefixOf x)]

theorem sortable_cons {x y : Str} (h : (cmpComp x y).2 = true) {xs ys : List Str} (hr : sortable xs ys = true) :
    sortable (x :: xs) (y :: ys) = true := by
  rw [sortable, h, hr]; split <;> rfl

theorem cmpC_prefix {x y : Str} (hi : (cmpComp x y).2 = false) (hz : (cmpComp x y).1 ≠ 0) (hp : x.isPrefixOf y = true) :
    cmpC x y = -1 := by
  rw [cmpComp_nonintegral hi] at hz
  rw [cmpC, cmpComp_nonintegral hi]
  exact strCmp_prefix_lt (List.isPrefixOf_iff_prefix.mp hp) (fun e => hz (e ▸ strCmp_self x))

theorem cmpCompsStrict_eq (l m : List Str) :
    cmpCompsStrict l m = if sortable l m then .ok (cmpComps l m) else .error .unsortable := by
  fun_induction cmpCompsStrict l m
  case case1 | case2 | case3 => rfl
  case case4 x xs y ys hz hi => rw [sortable, if_pos hz, hi, cmpComps, cmpC, if_pos hz]; rfl
  case case5 x xs y ys hz hi hl hp =>
    rw [Bool.not_eq_true] at hi
    rw [sortable, if_pos hz, hi, hl, hp, cmpComps, cmpC_prefix hi hz hp]; rfl
  case case6 x xs y ys hz hi hl hp hq =>
    rw [Bool.not_eq_true] at hi
    obtain ⟨h1, h2⟩ := cmpComp_symm x y
    have : cmpC x y = 1 := by
      have := cmpC_prefix (h2 ▸ hi) (by omega) hq
      rw [cmpC] at this ⊢; omega
    rw [sortable, if_pos hz, hi, hl, hq, Bool.or_true, cmpComps, this]; rfl
  case case7 x xs y ys hz hi hl hp hq =>
    rw [Bool.not_eq_true] at hi hp hq
    rw [sortable, if_pos hz, hi, hl, hp, hq]; rfl
  case case8 x xs y ys hz hi hl =>
    rw [Bool.not_eq_true] at hi hl
    rw [sortable, if_pos hz, hi, hl]; rfl
  case case9 x xs y ys hz ih => rw [sortable, if_neg hz, cmpComps, cmpC, if_neg hz, ih]

theorem secTer_eq (a b : Lexed) :
    secTer a b = if absentTop Lexed.present cmpSort a.sec b.sec ≠ 0 then absentTop Lexed.present cmpSort a.sec b.sec
      else cmpSort a.ter b.ter := by
  simp only [secTer, absentTop]
  rcases Bool.eq_false_or_eq_true a.sec.present with ha | ha <;>
    rcases Bool.eq_false_or_eq_true b.sec.present with hb | hb <;> simp [ha, hb]

theorem comps_absent : Lexed.absent.comps = [[]] := rfl

/-- also for an absent part: it behaves as the name with primary `""` (`_splitVersion(None)`) -/
theorem cmpSort_unfold (a b : Lexed) :
    cmpSort a b = if cmpComps a.comps b.comps ≠ 0 then cmpComps a.comps b.comps else secTer a b := by
  cases a with
  | node p s t => rw [cmpSort]; rfl
  | absent =>
    cases b with
    | absent => rfl
    | node p s t =>
      simp only [cmpSort, cmpAbsent, secTer, Lexed.comps, Lexed.prim, Lexed.sec, Lexed.ter, splitSep]
      cases s <;> simp [Lexed.present]

/-- what the comparator looks at, in the order it looks at it -/
def keyL (a : Lexed) : List Str × (Lexed × Lexed) := (a.comps, (a.sec, a.ter))

/-- a missing `-pre` part sorts last (`absentTop`); a missing `+post` part needs no such layer: it is the name `""`, which
`cmpSort` itself puts first (`cmpSort_unfold`) -/
theorem cmpSort_eq_key (a b : Lexed) :
    cmpSort a b = lexPair cmpComps (lexPair (absentTop Lexed.present cmpSort) cmpSort) (keyL a) (keyL b) := by
  rw [cmpSort_unfold, secTer_eq]; rfl

theorem cmpSort_of_ter {a b : Lexed} (hc : cmpComps a.comps b.comps = 0)
    (hs : absentTop Lexed.present cmpSort a.sec b.sec = 0) : cmpSort a b = cmpSort a.ter b.ter := by
  rw [cmpSort_unfold, secTer_eq, hc, hs]; rfl

theorem cmpSort_antisym_of {a b : Lexed} (hs : cmpSort a.sec b.sec = - cmpSort b.sec a.sec)
    (ht : cmpSort a.ter b.ter = - cmpSort b.ter a.ter) : cmpSort a b = - cmpSort b a := by
  rw [cmpSort_eq_key a b, cmpSort_eq_key b a]
  exact lexPair_antisym (cmpComps_antisym _ _) (lexPair_antisym (absentTop_antisym hs) ht)

theorem cmpSort_antisym (a b : Lexed) : cmpSort a b = - cmpSort b a := by
  induction a generalizing b with
  | absent =>
    -- `cmpSort .absent b` is `cmpAbsent b`, a recursion on `b`: the instances for the parts of `b` take an induction on `b`
    induction b with
    | absent => rfl
    | node p s t ihs iht => exact cmpSort_antisym_of (a := .absent) (b := .node p s t) ihs iht
  | node p s t ihs iht => exact cmpSort_antisym_of (ihs b.sec) (iht b.ter)

theorem cmpSort_self (a : Lexed) : cmpSort a a = 0 := by
  have := cmpSort_antisym a a
  omega

theorem cmpStrict_eq (a b : Lexed) :
    cmpStrict a b = if sortable a.comps b.comps then .ok (cmpSort a b) else .error .unsortable := by
  rw [cmpStrict, cmpCompsStrict_eq, cmpSort_unfold]
  cases sortable a.comps b.comps
  · rfl
  · simp only [if_true]; split <;> rfl

theorem cmpStrict_self (a : Lexed) : cmpStrict a a = .ok 0 := by
  rw [cmpStrict_eq, sortable_self, if_pos rfl, cmpSort_self]

theorem stdCompare_of_lex {strict : Bool} {a b : Str} {la lb : Lexed} (ha : lex a = .ok la) (hb : lex b = .ok lb) :
    stdCompare strict a b = cmpLexed strict la lb := by
  simp only [stdCompare, ha, hb]

theorem stdCompare_sort {a b : Str} {la lb : Lexed} (ha : lex a = .ok la) (hb : lex b = .ok lb) :
    stdCompare false a b = .ok (cmpSort la lb) := stdCompare_of_lex ha hb

theorem stdCompare_strict {a b : Str} {la lb : Lexed} (ha : lex a = .ok la) (hb : lex b = .ok lb) :
    stdCompare true a b = if sortable la.comps lb.comps then stdCompare false a b else .error .unsortable := by
  rw [stdCompare_of_lex ha hb, stdCompare_sort ha hb]; exact cmpStrict_eq la lb

theorem stdCompare_ok {strict : Bool} {a b : Str} {r : Int} (h : stdCompare strict a b = .ok r) :
    ∃ la lb, lex a = .ok la ∧ lex b = .ok lb ∧ cmpLexed strict la lb = .ok r := by
  unfold stdCompare at h
  split at h
  · cases h
  · split at h
    · cases h
    · exact ⟨_, _, ‹_›, ‹_›, h⟩

end EupsModel.VersionCmp
