import EupsModel.Lemmas.List
import EupsModel.Lemmas.RecordDict
/-! Database-layer operations on the records of one product, one at a time and in histories (`DbOp`, `PDir.run`), leave
the blocks of the other flavors alone, and `undeclare` leaves none of its own flavor (C16).  `Database.declare` on the
record of a version file, with its trimming of paths: `other_flavors_untouched` in `RecordReloc`. -/
namespace EupsModel.Record

inductive DbOp where
  | undeclare (version flavor : Str)
  | unassign (tag flavor : Str)
  | assign (name tag version flavor who now : Str)
  /-- `Database.declare` as far as the record is concerned: the block of `flavor` in the record of `version` becomes `i`
  (the record is created if need be) -/
  | declare (name version flavor : Str) (i : Info)
  deriving Repr

def DbOp.flavor : DbOp → Str
  | .undeclare _ f => f
  | .unassign _ f => f
  | .assign _ _ _ f _ _ => f
  | .declare _ _ f _ => f

def PDir.declare (d : PDir) (name version flavor : Str) (i : Info) : PDir :=
  let r : VRec := match dget d.versions version with
    | some r => r
    | none => { name := some name, version := some version, flavors := [] }
  { d with versions := dset d.versions version { r with flavors := dset r.flavors flavor i } }

def PDir.apply (d : PDir) : DbOp → PDir
  | .undeclare v f => d.undeclare v f
  | .unassign t f => d.unassignTag t f
  | .assign n t v f w now => d.assignTag n t v f w now
  | .declare n v f i => d.declare n v f i

def PDir.run (d : PDir) (ops : List DbOp) : PDir := ops.foldl PDir.apply d

/-- the blocks of flavor `g` in all chain and version records of the product: what an operation on another flavor keeps -/
def PDir.blocks (d : PDir) (g : Str) : (Str → Option CInfo) × (Str → Option Info) :=
  (fun t => d.blockC t g, fun v => d.blockV v g)

theorem PDir.blocks_eq {x d : PDir} {g : Str} :
    x.blocks g = d.blocks g ↔ (∀ t, x.blockC t g = d.blockC t g) ∧ (∀ v, x.blockV v g = d.blockV v g) :=
  ⟨fun h => ⟨congrFun (congrArg Prod.fst h), congrFun (congrArg Prod.snd h)⟩, fun h => Prod.ext (funext h.1) (funext h.2)⟩

theorem dget_nil_of_isEmpty {β : Type} (l : List (Str × β)) (k : Str) (h : l.isEmpty = true) : dget l k = none := by
  cases l with
  | nil => rfl
  | cons x r => simp at h

/-- the record under `k` is replaced by one that answers the question `g` (here: the block of a flavor) as the dictionary
did for `k` -/
theorem bind_dset {β γ : Type} (l : List (Str × β)) (k k' : Str) (r' : β) (g : β → Option γ)
    (h : g r' = (dget l k).bind g) : (dget (dset l k r') k').bind g = (dget l k').bind g := by
  by_cases ht : k' = k
  · subst ht; rw [dget_dset_self]; exact h
  · rw [dget_dset_other _ _ _ _ ht]

/-- `putC` / `putV` at the key they write: `e` says that the new record has become empty and is removed (`hempty`: its
answer to `g` is then "nothing") -/
theorem bind_put_self {β γ : Type} (l : List (Str × β)) (k : Str) (r' : β) (e : Bool) (g : β → Option γ)
    (hempty : e = true → g r' = none) : (dget (if e then ddel l k else dset l k r') k).bind g = g r' := by
  cases e with
  | true => simp [dget_ddel_self, hempty rfl]
  | false => simp [dget_dset_self]

/-- `bind_dset` for `putC` / `putV` -/
theorem bind_put {β γ : Type} (l : List (Str × β)) (k k' : Str) (r r' : β) (e : Bool) (g : β → Option γ)
    (hold : dget l k = some r) (hsame : g r' = g r) (hempty : e = true → g r' = none) :
    (dget (if e then ddel l k else dset l k r') k').bind g = (dget l k').bind g := by
  by_cases ht : k' = k
  · subst ht; rw [bind_put_self l k' r' e g hempty, hold]; exact hsame
  · cases e with
    | true => simp [dget_ddel_other _ _ _ ht]
    | false => simp [dget_dset_other _ _ _ _ ht]

theorem blockC_putC (d : PDir) (tag : Str) (r r' : CRec) (f : Str) (hold : dget d.chains tag = some r)
    (hsame : dget r'.flavors f = dget r.flavors f) (tag' : Str) :
    PDir.blockC { d with chains := putC d.chains tag r' } tag' f = PDir.blockC d tag' f :=
  bind_put d.chains tag tag' r r' r'.flavors.isEmpty (fun r => dget r.flavors f) hold hsame
    (dget_nil_of_isEmpty _ _)

theorem blockV_putV (d : PDir) (version : Str) (r r' : VRec) (f : Str) (hold : dget d.versions version = some r)
    (hsame : dget r'.flavors f = dget r.flavors f) (v' : Str) :
    PDir.blockV { d with versions := putV d.versions version r' } v' f = PDir.blockV d v' f :=
  bind_put d.versions version v' r r' r'.flavors.isEmpty (fun r => dget r.flavors f) hold hsame
    (dget_nil_of_isEmpty _ _)

theorem unassignTag_versions (d : PDir) (tag flavor : Str) : (d.unassignTag tag flavor).versions = d.versions := by
  unfold PDir.unassignTag
  split
  · rfl
  · split <;> rfl

theorem unassignTag_blocks (d : PDir) (tag flavor f' : Str) (hf : f' ≠ flavor) :
    (d.unassignTag tag flavor).blocks f' = d.blocks f' := by
  refine PDir.blocks_eq.mpr ⟨fun t => ?_, fun v => by simp only [PDir.blockV, unassignTag_versions]⟩
  unfold PDir.unassignTag
  cases hg : dget d.chains tag with
  | none => rfl
  | some r =>
    simp only
    split
    · exact blockC_putC d tag r _ f' hg (dget_ddel_other _ _ _ hf) t
    · rfl

theorem unassignAll_versions (ts : List Str) (flavor : Str) (d : PDir) :
    (ts.foldl (fun d t => d.unassignTag t flavor) d).versions = d.versions :=
  foldl_invariant (P := fun x : PDir => x.versions = d.versions) rfl fun x t _ hx =>
    (unassignTag_versions x t flavor).trans hx

theorem unassignAll_blocks (ts : List Str) (flavor f' : Str) (hf : f' ≠ flavor) (d : PDir) :
    (ts.foldl (fun d t => d.unassignTag t flavor) d).blocks f' = d.blocks f' :=
  foldl_invariant (P := fun x : PDir => x.blocks f' = d.blocks f') rfl fun x t _ hx =>
    (unassignTag_blocks x t flavor f' hf).trans hx

theorem undeclare_blocks (d : PDir) (version flavor f' : Str) (hf : f' ≠ flavor) :
    (d.undeclare version flavor).blocks f' = d.blocks f' := by
  unfold PDir.undeclare
  cases hg : dget d.versions version with
  | none => rfl
  | some vr =>
    simp only
    split
    · rfl
    · -- the tags go first (they leave the version records alone), then the block of the version record
      rw [← unassignAll_blocks (d.findTags version flavor) flavor f' hf d]
      refine PDir.blocks_eq.mpr ⟨fun t => rfl, fun v => ?_⟩
      exact blockV_putV _ version vr { vr with flavors := ddel vr.flavors flavor } f'
        (by rw [unassignAll_versions, hg]) (dget_ddel_other _ _ _ hf) v

theorem assignTag_blocks (d : PDir) (name tag version flavor who now f' : Str) (hf : f' ≠ flavor) :
    (d.assignTag name tag version flavor who now).blocks f' = d.blocks f' := by
  unfold PDir.assignTag
  cases hg : dget d.versions version with
  | none => rfl
  | some vr =>
    simp only
    split
    · rfl
    · refine PDir.blocks_eq.mpr ⟨fun t => bind_dset d.chains tag t _ (fun r => dget r.flavors f') ?_, fun v => rfl⟩
      simp only [CRec.setVersion, dget_dset_other _ _ _ _ hf]
      cases dget d.chains tag <;> rfl

theorem declare_blocks (d : PDir) (name version flavor f' : Str) (i : Info) (hf : f' ≠ flavor) :
    (d.declare name version flavor i).blocks f' = d.blocks f' := by
  refine PDir.blocks_eq.mpr ⟨fun t => rfl, fun v => bind_dset d.versions version v _ (fun r => dget r.flavors f') ?_⟩
  simp only [dget_dset_other _ _ _ _ hf]
  cases dget d.versions version <;> rfl

theorem apply_blocks (d : PDir) (op : DbOp) (g : Str) (h : op.flavor ≠ g) : (d.apply op).blocks g = d.blocks g := by
  have h' : g ≠ op.flavor := fun e => h e.symm
  cases op with
  | undeclare v f => exact undeclare_blocks d v f g h'
  | unassign t f => exact unassignTag_blocks d t f g h'
  | assign n t v f w now => exact assignTag_blocks d n t v f w now g h'
  | declare n v f i => exact declare_blocks d n v f g i h'

theorem run_blocks (ops : List DbOp) (g : Str) (h : ∀ op ∈ ops, op.flavor ≠ g) (d : PDir) :
    (d.run ops).blocks g = d.blocks g :=
  foldl_invariant (P := fun x : PDir => x.blocks g = d.blocks g) rfl fun x op hop hx =>
    (apply_blocks x op g (h op hop)).trans hx

theorem undeclare_gone (d : PDir) (version flavor : Str) : (d.undeclare version flavor).blockV version flavor = none := by
  unfold PDir.undeclare
  cases hg : dget d.versions version with
  | none => simp [PDir.blockV, hg]
  | some vr =>
    simp only
    split
    · rename_i hn
      simp only [PDir.blockV, hg, Option.bind_some]
      simpa using hn
    · simp only [PDir.blockV, unassignAll_versions]
      exact (bind_put_self _ _ _ _ (fun r : VRec => dget r.flavors flavor) (dget_nil_of_isEmpty _ _)).trans
        (dget_ddel_self _ _)

end EupsModel.Record
