import EupsModel.Lemmas.ExpandEmit
/-! The statements about a whole run of `expandTableFile` (`Model/Expand.lean`) that `Props/C17.lean` rests on, put together
from the reader, the closure collection and the emission: where a pin comes from, which input lines are in the output and in
which order, where the exact block stands (`expand_shape`), and the exact branch read off the rendered text. -/
namespace EupsModel.Expand

theorem expandItems_ok {A : Answers} {o : Opts} {lines : List Str} {items : List Item}
    (h : expandItems A o lines = .ok items) :
    ∃ st c vis, readAll A o lines = .ok st ∧ collect A o st = .ok c ∧ visit 0 st.blocks = .ok vis ∧
      items = emitVisited o st.lastSetup c 0 vis ++ c.final.map .fin := by
  simp only [expandItems, bind_eq_ok] at h
  obtain ⟨st, hr, c, hc, vis, hv, h⟩ := h
  exact ⟨st, c, vis, hr, hc, hv, by cases h; rfl⟩

theorem pin_sourced {A : Answers} {o : Opts} {lines : List Str} {items : List Item}
    (h : expandItems A o lines = .ok items) {ind : Int} {opt : Bool} {n v : Str}
    (hx : Item.pin ind opt n v ∈ items) : Sourced A o n v := by
  obtain ⟨st, c, vis, _, hc, _, rfl⟩ := expandItems_ok h
  -- the key of the pin is among those of the output, which are those of its blocks: `c.pinKeys` or none
  have hk := List.mem_filterMap.mpr ⟨_, hx, (rfl : pinKey (.pin ind opt n v) = some (opt, n, v))⟩
  rw [List.filterMap_append, pinKey_fin, List.append_nil, emitVisited_eq, List.filterMap_flatMap] at hk
  obtain ⟨x, _, hk⟩ := List.mem_flatMap.mp hk
  rw [pinKey_emitBlock] at hk
  split at hk
  · exact collect_desired hc _ (mem_pinKeys hk)
  · cases hk

theorem isPreExact_line {b : Block} (h : isPreExact b = true) : ∃ l ∈ b.lines, preExactRe l.text = true := by
  unfold isPreExact at h
  simp only [Bool.and_eq_true] at h
  obtain ⟨_, h2⟩ := h
  split at h2
  · rename_i l hl; exact ⟨l, by simp [hl], h2⟩
  · simp at h2

theorem noExactLine_lines {A : Answers} {o : Opts} {lines : List Str} {cs : List Classified}
    (hn : noExactLine A o lines = true) (hcs : lines.mapM (classify A o) = .ok cs) :
    ∀ l ∈ (cs.foldl step {}).allLines, preExactRe l.text = false := by
  intro l hl
  rw [allLines_read, List.mem_filterMap] at hl
  obtain ⟨c, hc, hb⟩ := hl
  unfold noExactLine at hn
  simp only [hcs, List.all_eq_true] at hn
  simpa [hb] using hn c hc

theorem expandItems_noExact {A : Answers} {o : Opts} {lines : List Str} {items : List Item}
    (h : expandItems A o lines = .ok items) (hn : noExactLine A o lines = true) :
    ∃ cs c, lines.mapM (classify A o) = .ok cs ∧ readAll A o lines = .ok (cs.foldl step {}) ∧
      collect A o (cs.foldl step {}) = .ok c ∧
      items = emitVisited o (cs.foldl step {}).lastSetup c 0 (enumFrom 0 (cs.foldl step {}).blocks) ++ c.final.map .fin := by
  obtain ⟨st, c, vis, hr, hc, hv, rfl⟩ := expandItems_ok h
  obtain ⟨cs, hcs, rfl⟩ := readAll_ok hr
  have hno : NoPreExact (cs.foldl step {}).blocks := fun b hb => by
    by_cases hp : isPreExact b = true
    · obtain ⟨l, hl, hre⟩ := isPreExact_line hp
      rw [noExactLine_lines hn hcs l (mem_allLines hb hl)] at hre
      cases hre
    · simpa using hp
  rw [visit_noPre _ 0 hno] at hv
  cases hv
  exact ⟨cs, c, hcs, hr, hc, rfl⟩

theorem filter_other_bline (cs : List Classified) :
    ((cs.filterMap Classified.bline).filter (·.kind = .other)).map (·.text) = cs.filterMap Classified.otherText := by
  induction cs with
  | nil => rfl
  | cons c cs ih => cases c <;> simpa [List.filterMap_cons, Classified.bline, Classified.otherText] using ih

theorem filter_setup_bline (cs : List Classified) :
    ((cs.filterMap Classified.bline).filter fun l => l.kind = .setup && !contains sExternal (strip l.text)).map
        (fun l => strip l.text)
      = ((cs.filterMap Classified.setupText).filter fun t => !contains sExternal (strip t)).map strip := by
  induction cs with
  | nil => rfl
  | cons c cs ih =>
    cases c with
    | setup t p =>
      simp only [List.filterMap_cons, Classified.bline, Classified.setupText]
      by_cases hx : contains sExternal (strip t) = true <;> simp [hx, ih]
    | _ => simpa [List.filterMap_cons, Classified.bline, Classified.setupText] using ih

theorem origOf_expand {o : Opts} {c : CState} {st : RState} {k : LKind} {p : BLine → Bool} {g : BLine → Str}
    (hb : ∀ x : Placed, (x.idx, x.block) ∈ enumFrom 0 st.blocks →
      (emitBlock o st.lastSetup c x).filterMap (origOf k) = (x.block.lines.filter p).map g) :
    (emitVisited o st.lastSetup c 0 (enumFrom 0 st.blocks) ++ c.final.map Item.fin).filterMap (origOf k)
      = (st.allLines.filter p).map g := by
  rw [List.filterMap_append, origOf_fin, List.append_nil, filterMap_emitVisited _ (fun b => (b.lines.filter p).map g) _ hb,
    flatMap_enumFrom (fun b => (b.lines.filter p).map g), RState.allLines, List.filter_flatMap, List.map_flatMap]

theorem expand_other_lines {A : Answers} {o : Opts} {lines : List Str} {items : List Item}
    (h : expandItems A o lines = .ok items) (hn : noExactLine A o lines = true) :
    ∃ cs, lines.mapM (classify A o) = .ok cs ∧
      items.filterMap (origOf .other) = cs.filterMap Classified.otherText := by
  obtain ⟨cs, c, hcs, _, _, rfl⟩ := expandItems_noExact h hn
  refine ⟨cs, hcs, ?_⟩
  rw [← filter_other_bline, ← allLines_read]
  refine origOf_expand fun ⟨_, _, ⟨s, bl⟩⟩ hx => ?_
  cases s
  · rw [emitBlock_plain]
    exact origOf_emitPlain _ _ _
  · have hno : ∀ l ∈ bl, l.kind ≠ .other := fun l hl => by
      simpa using kindsOk_read cs _ (mem_enumFrom hx).2 l hl
    have hf : bl.filter (·.kind = .other) = [] := List.filter_eq_nil_iff.mpr fun l hl => by simp [hno l hl]
    rw [emitBlock_setup, origOf_emitSetup, origOf_other_emitSetupLines _ _ hno, hf]
    rfl

theorem expand_setup_lines {A : Answers} {o : Opts} {lines : List Str} {items : List Item}
    (h : expandItems A o lines = .ok items) (hn : noExactLine A o lines = true) :
    ∃ cs, lines.mapM (classify A o) = .ok cs ∧
      items.filterMap (origOf .setup)
        = ((cs.filterMap Classified.setupText).filter fun t => !contains sExternal (strip t)).map strip := by
  obtain ⟨cs, c, hcs, _, _, rfl⟩ := expandItems_noExact h hn
  refine ⟨cs, hcs, ?_⟩
  rw [← filter_setup_bline, ← allLines_read]
  refine origOf_expand fun ⟨_, _, ⟨s, bl⟩⟩ hx => ?_
  cases s
  · have hno : ∀ l ∈ bl, l.kind ≠ .setup := fun l hl => by
      simpa using kindsOk_read cs _ (mem_enumFrom hx).2 l hl
    -- no setup line in the block: nothing is written of that kind, nothing was to be kept
    have hf : bl.filter (·.kind = .setup) = [] := List.filter_eq_nil_iff.mpr fun l hl => by simp [hno l hl]
    have hf2 : bl.filter (fun l => l.kind = .setup && !contains sExternal (strip l.text)) = [] :=
      List.filter_eq_nil_iff.mpr fun l hl => by simp [hno l hl]
    rw [emitBlock_plain, origOf_emitPlain, hf, hf2]
    rfl
  · -- a setup line is not empty: the pattern matched on it
    rw [emitBlock_setup]
    refine (origOf_emitSetup ..).trans (origOf_setup_emitSetupLines _ _ fun l hl hkind => ?_)
    have hmem := mem_allLines (mem_enumFrom hx).2 hl
    rw [allLines_read, List.mem_filterMap] at hmem
    obtain ⟨cl, hcl, hb⟩ := hmem
    obtain ⟨raw, _, hraw⟩ := mapM_ok_mem hcs cl hcl
    rcases classify_spec hraw with ⟨_, rfl⟩ | ⟨_, t, _, ⟨_, rfl⟩ | ⟨m, hm, rfl | ⟨p, rfl⟩⟩⟩
    · simp [Classified.bline] at hb; subst hb; simp at hkind
    · simp [Classified.bline] at hb; subst hb; simp at hkind
    · simp [Classified.bline] at hb
    · simp [Classified.bline] at hb; subst hb; exact strip_ne_nil_of_searchRex hm

theorem expand_final {A : Answers} {o : Opts} {lines : List Str} {items : List Item}
    (h : expandItems A o lines = .ok items) :
    ∃ cs, lines.mapM (classify A o) = .ok cs ∧
      items.filterMap finText = cs.filterMap Classified.finalLine ++
        ((cs.filterMap Classified.prod).filter fun p => !(o.toplevel == some p.name) && p.external).map (·.line) := by
  obtain ⟨st, c, vis, hr, hc, _, rfl⟩ := expandItems_ok h
  obtain ⟨cs, hcs, rfl⟩ := readAll_ok hr
  refine ⟨cs, hcs, ?_⟩
  rw [List.filterMap_append, finText_emitVisited, List.nil_append, finText_fin, (collect_ok hc).2,
    final_read, products_read]

/-- **The shape of the output.**  Lines of the input and frames `if (type != exact) {` … `}`; then, when the table has a
setup line at all, THE exact block (the last setup block, written with the pins); then items that hold no pin. -/
theorem expand_shape {A : Answers} {o : Opts} {lines : List Str} {items : List Item}
    (h : expandItems A o lines = .ok items) (hn : noExactLine A o lines = true) :
    ∃ cs c, lines.mapM (classify A o) = .ok cs ∧ readAll A o lines = .ok (cs.foldl step {}) ∧
      collect A o (cs.foldl step {}) = .ok c ∧
      ∃ pre mid post, items = pre ++ (mid ++ post) ∧ (∀ x ∈ pre, PreItem (cs.foldl step {}).allLines x) ∧
        post.filterMap pinKey = [] ∧
        (((cs.foldl step {}).lastSetup = none ∧ mid = [] ∧ post = [] ∧ c.desired = []) ∨
         ((cs.foldl step {}).lastSetup.isSome = true ∧ ∃ ind bl, mid = emitSetup o true c ind bl)) := by
  obtain ⟨cs, c, hcs, hr, hc, rfl⟩ := expandItems_noExact h hn
  refine ⟨cs, c, hcs, hr, hc, ?_⟩
  have hlo := lastOk_read cs
  cases hls : (cs.foldl step {}).lastSetup with
  | none =>
    have hfin : c.final = [] := by
      rw [(collect_ok hc).2]; simp [(hlo.none hls).2]
    exact ⟨_, [], [], by simp [hfin], emitVisited_pre o c _ 0 0, rfl,
      .inl ⟨rfl, rfl, rfl, by simp [(collect_ok hc).1, (hlo.none hls).2.1]⟩⟩
  | some i =>
    obtain ⟨b, hb, hs⟩ := lastOk_block hlo hls
    obtain ⟨pre, post, ind', heq, hpre, hpost⟩ := emitVisited_split o c _ 0 i 0 b (Nat.zero_le _) (by simpa using hb) hs
    exact ⟨pre, _, post ++ c.final.map .fin, by simp [heq], hpre, by rw [List.filterMap_append, hpost, pinKey_fin]; rfl,
      .inr ⟨rfl, ind', b.lines, rfl⟩⟩

theorem expand_pins {A : Answers} {o : Opts} {lines : List Str} {items : List Item}
    (h : expandItems A o lines = .ok items) (hn : noExactLine A o lines = true) (ha : o.addExactBlock = true) :
    ∃ st c, readAll A o lines = .ok st ∧ collect A o st = .ok c ∧ items.filterMap pinKey = c.pinKeys := by
  obtain ⟨cs, c, _, hr, hc, pre, mid, post, rfl, hpre, hpost, hm⟩ := expand_shape h hn
  refine ⟨_, c, hr, hc, ?_⟩
  rw [List.filterMap_append, List.filterMap_append, pinKey_pre hpre, hpost]
  rcases hm with ⟨_, rfl, _, hd⟩ | ⟨_, ind, bl, rfl⟩
  · simp [CState.pinKeys, hd]
  · simp [pinKey_emitSetup, ha]

def takeUntilElse : List Str → List Str
  | [] => []
  | l :: rest => if strip l == sElse then [] else l :: takeUntilElse rest

/-- The lines of the (first) exact branch of a table text: what stands between the first line that reads
`if (type == exact) {` and the next line that reads `} else {` (white space around the lines ignored). -/
def exactBranchText : List Str → List Str
  | [] => []
  | l :: rest => if strip l == sIfExact then takeUntilElse rest else exactBranchText rest

theorem strip_indent (ind : Int) (s : Str) : strip (indentStr ind ++ s) = strip s := by
  unfold strip indentStr
  rw [lstrip_replicate_append]

theorem sIfExact_eq : sIfExact = [105, 102, 32, 40, 116, 121, 112, 101, 32, 61, 61, 32, 101, 120, 97, 99, 116, 41, 32, 123] := by
  unfold sIfExact; decide_lit  -- "if (type == exact) {"

theorem preExactRe_lit (w : Str) : preExactRe (sIfExact ++ w) = true := by
  rw [sIfExact_eq]
  simp [preExactRe, preExactAt, lstrip, List.isPrefixOf, List.dropWhile, Str.isSpace, Str.ofString, cLbrace]

theorem preExactRe_append (w s : Str) (h : preExactRe s = true) : preExactRe (w ++ s) = true := by
  induction w with
  | nil => exact h
  | cons c cs ih => simp [preExactRe, ih]

theorem preExactRe_of_strip {t : Str} (h : strip t = sIfExact) : preExactRe t = true := by
  obtain ⟨b, hb, _⟩ := (Text.stripR_spec (p := Str.isSpace) (lstrip t)).1
  rw [← List.takeWhile_append_dropWhile (p := Str.isSpace) (l := t), ← lstrip, hb, show Text.stripR Str.isSpace (lstrip t) = strip t from rfl, h]
  exact preExactRe_append _ _ (preExactRe_lit b)

theorem takeUntilElse_split (mid post : List Str) (e : Str) (hmid : ∀ l ∈ mid, strip l ≠ sElse) (he : strip e = sElse) :
    takeUntilElse (mid ++ e :: post) = mid := by
  induction mid with
  | nil => simp [takeUntilElse, he]
  | cons m rest ih =>
    have hm : (strip m == sElse) = false := by simpa using hmid m (by simp)
    simp [takeUntilElse, hm, ih (fun l hl => hmid l (by simp [hl]))]

theorem exactBranchText_skip (pre rest : List Str) (hpre : ∀ l ∈ pre, strip l ≠ sIfExact) :
    exactBranchText (pre ++ rest) = exactBranchText rest := by
  induction pre with
  | nil => rfl
  | cons p pre ih =>
    have hp : (strip p == sIfExact) = false := by simpa using hpre p (by simp)
    simp [exactBranchText, hp, ih (fun l hl => hpre l (by simp [hl]))]

theorem exactBranchText_split (pre mid post : List Str) (a e : Str) (hpre : ∀ l ∈ pre, strip l ≠ sIfExact)
    (ha : strip a = sIfExact) (hmid : ∀ l ∈ mid, strip l ≠ sElse) (he : strip e = sElse) :
    exactBranchText (pre ++ a :: (mid ++ e :: post)) = mid := by
  simp [exactBranchText_skip pre _ hpre, exactBranchText, ha, takeUntilElse_split mid post e hmid he]

theorem exactBranchText_none (pre : List Str) (h : ∀ l ∈ pre, strip l ≠ sIfExact) : exactBranchText pre = [] := by
  simpa [exactBranchText] using exactBranchText_skip pre [] h

theorem strip_sIfExact : strip sIfExact = sIfExact := by unfold sIfExact; decide_lit

theorem strip_sElse : strip sElse = sElse := by unfold sElse; decide_lit

theorem strip_sIfNotExact_ne : strip sIfNotExact ≠ sIfExact := by unfold sIfNotExact sIfExact; decide_lit

theorem strip_sClose_ne : strip sClose ≠ sIfExact := by unfold sClose sIfExact; decide_lit

theorem strip_render_gen (ind : Int) (t : Str) : strip (renderItem (.gen ind t)) = strip t := by
  simp only [renderItem, strip_indent, strip_idem]

theorem render_pre_ne {lines : List BLine} (hl : ∀ l ∈ lines, preExactRe l.text = false) {x : Item}
    (hx : PreItem lines x) : strip (renderItem x) ≠ sIfExact := by
  cases x with
  | orig i k t =>
    obtain ⟨l, hmem, ht⟩ := hx
    simp only [renderItem, strip_indent, strip_idem]
    intro h
    have hre : preExactRe l.text = true := by
      rcases ht with rfl | rfl
      · exact preExactRe_of_strip h
      · rw [strip_idem] at h; exact preExactRe_of_strip h
    rw [hl l hmem] at hre; cases hre
  | gen i t =>
    rw [strip_render_gen]
    rcases hx with rfl | rfl
    · exact strip_sIfNotExact_ne
    · exact strip_sClose_ne
  | _ => exact absurd hx id

theorem render_pin_ne_else (ind : Int) (opt : Bool) (n v : Str) : strip (renderItem (.pin ind opt n v)) ≠ sElse := by
  simp only [renderItem, strip_indent, strip_idem]
  obtain ⟨r, hr⟩ := cmdName_head opt
  have : sElse = 125 :: sElse.tail := by unfold sElse; decide_lit
  rw [strip_pinText, this, pinText, hr]
  intro h; cases h

theorem expand_exact_branch_text {A : Answers} {o : Opts} {lines : List Str} {items : List Item}
    (h : expandItems A o lines = .ok items) (hn : noExactLine A o lines = true) (ha : o.addExactBlock = true) :
    ∃ st c ind, readAll A o lines = .ok st ∧ collect A o st = .ok c ∧
      exactBranchText (items.map renderItem) = if st.lastSetup.isSome then (pinItems ind c).map renderItem else [] := by
  obtain ⟨cs, c, hcs, hr, hc, pre, mid, post, rfl, hpre, _, hm⟩ := expand_shape h hn
  have hnot : ∀ l ∈ pre.map renderItem, strip l ≠ sIfExact :=
    List.forall_mem_map.mpr fun x hx => render_pre_ne (noExactLine_lines hn hcs) (hpre x hx)
  rcases hm with ⟨hls, rfl, rfl, _⟩ | ⟨hls, ind, bl, rfl⟩
  · exact ⟨_, c, 0, hr, hc, by simpa [hls] using exactBranchText_none _ hnot⟩
  · refine ⟨_, c, ind + 1, hr, hc, ?_⟩
    rw [if_pos hls, emitSetup_add ha]
    simp only [if_true, List.map_append, List.map_cons, List.append_assoc, List.cons_append, List.nil_append]
    exact exactBranchText_split _ _ _ _ _ hnot ((strip_render_gen ind _).trans strip_sIfExact)
      (List.forall_mem_map.mpr fun x hx => by obtain ⟨n, v, _, rfl⟩ := mem_pinItems hx; exact render_pin_ne_else _ _ _ _)
      ((strip_render_gen ind _).trans strip_sElse)

end EupsModel.Expand
