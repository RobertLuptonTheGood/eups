import EupsModel.Lemmas.VroEntry
import EupsModel.Lemmas.VroUniq
/-! Lemmas about `selectVRO` (Model/Vro.lean): the two position relations in which "where the -t and -T tags end up" is
stated, `makeVroExact` and `kindly`, well-behaved tag names and the default configuration (`GoodTag`, `DefaultCfg`), the cleaned
VRO as a closed formula (`nw_cleanVro`).  `placeTags` has a module of its own (`Lemmas/VroPlace`). -/
namespace EupsModel.Vro

/-! ## list facts -/

theorem suffix_of_not_mem {y : Str} {X Z pre post : List Str} (h : X ++ Z = pre ++ y :: post) (hX : y ∉ X) :
    ∃ R, pre = X ++ R ∧ Z = R ++ y :: post := by
  rcases List.append_eq_append_iff.mp h with ⟨R, h1, h2⟩ | ⟨bs, h1, h2⟩
  · exact ⟨R, h1, h2⟩
  · cases bs with
    | nil => exact ⟨[], by simpa using h1.symm, by simpa using h2.symm⟩
    | cons b bs => cases h2; exact absurd (by simp [h1]) hX

theorem unique_split {y : Str} {X Y X' Y' : List Str} (h : X ++ y :: Y = X' ++ y :: Y')
    (hX : y ∉ X) (hY : y ∉ Y) : X' = X := by
  obtain ⟨R, rfl, h2⟩ := suffix_of_not_mem h hX
  cases R with
  | nil => simp
  | cons b bs => cases h2; exact absurd (by simp) hY

theorem filter_split {q : Str → Bool} {l pre post : List Str} {y : Str} (h : l.filter q = pre ++ y :: post) :
    ∃ A B, l = A ++ y :: B ∧ A.filter q = pre ∧ B.filter q = post := by
  obtain ⟨l1, l2, rfl, rfl, h2⟩ := List.filter_eq_append_iff.mp h
  obtain ⟨m1, m2, rfl, hm1, _, rfl⟩ := List.filter_eq_cons_iff.mp h2
  exact ⟨l1 ++ m1, m2, by simp, by simp [List.filter_eq_nil_iff.mpr hm1], rfl⟩

/-! ## the two position relations, and the list operations that keep them -/

/-- `t` occurs in `l` and everything before some occurrence — equivalently the first (`BeforeP.first`) — satisfies `P` -/
def BeforeP (P : Str → Prop) (t : Str) (l : List Str) : Prop :=
  ∃ pre post, l = pre ++ t :: post ∧ ∀ x ∈ pre, P x

/-- no version-type entry stands behind any occurrence of `y` in `l` — equivalently behind the first; unlike `BeforeP` it
does not say that `y` occurs -/
def NoVTBehind (y : Str) (l : List Str) : Prop :=
  ∀ pre post, l = pre ++ y :: post → ∀ x ∈ post, isVT x = false

theorem BeforeP.first {P : Str → Prop} {t : Str} {l : List Str} (h : BeforeP P t l) :
    ∃ A B, l = A ++ t :: B ∧ t ∉ A ∧ ∀ x ∈ A, P x := by
  obtain ⟨pre, post, rfl, hpre⟩ := h
  obtain ⟨A, B, hAB, hA⟩ := List.eq_append_cons_of_mem (show t ∈ pre ++ t :: post by simp)
  obtain ⟨R, rfl, _⟩ := suffix_of_not_mem hAB.symm hA
  exact ⟨A, B, hAB, hA, fun x hx => hpre x (List.mem_append_left _ hx)⟩

theorem BeforeP.filter {P : Str → Prop} {t : Str} {l : List Str} (h : BeforeP P t l) (q : Str → Bool)
    (ht : q t = true) : BeforeP P t (l.filter q) := by
  obtain ⟨pre, post, rfl, hpre⟩ := h
  refine ⟨pre.filter q, post.filter q, by simp [List.filter_append, ht], ?_⟩
  intro x hx
  exact hpre x (List.mem_filter.mp hx).1

theorem BeforeP.uniqFirst {P : Str → Prop} {t : Str} {l : List Str} (h : BeforeP P t l) :
    BeforeP P t (uniqFirst l) := by
  obtain ⟨A, B, rfl, hA, hP⟩ := h.first
  rw [uniqFirst_append, Vro.uniqFirst, List.filter_cons_of_pos (by simpa using hA)]
  exact ⟨Vro.uniqFirst A, _, rfl, fun x hx => hP x ((mem_uniqFirst x A).mp hx)⟩

theorem BeforeP.append {P : Str → Prop} {t : Str} {l : List Str} (h : BeforeP P t l) (m : List Str) :
    BeforeP P t (l ++ m) := by
  obtain ⟨pre, post, rfl, hpre⟩ := h
  exact ⟨pre, post ++ m, by simp, hpre⟩

theorem BeforeP.of_nw {P : Str → Prop} {t : Str} {l : List Str} (h : BeforeP P t (nw l))
    (hP : ∀ x, isWarn x = true → P x) : BeforeP P t l := by
  obtain ⟨pre, post, hf, hpre⟩ := h
  obtain ⟨A, B, rfl, rfl, _⟩ := filter_split hf
  refine ⟨A, B, rfl, fun x hx => ?_⟩
  cases hw : isWarn x
  · exact hpre x (List.mem_filter.mpr ⟨hx, by simp [hw]⟩)
  · exact hP x hw

theorem NoVTBehind.sublist {y : Str} {l l' : List Str} (h : NoVTBehind y l) (hs : l'.Sublist l) : NoVTBehind y l' := by
  intro pre post hsplit x hx
  subst hsplit
  obtain ⟨r1, r2, rfl, _, h2⟩ := List.append_sublist_iff.mp hs
  obtain ⟨s1, s2, rfl, hy, h3⟩ := List.cons_sublist_iff.mp h2
  obtain ⟨a, b, rfl⟩ := List.append_of_mem hy
  exact h (r1 ++ a) (b ++ s2) (by simp) x (List.mem_append_right _ (h3.subset hx))

/-- `NoVTBehind y` looks at `y` and the version-type entries only -/
theorem NoVTBehind.of_filter {y : Str} {l l' : List Str} (h : NoVTBehind y l)
    (hs : (l'.filter fun e => e == y || isVT e).Sublist l) : NoVTBehind y l' := by
  intro pre post hsplit x hx
  cases hv : isVT x
  · rfl
  · let q : Str → Bool := fun e => e == y || isVT e
    exact hv ▸ h.sublist hs (pre.filter q) (post.filter q) (by simp [hsplit, q]) x
      (List.mem_filter.mpr ⟨hx, by simp [q, hv]⟩)

theorem NoVTBehind.append {y : Str} {K M : List Str} (h : NoVTBehind y K) (hM : ∀ x ∈ M, isVT x = false) :
    NoVTBehind y (K ++ M) := by
  intro pre post hsplit x hx
  rcases List.append_eq_append_iff.mp hsplit with ⟨a', rfl, hM'⟩ | ⟨c', rfl, hc⟩
  · exact hM x (by rw [hM']; simp [hx])
  · cases c' with
    | nil => exact hM x (by rw [← List.nil_append M, ← hc]; simp [hx])
    | cons d c'' =>
      simp only [List.cons_append, List.cons.injEq] at hc
      obtain ⟨rfl, rfl⟩ := hc
      rcases List.mem_append.mp hx with hx | hx
      · exact h pre c'' rfl x hx
      · exact hM x hx

theorem NoVTBehind.of_not_mem {y : Str} {X Z : List Str} (hX : y ∉ X) (hZ : ∀ x ∈ Z, isVT x = false) :
    NoVTBehind y (X ++ Z) :=
  NoVTBehind.append (fun pre post h => absurd (by rw [h]; simp) hX) hZ

theorem NoVTBehind.not_mem_of_vt {y e : Str} {l1 l2 : List Str} (h : NoVTBehind y (l1 ++ e :: l2)) (he : isVT e = true)
    (hy : isVT y = false) : y ∉ l1 ++ [e] := by
  intro hm
  rcases List.mem_append.mp hm with hm | hm
  · obtain ⟨p1, p2, rfl⟩ := List.append_of_mem hm
    have := h p1 (p2 ++ e :: l2) (by simp) e (by simp)
    rw [he] at this; cases this
  · rw [List.mem_singleton.mp hm, he] at hy; cases hy

theorem isWarn_of_isVT {x : Str} (h : isVT x = true) : isWarn x = false := by
  rcases isVT_cases h with rfl | rfl | rfl <;> decide

theorem isVT_of_isWarn {x : Str} (h : isWarn x = true) : isVT x = false := by
  cases hv : isVT x
  · rfl
  · rw [isWarn_of_isVT hv] at h; cases h

theorem NoVTBehind.of_nw {y : Str} {l : List Str} (h : NoVTBehind y (nw l)) (hy : isWarn y = false) :
    NoVTBehind y l := by
  -- an entry that is `y` or a version entry is not a `warn` entry
  have : l.filter (fun e => e == y || isVT e) = (nw l).filter (fun e => e == y || isVT e) := by
    rw [← nw_filter]
    refine (List.filter_eq_self.mpr fun e he => ?_).symm
    rcases Bool.or_eq_true_iff.mp (List.mem_filter.mp he).2 with he | he
    · simp [beq_iff_eq.mp he, hy]
    · simp [isWarn_of_isVT he]
  exact h.of_filter (this ▸ List.filter_sublist)

/-! ## `makeVroExact` -/

theorem makeVroExact_shape (c : VroCfg) (cmd l : List Str) (hu : c.userVRO = false) :
    ∃ W, makeVroExact c cmd l =
        l.filter (fun e => !movedByExact c cmd e) ++ W ++ uniqFirst (l.filter (movedByExact c cmd)) ∧
      ∀ x ∈ W, x = kWarn1 := by
  unfold makeVroExact
  simp only [hu, Bool.false_eq_true, if_false]
  by_cases hm : (uniqFirst (l.filter (movedByExact c cmd))).isEmpty = true
  · refine ⟨[], ?_, by simp⟩
    have : uniqFirst (l.filter (movedByExact c cmd)) = [] := by simpa using hm
    simp [this]
  · simp only [hm, Bool.false_eq_true, if_false]
    split
    · exact ⟨[kWarn1], rfl, by simp⟩
    · exact ⟨[], rfl, by simp⟩

theorem nw_makeVroExact (c : VroCfg) (cmd v : List Str) (hu : c.userVRO = false) :
    nw (makeVroExact c cmd v) =
      (nw v).filter (fun e => !movedByExact c cmd e) ++ uniqFirst ((nw v).filter (movedByExact c cmd)) := by
  obtain ⟨W, hW, hW1⟩ := makeVroExact_shape c cmd v hu
  have : nw W = [] := List.filter_eq_nil_iff.mpr (fun x hx => by rw [hW1 x hx]; decide)
  rw [hW, nw_append, nw_append, this, List.append_nil, nw_filter, nw_uniqFirst, nw_filter]

/-! ## `kindly` -/

theorem kindlyGo_all_ok (c : VroCfg) (l : List Str) (h : ∀ x ∈ l, kindlyOne c x = .ok true) :
    kindlyGo c l = .ok (l, false) := by
  induction l with
  | nil => rfl
  | cons x xs ih =>
    simp [kindlyGo, h x (by simp), ih (fun y hy => h y (List.mem_cons_of_mem _ hy))]

/-- an empty list means "the preferred tags as they were" -/
theorem kindly_all_ok (c : VroCfg) (l : List Str) (h : ∀ x ∈ l, kindlyOne c x = .ok true) :
    kindly c l = .ok (if l.isEmpty then c.prevPreferred else l) := by
  unfold kindly
  rw [kindlyGo_all_ok c l h]
  cases l <;> simp

/-! ## the default configuration and well-behaved tag names -/

/-- a tag name as `-t` / `-T` accept it: a registered global tag that is not one of the words the
VRO machinery reserves -/
structure GoodTag (c : VroCfg) (t : Str) : Prop where
  global : c.globalTags.contains t = true
  notPseudo : pseudoTags.contains t = false
  noColon : t.contains colon = false
  notDefault : t ≠ kDefault

/-- the configuration of hooks.py: one dictionary entry, `default`; a fresh instance -/
structure DefaultCfg (c : VroCfg) : Prop where
  dict : c.vroDict = [(kDefault, .flat defaultBase)]
  user : c.userVRO = false
  cmd : c.cmdTags = []
  current : c.globalTags.contains kCurrent = true
  /-- `Tags.registerTag` refuses a name that is already registered in another group -/
  disjoint : ∀ t, c.globalTags.contains t = true → pseudoTags.contains t = false

/-- for a list of global tags that is given: `h` is decided -/
theorem disjoint_of_forall {globals : List Str} (h : ∀ t ∈ globals, pseudoTags.contains t = false) :
    ∀ t, globals.contains t = true → pseudoTags.contains t = false :=
  fun t ht => h t (List.contains_iff_mem.mp ht)

theorem GoodTag.ne_pseudo {c : VroCfg} {t k : Str} (g : GoodTag c t) (hk : pseudoTags.contains k = true) : t ≠ k := by
  intro h
  rw [h] at g
  rw [g.notPseudo] at hk
  cases hk

theorem GoodTag.isVT {c : VroCfg} {t : Str} (g : GoodTag c t) : isVT t = false := by
  cases h : Vro.isVT t
  · rfl
  · rcases isVT_cases h with h | h | h <;> exact absurd h (g.ne_pseudo (by decide))

theorem GoodTag.ne_typeExact {c : VroCfg} {t : Str} (g : GoodTag c t) : t ≠ kTypeExact := by
  intro h; have := g.noColon; rw [h] at this; revert this; decide

theorem not_prefix_of_noColon {p t : Str} (hp : colon ∈ p) (ht : t.contains colon = false) :
    p.isPrefixOf t = false := by
  cases h : p.isPrefixOf t
  · rfl
  · have := List.isPrefixOf_iff_prefix.mp h
    have hm : colon ∈ t := this.subset hp
    have : t.contains colon = true := by simpa using hm
    rw [ht] at this
    cases this

theorem GoodTag.isWarn {c : VroCfg} {t : Str} (g : GoodTag c t) : isWarn t = false := by
  unfold Vro.isWarn
  have h1 : (t == kWarn) = false := by
    apply Bool.eq_false_iff.mpr; intro h
    exact g.ne_pseudo (k := kWarn) (by decide) (by simpa using h)
  have h2 : kWarnColon.isPrefixOf t = false := not_prefix_of_noColon (by decide) g.noColon
  simp [h1, h2]

theorem GoodTag.isType {c : VroCfg} {t : Str} (g : GoodTag c t) : isType t = false := by
  unfold Vro.isType
  have h2 : kTypeColon.isPrefixOf t = false := not_prefix_of_noColon (by decide) g.noColon
  simp [h2]

theorem splitColon0_noColon {t : Str} (h : t.contains colon = false) : splitColon0 t = t := by
  unfold splitColon0
  apply takeWhile_all
  intro x hx
  have : colon ∉ t := by simpa using h
  have : x ≠ colon := fun hc => this (hc ▸ hx)
  simpa using this

theorem GoodTag.mem {c : VroCfg} {t : Str} (g : GoodTag c t) : t ∈ c.globalTags := by
  simpa using g.global

theorem GoodTag.recognized {c : VroCfg} {t : Str} (g : GoodTag c t) : c.recognized t = true := by
  simp [VroCfg.recognized, g.mem]

theorem recognized_pseudo (c : VroCfg) {k : Str} (hk : pseudoTags.contains k = true) : c.recognized k = true := by
  unfold VroCfg.recognized
  rw [hk]
  simp

theorem kindlyOne_plain {c : VroCfg} {t : Str} (hc : t.contains colon = false) (hr : c.recognized t = true) :
    kindlyOne c t = .ok true := by
  unfold kindlyOne
  rw [if_neg (by rw [not_prefix_of_noColon (by decide) hc]; nofun), if_neg (by rw [hc]; nofun),
    if_neg (by rw [hc]; nofun), hr]

theorem kindlyOne_qualified {c : VroCfg} {t : Str} (h1 : kFileColon.isPrefixOf t = false)
    (h2 : t.contains colon = true) (h3 : t.getLast? ≠ some colon) (h4 : countColons t = 1)
    (h5 : c.recognized (splitColon0 t) = true) : kindlyOne c t = .ok true := by
  unfold kindlyOne
  rw [if_neg (by rw [h1]; nofun), if_pos (by rw [h2]; simpa using h3), if_neg (by simp [h4]), h5]

theorem GoodTag.kindly {c : VroCfg} {t : Str} (g : GoodTag c t) : kindlyOne c t = .ok true :=
  kindlyOne_plain g.noColon g.recognized

theorem GoodTag.moved {c : VroCfg} {t : Str} (g : GoodTag c t) (cmd : List Str) :
    movedByExact c cmd t = !cmd.contains t := by
  unfold movedByExact
  simp [splitColon0_noColon g.noColon, g.recognized, VroCfg.isGlobal, g.mem]

theorem goodTag_current {c : VroCfg} (d : DefaultCfg c) : GoodTag c kCurrent :=
  ⟨d.current, by decide, by decide, by decide⟩

/-- neither notion looks at the `exact` flag, which `-e` sets on the instance before `selectVRO` runs (`setupCmdVro`) -/
theorem defaultCfg_exact {c : VroCfg} (dc : DefaultCfg c) (e : Bool) : DefaultCfg { c with exact := e } :=
  ⟨dc.dict, dc.user, dc.cmd, dc.current, dc.disjoint⟩

theorem goodTag_exact {c : VroCfg} {t : Str} (g : GoodTag c t) (e : Bool) : GoodTag { c with exact := e } t :=
  ⟨g.global, g.notPseudo, g.noColon, g.notDefault⟩

/-- the fixed words of the default VRO (and `keep`, `warn:1`) are recognised and never moved -/
def fixedWords : List Str := [kKeep, kTypeExact, kCommandLine, kVersion, kVersionExpr, kWarn1, kVersionBang]

theorem fixed_kindly {c : VroCfg} {e : Str} (he : e ∈ fixedWords) : kindlyOne c e = .ok true := by
  simp only [fixedWords, List.mem_cons, List.not_mem_nil, or_false] at he
  rcases he with rfl | rfl | rfl | rfl | rfl | rfl | rfl
  · exact kindlyOne_plain (by decide) (recognized_pseudo c (by decide))
  · exact kindlyOne_qualified (by decide) (by decide) (by decide) (by decide) (recognized_pseudo c (by decide))
  · exact kindlyOne_plain (by decide) (recognized_pseudo c (by decide))
  · exact kindlyOne_plain (by decide) (recognized_pseudo c (by decide))
  · exact kindlyOne_plain (by decide) (recognized_pseudo c (by decide))
  · exact kindlyOne_qualified (by decide) (by decide) (by decide) (by decide) (recognized_pseudo c (by decide))
  · exact kindlyOne_plain (by decide) (recognized_pseudo c (by decide))

/-- a dictionary list of fixed words with good tags behind them is accepted -/
theorem kindly_fixed_append {c : VroCfg} {F G : List Str} (hF : ∀ x ∈ F, x ∈ fixedWords)
    (hG : ∀ x ∈ G, GoodTag c x) : ∀ x ∈ F ++ G, kindlyOne c x = .ok true := fun x hx =>
  (List.mem_append.mp hx).elim (fun h => fixed_kindly (hF x h)) fun h => (hG x h).kindly

/-- pseudo tags are recognised, and they are not global tags (`hd`, see `DefaultCfg.disjoint`) -/
theorem not_moved_of_pseudo {c : VroCfg}
    (hd : ∀ t, c.globalTags.contains t = true → pseudoTags.contains t = false) (cmd : List Str) {e : Str}
    (hp : pseudoTags.contains (splitColon0 e) = true) : movedByExact c cmd e = false := by
  have hg : c.globalTags.contains (splitColon0 e) = false := by
    cases h : c.globalTags.contains (splitColon0 e)
    · rfl
    · rw [hd _ h] at hp; cases hp
  have hl : (splitColon0 e == kLatest) = false := by
    cases h : splitColon0 e == kLatest
    · rfl
    · rw [beq_iff_eq.mp h] at hp; revert hp; decide
  unfold movedByExact VroCfg.isGlobal
  simp only [recognized_pseudo c hp, hg, hl]
  simp

theorem fixed_not_moved {c : VroCfg}
    (hd : ∀ t, c.globalTags.contains t = true → pseudoTags.contains t = false) (cmd : List Str) {e : Str}
    (he : e ∈ fixedWords) : movedByExact c cmd e = false := by
  simp only [fixedWords, List.mem_cons, List.not_mem_nil, or_false] at he
  rcases he with rfl | rfl | rfl | rfl | rfl | rfl | rfl <;> exact not_moved_of_pseudo hd cmd (by decide)

theorem vt_not_moved {c : VroCfg}
    (hd : ∀ t, c.globalTags.contains t = true → pseudoTags.contains t = false)
    (cmd : List Str) {e : Str} (he : isVT e = true) : movedByExact c cmd e = false := by
  rcases isVT_cases he with rfl | rfl | rfl <;> exact fixed_not_moved hd cmd (by simp [fixedWords])

/-! ## the cleaned VRO

`cleanVro` = duplicates out and warnings merged, `makeVroExact` in exact mode, the `--inexact` filter.  With the `warn`
entries set aside it is a closed formula (`nw_cleanVro`); the position relations and membership are read off it, and
`warn` entries matter to neither (they are not version-type entries, and `_kindlySetPreferredTags` accepts them). -/

theorem IsW.kindly (c : VroCfg) {x : Str} (h : IsW x) : kindlyOne c x = .ok true := by
  obtain ⟨s, rfl, hne, hd⟩ := h
  have hnc : ∀ d ∈ s, d ≠ colon := fun d hm hc => by subst hc; exact absurd (hd _ hm) (by decide)
  apply kindlyOne_qualified
  · simp [kFileColon, kWarnColon, List.isPrefixOf]
  · simp [kWarnColon, colon]
  · rw [List.getLast?_append]
    cases hl : s.getLast? with
    | none => exact absurd (List.getLast?_eq_none_iff.mp hl) hne
    | some d => simpa using hnc d (List.mem_of_getLast? hl)
  · have : s.filter (· == colon) = [] := List.filter_eq_nil_iff.mpr (fun d hm => by simpa using hnc d hm)
    unfold countColons
    rw [List.filter_append, this]
    decide
  · have : splitColon0 (kWarnColon ++ s) = kWarn := by
      simp [splitColon0, kWarnColon, kWarn, colon, List.takeWhile]
    rw [this]
    exact recognized_pseudo c (by decide)

theorem isWarn_kindly (c : VroCfg) {x : Str} (h : isWarn x = true) : kindlyOne c x = .ok true := by
  rcases isWarn_cases h with rfl | h
  · exact kindlyOne_plain (by decide) (recognized_pseudo c (by decide))
  · exact h.kindly c

def inexF (inexact : Bool) (x : List Str) : List Str := if inexact then x.filter (· != kTypeExact) else x

/-- the exact-mode step on a list without repetitions, `warn` entries aside: a stable partition -/
def exactF (c : VroCfg) (cmd : List Str) (u : List Str) : List Str :=
  if c.exact then u.filter (fun e => !movedByExact c cmd e) ++ u.filter (movedByExact c cmd) else u

theorem mem_exactF {c : VroCfg} {cmd u : List Str} {x : Str} : x ∈ exactF c cmd u ↔ x ∈ u := by
  unfold exactF
  split
  · cases hm : movedByExact c cmd x <;> simp [hm]
  · rfl

theorem mem_inexF {inexact : Bool} {u : List Str} {x : Str} : x ∈ inexF inexact u ↔ x ∈ u ∧ (inexact = true → x ≠ kTypeExact) := by
  unfold inexF
  cases inexact <;> simp

theorem inexF_sublist (inexact : Bool) (u : List Str) : (inexF inexact u).Sublist u := by
  unfold inexF
  split
  · exact List.filter_sublist
  · exact .refl u

theorem nw_cleanVro {c : VroCfg} (hu : c.userVRO = false) (cmd : List Str) (inexact : Bool) (l : List Str) :
    nw (cleanVro c cmd inexact l) = inexF inexact (exactF c cmd (uniqFirst (nw l))) := by
  have h4 : nw (mergeWarnings none (dedupe [] l)) = uniqFirst (nw l) := by
    rw [nw_mergeWarnings, nw_dedupe, uniqDirs_nil_eq]
  unfold cleanVro inexF exactF
  simp only [hu, Bool.false_eq_true, if_false]
  have hx : nw (if c.exact then makeVroExact c cmd (mergeWarnings none (dedupe [] l))
      else mergeWarnings none (dedupe [] l)) =
      if c.exact then (uniqFirst (nw l)).filter (fun e => !movedByExact c cmd e) ++
        (uniqFirst (nw l)).filter (movedByExact c cmd) else uniqFirst (nw l) := by
    split
    · rw [nw_makeVroExact c cmd _ hu, h4, uniqFirst_filter, uniqFirst_idem]
    · exact h4
  split
  · rw [nw_filter, hx]
  · exact hx

theorem BeforeP.inexF {P : Str → Prop} {t : Str} {l : List Str} (h : BeforeP P t l) (inexact : Bool)
    (hne : t ≠ kTypeExact) : BeforeP P t (inexF inexact l) := by
  unfold Vro.inexF
  cases inexact
  · exact h
  · exact h.filter _ (by simpa using hne)

theorem NoVTBehind.exactF {c : VroCfg} {cmd u : List Str} {y : Str} (h : NoVTBehind y u)
    (hvt : ∀ x, isVT x = true → movedByExact c cmd x = false) : NoVTBehind y (exactF c cmd u) := by
  unfold Vro.exactF
  split
  · refine (h.sublist List.filter_sublist).append (fun x hx => ?_)
    cases hv : isVT x
    · rfl
    · have := (List.mem_filter.mp hx).2
      rw [hvt x hv] at this; cases this
  · exact h

theorem BeforeP.exactF {P : Str → Prop} {c : VroCfg} {cmd u : List Str} {t : Str} (h : BeforeP P t u)
    (ht : movedByExact c cmd t = false) : BeforeP P t (exactF c cmd u) := by
  unfold Vro.exactF
  split
  · exact (h.filter _ (by simp [ht])).append _
  · exact h

theorem BeforeP.cleanVro {c : VroCfg} {l : List Str} {P : Str → Prop} {t : Str} (h : BeforeP P t l)
    (hu : c.userVRO = false) (cmd : List Str) (inexact : Bool) (hP : ∀ x, isWarn x = true → P x) (hw : isWarn t = false)
    (hm : movedByExact c cmd t = false) (hne : t ≠ kTypeExact) : BeforeP P t (cleanVro c cmd inexact l) := by
  have : BeforeP P t (nw (Vro.cleanVro c cmd inexact l)) := by
    rw [nw_cleanVro hu]
    exact ((h.filter _ (by simp [hw])).uniqFirst.exactF hm).inexF inexact hne
  exact this.of_nw hP

theorem NoVTBehind.cleanVro {c : VroCfg} {l : List Str} {y : Str} (h : NoVTBehind y l) (hu : c.userVRO = false)
    (cmd : List Str) (inexact : Bool) (hw : isWarn y = false) (hvt : ∀ x, isVT x = true → movedByExact c cmd x = false) :
    NoVTBehind y (cleanVro c cmd inexact l) := by
  have h1 : NoVTBehind y (uniqFirst (nw l)) := h.sublist ((uniqFirst_sublist _).trans List.filter_sublist)
  have : NoVTBehind y (nw (Vro.cleanVro c cmd inexact l)) := by
    rw [nw_cleanVro hu]
    exact (h1.exactF hvt).sublist (inexF_sublist _ _)
  exact this.of_nw hw

theorem mem_cleanVro_iff {c : VroCfg} (hu : c.userVRO = false) (cmd : List Str) (inexact : Bool) {l : List Str} {x : Str}
    (hw : isWarn x = false) :
    x ∈ cleanVro c cmd inexact l ↔ x ∈ l ∧ (inexact = true → x ≠ kTypeExact) := by
  have : x ∈ cleanVro c cmd inexact l ↔ x ∈ nw (cleanVro c cmd inexact l) := by simp [nw, hw]
  rw [this, nw_cleanVro hu, mem_inexF, mem_exactF, mem_uniqFirst]
  simp [nw, hw]

theorem kindly_cleanVro {c : VroCfg} (hu : c.userVRO = false) (cmd : List Str) (inexact : Bool) {v3 : List Str}
    (hk : ∀ x ∈ v3, kindlyOne c x = .ok true) : ∀ x ∈ cleanVro c cmd inexact v3, kindlyOne c x = .ok true := by
  intro x hx
  cases hw : isWarn x
  · exact hk x ((mem_cleanVro_iff hu cmd inexact hw).mp hx).1
  · exact isWarn_kindly c hw

/-! ## `chooseBase` on a one-entry dictionary -/

theorem chooseBase_flat (c : VroCfg) (a : VroArgs) (hu : c.userVRO = false) (b : List Str)
    (hd : c.vroDict = [(kDefault, .flat b)]) {tags : List Str} (ht : ∀ t ∈ tags, t ≠ kDefault) :
    chooseBase c a tags = .ok (b, fun l' => [(kDefault, .flat l')]) := by
  unfold chooseBase
  rw [hd]
  have hfind : tags.find? (fun t => [kDefault].contains t) = none := by
    apply List.find?_eq_none.mpr
    intro t htm
    simp [ht t htm]
  have n1 : kPath ≠ kDefault := by decide +kernel
  have n2 : kCommandLine ≠ kDefault := by decide +kernel
  simp only [hu, Bool.false_eq_true, if_false, List.map_cons, List.map_nil, hfind]
  cases a.productDir <;> cases a.versionName <;> simp [lookupKey, setKey, n1, n2]

theorem chooseBase_default {c : VroCfg} (d : DefaultCfg c) (a : VroArgs) {tags : List Str}
    (ht : ∀ t ∈ tags, t ≠ kDefault) :
    ∃ store, chooseBase c a tags = .ok (defaultBase, store) :=
  ⟨_, chooseBase_flat c a d.user defaultBase d.dict ht⟩

end EupsModel.Vro
