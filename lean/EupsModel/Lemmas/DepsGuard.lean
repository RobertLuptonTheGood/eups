import EupsModel.Lemmas.Deps
import EupsModel.Lemmas.TopoTotal
/-! Termination of the table walk on every database (unsetup lines, cycles, missing table files) after the repair of
D32 (`_unsetupInProgress`): the nested listing of an unsetup line adds its product to the guard, which holds declared
products only, so listings nest at most `n + 1` deep and each recurses at most `n + 1` deep: the fuel `(n + 2)²`
suffices, and `getDependentProducts` and `usesInfo` are total.  (False for the pinned walk:
`C13_unsetup_cycle_pinned_witness`.) -/
namespace EupsModel.Deps

def declKeys (db : Db) : List (Str × Option Str) := db.decls.map fun d => (d.name, some d.ver)

/-- how many declared products the walk may still open -/
def unopened (db : Db) (seen : List (Str × Option Str)) : Nat := (declKeys db).countP fun k => !seen.contains k

theorem unopened_le (db : Db) (seen : List (Str × Option Str)) : unopened db seen ≤ db.decls.length := by
  unfold unopened declKeys
  exact Nat.le_trans (List.countP_le_length) (by simp)

theorem unopened_mono (db : Db) {s s' : List (Str × Option Str)} (h : ∀ k ∈ s, k ∈ s') :
    unopened db s' ≤ unopened db s := by
  unfold unopened
  apply List.countP_mono_left
  intro k _ hk
  simp only [Bool.not_eq_true', List.contains_eq_mem, decide_eq_false_iff_not] at hk ⊢
  exact fun hks => hk (h k hks)

theorem find_key_mem {db : Db} {n : Str} {v : Option Str} {p : Prod} (h : db.find n v = some p) :
    prodkey p ∈ declKeys db := by
  obtain ⟨v', rfl, hd⟩ := find_some h
  unfold Db.declared at hd
  simp only [List.any_eq_true, Bool.and_eq_true, beq_iff_eq] at hd
  obtain ⟨d, hd, h1, h2⟩ := hd
  exact List.mem_map.mpr ⟨d, hd, by rw [h1, h2]; rfl⟩

theorem resolve_key_mem {db : Db} {req : Required} {d : Dep} {p : Prod} (h : resolve db req d = some p) :
    prodkey p ∈ declKeys db := by
  unfold resolve at h
  split at h <;> exact find_key_mem h

theorem unopened_cons_lt (db : Db) {seen : List (Str × Option Str)} {k : Str × Option Str}
    (hk : k ∈ declKeys db) (hn : k ∉ seen) : unopened db (k :: seen) < unopened db seen := by
  unfold unopened
  apply Topo.countP_lt_of_witness
  · intro x _ hx
    simp only [Bool.not_eq_true', List.contains_eq_mem, decide_eq_false_iff_not, List.mem_cons, not_or] at hx ⊢
    exact hx.2
  · exact ⟨k, hk, by simpa using hn, by simp⟩

/-- every entry that stands for a declared product (flavor set) carries the key of a declared product -/
def RealDecl (db : Db) (l : List Entry) : Prop := ∀ e ∈ l, e.prod.real = true → prodkey e.prod ∈ declKeys db

theorem RealDecl.nil (db : Db) : RealDecl db [] := fun _ he => nomatch he

theorem RealDecl.append {db : Db} {a b : List Entry} (ha : RealDecl db a) (hb : RealDecl db b) :
    RealDecl db (a ++ b) := List.forall_mem_append.mpr ⟨ha, hb⟩

theorem RealDecl.filter {db : Db} {a : List Entry} (ha : RealDecl db a) (p : Entry → Bool) :
    RealDecl db (a.filter p) := fun e he => ha e (List.mem_filter.mp he).1

theorem RealDecl.cons {db : Db} {e : Entry} {l : List Entry}
    (he : e.prod.real = true → prodkey e.prod ∈ declKeys db) (hl : RealDecl db l) : RealDecl db (e :: l) :=
  List.forall_mem_cons.mpr ⟨he, hl⟩

/-- the call returns, has only added to the visited set `seen`, and every declared product in its output is declared -/
def Returns (db : Db) (seen : List (Str × Option Str)) (r : Option (List Entry × St)) : Prop :=
  ∃ out st', r = some (out, st') ∧ (∀ x ∈ seen, x ∈ st'.seen) ∧ RealDecl db out

theorem Returns.mono {db : Db} {seen0 seen : List (Str × Option Str)} {r : Option (List Entry × St)}
    (h0 : ∀ x ∈ seen0, x ∈ seen) (h : Returns db seen r) : Returns db seen0 r := by
  obtain ⟨out, st', h1, h2, h3⟩ := h
  exact ⟨out, st', h1, fun x hx => h2 x (h0 x hx), h3⟩

theorem depsLoop_total (db : Db) (req : Required)
    (recur : Prod → Nat → St → Option (List Entry × St)) (fresh : Prod → Option (List Str))
    (top : Prod) (recursive : Bool) (depth : Nat) (k : Nat)
    (hrec : ∀ p dp st, unopened db st.seen < k → Returns db st.seen (recur p dp st))
    (hfresh : ∀ p, p.real = true → prodkey p ∈ declKeys db → ∃ l, fresh p = some l)
    (ds acc st) (ha : RealDecl db acc) (hk : unopened db st.seen ≤ k) :
      Returns db st.seen (depsLoop db req recur fresh top recursive depth ds acc st) := by
  -- opening `p` leaves fewer products unopened
  have hopen : ∀ {d p} {st : St}, resolve db req d = some p → unopened db st.seen ≤ k →
      (recursive && !d.noRec && !st.seen.contains (prodkey p)) = true → unopened db (prodkey p :: st.seen) < k := by
    intro d p st hr hk hc
    simp only [Bool.and_eq_true, Bool.not_eq_true', List.contains_eq_mem, decide_eq_false_iff_not] at hc
    exact Nat.lt_of_lt_of_le (unopened_cons_lt db (resolve_key_mem hr) hc.2) hk
  fun_induction depsLoop db req recur fresh top recursive depth ds acc st with
  -- no line left
  | case1 acc st => exact ⟨acc, st, rfl, fun _ h => h, ha⟩
  -- unsetup: name not listed
  | case2 _ _ _ _ _ _ ih => exact ih ha hk
  -- unsetup: nested listing fails — but the nested listing of a declared product returns
  | case3 d _ acc _ _ e hf hnone =>
    split at hnone
    · rename_i hc
      simp only [Bool.and_eq_true] at hc
      obtain ⟨l, hl⟩ := hfresh e.prod hc.1 (ha e (List.mem_of_find?_eq_some hf) hc.1)
      rw [hl] at hnone
      cases hnone
    · cases hnone
  -- unsetup: entries filtered
  | case4 _ _ _ _ _ _ _ _ _ ih => exact ih (ha.filter _) hk
  -- unresolved
  | case5 _ _ _ _ _ _ _ _ ih => exact ih (ha.append (.cons (fun h => nomatch h) (.nil db))) hk
  -- table file missing
  | case6 d _ _ st _ _ p hr hc _ _ ih =>
    exact (ih (ha.append (.cons (fun _ => resolve_key_mem hr) (.cons (fun h => nomatch h) (.nil db))))
      (Nat.le_of_lt (hopen hr hk hc))).mono fun x hx => List.mem_cons_of_mem _ hx
  -- nested walk fails
  | case7 d _ _ st _ p hr hc _ hq =>
    obtain ⟨_, _, hq', _⟩ := hrec p (depth + 1) { st with seen := prodkey p :: st.seen } (hopen hr hk hc)
    rw [hq] at hq'
    cases hq'
  -- nested walk returns
  | case8 d _ _ st _ _ p hr hc _ sub st2 hq ih =>
    have hlt := hopen hr hk hc
    obtain ⟨_, _, hq', hmono, hsub⟩ := hrec p (depth + 1) { st with seen := prodkey p :: st.seen } hlt
    rw [hq] at hq'
    cases hq'
    exact (ih (ha.append (.cons (fun _ => resolve_key_mem hr) hsub))
      (Nat.le_trans (unopened_mono db hmono) (Nat.le_of_lt hlt))).mono fun x hx => hmono x (List.mem_cons_of_mem _ hx)
  -- not opened
  | case9 _ _ _ _ _ _ p hr _ ih => exact ih (ha.append (.cons (fun _ => resolve_key_mem hr) (.nil db))) hk

/-- **Termination on every database** (guarded walk): a call whose fuel exceeds
`(declared products without an unsetup listing in progress) · (n + 1) + (declared products not yet opened)`
completes. -/
theorem depsOfG_total (db : Db) :
    ∀ f g req top recursive depth st,
      unopened db g * (db.decls.length + 1) + unopened db st.seen < f →
      Returns db st.seen (depsOfG db f g req top recursive depth st) := by
  intro f
  induction f with
  | zero => intro g req top recursive depth st h; omega
  | succ k ih =>
    intro g req top recursive depth st h
    unfold depsOfG
    generalize hM : unopened db g * (db.decls.length + 1) = M at h
    apply depsLoop_total db req _ _ top recursive depth (k - M)
    · intro p dp st1 hlt
      exact ih g req p true dp st1 (by rw [hM]; omega)
    · intro p _ hkey
      by_cases hg : g.contains (prodkey p) = true
      · exact ⟨[], by rw [if_pos hg]⟩
      · simp only [hg, Bool.false_eq_true, if_false]
        have hnot : prodkey p ∉ g := by simpa using hg
        have hlt := unopened_cons_lt db hkey hnot
        have hmul : (unopened db (prodkey p :: g) + 1) * (db.decls.length + 1) ≤ M := by
          rw [← hM]; exact Nat.mul_le_mul_right _ hlt
        have hle := unopened_le db St.empty.seen
        rw [Nat.add_mul] at hmul
        obtain ⟨out, st', hq, _, _⟩ := ih (prodkey p :: g) [] p true 0 St.empty (by omega)
        exact ⟨_, by rw [hq]; rfl⟩
    · exact RealDecl.nil db
    · simp only; omega

theorem fuel_enough_guarded (db : Db) :
    unopened db [] * (db.decls.length + 1) + unopened db St.empty.seen < db.fuel := by
  have h1 := unopened_le db St.empty.seen
  have h2 := unopened_le db []
  have h3 : unopened db [] * (db.decls.length + 1) ≤ db.decls.length * (db.decls.length + 1) :=
    Nat.mul_le_mul_right _ h2
  unfold Db.fuel
  generalize db.decls.length = n at *
  have : (n + 2) * (n + 2) = n * (n + 1) + (3 * n + 4) := by
    simp only [Nat.mul_add, Nat.add_mul]; omega
  omega

theorem depsOf_total (db : Db) (req : Required) (top : Prod) (recursive : Bool) (depth : Nat) :
    ∃ out st', depsOf db db.fuel req top recursive depth St.empty = some (out, st') := by
  obtain ⟨out, st', h, _, _⟩ := depsOfG_total db db.fuel [] req top recursive depth St.empty (fuel_enough_guarded db)
  exact ⟨out, st', h⟩

theorem listing_total (db : Db) (req : Required) (top : Prod) :
    ∃ out st, listing db db.fuel req top = some (out, st) := by
  obtain ⟨o, st, h⟩ := depsOf_total db req top true 1
  exact ⟨o.filter (fun e => e.prod != top), st, by simp [listing, h]⟩

theorem getDependentProducts_total (db : Db) (top : Prod) (topological cc : Bool) :
    (∃ out, getDependentProducts db db.fuel top topological cc = .ok out) ∨
      (cc = true ∧ getDependentProducts db db.fuel top topological cc = .cycle) := by
  by_cases hm : db.tableMissing top = true
  · exact .inl ⟨[], by simp [getDependentProducts, hm]⟩
  obtain ⟨out1, st1, h1⟩ := listing_total db [] top
  obtain ⟨out2, st2, h2⟩ := listing_total db (pinsOf out1) top
  rw [getDependentProducts_eq (by simpa using hm) h1, h2]
  split
  · exact .inl ⟨_, rfl⟩
  · rcases Topo.topologicalSort_total (graphOf st2) cc with ⟨ls, hls⟩ | ⟨hcc, hcy⟩
    · simp only [hls]; exact .inl ⟨_, rfl⟩
    · simp only [hcy]; exact .inr ⟨hcc, trivial⟩

theorem getDependentProducts_returns (db : Db) (top : Prod) (topological : Bool) :
    ∃ out, getDependentProducts db db.fuel top topological false = .ok out :=
  (getDependentProducts_total db top topological false).resolve_right (by simp)

theorem usesInfo_go_total (db : Db) (ds : List Decl) (sb0 : SetupBy) :
    ∃ sb, usesInfo.go db db.fuel ds sb0 = .ok sb := by
  fun_induction usesInfo.go db db.fuel ds sb0 with
  | case1 => exact ⟨_, rfl⟩
  | case2 d _ _ h | case3 d _ _ h =>
    obtain ⟨l, hl⟩ := getDependentProducts_returns db ⟨d.name, some d.ver, true⟩ true
    rw [hl] at h; cases h
  | case4 _ _ _ _ _ ih => exact ih

theorem usesInfo_total (db : Db) : ∃ sb, usesInfo db db.fuel = .ok sb :=
  usesInfo_go_total db _ _

end EupsModel.Deps
