import EupsModel.Lemmas.VersionCmp
/-! `Eups.version_match` (C10) on every text its parser reads as a chain of terms — an explicit operator or none
(implicit `==`), joined by `||`, `or`, `&&`, `and`, blanks wherever the splitting pattern `\s*(<=?|>=?|==|\|\||\s)\s*`
allows them: the tokeniser on such a text and on what may follow it (`Reads`), the loop on its tokens, what the loop
computes in closed form.  `render` (`op v || op v …`, single blanks) is the instance `render_eq_renderG`. -/
namespace EupsModel.VersionCmp
open EupsModel

/-- a character of a well-formed name: `[A-Za-z0-9._+-]` -/
def nameChar (c : Nat) : Bool := Str.isAlnum c || c == 46 || c == 95 || c == 43 || c == 45
def wfName (v : Str) : Prop := v ≠ [] ∧ ∀ c ∈ v, nameChar c = true
def isRelop (op : Str) : Prop := op = opLt ∨ op = opLe ∨ op = opEq ∨ op = opGe ∨ op = opGt

theorem isRelop_opEq : isRelop opEq := .inr (.inr (.inl rfl))

/-- a term `op v` -/
abbrev Term := Str × Str
def WfTerm (t : Term) : Prop := isRelop t.1 ∧ wfName t.2

def renderTerm (t : Term) : Str := t.1 ++ 32 :: t.2
/-- ` || op v || op v …` -/
def tailRender : List Term → Str
  | [] => []
  | t :: ts => [32, 124, 124, 32] ++ (renderTerm t ++ tailRender ts)
def render (t : Term) (ts : List Term) : Str := renderTerm t ++ tailRender ts

def isWs (w : Str) : Prop := ∀ c ∈ w, Str.isSpace c = true

inductive Conn | barbar | orW | ampamp | andW
  deriving DecidableEq, Repr

def Conn.str : Conn → Str
  | .barbar => sBarBar | .orW => sOr | .ampamp => sAmpAmp | .andW => sAnd

def Conn.op : Conn → LogOp
  | .barbar => .or | .orW => .or | .ampamp => .and | .andW => .and

/-- a term: `op gap name`, or a bare `name` (`op = none`, read as `== name`) -/
structure GTerm where
  op : Option Str
  gap : Str
  name : Str

/-- a logical operator with the blanks around it, and the term that follows -/
structure Link where
  pre : Str
  conn : Conn
  post : Str
  term : GTerm

def GTerm.opText (t : GTerm) : Str :=
  match t.op with
  | some o => o ++ t.gap
  | none => []

def GTerm.render (t : GTerm) : Str := t.opText ++ t.name

def renderLinks : List Link → Str
  | [] => []
  | l :: ls => l.pre ++ (l.conn.str ++ (l.post ++ (l.term.render ++ renderLinks ls)))

/-- the text: blanks, a term, operators and terms, blanks -/
def renderG (lead : Str) (t : GTerm) (ls : List Link) (trail : Str) : Str :=
  lead ++ (t.render ++ (renderLinks ls ++ trail))

def GTerm.Wf (t : GTerm) : Prop :=
  wfName t.name ∧ isWs t.gap ∧ (∀ o, t.op = some o → isRelop o) ∧ (t.op = none → t.name ≠ sAnd ∧ t.name ≠ sOr)

/-- `or`, `and` and `&&` need a blank on either side: the splitting pattern does not know them -/
def Link.Wf (l : Link) : Prop :=
  isWs l.pre ∧ isWs l.post ∧ l.term.Wf ∧ (l.conn ≠ .barbar → l.pre ≠ [] ∧ l.post ≠ [])

theorem Link.Wf.term {l : Link} (h : l.Wf) : l.term.Wf := h.2.2.1

def GTerm.opToks (t : GTerm) : List Str :=
  match t.op with
  | some o => [o]
  | none => []

def linkToks : List Link → List Str
  | [] => []
  | l :: ls => l.conn.str :: (l.term.opToks ++ l.term.name :: linkToks ls)

def GTerm.term (t : GTerm) : Term := (t.op.getD opEq, t.name)

def gTerm (t : Term) : GTerm := ⟨some t.1, [32], t.2⟩
def gLink (t : Term) : Link := ⟨[32], .barbar, [32], gTerm t⟩

theorem render_eq_renderG (t : Term) (ts : List Term) : render t ts = renderG [] (gTerm t) (ts.map gLink) [] := by
  have : ∀ ts : List Term, tailRender ts = renderLinks (ts.map gLink) := by
    intro ts
    induction ts with
    | nil => rfl
    | cons a as ih => simp [tailRender, renderLinks, ih, gLink, gTerm, GTerm.render, GTerm.opText, renderTerm, Conn.str, sBarBar]
  simp [render, renderG, this, gTerm, GTerm.render, GTerm.opText, renderTerm]

theorem chain_terms (t : Term) (ts : List Term) : gTerm t :: (ts.map gLink).map Link.term = (t :: ts).map gTerm := by
  simp [List.map_map, Function.comp_def, gLink]

theorem isWs_nil : isWs [] := fun _ h => nomatch h

theorem isWs_blank : isWs [32] := by intro c hc; simp at hc; subst hc; decide

theorem gTerm_wf {t : Term} (h : WfTerm t) : (gTerm t).Wf :=
  ⟨h.2, isWs_blank, fun _ ho => by cases ho; exact h.1, fun ho => by cases ho⟩

theorem gLink_wf {t : Term} (h : WfTerm t) : (gLink t).Wf :=
  ⟨isWs_blank, isWs_blank, gTerm_wf h, fun hc => absurd rfl hc⟩

def flush (cur : Str) : List Str := if cur.isEmpty then [] else [cur.reverse]

theorem flush_reverse {v : Str} (hv : v ≠ []) : flush v.reverse = [v] := by
  cases v with
  | nil => exact absurd rfl hv
  | cons a as => simp [flush]

/-- a character that neither splits nor starts an operator: no blank, none of `<` (60), `=` (61), `>` (62), `|` (124) -/
def wordChar (c : Nat) : Prop := Str.isSpace c = false ∧ c ≠ 60 ∧ c ≠ 61 ∧ c ≠ 62 ∧ c ≠ 124

theorem wordChar.not_rel {c : Nat} (h : wordChar c) : c ≠ 60 ∧ c ≠ 61 ∧ c ≠ 62 := ⟨h.2.1, h.2.2.1, h.2.2.2.1⟩

theorem nameChar_plain {c : Nat} (h : nameChar c = true) : wordChar c := by
  simp [wordChar, nameChar, Str.isAlnum, Str.isAlpha, Str.isUpper, Str.isLower, Str.isDigit, Str.isSpace] at *
  omega

theorem opLen_plain {c : Nat} {xs : Str} (h1 : c ≠ 60) (h2 : c ≠ 61) (h3 : c ≠ 62) (h4 : c ≠ 124) :
    opLen (c :: xs) = 0 :=
  opLen.eq_7 _ (fun _ e => h1 (List.cons.inj e).1) (fun _ e => h1 (List.cons.inj e).1) (fun _ e => h3 (List.cons.inj e).1)
    (fun _ e => h3 (List.cons.inj e).1) (fun _ e => h2 (List.cons.inj e).1) (fun _ e => h4 (List.cons.inj e).1)

/-- an operator of the splitting pattern is read whole when no character that would lengthen it follows -/
theorem opLen_op {op : Str} (hop : isRelop op ∨ op = sBarBar) (rest : Str)
    (hnext : (op = opLt ∨ op = opGt) → rest.head? ≠ some 61) : opLen (op ++ rest) = op.length := by
  rcases hop with (rfl | rfl | rfl | rfl | rfl) | rfl
  · exact opLen.eq_2 rest fun _ e => hnext (Or.inl rfl) (by rw [e]; rfl)
  · rfl
  · rfl
  · rfl
  · exact opLen.eq_4 rest fun _ e => hnext (Or.inr rfl) (by rw [e]; rfl)
  · rfl

theorem tokGo_word (v cur rest : Str) (hv : ∀ c ∈ v, wordChar c) :
    tokGo 0 cur (v ++ rest) = tokGo 0 (v.reverse ++ cur) rest := by
  induction v generalizing cur with
  | nil => rfl
  | cons c cs ih =>
    obtain ⟨hs, h1, h2, h3, h4⟩ := hv c (by simp)
    rw [List.cons_append, tokGo, hs, if_neg (by simp), opLen_plain h1 h2 h3 h4, if_neg (by simp),
      ih (c :: cur) (fun x hx => hv x (by simp [hx]))]
    simp

/-- read in any state, `rest` ends the word being collected (if there is one) and gives the tokens `T` -/
def Reads (rest : Str) (T : List Str) : Prop := ∀ cur, tokGo 0 cur rest = flush cur ++ T

theorem Reads.tokenize_eq {rest : Str} {T : List Str} (h : Reads rest T) : tokenize rest = T := h []

theorem Reads.nil : Reads [] [] := fun cur => by simp [tokGo, flush]

theorem tokenize_ws {w : Str} (hw : isWs w) (rest : Str) : tokenize (w ++ rest) = tokenize rest := by
  induction w with
  | nil => rfl
  | cons c cs ih =>
    rw [tokenize, List.cons_append, tokGo, hw c (by simp), if_pos rfl, if_pos (by rfl)]
    exact ih (fun x hx => hw x (by simp [hx]))

theorem Reads.space {w : Str} (hw : isWs w) (hne : w ≠ []) (rest : Str) : Reads (w ++ rest) (tokenize rest) := fun cur => by
  cases w with
  | nil => exact absurd rfl hne
  | cons c cs =>
    have hrest : tokGo 0 [] (cs ++ rest) = tokenize rest := tokenize_ws (fun x hx => hw x (by simp [hx])) rest
    rw [List.cons_append, tokGo, hw c (by simp), if_pos rfl, hrest, flush]
    split <;> rfl

theorem Reads.ws {w rest : Str} {T : List Str} (hw : isWs w) (h : Reads rest T) : Reads (w ++ rest) T := by
  by_cases hne : w = []
  · subst hne; exact h
  · rw [← h.tokenize_eq]; exact Reads.space hw hne rest

theorem Reads.blanks {w : Str} (hw : isWs w) : Reads w [] := by simpa using Reads.ws hw Reads.nil

theorem tokGo_skip (ys rest : Str) : tokGo ys.length [] (ys ++ rest) = tokGo 0 [] rest := by
  induction ys with
  | nil => rfl
  | cons y ys ih => exact ih

theorem Reads.op {op : Str} (hop : isRelop op ∨ op = sBarBar) (rest : Str)
    (hnext : (op = opLt ∨ op = opGt) → rest.head? ≠ some 61) : Reads (op ++ rest) (op :: tokenize rest) := fun cur => by
  have hl := opLen_op hop rest hnext
  obtain ⟨c, cs, rfl, hs⟩ : ∃ c cs, op = c :: cs ∧ Str.isSpace c = false := by
    rcases hop with (rfl | rfl | rfl | rfl | rfl) | rfl <;> exact ⟨_, _, rfl, by decide⟩
  rw [List.cons_append] at hl ⊢
  rw [tokGo, hs, if_neg (by simp), hl, if_pos (by simp), List.length_cons, Nat.add_sub_cancel, tokGo_skip,
    List.take_succ_cons, List.take_left' rfl]
  rfl

theorem head?_ws_ne {w rest : Str} (hw : isWs w) (hr : rest.head? ≠ some 61) : (w ++ rest).head? ≠ some 61 := by
  cases w with
  | nil => exact hr
  | cons c cs =>
    have := hw c (by simp)
    simp only [List.cons_append, List.head?_cons, ne_eq, Option.some.injEq]
    intro e; subst e; simp [Str.isSpace] at this

theorem head?_name_ne {v : Str} (hv : wfName v) (rest : Str) : (v ++ rest).head? ≠ some 61 := by
  obtain ⟨a, as, rfl⟩ := List.exists_cons_of_ne_nil hv.1
  simpa using (nameChar_plain (hv.2 a (by simp))).2.2.1

theorem tokenize_word {v : Str} (hv : ∀ c ∈ v, wordChar c) (hne : v ≠ []) {rest : Str} {T : List Str} (hr : Reads rest T) :
    tokenize (v ++ rest) = v :: T := by
  rw [tokenize, tokGo_word v [] rest hv, List.append_nil, hr, flush_reverse hne]; rfl

theorem tokenize_term {t : GTerm} (ht : t.Wf) {rest : Str} {T : List Str} (hr : Reads rest T) :
    tokenize (t.render ++ rest) = t.opToks ++ t.name :: T := by
  obtain ⟨hn, hg, ho, _⟩ := ht
  have hname := tokenize_word (fun c hc => nameChar_plain (hn.2 c hc)) hn.1 hr
  cases hop : t.op with
  | none => simpa only [GTerm.render, GTerm.opText, GTerm.opToks, hop, List.nil_append] using hname
  | some o =>
    simp only [GTerm.render, GTerm.opText, GTerm.opToks, hop, List.append_assoc]
    rw [(Reads.op (Or.inl (ho o hop)) _ fun _ => head?_ws_ne hg (head?_name_ne hn rest)).tokenize_eq, tokenize_ws hg, hname]
    rfl

theorem conn_word (c : Conn) (hc : c ≠ .barbar) : ∀ x ∈ c.str, wordChar x := by
  cases c <;> first | exact absurd rfl hc | (unfold wordChar; decide)

theorem Reads.links {rest : Str} {T : List Str} (hr : Reads rest T) (ls : List Link) (hls : ∀ l ∈ ls, l.Wf) :
    Reads (renderLinks ls ++ rest) (linkToks ls ++ T) := by
  induction ls with
  | nil => exact hr
  | cons l ls ih =>
    obtain ⟨hpre, hpost, hterm, hword⟩ := hls l (by simp)
    simp only [renderLinks, linkToks, List.append_assoc, List.cons_append]
    rw [← tokenize_term hterm (ih fun x hx => hls x (by simp [hx]))]
    by_cases hb : l.conn = .barbar
    · -- `||`: the blanks before and after it are optional
      rw [hb, ← tokenize_ws hpost]
      exact Reads.ws hpre (Reads.op (Or.inr rfl) _ (by intro h; rcases h with h | h <;> cases h))
    · -- a word: ended by the blanks around it
      obtain ⟨hp, hq⟩ := hword hb
      have hc : l.conn.str ≠ [] := by cases l.conn <;> simp [Conn.str, sOr, sAnd, sAmpAmp, sBarBar]
      rw [← tokenize_word (conn_word l.conn hb) hc (Reads.space hpost hq _)]
      exact Reads.space hpre hp _

theorem tokenize_renderG {lead : Str} {t : GTerm} {ls : List Link} {rest : Str} {T : List Str}
    (hlead : isWs lead) (ht : t.Wf) (hls : ∀ l ∈ ls, l.Wf) (hT : Reads rest T) :
    tokenize (renderG lead t ls rest) = t.opToks ++ t.name :: (linkToks ls ++ T) := by
  rw [renderG, tokenize_ws hlead, tokenize_term ht (hT.links ls hls)]

theorem Reads.dangling {trail op trail2 : Str} (ht : isWs trail) (hop : isRelop op) (ht2 : isWs trail2) :
    Reads (trail ++ (op ++ trail2)) [op] := by
  have := Reads.op (Or.inl hop) trail2 fun _ => by simpa using head?_ws_ne ht2 (rest := []) (by simp)
  rw [(Reads.blanks ht2).tokenize_eq] at this
  exact Reads.ws ht this

theorem Reads.junk {w1 junk w2 : Str} (h1 : isWs w1) (hne1 : w1 ≠ []) (hj : ∀ c ∈ junk, wordChar c)
    (hjne : junk ≠ []) (h2 : isWs w2) (hne2 : w2 ≠ []) (more : Str) :
    Reads (w1 ++ (junk ++ (w2 ++ more))) (junk :: tokenize more) := by
  rw [← tokenize_word hj hjne (Reads.space h2 hne2 more)]; exact Reads.space h1 hne1 _

theorem Reads.juxt {w1 trail : Str} {t2 : GTerm} (h1 : isWs w1) (hne1 : w1 ≠ []) (ht2 : t2.Wf) (htr : isWs trail) :
    Reads (w1 ++ (t2.render ++ trail)) (t2.opToks ++ [t2.name]) := by
  rw [← tokenize_term ht2 (Reads.blanks htr)]; exact Reads.space h1 hne1 _

/-- the term holds in the order `cmp` (false when the comparison fails) -/
def termHolds (cmp : Str → Str → Except Err Int) (x : Str) (t : Term) : Bool :=
  match cmp x t.2 with
  | .ok r => relHolds t.1 r == some true
  | .error _ => false

theorem hasRelop_relop {op : Str} (h : isRelop op) : hasRelop op = true := by
  rcases h with rfl | rfl | rfl | rfl | rfl <;> decide

theorem hasRelop_append_left (a b : Str) (h : ∀ c ∈ a, c ≠ 60 ∧ c ≠ 61 ∧ c ≠ 62) : hasRelop (a ++ b) = hasRelop b := by
  induction a with
  | nil => rfl
  | cons c cs ih =>
    obtain ⟨h1, h2, h3⟩ := h c (by simp)
    simp [hasRelop, h1, h2, h3, ih (fun x hx => h x (by simp [hx]))]

theorem hasRelop_none (s : Str) (h : ∀ c ∈ s, c ≠ 60 ∧ c ≠ 61 ∧ c ≠ 62) : hasRelop s = false := by
  simpa [hasRelop] using hasRelop_append_left s [] h

theorem nameChar_not_rel {c : Nat} (h : nameChar c = true) : c ≠ 60 ∧ c ≠ 61 ∧ c ≠ 62 := (nameChar_plain h).not_rel

theorem hasRelop_name {v : Str} (hv : ∀ c ∈ v, nameChar c = true) : hasRelop v = false :=
  hasRelop_none v fun c hc => nameChar_not_rel (hv c hc)

theorem plainTok_name {v : Str} (hv : wfName v) : plainTok v = true := by
  obtain ⟨hne, hc⟩ := hv
  cases v with
  | nil => exact absurd rfl hne
  | cons a as =>
    simp only [plainTok, List.isEmpty_cons, Bool.not_false, Bool.true_and, List.all_eq_true]
    intro c hcm
    have := hc c hcm
    simp only [nameChar, Bool.or_eq_true] at this
    simp only [Bool.or_eq_true]
    rcases this with (((h | h) | h) | h) | h <;> simp [h]

/-- the code's local function `term`: one term `relop v` met by the loop in the state `lg`, `val`, the loop continuing with `k` -/
def evalTerm (cmp : Str → Str → Except Err Int) (x : Str) (lg : Option LogOp) (val : Option Bool) (relop v : Str)
    (k : Option LogOp → Option Bool → Except Err Bool) : Except Err Bool :=
  if lg.isNone && val.isSome then k lg val
  else match matchPrim cmp relop x v with
    | .error .unsortable => .ok false
    | .error e => .error e
    | .ok rhs =>
      match lg with
      | none => k lg rhs
      | some .and => k lg (some (val == some true && rhs == some true))
      | some .or => if val == some true || rhs == some true then .ok true else k lg (some false)

theorem matchLoop_cons (cmp : Str → Str → Except Err Int) (x t : Str) (rest : List Str) (lg : Option LogOp)
    (val : Option Bool) :
    matchLoop cmp x (t :: rest) lg val =
      if hasRelop t then
        match rest with
        | [] => .error .indexError
        | v :: rest' => evalTerm cmp x lg val t v (matchLoop cmp x rest')
      else if plainTok t && t != sAnd && t != sOr then evalTerm cmp x lg val opEq t (matchLoop cmp x rest)
      else if t == sBarBar || t == sOr then matchLoop cmp x rest (some .or) val
      else if t == sAmpAmp || t == sAnd then
        (if val == some true then matchLoop cmp x rest (some .and) val else .ok false)
      else .ok (val == some true) := by
  rw [matchLoop.eq_def]; rfl

theorem relHolds_some {op : Str} (hop : isRelop op) (r : Int) : ∃ b, relHolds op r = some b := by
  rcases hop with rfl | rfl | rfl | rfl | rfl <;> exact ⟨_, rfl⟩

theorem relHolds_termHolds {cmp : Str → Str → Except Err Int} {x : Str} {t : Term} (hop : isRelop t.1) {r : Int}
    (hr : cmp x t.2 = .ok r) : relHolds t.1 r = some (termHolds cmp x t) := by
  obtain ⟨b, hb⟩ := relHolds_some hop r
  simp only [termHolds, hr, hb]
  cases b <;> rfl

theorem evalTerm_ok {cmp : Str → Str → Except Err Int} {x : Str} {t : Term} (hop : isRelop t.1) {r : Int}
    (hr : cmp x t.2 = .ok r) (lg : Option LogOp) (v : Option Bool) (hskip : ¬ (lg = none ∧ v.isSome = true))
    {k : Option LogOp → Option Bool → Except Err Bool} :
    evalTerm cmp x lg v t.1 t.2 k =
      match lg with
      | none => k lg (some (termHolds cmp x t))
      | some .and => k lg (some (v == some true && termHolds cmp x t))
      | some .or => if v == some true || termHolds cmp x t then .ok true else k lg (some false) := by
  have hsk : (lg.isNone && v.isSome) = false := by
    cases lg <;> cases v <;> simp_all
  simp only [evalTerm, hsk, Bool.false_eq_true, if_false, matchPrim, hr, relHolds_termHolds hop hr]
  cases lg with
  | none => rfl
  | some g => cases g <;> simp

theorem GTerm.term_relop {t : GTerm} (ht : t.Wf) : isRelop t.term.1 := by
  obtain ⟨_, _, ho, _⟩ := ht
  cases hop : t.op with
  | none => simp only [GTerm.term, hop, Option.getD_none]; exact isRelop_opEq
  | some o => simp only [GTerm.term, hop, Option.getD_some]; exact ho o hop

theorem matchLoop_opToks {cmp : Str → Str → Except Err Int} {x : Str} {t : GTerm} (ht : t.Wf) {rest : List Str}
    {lg : Option LogOp} {v : Option Bool} :
    matchLoop cmp x (t.opToks ++ t.name :: rest) lg v = evalTerm cmp x lg v t.term.1 t.term.2 (matchLoop cmp x rest) := by
  obtain ⟨hn, _, ho, hbare⟩ := ht
  cases hop : t.op with
  | some o =>
    simp only [GTerm.opToks, GTerm.term, hop, List.cons_append, List.nil_append, Option.getD_some]
    rw [matchLoop_cons, if_pos (hasRelop_relop (ho o hop))]
  | none =>
    obtain ⟨hna, hno⟩ := hbare hop
    simp only [GTerm.opToks, GTerm.term, hop, List.nil_append, Option.getD_none]
    rw [matchLoop_cons, if_neg (by simp [hasRelop_name hn.2]), if_pos (by simp [plainTok_name hn, hna, hno])]

theorem matchLoop_term {cmp : Str → Str → Except Err Int} {x : Str} {t : GTerm} (ht : t.Wf) {rest : List Str}
    {r : Int} (hr : cmp x t.name = .ok r) (lg : Option LogOp) (v : Option Bool) (hskip : ¬ (lg = none ∧ v.isSome = true)) :
    matchLoop cmp x (t.opToks ++ t.name :: rest) lg v =
      match lg with
      | none => matchLoop cmp x rest lg (some (termHolds cmp x t.term))
      | some .and => matchLoop cmp x rest lg (some (v == some true && termHolds cmp x t.term))
      | some .or => if v == some true || termHolds cmp x t.term then .ok true else matchLoop cmp x rest lg (some false) := by
  rw [matchLoop_opToks ht, evalTerm_ok (GTerm.term_relop ht) hr lg v hskip]

/-- a term where a logical operator is expected ("Expected logical operator || or &&"): skipped, not even compared -/
theorem matchLoop_term_skip {cmp : Str → Str → Except Err Int} {x : Str} {t : GTerm} (ht : t.Wf) {rest : List Str}
    {b : Bool} :
    matchLoop cmp x (t.opToks ++ t.name :: rest) none (some b) = matchLoop cmp x rest none (some b) := by
  rw [matchLoop_opToks ht]; rfl

theorem versionMatch_term {x : Str} {t : GTerm} (ht : t.Wf) :
    versionMatch x (renderG [] t [] []) =
      evalTerm (stdCompare true) x none none t.term.1 t.term.2 (matchLoop (stdCompare true) x []) := by
  rw [versionMatch, tokenize_renderG isWs_nil ht (by simp) Reads.nil, matchLoop_opToks ht]
  rfl

theorem matchLoop_conn (cmp : Str → Str → Except Err Int) (x : Str) (c : Conn) (rest : List Str)
    (lg : Option LogOp) (b : Bool) :
    matchLoop cmp x (c.str :: rest) lg (some b) =
      match c.op with
      | .or => matchLoop cmp x rest (some .or) (some b)
      | .and => if b then matchLoop cmp x rest (some .and) (some b) else .ok false := by
  have ⟨h1, h2, h3, h4⟩ : hasRelop c.str = false ∧ (plainTok c.str && c.str != sAnd && c.str != sOr) = false ∧
      (c.str == sBarBar || c.str == sOr) = (c.op == .or) ∧ (c.str == sAmpAmp || c.str == sAnd) = (c.op == .and) := by
    cases c <;> decide
  rw [matchLoop_cons, h1, if_neg (by simp), h2, if_neg (by simp), h3, h4]
  cases c.op <;> cases b <;> rfl

theorem matchLoop_dangling {cmp : Str → Str → Except Err Int} {x op : Str} (hop : isRelop op) {lg : Option LogOp}
    {v : Option Bool} :
    matchLoop cmp x [op] lg v = .error .indexError := by
  rw [matchLoop_cons, if_pos (hasRelop_relop hop)]

/-- a token that is neither a term nor an operator ("Unexpected operator"): the loop stops with the value reached -/
theorem matchLoop_junk {cmp : Str → Str → Except Err Int} {x junk : Str} {rest : List Str}
    (h1 : hasRelop junk = false) (h2 : plainTok junk = false) (h3 : junk ≠ sBarBar) (h4 : junk ≠ sAmpAmp)
    {lg : Option LogOp} {b : Bool} :
    matchLoop cmp x (junk :: rest) lg (some b) = .ok b := by
  have h5 : junk ≠ sOr := by intro e; rw [e] at h2; exact absurd h2 (by decide)
  have h6 : junk ≠ sAnd := by intro e; rw [e] at h2; exact absurd h2 (by decide)
  rw [matchLoop_cons, h1, if_neg (by simp), h2, if_neg (by simp), if_neg (by simp [h3, h5]), if_neg (by simp [h4, h6])]
  cases b <;> rfl

/-- the loop through the links, then whatever the rest of the tokens makes of the state reached -/
def evalLinksK (holds : GTerm → Bool) (k : Option LogOp → Bool → Except Err Bool) :
    Option LogOp → Bool → List Link → Except Err Bool
  | lg, v, [] => k lg v
  | _, v, l :: ls =>
    match l.conn.op with
    | .or => if v || holds l.term then .ok true else evalLinksK holds k (some .or) false ls
    | .and => if v then evalLinksK holds k (some .and) (holds l.term) ls else .ok false

theorem matchLoop_linksK {cmp : Str → Str → Except Err Int} {x : Str} (ls : List Link) (tail : List Str)
    (hls : ∀ l ∈ ls, l.term.Wf ∧ ∃ r, cmp x l.term.name = .ok r) {lg : Option LogOp} {b : Bool} :
    matchLoop cmp x (linkToks ls ++ tail) lg (some b) =
      evalLinksK (fun t => termHolds cmp x t.term) (fun lg v => matchLoop cmp x tail lg (some v)) lg b ls := by
  induction ls generalizing lg b with
  | nil => rfl
  | cons l ls ih =>
    obtain ⟨hwf, r, hr⟩ := hls l (by simp)
    have hrest : ∀ l' ∈ ls, l'.term.Wf ∧ ∃ r, cmp x l'.term.name = .ok r := fun y hy => hls y (by simp [hy])
    simp only [linkToks, evalLinksK, List.cons_append, List.append_assoc]
    rw [matchLoop_conn]
    cases hc : l.conn.op with
    | or =>
      simp only
      rw [matchLoop_term hwf hr (some .or) (some b) (by simp)]
      cases b <;> simp [ih hrest]
    | and =>
      cases b with
      | false => rfl
      | true =>
        simp only [if_true]
        rw [matchLoop_term hwf hr (some .and) (some true) (by simp)]
        simp [ih hrest]

/-- what the loop computes after a term has given the value `v`, when nothing follows the links -/
def evalLinks (holds : GTerm → Bool) : Bool → List Link → Bool
  | v, [] => v
  | v, l :: ls =>
    match l.conn.op with
    | .or => if v || holds l.term then true else evalLinks holds false ls
    | .and => if v then evalLinks holds (holds l.term) ls else false

theorem evalLinksK_end {holds : GTerm → Bool} {lg : Option LogOp} {v : Bool} (ls : List Link) :
    evalLinksK holds (fun _ v => .ok v) lg v ls = .ok (evalLinks holds v ls) := by
  induction ls generalizing lg v with
  | nil => rfl
  | cons l ls ih =>
    simp only [evalLinksK, evalLinks, ih]
    cases l.conn.op <;> simp only <;> split <;> rfl

theorem evalLinksK_append {holds : GTerm → Bool} {k : Option LogOp → Bool → Except Err Bool} {lg : Option LogOp} {v : Bool}
    (a b : List Link) :
    evalLinksK holds k lg v (a ++ b) = evalLinksK holds (fun lg v => evalLinksK holds k lg v b) lg v a := by
  induction a generalizing lg v with
  | nil => rfl
  | cons l ls ih => simp only [List.cons_append, evalLinksK, ih]

theorem evalLinks_append {holds : GTerm → Bool} {v : Bool} (a b : List Link) :
    .ok (evalLinks holds v (a ++ b)) = evalLinksK holds (fun _ v => .ok (evalLinks holds v b)) none v a := by
  rw [← evalLinksK_end (lg := none), evalLinksK_append]
  congr 1; funext lg v; exact evalLinksK_end b

/-- **`version_match` on a chain followed by any text** `rest` that ends the last version, whatever the spacing and the
spelling of the operators: the value of the first term carried through the links from left to right, the loop going on
to the tokens `T` of `rest` from the state reached -/
theorem matchLoop_renderG {cmp : Str → Str → Except Err Int} {x lead : Str} {t : GTerm} {ls : List Link}
    {rest : Str} {T : List Str} (hlead : isWs lead) (ht : t.Wf) (hls : ∀ l ∈ ls, l.Wf) (hT : Reads rest T)
    (hcmp : ∀ y ∈ t :: ls.map Link.term, ∃ r, cmp x y.name = .ok r) :
    matchLoop cmp x (tokenize (renderG lead t ls rest)) none none =
      evalLinksK (fun t => termHolds cmp x t.term) (fun lg v => matchLoop cmp x T lg (some v)) none
        (termHolds cmp x t.term) ls := by
  obtain ⟨r, hr⟩ := hcmp t (by simp)
  rw [tokenize_renderG hlead ht hls hT, matchLoop_term ht hr none none (by simp)]
  exact matchLoop_linksK ls T fun l hl => ⟨(hls l hl).term, hcmp l.term (List.mem_cons_of_mem _ (List.mem_map_of_mem hl))⟩

theorem versionMatch_renderG {x lead : Str} {t : GTerm} {ls : List Link} {trail : Str}
    (hlead : isWs lead) (ht : t.Wf) (hls : ∀ l ∈ ls, l.Wf) (htr : isWs trail)
    (hcmp : ∀ y ∈ t :: ls.map Link.term, ∃ r, stdCompare true x y.name = .ok r) :
    versionMatch x (renderG lead t ls trail) =
      .ok (evalLinks (fun t => termHolds (stdCompare true) x t.term) (termHolds (stdCompare true) x t.term) ls) := by
  rw [versionMatch, matchLoop_renderG hlead ht hls (Reads.blanks htr) hcmp, ← evalLinksK_end (lg := none)]
  congr 1; funext lg v; cases v <;> rfl

def Link.isOr (l : Link) : Prop := l.conn.op = .or
def Link.isAnd (l : Link) : Prop := l.conn.op = .and

theorem chain_hyps {cmp : Str → Str → Except Err Int} {x : Str} {t : Term} {ts : List Term} (hwf : ∀ y ∈ t :: ts, WfTerm y)
    (hcmp : ∀ y ∈ t :: ts, ∃ r, cmp x y.2 = .ok r) :
    (gTerm t).Wf ∧ (∀ l ∈ ts.map gLink, l.Wf) ∧ (∀ l ∈ ts.map gLink, l.isOr) ∧
      ∀ y ∈ gTerm t :: (ts.map gLink).map Link.term, ∃ r, cmp x y.name = .ok r := by
  refine ⟨gTerm_wf (hwf t (by simp)), ?_, ?_, ?_⟩
  · intro l hl; obtain ⟨y, hy, rfl⟩ := List.mem_map.mp hl; exact gLink_wf (hwf y (by simp [hy]))
  · intro l hl; obtain ⟨y, _, rfl⟩ := List.mem_map.mp hl; rfl
  · rw [chain_terms]; intro y hy; obtain ⟨z, hz, rfl⟩ := List.mem_map.mp hy; exact hcmp z hz

theorem evalLinks_all_and {holds : GTerm → Bool} {v : Bool} (as : List Link) (has : ∀ l ∈ as, l.isAnd) :
    evalLinks holds v as = (v && as.all (fun l => holds l.term)) := by
  induction as generalizing v with
  | nil => simp [evalLinks]
  | cons l ls ih =>
    have h : l.conn.op = .and := has l (by simp)
    simp only [evalLinks, h, List.all_cons]
    rw [ih fun y hy => has y (by simp [hy])]
    cases v <;> simp

theorem evalLinks_and_then {holds : GTerm → Bool} {v : Bool} (init : List Link) (z : Link) (rest : List Link)
    (hinit : ∀ l ∈ init, l.isAnd) (hz : z.isAnd) :
    evalLinks holds v (init ++ z :: rest) =
      ((v && init.all (fun l => holds l.term)) && evalLinks holds (holds z.term) rest) := by
  induction init generalizing v with
  | nil => cases v <;> simp [evalLinks, show z.conn.op = .and from hz]
  | cons l ls ih =>
    have h : l.conn.op = .and := hinit l (by simp)
    simp only [List.cons_append, evalLinks, h, List.all_cons]
    cases v with
    | false => simp
    | true => rw [if_pos rfl, ih fun y hy => hinit y (by simp [hy])]; simp [Bool.and_assoc]

theorem evalLinksK_or {holds : GTerm → Bool} {k : Option LogOp → Bool → Except Err Bool} {lg : Option LogOp} {v : Bool}
    (os : List Link) (hos : ∀ l ∈ os, l.isOr) :
    evalLinksK holds k lg v os =
      if os = [] then k lg v
      else if v || os.any (fun l => holds l.term) then .ok true else k (some .or) false := by
  induction os generalizing lg v with
  | nil => simp [evalLinksK]
  | cons l ls ih =>
    have h : l.conn.op = .or := hos l (by simp)
    simp only [evalLinksK, h, List.any_cons, reduceCtorEq, if_false]
    rw [ih fun y hy => hos y (by simp [hy])]
    by_cases hl : ls = []
    · subst hl
      by_cases hh : holds l.term = true
      · cases v <;> simp [hh]
      · cases v <;> simp [hh]
    · by_cases hh : holds l.term = true
      · cases v <;> simp [hh]
      · cases v <;> simp [hh, hl]

theorem evalLinks_or_then_and {holds : GTerm → Bool} {v : Bool} (os rest : List Link) (hos : ∀ l ∈ os, l.isOr)
    (hne : os ≠ [] ∨ rest = []) (hrest : ∀ l ∈ rest.head?, l.isAnd) :
    evalLinks holds v (os ++ rest) = (v || os.any (fun l => holds l.term)) := by
  have hf : evalLinks holds false rest = false := by
    cases rest with
    | nil => rfl
    | cons a as => rw [evalLinks, show a.conn.op = .and from hrest a (by simp)]; rfl
  have := evalLinks_append (holds := holds) (v := v) os rest
  rw [evalLinksK_or os hos] at this
  by_cases he : os = []
  · subst he; rw [hne.resolve_left (fun h => h rfl)]; simp [evalLinks]
  · rw [if_neg he, hf] at this
    cases hc : (v || os.any fun l => holds l.term) <;> rw [hc] at this <;> exact Except.ok.inj this

theorem evalLinks_or {holds : GTerm → Bool} {v : Bool} (os : List Link) (hos : ∀ l ∈ os, l.isOr) :
    evalLinks holds v os = (v || os.any (fun l => holds l.term)) := by
  rw [← evalLinks_or_then_and os [] hos (Or.inr rfl) (by simp), List.append_nil]

theorem hasRelop_append_right (a b : Str) (h : hasRelop b = true) : hasRelop (a ++ b) = true := by
  induction a with
  | nil => exact h
  | cons c cs ih => simp [hasRelop, ih]

theorem hasRelop_op_append (op rest : Str) (h : isRelop op) : hasRelop (op ++ rest) = true := by
  rcases h with rfl | rfl | rfl | rfl | rfl <;> simp [hasRelop, opLt, opLe, opEq, opGe, opGt]

theorem hasRelop_term (t : GTerm) (o : Str) (ho : t.op = some o) (hr : isRelop o) (rest : Str) :
    hasRelop (t.render ++ rest) = true := by
  simp only [GTerm.render, GTerm.opText, ho, List.append_assoc]
  exact hasRelop_op_append o _ hr

theorem hasRelop_links (ls : List Link) (l : Link) (hl : l ∈ ls) (o : Str) (ho : l.term.op = some o) (hr : isRelop o)
    (rest : Str) : hasRelop (renderLinks ls ++ rest) = true := by
  induction ls with
  | nil => simp at hl
  | cons a as ih =>
    simp only [renderLinks, List.append_assoc]
    apply hasRelop_append_right; apply hasRelop_append_right; apply hasRelop_append_right
    rcases List.mem_cons.mp hl with rfl | hl
    · exact hasRelop_term _ o ho hr _
    · exact hasRelop_append_right _ _ (ih hl)

theorem legal_renderG (lead : Str) (t : GTerm) (ls : List Link) (trail : Str)
    (y : GTerm) (hy : y ∈ t :: ls.map Link.term) (o : Str) (ho : y.op = some o) (hr : isRelop o) :
    isLegalRelativeVersion (renderG lead t ls trail) = .relational := by
  have : hasRelop (renderG lead t ls trail) = true := by
    simp only [renderG]
    apply hasRelop_append_right
    rcases List.mem_cons.mp hy with rfl | hy
    · exact hasRelop_term _ o ho hr _
    · obtain ⟨l, hl, rfl⟩ := List.mem_map.mp hy
      exact hasRelop_append_right _ _ (hasRelop_links ls l hl o ho hr _)
  simp [isLegalRelativeVersion, this]

theorem legal_name (v : Str) (hv : wfName v) : isLegalRelativeVersion v = .plain := by
  have h1 : hasRelop v = false := hasRelop_name hv.2
  obtain ⟨hne, hc⟩ := hv
  cases v with
  | nil => exact absurd rfl hne
  | cons a as =>
    obtain ⟨hs, _, h61, _, _⟩ := nameChar_plain (hc a (by simp))
    have : badRelop (a :: as) = false := by
      simp only [badRelop, List.dropWhile, hs]
      split
      · rename_i heq; simp only [List.cons.injEq] at heq; exact absurd heq.1 h61
      · rfl
    simp [isLegalRelativeVersion, h1, this]

/-- refused with "did you mean '=='?" -/
theorem legal_single_equals (lead gap v : Str) (hl : isWs lead) (hg : isWs gap) (hgne : gap ≠ []) (hv : wfName v) :
    isLegalRelativeVersion (lead ++ 61 :: (gap ++ v)) = .badSyntax := by
  have hws : ∀ w : Str, isWs w → ∀ c ∈ w, c ≠ 60 ∧ c ≠ 61 ∧ c ≠ 62 := by
    intro w hw c hc
    have := hw c hc
    simp only [Str.isSpace, Bool.or_eq_true, beq_iff_eq, Bool.and_eq_true, decide_eq_true_eq] at this
    omega
  -- the first character of the name is neither a blank nor `=`
  obtain ⟨a, as, rfl⟩ := List.exists_cons_of_ne_nil hv.1
  obtain ⟨hs, _, h61, _, _⟩ := nameChar_plain (hv.2 a (by simp))
  have hnr : hasRelop (lead ++ 61 :: (gap ++ a :: as)) = false := by
    have hhead : (gap ++ a :: as).head? ≠ some 61 := head?_ws_ne hg (by simpa using h61)
    rw [hasRelop_append_left _ _ (hws lead hl), hasRelop, hasRelop_append_left _ _ (hws gap hg), hasRelop_name hv.2]
    simpa using hhead
  have hbad : badRelop (lead ++ 61 :: (gap ++ a :: as)) = true := by
    obtain ⟨htw, hdw⟩ := span_append (p := Str.isSpace) (d := a :: as) hg (fun _ h => by cases h; exact hs)
    rw [badRelop, (span_append (d := 61 :: (gap ++ a :: as)) hl (fun _ h => by cases h; rfl)).2]
    simp only [htw, hdw]
    cases gap with
    | nil => exact absurd rfl hgne
    | cons b bs => rfl
  simp [isLegalRelativeVersion, hnr, hbad]

end EupsModel.VersionCmp
