import EupsModel.Model.Lock
import EupsModel.Lemmas.List
/-! C09 — what the lock models share below the invariants.  `foldl_keeps`: every run is a fold of steps.  `fupd`: the
updated map that `Lock.upd`, `LockR.upd` and the `ctl`, `comp` of `setCtl`, `setComp` unfold to, so that a lemma about
`fupd` serves them all.  List facts: `path.take (k + 1)` is the part of a path that a `takeLocks` working on element `k`
has reached, `(path.take k).drop j` the part that a `giveLocks` working on lock `j` of `k` has not yet passed; `exFiles`
and `parentHolds` said by membership. -/
namespace EupsModel.Lock

theorem foldl_keeps {σ α : Type} {P : σ → Prop} {f : σ → α → σ} (hf : ∀ s a, P s → P (f s a))
    (l : List α) {s : σ} (h : P s) : P (l.foldl f s) :=
  foldl_invariant h fun s a _ => hf s a

/-- `f` with its value at `i` replaced by `v` -/
abbrev fupd {α β : Type} [DecidableEq α] (f : α → β) (i : α) (v : β) : α → β := fun j => if j = i then v else f j

section fupd
variable {α β : Type} [DecidableEq α] (f : α → β)

theorem fupd_same (i : α) (v : β) : fupd f i v i = v := if_pos rfl

theorem fupd_other (v : β) {i j : α} (h : j ≠ i) : fupd f i v j = f j := if_neg h

theorem fupd_self (i : α) : fupd f i (f i) = f := by
  funext j; show (if j = i then f i else f j) = f j; split
  · next h => rw [h]
  · rfl

end fupd

variable {α : Type} {l : List α}

theorem mem_take_succ_of_getElem? {k : Nat} {a : α} (h : l[k]? = some a) : a ∈ l.take (k + 1) := by
  rw [List.take_add_one, h]; simp

theorem mem_take_of_mem_take_succ {k : Nat} {a d : α} (h : l[k]? = some a) (hd : d ∈ l.take (k + 1))
    (hne : d ≠ a) : d ∈ l.take k := by
  rw [List.take_add_one, h, List.mem_append] at hd
  exact hd.resolve_right (fun hd => hne (List.mem_singleton.1 hd))

theorem drop_take_cons {j k : Nat} {a : α} (h : l[j]? = some a) (hjk : j < k) :
    (l.take k).drop j = a :: (l.take k).drop (j + 1) := by
  obtain ⟨hj, ha⟩ := List.getElem?_eq_some_iff.mp h
  have hlen : j < (l.take k).length := by rw [List.length_take]; omega
  rw [List.drop_eq_getElem_cons hlen, List.getElem_take, ha]

theorem mem_drop_head {j k : Nat} {a : α} (h : l[j]? = some a) (hjk : j < k) : a ∈ (l.take k).drop j := by
  rw [drop_take_cons h hjk]; exact List.mem_cons_self

theorem drop_take_nil {j k : Nat} (h : k ≤ j) : (l.take k).drop j = [] :=
  List.drop_eq_nil_of_le (by rw [List.length_take]; omega)

theorem mem_drop_succ {j k : Nat} {a d : α} (h : l[j]? = some a) (hd : d ∈ (l.take k).drop j) (hne : d ≠ a) :
    d ∈ (l.take k).drop (j + 1) := by
  by_cases hjk : j < k
  · rw [drop_take_cons h hjk] at hd
    exact (List.mem_cons.1 hd).resolve_left hne
  · rw [drop_take_nil (by omega)] at hd; cases hd

theorem eq_of_mem_drop_last {j k : Nat} {a d : α} (h : l[j]? = some a) (hd : d ∈ (l.take k).drop j)
    (hjk : ¬ j + 1 < k) : d = a := by
  apply Classical.byContradiction
  intro hne
  have := mem_drop_succ h hd hne
  rw [drop_take_nil (by omega)] at this; cases this

theorem ne_of_nodup_getElem? (hn : l.Nodup) {a b : Nat} {x y : α} (ha : l[a]? = some x) (hb : l[b]? = some y)
    (hab : a ≠ b) : x ≠ y := by
  intro e; subst e
  obtain ⟨ha', _⟩ := List.getElem?_eq_some_iff.mp ha
  exact hab ((List.getElem?_inj ha' hn).mp (ha.trans hb.symm))

theorem eq_singleton_of_forall_eq {x : α} (hn : l.Nodup) (hm : x ∈ l) (hall : ∀ y ∈ l, y = x) : l = [x] := by
  cases l with
  | nil => cases hm
  | cons a r =>
    cases r with
    | nil => rw [hall a List.mem_cons_self]
    | cons b r2 =>
      rw [hall a List.mem_cons_self, hall b (List.mem_cons_of_mem _ List.mem_cons_self)] at hn
      simp at hn

theorem mem_exFiles {fs : List (Kind × Pid)} {f : Kind × Pid} : f ∈ exFiles fs ↔ f ∈ fs ∧ f.1 = .ex := by
  simp [exFiles]

theorem exFiles_eq_nil {fs : List (Kind × Pid)} (h : ∀ f ∈ fs, f.1 = .sh) : exFiles fs = [] :=
  List.filter_eq_nil_iff.2 (fun f hf => by rw [h f hf]; nofun)

theorem parentHolds_iff {lp : Option Pid} {fs : List (Kind × Pid)} :
    parentHolds lp fs = true ↔ ∃ k q, fs = [(k, q)] ∧ lp = some q := by
  unfold parentHolds
  split
  · rename_i p f
    constructor
    · intro h; exact ⟨f.1, f.2, rfl, by simp at h; simp [h]⟩
    · rintro ⟨k, q, h1, h2⟩; simp at h1 h2; simp [h1, h2]
  · rename_i h
    constructor
    · intro hf; exact absurd hf (by simp)
    · rintro ⟨k, q, h1, h2⟩; exact (h q (k, q) h2 h1).elim

end EupsModel.Lock
