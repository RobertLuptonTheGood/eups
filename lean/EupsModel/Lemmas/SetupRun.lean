import EupsModel.Lemmas.SetupCases
/-! The runs of `setup`, and what a new fact about them is proved with.  A predicate on states that each write keeps holds of
the state of every outcome, failures included: `RunInv` (`alreadySetupProducts` stays `AlreadyOK`).  A statement that relates
the state a call, or the rest of a table, starts from to its outcome is an instance of a rule set, `UnRules` (the successful
unsetup runs, which call only unsetup) or `FwdRules` (setup, with the unwinding of a replaced version as a finished unsetup
call), or of each, and is read off with `.run` / `.table`: these are the only inductions on fuel.  The commonest such
statement, a predicate kept by every write made for a name the request can reach, is an instance made once, in
`Lemmas/SetupInv.lean` (`SubjInv`, `StInv`). -/
namespace EupsModel.Setup

def AlOK (cfg : Cfg) (rec : Rec) : Prop :=
  ∀ fwd depth noRec vro n ver vexpr s s', AlreadyOK cfg.db s.already →
    (rec fwd depth noRec vro n ver vexpr s).st? = some s' → AlreadyOK cfg.db s'.already

/-- `AlreadyOK` survives a call, whatever its outcome: `hal.st ha (congrArg Res.st? hr)`. -/
theorem AlOK.st {cfg : Cfg} {rec : Rec} (h : AlOK cfg rec) {fwd : Bool} {depth : Nat} {noRec : Bool} {vro : List VroEnt}
    {n : Name} {ver : Option VerReq} {vexpr : Option VExpr} {s s' : St} (ha : AlreadyOK cfg.db s.already)
    (hst : (rec fwd depth noRec vro n ver vexpr s).st? = some s') : AlreadyOK cfg.db s'.already :=
  h _ _ _ _ _ _ _ _ _ ha hst

/-- `C d`: what `record` may assume of the product resolution chose. -/
structure RunInv (cfg : Cfg) (C : Decl → Prop) (I : St → Prop) : Prop where
  apply : ∀ fwd p (a : Act) s, I s → I (a.apply fwd p s)
  record : ∀ d r s, C d → I s → I (record d r s)
  unrec : ∀ (s : St) d, I s → I (s.unrecorded d)
  restored : ∀ s s1 : St, I s → I s1 → I (s.restored s1)
  chosen : ∀ k vro n ver vexpr (s : St) d0 reason, I s →
    resolve cfg.db cfg.path cfg.keep s.already n ver vexpr k vro.length vro = .found d0 reason →
    C (pickDecl cfg.db s.cache d0) ∧
      I (register cfg k (pickDecl cfg.db s.cache d0) reason (s.afterResolve cfg k vro n ver vexpr))

section
variable {cfg : Cfg} {C : Decl → Prop} {I : St → Prop} (hI : RunInv cfg C I)
include hI

theorem RunInv.table (rec : Rec)
    (hrec : ∀ fwd depth noRec vro n ver vexpr s s', I s → (rec fwd depth noRec vro n ver vexpr s).st? = some s' → I s')
    (fwd : Bool) (depth : Nat) (noRec : Bool) (vro : List VroEnt) (d : Decl) (l : List Act) :
    ∀ s s', I s → (acts rec cfg fwd depth noRec vro d l s).st? = some s' → I s' := by
  intro s s' hi h
  refine acts_induct rec cfg fwd depth noRec vro d l (A := fun _ s r => I s → ∀ s', r.st? = some s' → I s')
    ?_ ?_ ?_ ?_ ?_ ?_ ?_ l (fun _ h => h) s hi s' h
  · intro s hi s' h; cases h; exact hi
  · intro a rest s _ _ ih hi; exact ih (hI.apply _ _ _ _ hi)
  · intro n o j v x t kl rest s _ ih; exact ih
  · intro n o j v x t kl rest s s1 _ _ hr ih hi; exact ih (hrec _ _ _ _ _ _ _ _ _ hi (congrArg Res.st? hr))
  · intro n o j v x t kl rest s _ _ _ s' h; cases h
  · intro n j v x t kl rest s s1 _ _ hr hi s' h
    cases h
    exact hI.restored _ _ hi (hrec _ _ _ _ _ _ _ s s1 hi (Res.st?_of_fail hr))
  · intro n o j v x t kl rest s s1 _ _ _ hr ih hi
    exact ih (hI.restored _ _ hi (hrec _ _ _ _ _ _ _ s s1 hi (Res.st?_of_fail hr)))

theorem RunInv.run : ∀ fuel fwd depth noRec vro n ver vexpr s s', I s →
    (Setup.setup cfg fuel fwd depth noRec vro n ver vexpr s).st? = some s' → I s' := by
  intro fuel
  induction fuel with
  | zero => intro fwd depth noRec vro n ver vexpr s s' _ h; cases h
  | succ f ih =>
    intro fwd depth noRec vro n ver vexpr s s' hi
    cases fwd with
    | true =>
      refine setup_true_cases0 cfg f depth noRec vro n ver vexpr s (P := fun res => res.st? = some s' → I s')
        (fun h => by cases h; exact hi) (fun h => by cases h; exact hi) fun d0 reason hres => ?_
      obtain ⟨hc, h0⟩ := hI.chosen depth vro n ver vexpr s d0 reason hi hres
      have tail : ∀ s1 : St, I s1 → (acts (Setup.setup cfg f) cfg true depth noRec vro (pickDecl cfg.db s.cache d0)
          ((pickDecl cfg.db s.cache d0).actions cfg.exact) (Setup.record (pickDecl cfg.db s.cache d0) reason s1)).st? = some s' →
          I s' :=
        fun s1 h1 => hI.table (Setup.setup cfg f) ih true depth noRec vro _ _ _ s' (hI.record _ _ _ hc h1)
      exact install_cases _ cfg depth noRec vro _ reason _ (P := fun res => res.st? = some s' → I s')
        (fun _ => tail _ h0) (fun _ _ _ h => by cases h; exact h0) (fun _ _ _ _ h => nomatch h)
        (fun _ s1 _ _ hst => tail s1 (ih _ _ _ _ _ _ _ _ _ h0 hst))
    | false =>
      exact setup_false_cases cfg f depth noRec vro n ver vexpr s (P := fun res => res.st? = some s' → I s')
        (fun _ h => by cases h; exact hi)
        (fun d _ _ _ _ => hI.table (Setup.setup cfg f) ih false depth noRec vro d _ (s.unrecorded d) s' (hI.unrec s d hi))

end

theorem alreadyOK_runInv (cfg : Cfg) : RunInv cfg (Canon cfg.db) (fun s => AlreadyOK cfg.db s.already) where
  apply := fun _ _ _ _ h => by rw [apply_already]; exact h
  record := fun d r _ hc h => alreadyOK_aset cfg.db _ h d r hc
  unrec := fun _ _ h => h
  restored := fun _ _ _ h1 => h1
  chosen := fun k _ n _ _ s d0 reason h hres => by
    obtain ⟨hc, hn⟩ := resolve_spec cfg.db cfg.path cfg.keep s.already h n _ _ k _ _ _ _ hres
    have hc' := (pickDecl_spec cfg.db s.cache d0 n hc hn).1
    exact ⟨hc', register_already cfg k _ reason _ h hc'⟩

theorem setup_alOK (cfg : Cfg) (fuel : Nat) : AlOK cfg (setup cfg fuel) := (alreadyOK_runInv cfg).run fuel

theorem acts_false_ne_fail (rec : Rec) (cfg : Cfg) (depth : Nat) (noRec : Bool) (vro : List VroEnt) (d : Decl)
    (l : List Act) : ∀ s s', acts rec cfg false depth noRec vro d l s ≠ .raised s' ∧
      acts rec cfg false depth noRec vro d l s ≠ .notFound s' := by
  intro s s'
  refine acts_induct rec cfg false depth noRec vro d l (A := fun _ _ res => res ≠ .raised s' ∧ res ≠ .notFound s')
    ?_ ?_ ?_ ?_ ?_ ?_ ?_ l (fun _ h => h) s
  · intro s; exact ⟨nofun, nofun⟩
  · intro a rest s _ _ ih; exact ih
  · intro n o j v x t kl rest s _ ih; exact ih
  · intro n o j v x t kl rest s s1 _ _ _ ih; exact ih
  · intro n o j v x t kl rest s _ _; exact ⟨nofun, nofun⟩
  · intro n j v x t kl rest s s1 _ hf; cases hf
  · intro n o j v x t kl rest s s1 _ _ _ _ ih; exact ih

theorem setup_unfail (cfg : Cfg) (fuel : Nat) (depth : Nat) (noRec : Bool) (vro : List VroEnt) (n : Name)
    (ver : Option VerReq) (vexpr : Option VExpr) (s s' : St) :
    setup cfg fuel false depth noRec vro n ver vexpr s ≠ .raised s' ∧
    (setup cfg fuel false depth noRec vro n ver vexpr s = .notFound s' → setupProd cfg.db s.env n = none) := by
  cases fuel with
  | zero => exact ⟨nofun, nofun⟩
  | succ f =>
    refine setup_false_cases cfg f depth noRec vro n ver vexpr s
      (P := fun res => res ≠ .raised s' ∧ (res = .notFound s' → setupProd cfg.db s.env n = none))
      (fun hsp => ⟨nofun, fun _ => hsp⟩) ?_
    intro d _ _ _ _
    obtain ⟨h1, h2⟩ := acts_false_ne_fail (setup cfg f) cfg depth noRec vro d (d.actions cfg.exact) (s.unrecorded d) s'
    exact ⟨h1, fun h => absurd h h2⟩

theorem unwound_ok {cfg : Cfg} {fuel depth : Nat} {noRec : Bool} {vro : List VroEnt} {n : Name} {ver : Option VerReq}
    {vexpr : Option VExpr} {s s1 : St} {sd : Decl} (hsp : setupProd cfg.db s.env n = some sd)
    (hst : (setup cfg fuel false depth noRec vro n ver vexpr s).st? = some s1) :
    setup cfg fuel false depth noRec vro n ver vexpr s = .ok s1 := by
  cases hr : setup cfg fuel false depth noRec vro n ver vexpr s with
  | ok s2 => rw [hr] at hst; cases hst; rfl
  | notFound s2 =>
    have := (setup_unfail cfg fuel depth noRec vro n ver vexpr s s2).2 hr
    rw [hsp] at this; cases this
  | raised s2 => exact absurd hr (setup_unfail cfg fuel depth noRec vro n ver vexpr s s2).1
  | fuel => rw [hr] at hst; cases hst

theorem acts_ne_notFound (rec : Rec) (cfg : Cfg) (fwd : Bool) (depth : Nat) (noRec : Bool) (vro : List VroEnt) (d : Decl)
    (l : List Act) : ∀ s s', acts rec cfg fwd depth noRec vro d l s ≠ .notFound s' := by
  intro s s'
  exact acts_induct rec cfg fwd depth noRec vro d l (A := fun _ _ res => res ≠ .notFound s')
    (fun _ => nofun) (fun _ _ _ _ _ ih => ih) (fun _ _ _ _ _ _ _ _ _ _ ih => ih) (fun _ _ _ _ _ _ _ _ _ _ _ _ _ ih => ih)
    (fun _ _ _ _ _ _ _ _ _ _ _ => nofun) (fun _ _ _ _ _ _ _ _ _ _ _ _ => nofun)
    (fun _ _ _ _ _ _ _ _ _ _ _ _ _ _ ih => ih) l (fun _ h => h) s

theorem setup_notFound_unchanged (cfg : Cfg) {fuel : Nat} {fwd : Bool} {depth : Nat} {noRec : Bool} {vro : List VroEnt}
    {n : Name} {ver : Option VerReq} {vexpr : Option VExpr} {s s' : St}
    (h : setup cfg fuel fwd depth noRec vro n ver vexpr s = .notFound s') : s' = s := by
  revert h
  cases fuel with
  | zero => exact nofun
  | succ f =>
    cases fwd with
    | false =>
      exact setup_false_cases cfg f depth noRec vro n ver vexpr s (P := fun res => res = .notFound s' → s' = s)
        (fun _ h => by cases h; rfl) (fun _ _ _ _ _ h => absurd h (acts_ne_notFound _ _ _ _ _ _ _ _ _ _))
    | true =>
      refine setup_true_cases0 cfg f depth noRec vro n ver vexpr s (P := fun res => res = .notFound s' → s' = s)
        (fun h => by cases h; rfl) nofun fun _ reason _ => ?_
      exact install_cases _ cfg depth noRec vro _ reason _ (P := fun res => res = .notFound s' → s' = s)
        (fun _ h => absurd h (acts_ne_notFound _ _ _ _ _ _ _ _ _ _)) (fun _ _ _ h => nomatch h) (fun _ _ _ _ h => nomatch h)
        (fun _ _ _ _ _ h => absurd h (acts_ne_notFound _ _ _ _ _ _ _ _ _ _))

/-- The successful runs of the unsetup direction (the others: `setup_unfail`, `setup_notFound_unchanged`).  It calls only
itself and looks at nothing of `alreadySetupProducts`, so no rule needs `AlreadyOK`.  `Q k nr n s s'` speaks of a call (depth,
`noRecursion`, name, state before and after), `A k nr d l s s'` of the lines `l` left of the table of `d`.  `skip`: a
dependency line cut off by `noRecursion` or `max_depth` (`ok`, a line that is followed, is handed the same test with the
other outcome); `absent`: the dependency is not set up, which leaves the state as it is. -/
structure UnRules (cfg : Cfg) (Q : Nat → Bool → Name → St → St → Prop)
    (A : Nat → Bool → Decl → List Act → St → St → Prop) : Prop where
  nil : ∀ {k nr d s}, A k nr d [] s s
  line : ∀ {k nr rest s'} d a s, Canon cfg.db d → a ∈ d.actions cfg.exact →
    (∀ n o j v x t kl, a ≠ .dep n o j v x t kl) →
    A k nr d rest (a.apply false d.prod s) s' → A k nr d (a :: rest) s s'
  skip : ∀ {k nr d n o j v x t kl rest s s'}, (nr || decide (cfg.maxDepth = some k)) = true →
    A k nr d rest s s' → A k nr d (.dep n o j v x t kl :: rest) s s'
  absent : ∀ {k nr d n o j v x t kl rest s s'}, setupProd cfg.db s.env n = none → A k nr d rest s s' →
    A k nr d (.dep n o j v x t kl :: rest) s s'
  ok : ∀ {k nr vro d n o j v x t kl rest s s1 s' f}, Canon cfg.db d → .dep n o j v x t kl ∈ d.actions cfg.exact →
    (nr || decide (cfg.maxDepth = some k)) = false →
    setup cfg f false (k + 1) j (depVro vro t kl) n none none s = .ok s1 → Q (k + 1) j n s s1 →
    A k nr d rest s1 s' → A k nr d (.dep n o j v x t kl :: rest) s s'
  unwind : ∀ {k nr n s'} d s, Canon cfg.db d → d.name = n → s.env.rec? n = some d.ver →
    A k nr d (d.actions cfg.exact) (s.unrecorded d) s' → Q k nr n s s'

section
variable {cfg : Cfg} {Q : Nat → Bool → Name → St → St → Prop} {A : Nat → Bool → Decl → List Act → St → St → Prop}

theorem UnRules.lines (R : UnRules cfg Q A) (f : Nat)
    (hq : ∀ {k nr vro n ver vexpr s s'}, setup cfg f false k nr vro n ver vexpr s = .ok s' → Q k nr n s s')
    {k : Nat} {nr : Bool} {vro : List VroEnt} {d : Decl} (hc : Canon cfg.db d) {s s' : St}
    (h : acts (setup cfg f) cfg false k nr vro d (d.actions cfg.exact) s = .ok s') :
    A k nr d (d.actions cfg.exact) s s' := by
  refine acts_induct (setup cfg f) cfg false k nr vro d (d.actions cfg.exact)
    (A := fun l s res => res = .ok s' → A k nr d l s s') ?_ ?_ ?_ ?_ ?_ ?_ ?_ _ (fun _ h => h) _ h
  · intro s h; cases h; exact R.nil
  · intro a rest s hm hnd ih h; exact R.line d a s hc hm hnd (ih h)
  · intro n o j v x t kl rest s hgo ih h; exact R.skip hgo (ih h)
  · intro n o j v x t kl rest s s1 hm hgo hr ih h
    exact R.ok hc hm hgo hr (hq hr) (ih h)
  · intro n o j v x t kl rest s _ _ h; cases h
  · intro n j v x t kl rest s s1 _ hf; cases hf
  · intro n o j v x t kl rest s s1 _ _ _ hr ih h
    have hun := setup_unfail cfg f (k + 1) j (depVro vro t kl) n none none s s1
    have hr : setup cfg f false (k + 1) j (depVro vro t kl) n none none s = .notFound s1 :=
      hr.resolve_right hun.1
    cases setup_notFound_unchanged cfg hr
    exact R.absent (hun.2 hr) (ih h)

theorem UnRules.run (R : UnRules cfg Q A) (f : Nat) : ∀ {k nr vro n ver vexpr s s'},
    setup cfg f false k nr vro n ver vexpr s = .ok s' → Q k nr n s s' := by
  induction f with
  | zero => intro k nr vro n ver vexpr s s' h; cases h
  | succ f ih =>
    intro k nr vro n ver vexpr s s'
    exact setup_false_cases cfg f k nr vro n ver vexpr s (P := fun res => res = .ok s' → Q k nr n s s')
      (fun _ h => nomatch h) (fun d _ hc hname hrec h => R.unwind d s hc hname hrec (R.lines f ih hc h))

theorem UnRules.table (R : UnRules cfg Q A) (f : Nat) {k : Nat} {nr : Bool} {vro : List VroEnt} {d : Decl}
    (hc : Canon cfg.db d) {s s' : St} (h : acts (setup cfg f) cfg false k nr vro d (d.actions cfg.exact) s = .ok s') :
    A k nr d (d.actions cfg.exact) s s' :=
  R.lines f (R.run f) hc h

end

/-- What a run of the setup direction can do, as rules for two statements: `Q k nr vro n s res` about a call (depth,
`noRecursion`, VRO, name, the state it starts from, its outcome), `A k nr vro d l s res` about the lines `l` left of the
table of `d`.  `skip`: a dependency line cut off by `noRecursion` or `max_depth`; `raise` / `cont`: a required / an optional
dependency failed (`popStack("env")`); `same`: at depth > 0 a version with that name or directory is set up and nothing is
done; `replace`: the set-up version is unwound first.

The rules are handed what holds along every run: `alreadySetupProducts` of the state a step starts from is `AlreadyOK`, the
product whose table runs is `Canon` and the line is one of its table, what resolution chose is a `Chosen`.  A followed
dependency comes with its equation, so that what is already known about `setup` applies to it, and with `Q` of it.  The
unwinding that `replace` starts with is a finished, successful call of the unsetup direction: the rule is handed its
equation. -/
structure FwdRules (cfg : Cfg) (Q : Nat → Bool → List VroEnt → Name → St → Res → Prop)
    (A : Nat → Bool → List VroEnt → Decl → List Act → St → Res → Prop) : Prop where
  nil : ∀ {k nr vro d s}, A k nr vro d [] s (.ok s)
  line : ∀ {k nr vro rest res} d a s, Canon cfg.db d → a ∈ d.actions cfg.exact →
    (∀ n o j v x t kl, a ≠ .dep n o j v x t kl) →
    A k nr vro d rest (a.apply true d.prod s) res → A k nr vro d (a :: rest) s res
  skip : ∀ {k nr vro d n o j v x t kl rest s res}, (nr || decide (cfg.maxDepth = some k)) = true →
    A k nr vro d rest s res → A k nr vro d (.dep n o j v x t kl :: rest) s res
  ok : ∀ {k nr vro n o j v x t kl rest s s1 res f} d, Canon cfg.db d → AlreadyOK cfg.db s.already →
    .dep n o j v x t kl ∈ d.actions cfg.exact → (nr || decide (cfg.maxDepth = some k)) = false →
    setup cfg f true (k + 1) j (depVro vro t kl) n v x s = .ok s1 →
    Q (k + 1) j (depVro vro t kl) n s (.ok s1) →
    A k nr vro d rest s1 res → A k nr vro d (.dep n o j v x t kl :: rest) s res
  raise : ∀ {k nr vro d n j v x t kl rest s s1 r}, r = .notFound s1 ∨ r = .raised s1 →
    Q (k + 1) j (depVro vro t kl) n s r →
    A k nr vro d (.dep n false j v x t kl :: rest) s (.raised (s.restored s1))
  cont : ∀ {k nr vro d n j v x t kl rest s s1 r res}, r = .notFound s1 ∨ r = .raised s1 →
    Q (k + 1) j (depVro vro t kl) n s r →
    A k nr vro d rest (s.restored s1) res → A k nr vro d (.dep n true j v x t kl :: rest) s res
  notFound : ∀ {k nr vro n s}, Q k nr vro n s (.notFound s)
  raised : ∀ {k nr vro n s}, Q k nr vro n s (.raised s)
  same : ∀ {k nr vro n ver vexpr s d reason s0 sd}, Chosen cfg k vro n ver vexpr s d reason s0 →
    setupProd cfg.db s.env n = some sd → 0 < k → Q k nr vro n s (.ok s0)
  fresh : ∀ {k nr vro n ver vexpr s d reason s0 res}, Chosen cfg k vro n ver vexpr s d reason s0 →
    setupProd cfg.db s.env n = none →
    A k nr vro d (d.actions cfg.exact) (record d reason s0) res → Q k nr vro n s res
  replace : ∀ {k nr vro n ver vexpr s d reason s0 sd s1 res f}, AlreadyOK cfg.db s.already →
    Chosen cfg k vro n ver vexpr s d reason s0 → setupProd cfg.db s.env n = some sd → ¬ (sd.ver.1 = d.ver.1 ∧ 0 < k) →
    setup cfg f false k nr vro n none none s0 = .ok s1 →
    A k nr vro d (d.actions cfg.exact) (record d reason s1) res → Q k nr vro n s res

section
variable {cfg : Cfg} {Q : Nat → Bool → List VroEnt → Name → St → Res → Prop}
  {A : Nat → Bool → List VroEnt → Decl → List Act → St → Res → Prop}

theorem FwdRules.lines (R : FwdRules cfg Q A) (f : Nat)
    (hq : ∀ {k nr vro n ver vexpr s res}, AlreadyOK cfg.db s.already →
      setup cfg f true k nr vro n ver vexpr s = res → res ≠ .fuel → Q k nr vro n s res)
    {k : Nat} {nr : Bool} {vro : List VroEnt} {d : Decl} (hc : Canon cfg.db d) {s : St}
    (ha : AlreadyOK cfg.db s.already)
    (hne : acts (setup cfg f) cfg true k nr vro d (d.actions cfg.exact) s ≠ .fuel) :
    A k nr vro d (d.actions cfg.exact) s (acts (setup cfg f) cfg true k nr vro d (d.actions cfg.exact) s) := by
  have hal := setup_alOK cfg f
  have hne1 : ∀ {r : Res} {s1 : St}, r = .notFound s1 ∨ r = .raised s1 → r ≠ .fuel := by rintro _ _ (rfl | rfl) <;> nofun
  refine acts_induct (setup cfg f) cfg true k nr vro d (d.actions cfg.exact)
    (A := fun l s res => AlreadyOK cfg.db s.already → res ≠ .fuel → A k nr vro d l s res)
    ?_ ?_ ?_ ?_ ?_ ?_ ?_ _ (fun _ h => h) s ha hne
  · intro s _ _; exact R.nil
  · intro a rest s hm hnd ih ha hne
    exact R.line d a s hc hm hnd (ih (by rw [apply_already]; exact ha) hne)
  · intro n o j v x t kl rest s hgo ih ha hne; exact R.skip hgo (ih ha hne)
  · intro n o j v x t kl rest s s1 hm hgo hr ih ha hne
    have h1 := hal.st ha (congrArg Res.st? hr)
    exact R.ok d hc ha hm hgo hr (hq ha hr nofun) (ih h1 hne)
  · intro n o j v x t kl rest s _ _ _ hne; exact absurd rfl hne
  · intro n j v x t kl rest s s1 _ _ hr ha _
    exact R.raise hr (hq ha rfl (hne1 hr))
  · intro n o j v x t kl rest s s1 _ _ ho hr ih ha hne
    have h1 := hal.st ha (Res.st?_of_fail hr)
    cases o with
    | false => cases ho
    | true => exact R.cont hr (hq ha rfl (hne1 hr)) (ih h1 hne)

theorem FwdRules.run (R : FwdRules cfg Q A) (f : Nat) : ∀ {k nr vro n ver vexpr s res}, AlreadyOK cfg.db s.already →
    setup cfg f true k nr vro n ver vexpr s = res → res ≠ .fuel → Q k nr vro n s res := by
  induction f with
  | zero => intro k nr vro n ver vexpr s res _ h hne; exact absurd h.symm hne
  | succ f ih =>
    intro k nr vro n ver vexpr s res ha h
    subst h
    refine setup_true_cases cfg f k nr vro n ver vexpr s ha (P := fun res => res ≠ .fuel → Q k nr vro n s res)
      (fun _ => R.notFound) (fun _ => R.raised) ?_
    intro d reason s0 hch
    have hsp : ∀ x, setupProd cfg.db s0.env d.name = x → setupProd cfg.db s.env n = x := by
      intro x h; rw [hch.env, hch.name] at h; exact h
    refine install_cases (setup cfg f) cfg k nr vro d reason s0
      (P := fun res => res ≠ .fuel → Q k nr vro n s res) ?_ ?_ ?_ ?_
    · intro h0 hne
      exact R.fresh hch (hsp _ h0)
        (R.lines f ih hch.canon (alreadyOK_aset cfg.db _ hch.already d reason hch.canon) hne)
    · intro sd h0 hk _; exact R.same hch (hsp _ h0) hk
    · intro _ _ _ _ hne; exact absurd rfl hne
    · intro sd s1 h0 hnv hst hne
      have hr := unwound_ok h0 hst
      have h1 := (setup_alOK cfg f).st hch.already hst
      rw [hch.name] at hr
      exact R.replace ha hch (hsp _ h0) hnv hr
        (R.lines f ih hch.canon (alreadyOK_aset cfg.db _ h1 d reason hch.canon) hne)

theorem FwdRules.table (R : FwdRules cfg Q A) (f : Nat) {k : Nat} {nr : Bool} {vro : List VroEnt} {d : Decl}
    (hc : Canon cfg.db d) {s : St} (ha : AlreadyOK cfg.db s.already) {res : Res}
    (h : acts (setup cfg f) cfg true k nr vro d (d.actions cfg.exact) s = res) (hne : res ≠ .fuel) :
    A k nr vro d (d.actions cfg.exact) s res := by
  subst h; exact R.lines f (R.run f) hc ha hne

end

end EupsModel.Setup
