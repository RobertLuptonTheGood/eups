import EupsModel.Model.ShellEmit
import EupsModel.Lemmas.List
/-! C05, the emitter: what a command list does to an environment and to a table of functions (`applyAll`, `applyAllF`), and
that the lists `app.setup` builds turn the caller's state into the computed one (`emitVarsOn_apply`, `aliases_spec`, both
instances of `get_diff`); csh's effect of a command is the same where it reads the written word back (`cshApply_good`).
At the head the vocabulary of the claim (`InAlphabet`, `Writable`, `SameEnv`, `Cmd.text`, `Cmd.Good`); `Tracks old base`,
the hypothesis of `emitVarsOn_apply`: `old` is the caller's environment with some values forgotten.
Code points: 9 tab, 10 newline, 32 blank, 34 `"`, 39 `'`, 40 41 `( )`, 59 `;`, 61 `=`, 95 `_`, 123 125 `{ }`. -/
namespace EupsModel.ShellEmit

/-- the alphabet of C05's claim -/
def InAlphabet (v : Str) : Prop := ∀ c ∈ v, isSafe c = true ∨ isShMeta c = true

/-- the values the claim is about: over the alphabet, or of the class `app.setup` single-quotes (see `C05_roundtrip`) -/
def Writable (v : Str) : Prop :=
  InAlphabet v ∨ (v.any needsQuote = true ∧ wrapped v = false ∧ ∀ c ∈ v, c ≠ 39)

def SameEnv (a b : Env) : Prop := ∀ k, a.get k = b.get k

/-- effect on the exported environment (shell functions are not part of it) -/
def Cmd.apply : Cmd → Env → Env
  | .setVar k v, e => e.set k v
  | .unsetVar k, e => e.unset k
  | .aliasDef _ _, e => e
  | .aliasDel _, e => e

def applyAll (cmds : List Cmd) (e : Env) : Env := cmds.foldl (fun e c => c.apply e) e

theorem applyAll_nil (e : Env) : applyAll [] e = e := rfl
theorem applyAll_cons (c : Cmd) (r : List Cmd) (e : Env) : applyAll (c :: r) e = applyAll r (c.apply e) := rfl
theorem applyAll_append (a b : List Cmd) (e : Env) : applyAll (a ++ b) e = applyAll b (applyAll a e) := by
  simp [applyAll, List.foldl_append]
theorem apply_setVar (k v : Str) (e : Env) : (Cmd.setVar k v).apply e = e.set k v := rfl
theorem apply_unsetVar (k : Str) (e : Env) : (Cmd.unsetVar k).apply e = e.unset k := rfl

/-- text of a command in the `sh` dialect without `-n`; an alias is written `NAME() { VALUE ; }` -/
def Cmd.text : Cmd → Str
  | .setVar k v => sExport ++ [32] ++ k ++ [61] ++ emitVal v
  | .unsetVar k => sUnset ++ [32] ++ k
  | .aliasDef k v => k ++ [40, 41, 32, 123, 32] ++ v ++ [32, 59, 32, 125]
  | .aliasDel k => sUnset ++ [32] ++ sDashF ++ [32] ++ k

/-- commands the first layer (`shEval`) covers, the values written in the class `P`; an alias definition is not among them:
only the second layer reads it (`Cmd.GoodAt`) -/
def Cmd.Good (P : Str → Prop) : Cmd → Prop
  | .setVar k v => isIdent k = true ∧ P v
  | .unsetVar k => isIdent k = true
  | .aliasDel k => isIdent k = true
  | _ => False

def unsetupEups : Opts := { isEups := true, fwd := false }

/-! ### the function an alias value defines -/

def flushW (a : List Str) : Option Str → List Str
  | none => a
  | some x => a ++ [x]

/-- word splitting of a plain command line (blanks separate words) -/
def scanW : List Str × Option Str → Str → List Str × Option Str
  | s, [] => s
  | (a, w), c :: r => if c == 32 || c == 9 then scanW (flushW a w, none) r else scanW (a, push w c) r

def bodyWords (v : Str) : List Str := flushW (scanW ([], none) v).1 (scanW ([], none) v).2

/-- alias values covered: a plain command line — words of safe characters separated by blanks, at least one, the first
not a reserved word -/
def SimpleBody (v : Str) : Prop :=
  (∀ c ∈ v, isSafe c = true ∨ c = 32 ∨ c = 9) ∧ ∃ w r, bodyWords v = w :: r ∧ reservedWords.contains w = false

/-- canonical text of the function a plain alias value defines -/
def canon (v : Str) : Str := joinWith [32] (bodyWords v)

def Cmd.applyF : Cmd → Env → Env
  | .aliasDef k v, fs => fs.set k (canon v)
  | .aliasDel k, fs => fs.unset k
  | _, fs => fs

def applyAllF (cmds : List Cmd) (fs : Env) : Env := cmds.foldl (fun e c => c.applyF e) fs

theorem applyAllF_cons (c : Cmd) (r : List Cmd) (e : Env) : applyAllF (c :: r) e = applyAllF r (c.applyF e) := rfl
theorem applyAllF_append (a b : List Cmd) (e : Env) : applyAllF (a ++ b) e = applyAllF b (applyAllF a e) := by
  simp [applyAllF, List.foldl_append]

/-! ### characters -/

theorem meta_facts {c : Nat} (h : isShMeta c = true) : needsQuote c = true ∧ isSafe c = false :=
  (by decide : ∀ c ∈ [32, 9, 10, 60, 62, 124, 38, 59, 40, 41], needsQuote c = true ∧ isSafe c = false) c
    (by simpa [isShMeta, or_assoc] using h)

theorem safe_not_meta {c : Nat} (h : isSafe c = true) : isShMeta c = false := by
  cases hm : isShMeta c with
  | false => rfl
  | true => rw [(meta_facts hm).2] at h; cases h

theorem alpha_ne {c d : Nat} (hc : isSafe c = true ∨ isShMeta c = true) (hs : isSafe d = false)
    (hm : isShMeta d = false) : c ≠ d :=
  hc.elim (ne_of_class · hs) (ne_of_class · hm)

theorem ident_chars {k : Str} (h : isIdent k = true) : ∀ c ∈ k, (Str.isAlnum c || c == 95) = true := by
  cases k with
  | nil => cases h
  | cons a r =>
    simp only [isIdent, Bool.and_eq_true, List.all_eq_true] at h
    intro c hc
    rcases List.mem_cons.mp hc with rfl | hc
    · have := h.1
      simp only [Str.isAlnum, Bool.or_eq_true] at this ⊢
      exact this.imp_left .inl
    · exact h.2 c hc

theorem ident_safe {k : Str} (h : isIdent k = true) : ∀ c ∈ k, isSafe c = true := by
  intro c hc
  have := ident_chars h c hc
  simp only [Bool.or_eq_true, beq_iff_eq] at this
  rcases this with h1 | rfl
  · simp [isSafe, h1]
  · rfl

theorem ident_no_eq {k : Str} (h : isIdent k = true) : ∀ c ∈ k, c ≠ 61 :=
  fun c hc => ne_of_class (p := fun d => Str.isAlnum d || d == 95) (ident_chars h c hc) rfl

theorem ident_ne_nil {k : Str} (hk : isIdent k = true) : k ≠ [] := by
  rintro rfl; cases hk

theorem ident_ne_dashF {k : Str} (hk : isIdent k = true) : k ≠ sDashF := by
  intro e; subst e; revert hk; decide

theorem fnNameOk_ident {k : Str} (h : fnNameOk k = true) : isIdent k = true := by
  simp only [fnNameOk, Bool.and_eq_true] at h
  exact h.1.1

/-! ### the quoting decision -/

theorem wrapped_alpha {v : Str} (h : InAlphabet v) : wrapped v = false := by
  cases v with
  | nil => rfl
  | cons c r =>
    have hc : isQuoteCh c = false := by
      simp [isQuoteCh, alpha_ne (h c (by simp)) (d := 39) rfl rfl, alpha_ne (h c (by simp)) (d := 34) rfl rfl]
    simp [wrapped, hc]

theorem alpha_no_sq {v : Str} (h : InAlphabet v) : ∀ c ∈ v, c ≠ 39 :=
  fun c hc => alpha_ne (h c hc) rfl rfl

theorem emitVal_quoted {v : Str} (hany : v.any needsQuote = true) (hw : wrapped v = false) :
    emitVal v = 39 :: (v ++ [39]) := by
  cases v with
  | nil => cases hany
  | cons c r => simp [emitVal, hw, hany]

theorem emitVal_alpha {v : Str} (h : InAlphabet v) :
    (emitVal v = 39 :: (v ++ [39])) ∨ (emitVal v = v ∧ ∀ c ∈ v, isSafe c = true) := by
  by_cases hm : v.any needsQuote = true
  · exact .inl (emitVal_quoted hm (wrapped_alpha h))
  · refine .inr ⟨by simp [emitVal, hm], fun c hc => (h c hc).resolve_right fun h1 => ?_⟩
    exact hm (List.any_eq_true.mpr ⟨c, hc, (meta_facts h1).1⟩)

theorem alpha_writable {v : Str} (h : InAlphabet v) : Writable v := Or.inl h

theorem emitVal_writable {v : Str} (h : Writable v) :
    (emitVal v = 39 :: (v ++ [39]) ∧ ∀ c ∈ v, c ≠ 39) ∨ (emitVal v = v ∧ ∀ c ∈ v, isSafe c = true) := by
  rcases h with h | ⟨hany, hw, hq⟩
  · exact (emitVal_alpha h).imp (⟨·, alpha_no_sq h⟩) id
  · exact .inl ⟨emitVal_quoted hany hw, hq⟩

/-! ### dictionary loops -/

theorem any_key_eq_has (e : Env) (k : Str) : e.any (·.1 == k) = e.has k := by
  induction e with
  | nil => rfl
  | cons p r ih =>
    obtain ⟨k', v⟩ := p
    by_cases h : k' = k
    · simp [Env.has, Env.get, h]
    · simp only [List.any_cons, Env.has, Env.get, if_neg h, beq_eq_false_iff_ne.mpr h, Bool.false_or]
      exact ih

theorem has_iff_mem_keys (e : Env) (k : Str) : e.has k = true ↔ k ∈ e.map (·.1) := by
  rw [← any_key_eq_has, List.any_eq_true, List.mem_map]
  constructor <;> rintro ⟨p, hp, h⟩ <;> exact ⟨p, hp, by simpa using h⟩

theorem get_none_of_not_mem_keys {e : Env} {k : Str} (h : k ∉ e.map (·.1)) : e.get k = none := by
  cases hg : e.get k with
  | none => rfl
  | some v => exact absurd ((has_iff_mem_keys e k).mp (by simp [Env.has, hg])) h

theorem get_foldl_set {γ : Type} (step : Env → γ → Env) (f : Str × Str → Option γ) (g : Str → Str)
    (hstep : ∀ p c e, f p = some c → step e c = e.set p.1 (g p.2))
    (l : List (Str × Str)) (hnd : (l.map (·.1)).Nodup) : ∀ e : Env,
    (∀ p ∈ l, f p = none → e.get p.1 = some (g p.2)) →
    ∀ n, ((l.filterMap f).foldl step e).get n =
      (match Env.get l n with | some v => some (g v) | none => e.get n) := by
  induction l with
  | nil => intro e _ n; rfl
  | cons p rest ih =>
    obtain ⟨k0, v0⟩ := p
    intro e hskip n
    have hk0 : k0 ∉ rest.map (·.1) := (List.nodup_cons.mp hnd).1
    -- after the first pair, skipped or not, `k0` has its value and nothing else has changed
    obtain ⟨e1, he1, h1, h2⟩ : ∃ e1,
        (((k0, v0) :: rest).filterMap f).foldl step e = (rest.filterMap f).foldl step e1 ∧
        e1.get k0 = some (g v0) ∧ ∀ m, m ≠ k0 → e1.get m = e.get m := by
      cases hc : f (k0, v0) with
      | none => exact ⟨e, by simp [hc], hskip _ (by simp) hc, fun _ _ => rfl⟩
      | some c =>
        exact ⟨e.set k0 (g v0), by simp [hc, hstep _ c e hc], Env.get_set_same ..,
          fun m hm => Env.get_set_other e k0 _ m hm⟩
    rw [he1, ih (List.nodup_cons.mp hnd).2 e1 (fun q hq hn => by
      rw [h2 _ (fun h => hk0 (List.mem_map.mpr ⟨q, hq, h⟩))]; exact hskip q (by simp [hq]) hn) n]
    by_cases hk : k0 = n
    · subst hk; simp [Env.get, get_none_of_not_mem_keys hk0, h1]
    · simp [Env.get, hk, h2 n (Ne.symm hk)]

/-- `b`: whether a key is removed, as a function of the key alone -/
theorem get_foldl_unset {β γ : Type} (step : Env → γ → Env) (f : Str × β → Option γ) (b : Str → Bool)
    (hstep : ∀ p c e, f p = some c → step e c = e.unset p.1) (l : List (Str × β))
    (hb : ∀ p ∈ l, (f p).isSome = b p.1) : ∀ (e : Env) (n : Str),
    ((l.filterMap f).foldl step e).get n = if (l.any (·.1 == n) && b n) = true then none else e.get n := by
  induction l with
  | nil => intro e n; simp
  | cons p rest ih =>
    intro e n
    have hp := hb p (by simp)
    cases hc : f p with
    | none =>
      rw [List.filterMap_cons, hc, ih (fun q hq => hb q (by simp [hq])), List.any_cons]
      by_cases hk : p.1 = n
      · rw [← hk, ← hp, hc]; simp
      · rw [beq_false_of_ne hk, Bool.false_or]
    | some c =>
      rw [List.filterMap_cons, hc, List.foldl_cons, hstep p c e hc, ih (fun q hq => hb q (by simp [hq])), List.any_cons]
      by_cases hk : p.1 = n
      · rw [← hk, ← hp, hc]; simp [Env.get_unset_same]
      · rw [beq_false_of_ne hk, Bool.false_or, Env.get_unset_other e p.1 n (fun h => hk h.symm)]

/-- the commands of a dictionary difference — an assignment for every entry of `new` not skipped, then a removal for
exactly those entries of `old` whose key `new` lacks — applied to a map that holds the skipped entries already
(`g`: how a value is stored) -/
theorem get_diff {β γ : Type} (step : Env → γ → Env) (fset : Str × Str → Option γ) (fdel : Str × β → Option γ)
    (g : Str → Str)
    (hset : ∀ p c e, fset p = some c → step e c = e.set p.1 (g p.2))
    (hdel : ∀ p c e, fdel p = some c → step e c = e.unset p.1)
    (new : List (Str × Str)) (old : List (Str × β)) (hnd : (new.map (·.1)).Nodup) (e : Env)
    (hskip : ∀ p ∈ new, fset p = none → e.get p.1 = some (g p.2))
    (hgone : ∀ p ∈ old, (fdel p).isSome = !Env.has new p.1) (n : Str) :
    ((new.filterMap fset ++ old.filterMap fdel).foldl step e).get n =
      match Env.get new n with
      | some v => some (g v)
      | none => if old.any (·.1 == n) then none else e.get n := by
  rw [List.foldl_append, get_foldl_unset step fdel (fun k => !Env.has new k) hdel old hgone,
    get_foldl_set step fset g hset new hnd e hskip]
  cases hn : Env.get new n with
  | some v => simp [Env.has, hn]
  | none => simp only [Env.has, hn, Option.isSome_none, Bool.not_false, Bool.and_true]

/-! ### `Tracks` -/

/-- `old` is the caller's environment `base` with some values forgotten (`--force`) -/
structure Tracks (old : OldEnv) (base : Env) : Prop where
  keys : old.map (·.1) = base.map (·.1)
  value : ∀ k v, old.lookup k = some (some v) → base.get k = some v

theorem lookup_ofEnv (base : Env) (k : Str) : (OldEnv.ofEnv base).lookup k = (base.get k).map some := by
  fun_induction Env.get base k with
  | case1 => rfl
  | case2 v rest => simp [OldEnv.ofEnv, OldEnv.lookup]
  | case3 k' v rest hk ih => simpa [OldEnv.ofEnv, OldEnv.lookup, hk] using ih

theorem written_ofEnv {P : Str → Prop} {base new : Env} (h : ∀ p ∈ new, base.get p.1 ≠ some p.2 → P p.2) :
    ∀ p ∈ new, (OldEnv.ofEnv base).lookup p.1 ≠ some (some p.2) → P p.2 :=
  fun p hp hl => h p hp fun hg => hl (by rw [lookup_ofEnv, hg]; rfl)

theorem tracks_ofEnv (base : Env) : Tracks (OldEnv.ofEnv base) base := by
  constructor
  · simp [OldEnv.ofEnv, List.map_map, Function.comp_def]
  · intro k v h
    rw [lookup_ofEnv] at h
    cases hg : base.get k with
    | none => rw [hg] at h; cases h
    | some w => rw [hg] at h; cases h; rfl

theorem lookup_forget (o : OldEnv) (k k2 : Str) :
    (o.forget k).lookup k2 = if k = k2 then (o.lookup k2).map fun _ => none else o.lookup k2 := by
  induction o with
  | nil => simp [OldEnv.forget, OldEnv.lookup]
  | cons p rest ih =>
    obtain ⟨k', v'⟩ := p
    simp only [OldEnv.forget, List.map_cons, OldEnv.lookup] at ih ⊢
    by_cases hk : k' = k
    · subst hk; by_cases hk2 : k' = k2 <;> simp [hk2, ih]
    · by_cases hk2 : k' = k2
      · subst hk2; simp [hk, Ne.symm hk]
      · simp [hk, hk2, ih]

theorem tracks_forget {old : OldEnv} {base : Env} (h : Tracks old base) (k : Str) : Tracks (old.forget k) base := by
  constructor
  · rw [← h.keys]
    simp only [OldEnv.forget, List.map_map]
    apply List.map_congr_left
    intro p _
    simp only [Function.comp]
    split <;> rfl
  · intro k2 v hl
    rw [lookup_forget] at hl
    split at hl
    · cases ho : old.lookup k2 <;> simp [ho] at hl
    · exact h.value k2 v hl

theorem envSetAct_old (f d : Bool) (k v : Str) (s : SetupSt) :
    (envSetAct f d k v s).old = if f then s.old.forget k else s.old := by
  unfold envSetAct
  cases d
  · rfl
  · simp only [if_true]; split <;> rfl

theorem tracks_forget_if {old : OldEnv} {base : Env} (h : Tracks old base) (f : Bool) (k : Str) :
    Tracks (if f then old.forget k else old) base := by
  cases f
  · exact h
  · exact tracks_forget h k

theorem tracks_run (base : Env) (a : Act) (s : SetupSt) (h : Tracks s.old base) : Tracks (a.run false s).old base := by
  cases a with
  | envSet f d k v =>
    show Tracks (envSetAct f d k v s).old base
    rw [envSetAct_old]; exact tracks_forget_if h f k
  | path f k v => exact tracks_forget_if h f k
  | unset k => exact h
  | alias f d k v =>
    show Tracks (aliasAct f d k v s).old base
    cases d <;> exact h
  | push => exact h
  | pop =>
    show Tracks (popAct s).old base
    unfold popAct; split <;> exact h
  | drop => exact h

theorem tracks_runActs (acts : List Act) (base : Env) : Tracks (runActs false acts base).old base :=
  foldl_invariant (P := fun s : SetupSt => Tracks s.old base) (tracks_ofEnv base) fun s a _ h => tracks_run base a s h

theorem tracks_key_mem {old : OldEnv} {base : Env} (ht : Tracks old base) {p : Str × Option Str} (hp : p ∈ old) :
    p.1 ∈ base.map (·.1) := by
  rw [← ht.keys]; exact List.mem_map.mpr ⟨p, hp, rfl⟩

theorem tracks_any_key {old : OldEnv} {base : Env} (ht : Tracks old base) (n : Str) :
    old.any (·.1 == n) = base.has n := by
  have h1 : ∀ {β : Type} (l : List (Str × β)), l.any (·.1 == n) = (l.map (·.1)).any (· == n) := by
    intro β l; rw [List.any_map]; rfl
  rw [← any_key_eq_has, h1, h1, ht.keys]

theorem tracks_ident {old : OldEnv} {base : Env} (ht : Tracks old base) (hidb : ∀ p ∈ base, isIdent p.1 = true) :
    ∀ p ∈ old, isIdent p.1 = true := by
  intro p hp
  obtain ⟨q, hq, hqk⟩ := List.mem_map.mp (tracks_key_mem ht hp)
  rw [← hqk]; exact hidb q hq

/-! ### the two loops over the variables -/

theorem setCmd?_some {o : Opts} {old : OldEnv} {p : Str × Str} {c : Cmd} (h : setCmd? o old p = some c) :
    c = .setVar p.1 p.2 ∧ old.lookup p.1 ≠ some (some p.2) := by
  revert h
  fun_cases setCmd? o old p <;> intro h <;> cases h
  exact ⟨rfl, by simpa using ‹¬(old.lookup p.1 == some (some p.2)) = true›⟩

theorem setCmd?_none {o : Opts} (hh : o.noaction = false) {old : OldEnv} {p : Str × Str} (h : setCmd? o old p = none) :
    old.lookup p.1 = some (some p.2) := by
  simpa [setCmd?, hidden, hh] using h

theorem unsetCmd?_some {o : Opts} {new : Env} {p : Str × Option Str} {c : Cmd} (h : unsetCmd? o new p = some c) :
    c = .unsetVar p.1 := by
  revert h
  fun_cases unsetCmd? o new p <;> intro h <;> cases h <;> rfl

theorem mem_emitVarsOn {o : Opts} {old : OldEnv} {new : Env} {c : Cmd} (h : c ∈ emitVarsOn o old new) :
    (∃ p ∈ new, c = .setVar p.1 p.2 ∧ old.lookup p.1 ≠ some (some p.2)) ∨ ∃ p ∈ old, c = .unsetVar p.1 := by
  simp only [emitVarsOn, List.mem_append, List.mem_filterMap] at h
  rcases h with ⟨p, hp, hc⟩ | ⟨p, hp, hc⟩
  · exact .inl ⟨p, hp, setCmd?_some hc⟩
  · exact .inr ⟨p, hp, unsetCmd?_some hc⟩

theorem emitVarsOn_congr {o o' : Opts} (he : o.isEups = o'.isEups) (hh : ∀ k, hidden o k = hidden o' k)
    (old : OldEnv) (new : Env) : emitVarsOn o old new = emitVarsOn o' old new := by
  have hs : setCmd? o old = setCmd? o' old := by funext p; simp only [setCmd?, hh]
  have hu : unsetCmd? o new = unsetCmd? o' new := by funext p; simp only [unsetCmd?, hh, he]
  rw [emitVarsOn, emitVarsOn, hs, hu]

theorem exports_spec (o : Opts) (hh : o.noaction = false) (old : OldEnv) (new : Env)
    (hnd : (new.map (·.1)).Nodup) (e : Env)
    (hskip : ∀ p ∈ new, old.lookup p.1 = some (some p.2) → e.get p.1 = some p.2) (k : Str) :
    (applyAll (new.filterMap (setCmd? o old)) e).get k =
      (match Env.get new k with | some v => some v | none => e.get k) :=
  get_foldl_set (γ := Cmd) (fun e c => c.apply e) (setCmd? o old) id (fun p c e h => by rw [(setCmd?_some h).1]; rfl)
    new hnd e (fun p hp hn => hskip p hp (setCmd?_none hh hn)) k

/-- `hprot`: for eups itself no variable is protected -/
theorem emitVarsOn_apply (o : Opts) (hna : o.noaction = false) (old : OldEnv) (base new : Env) (ht : Tracks old base)
    (hnd : (new.map (·.1)).Nodup)
    (hprot : o.isEups = true ∨ ∀ k, isProtected k = true → base.has k = true → new.has k = true) :
    SameEnv (applyAll (emitVarsOn o old new) base) new := by
  -- `unset k` is written exactly when `k` is gone: a protected name the caller had is never gone
  have hgone : ∀ p ∈ old, (unsetCmd? o new p).isSome = !Env.has new p.1 := by
    intro p hp
    have hb : base.has p.1 = true := (has_iff_mem_keys base p.1).mpr (tracks_key_mem ht hp)
    cases hn : new.has p.1 with
    | true => simp [unsetCmd?, hn]
    | false =>
      have : (!o.isEups && isProtected p.1) = false := by
        rcases hprot with h | h
        · simp [h]
        · cases hx : isProtected p.1 with
          | false => simp
          | true => rw [h _ hx hb] at hn; cases hn
      simp [unsetCmd?, hn, this, hidden, hna]
  intro k
  rw [emitVarsOn, applyAll, get_diff (fun e c => c.apply e) (setCmd? o old) (unsetCmd? o new) id
    (fun p c e h => by rw [(setCmd?_some h).1]; rfl) (fun p c e h => by rw [unsetCmd?_some h]; rfl) new old hnd base
    (fun p _ hn => ht.value p.1 p.2 (setCmd?_none hna hn)) hgone k, tracks_any_key ht]
  cases hn : new.get k with
  | some v => rfl
  | none => cases hb : base.get k <;> simp [Env.has, hb]

theorem emitVarsOn_good {P : Str → Prop} (o : Opts) (old : OldEnv) (base new : Env) (ht : Tracks old base)
    (hidb : ∀ p ∈ base, isIdent p.1 = true) (hidn : ∀ p ∈ new, isIdent p.1 = true)
    (halpha : ∀ p ∈ new, old.lookup p.1 ≠ some (some p.2) → P p.2) :
    ∀ c ∈ emitVarsOn o old new, c.Good P := by
  intro c hc
  rcases mem_emitVarsOn hc with ⟨p, hp, rfl, hl⟩ | ⟨p, hp, rfl⟩
  · exact ⟨hidn p hp, halpha p hp hl⟩
  · exact tracks_ident ht hidb p hp

theorem applyAllF_vars (o : Opts) (old : OldEnv) (new fs : Env) : applyAllF (emitVarsOn o old new) fs = fs := by
  refine foldl_fixed fun c hc => ?_
  rcases mem_emitVarsOn hc with ⟨p, _, rfl, _⟩ | ⟨p, _, rfl⟩ <;> rfl

/-! ### the two loops over the aliases -/

def defCmd? (oldAliases : List (Str × Option Str)) (p : Str × Str) : Option Cmd :=
  if (oldAliases.find? (·.1 == p.1)).map (·.2) == some (some p.2) then none else some (Cmd.aliasDef p.1 p.2)

def delCmd? (aliases : List (Str × Str)) (p : Str × Option Str) : Option Cmd :=
  if aliases.any (·.1 == p.1) then none else some (Cmd.aliasDel p.1)

theorem emitAliases_eq (al : List (Str × Str)) (oal : List (Str × Option Str)) :
    emitAliases al oal = al.filterMap (defCmd? oal) ++ oal.filterMap (delCmd? al) := by
  rfl

theorem defCmd?_some {oal : List (Str × Option Str)} {p : Str × Str} {c : Cmd} (h : defCmd? oal p = some c) :
    c = .aliasDef p.1 p.2 := by
  revert h
  fun_cases defCmd? oal p <;> intro h <;> cases h <;> rfl

theorem delCmd?_some {al : List (Str × Str)} {p : Str × Option Str} {c : Cmd} (h : delCmd? al p = some c) :
    c = .aliasDel p.1 := by
  revert h
  fun_cases delCmd? al p <;> intro h <;> cases h <;> rfl

theorem mem_emitAliases {al : List (Str × Str)} {oal : List (Str × Option Str)} {c : Cmd} (h : c ∈ emitAliases al oal) :
    (∃ p ∈ al, c = .aliasDef p.1 p.2) ∨ ∃ p ∈ oal, c = .aliasDel p.1 := by
  rw [emitAliases_eq] at h
  simp only [List.mem_append, List.mem_filterMap] at h
  rcases h with ⟨p, hp, hc⟩ | ⟨p, hp, hc⟩
  · exact .inl ⟨p, hp, defCmd?_some hc⟩
  · exact .inr ⟨p, hp, delCmd?_some hc⟩

theorem applyAll_aliasCmds (al : List (Str × Str)) (oal : List (Str × Option Str)) (e : Env) :
    applyAll (emitAliases al oal) e = e := by
  refine foldl_fixed fun c hc => ?_
  rcases mem_emitAliases hc with ⟨p, _, rfl⟩ | ⟨p, _, rfl⟩ <;> rfl

theorem emitCmds_apply (o : Opts) (hna : o.noaction = false) (old : OldEnv) (base new : Env) (ht : Tracks old base)
    (hnd : ((finalEnv o new).map (·.1)).Nodup)
    (hprot : o.isEups = true ∨ ∀ k, isProtected k = true → base.has k = true → (finalEnv o new).has k = true)
    (al : List (Str × Str)) (oal : List (Str × Option Str)) :
    SameEnv (applyAll (emitCmds o old new al oal) base) (finalEnv o new) := by
  rw [emitCmds, applyAll_append, applyAll_aliasCmds]
  exact emitVarsOn_apply o hna old base _ ht hnd hprot

theorem aliases_spec (al : List (Str × Str)) (oal : List (Str × Option Str)) (fs : Env)
    (hnd : (al.map (·.1)).Nodup)
    (htrack : ∀ p ∈ al, defCmd? oal p = none → fs.get p.1 = some (canon p.2)) (n : Str) :
    (applyAllF (emitAliases al oal) fs).get n =
      (match Env.get al n with
       | some v => some (canon v)
       | none => if oal.any (·.1 == n) then none else fs.get n) := by
  rw [emitAliases_eq]
  exact get_diff (γ := Cmd) (fun e c => c.applyF e) (defCmd? oal) (delCmd? al) canon
    (fun p c e h => by rw [defCmd?_some h]; rfl) (fun p c e h => by rw [delCmd?_some h]; rfl) al oal hnd fs htrack
    (fun p _ => by simp only [delCmd?, any_key_eq_has]; cases Env.has al p.1 <;> rfl) n

/-! ### rendering -/

theorem mapM_eq_some_map {α β : Type} {f : α → Option β} {g : α → β} (l : List α) (h : ∀ a ∈ l, f a = some (g a)) :
    l.mapM f = some (l.map g) := by
  induction l with
  | nil => rfl
  | cons a r ih => simp [List.mapM_cons, h a (by simp), ih (fun b hb => h b (by simp [hb]))]

theorem foldlM_eq_some_foldl {α β : Type} {f : α → β → Option α} {g : α → β → α} (l : List β)
    (h : ∀ b ∈ l, ∀ a, f a b = some (g a b)) (a : α) : l.foldlM f a = some (l.foldl g a) := by
  induction l generalizing a with
  | nil => rfl
  | cons b r ih => simp [List.foldlM_cons, h b (by simp) a, ih (fun c hc => h c (by simp [hc]))]

theorem render_sh (o : Opts) (hn : o.noaction = false) (hs : o.shell = .sh) (c : Cmd) : render o c = some c.text := by
  cases c <;> simp [render, echoWrap, Cmd.text, hn, hs]

theorem mapM_render_sh (o : Opts) (hn : o.noaction = false) (hs : o.shell = .sh) (l : List Cmd) :
    l.mapM (render o) = some (l.map Cmd.text) :=
  mapM_eq_some_map l fun c _ => render_sh o hn hs c

theorem emitText_eq (old : OldEnv) (new : Env) :
    emitText old new = join ((emitVarsOn {} old new).map Cmd.text) := by
  have : render {} = some ∘ Cmd.text := funext (render_sh {} rfl rfl)
  simp [emitText, emitVars, finalEnv, this, List.filterMap_eq_map]

/-- `echo "T"` -/
def echoText (t : Str) : Str := [101, 99, 104, 111, 32, 34] ++ t ++ [34]

theorem render_noaction (o : Opts) (ho : o.noaction = true) (hsh : o.shell = .sh) {P : Str → Prop} (c : Cmd)
    (h : c.Good P) : render o c = some (echoText c.text) := by
  cases c with
  | aliasDef k v => exact h.elim
  | _ => simp [render, echoWrap, echoText, Cmd.text, ho, hsh]

/-! ### csh -/

theorem cshApply_good (e : Env) (c : Cmd) (h : c.Good fun v => cshWord (emitVal v) = some v) :
    cshApply e c = some (c.apply e) := by
  cases c with
  | setVar k v => simp [cshApply, h.1, h.2, Cmd.apply]
  | unsetVar k => simp [cshApply, show isIdent k = true from h, Cmd.apply]
  | aliasDef k v => exact h.elim
  | aliasDel k => rfl

/-! ### the protected names -/

theorem any_eq_or_eq_snoc (l : List Str) (k : Str) :
    (l.any fun p => k == p || k == p ++ [10]) = true ↔ k ∈ l ∨ k ∈ l.map (· ++ [10]) := by
  induction l with
  | nil => simp
  | cons a r ih =>
    simp only [List.any_cons, Bool.or_eq_true, beq_iff_eq, ih, List.mem_cons, List.map_cons]
    exact or_or_or_comm

/-! ### the command line -/

theorem cliEarly_mem (c : Cli) (w : CliWorld) (r : CliResult) (h : cliEarly c w = some r) :
    r = ⟨none, 0⟩ ∨ r = ⟨none, 2⟩ ∨ r = ⟨none, 3⟩ ∨ r = cliFailed 4 := by
  revert h
  fun_cases cliEarly c w <;> intro h <;> cases h <;> simp

end EupsModel.ShellEmit
