import EupsModel.Lemmas.SetupBasic
/-! What the proofs use of resolution: where the product returned comes from (`Origin`), hence that it is a declaration
of the requested name (provided `alreadySetupProducts` holds declarations filed under their own names), and that a
top-level request for an explicit version gets that version (`resolve_found`). -/
namespace EupsModel.Setup

def AlreadyOK (db : Db) (al : Already) : Prop :=
  ∀ n d r, aget al n = some (d, r) → Canon db d ∧ d.name = n

theorem alreadyOK_init (db : Db) (e : Env) : AlreadyOK db (St.init e).already := fun _ _ _ h => nomatch h

theorem lookup_named (db : Db) (n : Name) (v : Ver) (d : Decl) (h : db.lookup (n, v) = some d) :
    Canon db d ∧ d.name = n := by
  obtain ⟨hc, hp⟩ := lookup_canon db (n, v) d h
  exact ⟨hc, congrArg Prod.fst hp⟩

theorem findVer_named (db : Db) (path : List Nat) (n : Name) (v : VStr) (d : Decl)
    (h : db.findVer path n v = some d) : Canon db d ∧ d.name = n ∧ d.ver.1 = v := by
  unfold Db.findVer at h
  obtain ⟨k, _, hk⟩ := List.exists_of_findSome?_eq_some h
  obtain ⟨hc, hn⟩ := lookup_named db n (v, k) d hk
  exact ⟨hc, hn, by rw [(lookup_some db _ d hk).2.2]⟩

theorem tagged_named (db : Db) (path : List Nat) (t : Str) (n : Name) (d : Decl)
    (h : db.tagged path t n = some d) : Canon db d ∧ d.name = n := by
  unfold Db.tagged at h
  obtain ⟨k, _, hk⟩ := List.exists_of_findSome?_eq_some h
  cases hf : db.tags.find? (fun x => x.1 = t ∧ x.2.1 = n ∧ x.2.2.2 = k) with
  | none => rw [hf] at hk; cases hk
  | some x => rw [hf] at hk; exact lookup_named db n x.2.2 d hk

/-- where a declaration that resolution returns for `name` comes from, with no hypothesis on `al`: all that is kept of
taking `walk`, `find` and `resolve` apart (`resolve_found`), and the proofs use one consequence of it, `Origin.named`.  Which
VRO entry stopped the walk is not kept: `resolve_keep` (`Lemmas/SetupKeep.lean`) runs the three on a VRO headed by `keep`. -/
inductive Origin (db : Db) (path : List Nat) (al : Already) (name : Name) (d : Decl) : Prop where
  | already (r : Option VroEnt) (h : aget al name = some (d, r))
  | tagged (t : Str) (h : db.tagged path t name = some d)
  | version (v : VStr) (h : db.findVer path name v = some d)

theorem Origin.named {db : Db} {path : List Nat} {al : Already} {name : Name} {d : Decl} (hal : AlreadyOK db al)
    (h : Origin db path al name d) : Canon db d ∧ d.name = name := by
  cases h with
  | already r h => exact hal _ _ _ h
  | tagged t h => exact tagged_named db path t name d h
  | version v h => exact (findVer_named db path name v d h).imp_right And.left

theorem walk_origin (db : Db) (path : List Nat) (al : Already) (name : Name)
    (version : Option VerReq) (depth : Nat) (vro : List VroEnt) :
    ∀ vexpr d r e0, walk db path al name version depth vexpr vro = some (d, r, e0) → Origin db path al name d := by
  induction vro with
  | nil => intro vexpr d r e0 h; simp [walk] at h
  | cons ent post ih =>
    intro vexpr d r e0 h
    cases ent with
    | path | typeExact | warn => simp only [walk] at h; exact ih _ _ _ _ h
    | keep =>
      simp only [walk] at h
      split at h
      · split at h
        · rename_i d' r' hg
          simp at h; obtain ⟨rfl, _, _⟩ := h
          exact .already _ hg
        · exact ih _ _ _ _ h
      · exact ih _ _ _ _ h
    | commandLine =>
      simp only [walk] at h
      split at h
      · rename_i d' hg
        simp at h; obtain ⟨rfl, _, _⟩ := h
        exact .already _ hg
      · exact ih _ _ _ _ h
    | tag t =>
      simp only [walk] at h
      split at h
      · rename_i d' hl
        simp at h; obtain ⟨rfl, _, _⟩ := h
        exact .tagged t hl
      · exact ih _ _ _ _ h
    | version | versionBang | versionExpr =>
      simp only [walk] at h
      split at h
      · exact ih _ _ _ _ h
      · rename_i req
        split at h
        · exact ih _ _ _ _ h
        · cases h
        · split at h
          · rename_i d' hb
            simp at h; obtain ⟨rfl, _, _⟩ := h
            split at hb
            · split at hb
              · split at hb
                · exact .version _ hb
                · cases hb
              · cases hb
            · cases hb
          · split at h
            · rename_i d' hb
              simp at h; obtain ⟨rfl, _, _⟩ := h
              cases req with
              | explicit v => exact .version v hb
              | expr e => cases hb
            · split at h
              · exact ih _ _ _ _ h
              · cases h

theorem find_origin (db : Db) (path : List Nat) (al : Already) (name : Name)
    (version : Option VerReq) (vexpr : Option VExpr) (depth : Nat) (vro : List VroEnt) (d : Decl) (r : VroEnt)
    (h : find db path al name version vexpr depth vro = some (d, r)) : Origin db path al name d := by
  unfold find at h
  split at h
  · cases h
  · rename_i d' r' e0 hw
    have hd' := walk_origin db path al name version depth vro vexpr d' r' e0 hw
    split at h
    · rename_i od oreason hg
      split at h
      · simp at h; obtain ⟨rfl, _⟩ := h; exact .already _ hg
      · simp at h; obtain ⟨rfl, _⟩ := h; exact hd'
    · simp at h; obtain ⟨rfl, _⟩ := h; exact hd'

theorem resolve_found (db : Db) (path : List Nat) (keep : Bool) (al : Already) (name : Name)
    (version : Option VerReq) (vexpr : Option VExpr) (depth : Nat) :
    ∀ k vro d r, resolve db path keep al name version vexpr depth k vro = .found d r →
      Origin db path al name d ∧ ∀ v, version = some (.explicit v) → depth = 0 → d.ver.1 = v := by
  intro k
  induction k with
  | zero => intro vro d r h; simp [resolve] at h
  | succ k ih =>
    intro vro d r h
    simp only [resolve] at h
    split at h
    · cases h
    · split at h
      · cases h
      · rename_i d' reason hr
        have hd' : Origin db path al name d' := by
          split at hr
          · rename_i d'' r'' hf
            simp at hr; obtain ⟨rfl, _⟩ := hr
            exact find_origin db path al name version vexpr depth vro _ _ hf
          · split at hr
            · rename_i d'' r'' hg
              split at hr
              · cases hr
              · simp at hr; obtain ⟨rfl, _⟩ := hr; exact .already _ hg
            · cases hr
        split at h
        · split at h
          · split at h
            · cases h
            · split at h
              · exact ih _ _ _ h
              · cases h
          · rename_i hgood
            simp at h; obtain ⟨rfl, _⟩ := h
            refine ⟨hd', fun v' hv h0 => ?_⟩
            cases hv
            simp at hgood
            exact hgood h0
        · rename_i hne
          simp at h; obtain ⟨rfl, _⟩ := h
          exact ⟨hd', fun v hv _ => absurd hv (hne v)⟩

theorem resolve_spec (db : Db) (path : List Nat) (keep : Bool) (al : Already) (hal : AlreadyOK db al) (name : Name)
    (version : Option VerReq) (vexpr : Option VExpr) (depth : Nat) :
    ∀ k vro d r, resolve db path keep al name version vexpr depth k vro = .found d r → Canon db d ∧ d.name = name :=
  fun k vro d r h => (resolve_found db path keep al name version vexpr depth k vro d r h).1.named hal

theorem resolve_explicit (db : Db) (path : List Nat) (keep : Bool) (al : Already) (name : Name) (v : VStr)
    (vexpr : Option VExpr) :
    ∀ k vro d r, resolve db path keep al name (some (.explicit v)) vexpr 0 k vro = .found d r → d.ver.1 = v :=
  fun k vro d r h => (resolve_found db path keep al name _ vexpr 0 k vro d r h).2 v rfl rfl

theorem pickDecl_spec (db : Db) (c : PCache) (d : Decl) (n : Name) (hc : Canon db d) (hn : d.name = n) :
    Canon db (pickDecl db c d) ∧ (pickDecl db c d).name = n := by
  unfold pickDecl
  cases hg : aget c (d.name, d.ver.1, d.ver.2) with
  | none => exact ⟨hc, hn⟩
  | some k =>
    simp only
    cases hl : db.lookup (d.name, (d.ver.1, k)) with
    | none => simpa using ⟨hc, hn⟩
    | some d' =>
      obtain ⟨h1, h2⟩ := lookup_named db d.name (d.ver.1, k) d' hl
      simpa using ⟨h1, by rw [h2]; exact hn⟩

theorem pickDecl_ver (db : Db) (c : PCache) (d : Decl) : (pickDecl db c d).ver.1 = d.ver.1 := by
  unfold pickDecl
  cases hg : aget c (d.name, d.ver.1, d.ver.2) with
  | none => rfl
  | some k =>
    simp only
    cases hl : db.lookup (d.name, (d.ver.1, k)) with
    | none => rfl
    | some d' => simp; rw [(lookup_some db _ d' hl).2.2]

theorem alreadyOfEnv_ok (db : Db) (e : Env) : AlreadyOK db (alreadyOfEnv db e) := by
  intro n d r h
  have hm := aget_mem _ _ _ h
  unfold alreadyOfEnv at hm
  simp only [List.mem_filterMap] at hm
  obtain ⟨⟨n', v'⟩, _, hx⟩ := hm
  cases hl : db.lookup (n', v') with
  | none => simp [hl] at hx
  | some d' =>
    simp [hl] at hx
    obtain ⟨rfl, rfl, _⟩ := hx
    exact lookup_named db n' v' d' hl

theorem alreadyOK_aset (db : Db) (al : Already) (hal : AlreadyOK db al) (d : Decl) (r : Option VroEnt)
    (hc : Canon db d) : AlreadyOK db (aset al d.name (d, r)) := by
  intro n d' r' h
  by_cases hn : n = d.name
  · subst hn
    rw [aget_aset_same] at h
    simp at h; obtain ⟨rfl, _⟩ := h
    exact ⟨hc, rfl⟩
  · rw [aget_aset_other _ _ _ _ hn] at h
    exact hal _ _ _ h

end EupsModel.Setup
