import EupsModel.Lemmas.TableRun
/-! C11, legacy clause, new style: `_rewrite` turns runs of `Flavor =` lines into exactly the `if` blocks they stand
for, so a legacy table and its `if` form are the same table downstream.  A group is the composition of its lines
(`run_fgroup`); the closing brace of a group is written when the next one starts or the file ends (`outG`). -/
namespace EupsModel.TableParse
open EupsModel.Cond EupsModel.C11Spec

theorem rewriteLine_flav {st : RwState} (hg : st.inGroup = false) {f : FlavLine} (hf : f.ok = true) :
    rewriteLine st f.raw = .ok (match st.newGroup with
      | .inFlavors => { st with cond := st.cond ++ sBarBar ++ sFlavorEq ++ f.flavor }
      | ng => { st with newGroup := .inFlavors, cond := sFlavorEq ++ f.flavor,
                        out := if ng == .yes then st.out ++ [sClose] else st.out }) := by
  obtain ⟨cf, hfile, hcap⟩ := flav_facts hf
  simp [rewriteLine, cf.strip_eq, cf.nonempty, kwEqCap_none, qualLine_none, hfile, kw_others cf.head, cf.syn, kwLine, hcap, hg]
  cases st.old <;> cases st.newGroup <;> simp

theorem run_flav_first {f : FlavLine} (hf : f.ok = true) (st : RwState) (hg : st.inGroup = false)
    (hn : st.newGroup ≠ .inFlavors) :
    Run st [f.raw] { st with newGroup := .inFlavors, cond := sFlavorEq ++ f.flavor,
                             out := st.out ++ if st.newGroup == .yes then [sClose] else [] } :=
  .line (flav_facts hf).1.noNL (by rw [rewriteLine_flav hg hf]; cases h : st.newGroup <;> simp_all)

theorem run_flav_more : ∀ (more : List FlavLine) (old : Bool) (cond : Str) (out : List Str), more.all FlavLine.ok = true →
    Run ⟨old, false, .inFlavors, cond, out⟩ (more.map FlavLine.raw)
      ⟨old, false, .inFlavors, more.foldl (fun c g => c ++ sBarBar ++ sFlavorEq ++ g.flavor) cond, out⟩
  | [], _, _, _, _ => Run.nil _
  | f :: fs, old, cond, out, h => by
    simp only [List.all_cons, Bool.and_eq_true] at h
    exact (Run.line (flav_facts h.1).1.noNL (rewriteLine_flav rfl h.1)).cons (run_flav_more fs old _ out h.2)

/-- the first line after the run: `_rewrite` writes the `if` line before it -/
theorem run_after_flavs {raw : Str} (hnl : raw.all (· != 10) = true) (hneu : neutral (strip raw) = true) (st : RwState)
    (hn : st.newGroup = .inFlavors) :
    Run st [raw] { st with newGroup := .yes, out := st.out ++ [sIfOpen ++ st.cond ++ sIfClose, strip raw] } :=
  .line hnl (by rw [rewriteLine_neutral' rfl hneu, hn])

theorem run_fgroup {g : FGroup} (hok : g.ok = true) (old : Bool) (ng : NewGroup) (cond : Str) (out : List Str)
    (hn : ng ≠ .inFlavors) :
    Run ⟨old, false, ng, cond, out⟩ g.raws
      ⟨old, false, .yes, flavCond g.f.flavor (g.more.map FlavLine.flavor),
        out ++ ((if ng == .yes then [sClose] else []) ++ g.ifLine :: coresOf (g.first :: g.rest))⟩ := by
  simp only [FGroup.ok, Bool.and_eq_true, Bool.not_eq_true'] at hok
  obtain ⟨⟨⟨⟨⟨hf, hmore⟩, hnl⟩, hne⟩, hneu⟩, hrest⟩ := hok
  have := run_flav_first hf ⟨old, false, ng, cond, out⟩ rfl hn
    |>.append (run_flav_more g.more old _ _ hmore)
    |>.append (run_after_flavs hnl hneu _ rfl)
    |>.append (Run.pass hrest _ (by simp))
  simpa [FGroup.raws, FGroup.ifLine, flavCond, List.foldl_map, coresOf_cons_ne hne, List.append_assoc] using this

/-- what `_rewrite` has written after the groups (`open`: a group is open before them) -/
def outG : Bool → List FGroup → List Str
  | _, [] => []
  | op, g :: gs => (if op then [sClose] else []) ++ g.ifLine :: coresOf (g.first :: g.rest) ++ outG true gs

theorem emits_fgroups : ∀ (gs : List FGroup) (ng : NewGroup), ng ≠ .inFlavors → gs.all FGroup.ok = true →
    Emits ng (gs.flatMap FGroup.raws) (outG (ng == .yes) gs) (if gs.isEmpty then ng else .yes)
  | [], ng, _, _ => Emits.nil ng
  | g :: gs, ng, hn, hall => by
    simp only [List.all_cons, Bool.and_eq_true] at hall
    have h1 : Emits ng g.raws _ .yes := fun old cond out => ⟨_, run_fgroup hall.1 old ng cond out hn⟩
    have := h1.append (emits_fgroups gs .yes (by decide) hall.2)
    cases gs <;> simpa [outG, List.append_assoc] using this

theorem outG_close : ∀ (gs : List FGroup), outG true gs ++ [sClose] = sClose :: gs.flatMap FGroup.block := by
  intro gs
  induction gs with
  | nil => simp [outG]
  | cons g gs ih =>
    simp only [outG, if_true, List.flatMap_cons, FGroup.block, List.append_assoc, List.cons_append, List.nil_append]
    rw [ih]
    simp [coresOf]

theorem outG_blocks (gs : List FGroup) :
    outG false gs ++ (if gs.isEmpty then [] else [sClose]) = gs.flatMap FGroup.block := by
  cases gs with
  | nil => simp [outG]
  | cons g gs =>
    simp only [outG, List.isEmpty_cons, Bool.false_eq_true, if_false, List.nil_append, List.flatMap_cons, FGroup.block,
      List.cons_append, List.append_assoc]
    rw [outG_close]
    simp [coresOf]

theorem fixed_block {g : FGroup} (hok : g.ok = true) : ∀ l ∈ g.block, Fixed l := by
  simp only [FGroup.ok, Bool.and_eq_true, Bool.not_eq_true'] at hok
  obtain ⟨⟨⟨⟨⟨hf, hmore⟩, hnl⟩, hne⟩, hneu⟩, hrest⟩ := hok
  have hpc : ∀ g : Str, g.all isTokCh = true → (sFlavorEq ++ g).all lineCh = true := fun g hg => by
    have b : sFlavorEq.all lineCh = true := by decide
    simp [List.all_append, b, lineCh_of_tokChs hg]
  have e : (fun (c g : Str) => c ++ sBarBar ++ sFlavorEq ++ g) = fun c g => c ++ sBarBar ++ (sFlavorEq ++ g) := by
    funext c g; simp [List.append_assoc]
  have hc := lineCh_cond hpc g.more _ hmore (hpc _ (flav_tok hf))
  rw [← e] at hc
  exact fixed_ifBlock hc (body := g.first :: g.rest) (by simp [passesLine, hnl, hneu, hrest])

theorem rewrite_legacy (pre : List Str) (gs : List FGroup) (nl : Bool) (hpre : pre.all passesLine = true)
    (hgs : gs.all FGroup.ok = true) :
    rewrite (legacyText pre gs nl) = .ok (coresOf pre ++ gs.flatMap FGroup.block) := by
  have : rewrite (legacyText pre gs nl) = _ :=
    rewrite_of_emits (hdr := []) (Run.nil _) ((Emits.pass hpre (by decide)).append (emits_fgroups gs .no (by decide) hgs)) nl
  rw [this, ← outG_blocks gs]
  have hb : (NewGroup.no == NewGroup.yes) = false := by decide
  cases gs <;> simp [List.append_assoc, hb]

theorem rewrite_asIf (pre : List Str) (gs : List FGroup) (nl : Bool) (hpre : pre.all passesLine = true)
    (hgs : gs.all FGroup.ok = true) :
    rewrite (legacyAsIfText pre gs nl) = .ok (coresOf pre ++ gs.flatMap FGroup.block) :=
  rewrite_fixed pre _ gs nl hpre fun g hg => fixed_block (List.all_eq_true.mp hgs g hg)

end EupsModel.TableParse
