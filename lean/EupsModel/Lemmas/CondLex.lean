import EupsModel.Spec.C11
import EupsModel.Lemmas.CondChar
import EupsModel.Lemmas.Text
/-! C11, condition clause, lexical level: the tokeniser of `VersionParser.__init__` (quote stripping `unq`, then the
split pattern `scan`) applied to the text of a well-formed written condition yields exactly its tokens.
Code points: 33 `!`, 36 `$`, 38 `&`, 40 `(`, 41 `)`, 61 `=`, 124 `|`. -/
namespace EupsModel.Cond
open EupsModel.C11Spec

def NoQ (s : Str) : Prop := ∀ c ∈ s, isQuote c = false

theorem noQ_nil : NoQ [] := fun _ h => by cases h
theorem noQ_cons {c : Nat} {s : Str} (hc : isQuote c = false) (hs : NoQ s) : NoQ (c :: s) := fun d h => by
  rcases List.mem_cons.mp h with rfl | h
  · exact hc
  · exact hs d h

theorem noQ_of_blank {s : Str} (h : blank s = true) : NoQ s := fun c hc =>
  space_not_quote (List.all_eq_true.mp h c hc)

theorem noQ_of_tokChs {s : Str} (h : s.all isTokCh = true) : NoQ s := fun c hc =>
  tokCh_not_quote (List.all_eq_true.mp h c hc)

theorem noQ_of_lower {k : Str} (h : NoQ (Str.lower k)) : NoQ k := by
  intro c hc
  cases hq : isQuote c with
  | false => rfl
  | true =>
    have hu : Str.isUpper c = false := by
      simp only [isQuote, Bool.or_eq_true, beq_iff_eq] at hq
      simp only [Str.isUpper, Bool.and_eq_false_iff, decide_eq_false_iff_not]; omega
    have : c ∈ Str.lower k := by
      simp only [Str.lower, List.mem_map]
      exact ⟨c, hc, by simp [hu]⟩
    rw [h c this] at hq; cases hq

theorem unq_noQ {a : Str} (ha : NoQ a) : Text.Maps (unq none) a a := fun b => by
  induction a with
  | nil => rfl
  | cons c cs ih =>
    have hc : isQuote c = false := ha c (List.mem_cons_self ..)
    have hcs : NoQ cs := fun d hd => ha d (List.mem_cons_of_mem _ hd)
    simp [unq, hc, ih hcs]

theorem unq_run {q : Nat} {run w : Str} (hw : NoQ w) (x : Str) :
    unq (some (q, run)) (w ++ x) = unq (some (q, run ++ w)) x := by
  induction w generalizing run with
  | nil => simp
  | cons c cs ih =>
    have hc : isQuote c = false := hw c (List.mem_cons_self ..)
    have hcs : NoQ cs := fun d hd => hw d (List.mem_cons_of_mem _ hd)
    simp [unq, hc, ih hcs]

theorem unq_quoted {q q' : Nat} {w : Str} (hq : isQuote q = true) (hq' : isQuote q' = true) (hw : NoQ w) (hne : w ≠ []) :
    Text.Maps (unq none) (q :: w ++ [q']) w := fun x => by
  have h1 : unq none (q :: (w ++ q' :: x)) = unq (some (q, [])) (w ++ q' :: x) := by simp [unq, hq]
  have h2 := unq_run (q := q) (run := []) hw (q' :: x)
  simp only [List.nil_append] at h2
  simp only [List.cons_append, List.append_assoc, List.nil_append]
  rw [h1, h2]
  cases w with
  | nil => exact absurd rfl hne
  | cons c cs => simp [unq, hq']

theorem scan_tok_word {c : Nat} (h : isTokCh c = true) (w cs : Str) :
    scan (.word w) (c :: cs) = scan (.word (w ++ [c])) cs := by
  cases cs <;> simp [scan, h, tokCh_ne_dollar h, flush]

theorem scan_tok_gap {c : Nat} (h : isTokCh c = true) (g cs : Str) :
    scan (.gap g) (c :: cs) = (scan (.word [c]) cs).map (flush (.gap g) ++ ·) := by
  cases cs <;> simp [scan, h, tokCh_ne_dollar h, flush]

theorem scan_space {c : Nat} (h : Str.isSpace c = true) (st : St) (cs : Str) :
    scan st (c :: cs) = (scan (.gap []) cs).map (flush st ++ ·) := by
  cases cs <;> simp [scan, h, space_ne_dollar h, space_not_tokCh h, flush]

theorem scan_paren {c : Nat} (h : c = 40 ∨ c = 41) (st : St) (cs : Str) :
    scan st (c :: cs) = (scan (.gap []) cs).map (flush st ++ [c] :: ·) := by
  rcases h with rfl | rfl <;> cases cs <;> simp [scan, isTokCh, isWordCh, Str.isAlnum, Str.isAlpha, Str.isUpper,
    Str.isLower, Str.isDigit, Str.isSpace, isTwoOp, isOneOp, flush]

theorem scan_cmp {c : Nat} (h : c = 61 ∨ c = 33) (st : St) (cs : Str) :
    scan st (c :: 61 :: cs) = (scan (.gap []) cs).map (flush st ++ [c, 61] :: ·) := by
  rcases h with rfl | rfl <;> simp [scan, isTokCh, isWordCh, Str.isAlnum, Str.isAlpha, Str.isUpper,
    Str.isLower, Str.isDigit, Str.isSpace, isTwoOp]

theorem flush_gap_ne {g : Str} (h : g ≠ []) : flush (.gap g) = [g] := by
  cases g with
  | nil => exact absurd rfl h
  | cons _ _ => rfl

theorem scan_gapch {c : Nat} (h : c = 124 ∨ c = 38) (g : Str) (cs : Str) :
    scan (.gap g) (c :: cs) = scan (.gap (g ++ [c])) cs := by
  rcases h with rfl | rfl <;> cases cs <;> simp [scan, isTokCh, isWordCh, Str.isAlnum, Str.isAlpha, Str.isUpper,
    Str.isLower, Str.isDigit, Str.isSpace, isTwoOp, isOneOp, flush_gap_ne]

/-- the text continues with something that ends a word: nothing, or a character outside `[\w.+]` -/
def brk : Str → Bool
  | [] => true
  | d :: _ => !isTokCh d

theorem brk_blank_append {sp y : Str} (hsp : blank sp = true) (hy : brk y = true) : brk (sp ++ y) = true := by
  cases sp with
  | nil => simpa using hy
  | cons c cs =>
    simp [brk, space_not_tokCh (blank_cons.mp hsp).1]

theorem word_break {x : Str} (hx : brk x = true) (w : Str) :
    scan (.word w) x = (scan (.gap []) x).map ([w] ++ ·) := by
  rcases x with _ | ⟨d, _ | ⟨e, x⟩⟩
  · simp [scan, flush]
  · have hd : isTokCh d = false := by simpa [brk] using hx
    by_cases h36 : (d == 36) = true
    · simp [scan, h36]
    · by_cases hs : Str.isSpace d = true
      · simp [scan, h36, hd, hs, flush]
      · by_cases ho : isOneOp d = true <;> simp [scan, h36, hd, hs, ho, flush]
  · have hd : isTokCh d = false := by simpa [brk] using hx
    by_cases h36 : (d == 36) = true
    · simp [scan, h36]
    · by_cases hs : Str.isSpace d = true
      · simp [scan, h36, hd, hs, flush]
      · by_cases ht : isTwoOp d e = true
        · simp [scan, h36, hd, hs, ht, flush, Option.map_map, Function.comp_def]
        · by_cases ho : isOneOp d = true <;>
            simp [scan, h36, hd, hs, ht, ho, flush, Option.map_map, Function.comp_def]

theorem scan_word_run {w' : Str} (h : w'.all isTokCh = true) (u x : Str) :
    scan (.word u) (w' ++ x) = scan (.word (u ++ w')) x := by
  induction w' generalizing u with
  | nil => simp
  | cons c cs ih =>
    simp only [List.all_cons, Bool.and_eq_true] at h
    rw [List.cons_append, scan_tok_word h.1, ih h.2]; simp

theorem map_nil_append {α} (o : Option (List α)) : o.map ([] ++ ·) = o := by cases o <;> simp

theorem scan_blank_skip {sp : Str} (hsp : blank sp = true) (y : Str) :
    scan (.gap []) (sp ++ y) = scan (.gap []) y := by
  induction sp with
  | nil => rfl
  | cons d ds ih =>
    rw [blank_cons] at hsp
    rw [List.cons_append, scan_space hsp.1, ih hsp.2]
    simp [flush]

/-- the first blank flushes the pending run of unmatched characters, the others are skipped -/
theorem scan_blanks {sp y : Str} {F : Option (List Str)} (hsp : blank sp = true)
    (hy : ∀ g, scan (.gap g) y = F.map (flush (.gap g) ++ ·)) (g : Str) :
    scan (.gap g) (sp ++ y) = F.map (flush (.gap g) ++ ·) := by
  cases sp with
  | nil => exact hy g
  | cons d ds =>
    rw [blank_cons] at hsp
    rw [List.cons_append, scan_space hsp.1, scan_blank_skip hsp.2, hy []]
    simp [flush]

/-- `Lex s toks`: whatever run is pending, `s` followed by something that ends a word gives the tokens `toks`, and the rest
is read from a fresh start -/
def Lex (s : Str) (toks : List Str) : Prop :=
  ∀ g x, brk x = true → scan (.gap g) (s ++ x) = (scan (.gap []) x).map (flush (.gap g) ++ toks ++ ·)

theorem Lex.word {sp w : Str} (hsp : blank sp = true) (hne : w ≠ []) (hw : w.all isTokCh = true) : Lex (sp ++ w) [w] :=
  fun g x hx => by
  rw [List.append_assoc]
  refine (scan_blanks hsp (F := (scan (.gap []) x).map ([w] ++ ·)) (fun g => ?_) g).trans
    (by simp [Option.map_map, Function.comp_def])
  obtain ⟨c, cs, rfl⟩ := List.exists_cons_of_ne_nil hne
  simp only [List.all_cons, Bool.and_eq_true] at hw
  rw [List.cons_append, scan_tok_gap hw.1, scan_word_run hw.2, word_break hx]
  simp [Option.map_map, Function.comp_def]

/-- a token the pattern matches whole: `(`, `)`, `==`, `!=` -/
theorem scan_T {sp tok : Str} (hsp : blank sp = true)
    (htok : ∀ st x, scan st (tok ++ x) = (scan (.gap []) x).map (flush st ++ tok :: ·)) (g x : Str) :
    scan (.gap g) (sp ++ tok ++ x) = (scan (.gap []) x).map (flush (.gap g) ++ [tok] ++ ·) := by
  rw [List.append_assoc]
  refine (scan_blanks hsp (F := (scan (.gap []) x).map ([tok] ++ ·)) (fun g => ?_) g).trans
    (by simp [Option.map_map, Function.comp_def])
  simp [htok, Option.map_map, Function.comp_def]

theorem Lex.tok {sp tok : Str} (hsp : blank sp = true)
    (htok : ∀ st x, scan st (tok ++ x) = (scan (.gap []) x).map (flush st ++ tok :: ·)) : Lex (sp ++ tok) [tok] :=
  fun g x _ => scan_T hsp htok g x

/-- a token matched whole asks nothing of what follows it -/
theorem Lex.tok_cons {sp tok : Str} (hsp : blank sp = true)
    (htok : ∀ st x, scan st (tok ++ x) = (scan (.gap []) x).map (flush st ++ tok :: ·)) {b : Str} {tb : List Str}
    (hb : Lex b tb) : Lex (sp ++ tok ++ b) (tok :: tb) := fun g x hx => by
  rw [List.append_assoc (sp ++ tok), scan_T hsp htok, hb [] x hx]
  simp [Option.map_map, Function.comp_def, flush]

/-- `b` begins with something that ends a word -/
theorem Lex.seq {a b : Str} {ta tb : List Str} (ha : Lex a ta) (hbrk : ∀ x, brk (b ++ x) = true) (hb : Lex b tb) :
    Lex (a ++ b) (ta ++ tb) := fun g x hx => by
  rw [List.append_assoc, ha g _ (hbrk x), hb [] x hx]
  simp [Option.map_map, Function.comp_def, flush]

/-- `||`, `&&`: the operator becomes the pending run -/
theorem scan_G {sp : Str} {c : Nat} (hsp : blank sp = true) (hc : c = 124 ∨ c = 38) (x : Str) :
    scan (.gap []) (sp ++ [c, c] ++ x) = scan (.gap [c, c]) x := by
  rw [List.append_assoc, scan_blank_skip hsp]; simp [scan_gapch hc]

theorem scan_blank_end {sp : Str} (hsp : blank sp = true) : scan (.gap []) sp = some [] := by
  have := scan_blank_skip hsp []
  rwa [List.append_nil] at this

theorem noQ_of_all {s : Str} (h : s.all (fun c => !isQuote c) = true) : NoQ s := fun c hc => by
  simpa using List.all_eq_true.mp h c hc

theorem tokCh_of_lower {k : Str} (h : (Str.lower k).all isTokCh = true) : k.all isTokCh = true := by
  induction k with
  | nil => rfl
  | cons c cs ih =>
    simp only [Str.lower, List.map_cons, List.all_cons, Bool.and_eq_true] at h
    simp only [List.all_cons, Bool.and_eq_true]
    refine ⟨?_, ih h.2⟩
    by_cases hu : Str.isUpper c = true
    · simp [isTokCh, isWordCh, Str.isAlnum, Str.isAlpha, hu]
    · simpa [hu] using h.1

theorem kw_facts_lex {a : Atom} (hok : a.ok = true) : a.kw ≠ [] ∧ a.kw.all isTokCh = true ∧ NoQ a.kw := by
  have hkw := (atom_parts hok).1
  have h1 : (Str.lower a.kw).all isTokCh = true := by rw [hkw]; cases a.var <;> decide
  have h2 : a.kw ≠ [] := by
    intro e; rw [e] at hkw; cases hv : a.var <;> rw [hv] at hkw <;> simp [Str.lower, Var.kw, sFlavor, sType] at hkw
  exact ⟨h2, tokCh_of_lower h1, noQ_of_tokChs (tokCh_of_lower h1)⟩

theorem word_facts_lex {a : Atom} (hok : a.ok = true) : a.word ≠ [] ∧ a.word.all isTokCh = true ∧ NoQ a.word := by
  obtain ⟨hne, htok, _⟩ := plainWord_parts (atom_parts hok).2.1
  exact ⟨hne, htok, noQ_of_tokChs htok⟩

theorem noQ_opStr (neg : Bool) : NoQ (opStr neg) := by cases neg <;> exact noQ_of_all (by decide)

/-- induction over a well-formed written condition; the precedence bookkeeping of `okAt` is done here once -/
theorem okAt_induction {P : CExpr → Prop} (atom : ∀ a : Atom, a.ok = true → P (.atom a))
    (and : ∀ a b sp, blank sp = true → P a → P b → P (.and a b sp))
    (or : ∀ a b sp, blank sp = true → P a → P b → P (.or a b sp))
    (paren : ∀ a sp1 sp2, blank sp1 = true → blank sp2 = true → P a → P (.paren a sp1 sp2)) :
    ∀ (c : CExpr) (p : Nat), c.okAt p = true → P c := by
  intro c
  induction c with
  | atom a => intro p h; exact atom a (by simpa [CExpr.okAt] using h)
  | and a b sp iha ihb =>
    intro p h; simp only [CExpr.okAt, Bool.and_eq_true] at h
    exact and a b sp h.2 (iha 1 h.1.1.2) (ihb 2 h.1.2)
  | or a b sp iha ihb =>
    intro p h; simp only [CExpr.okAt, Bool.and_eq_true] at h
    exact or a b sp h.2 (iha 0 h.1.1.2) (ihb 1 h.1.2)
  | paren a sp1 sp2 ih =>
    intro p h; simp only [CExpr.okAt, Bool.and_eq_true] at h
    exact paren a sp1 sp2 h.1.2 h.2 (ih 0 h.1.1)

/-- the text of a written condition once the quotes around its words are gone -/
def ustr : CExpr → Str
  | .atom a => a.sp1 ++ a.kw ++ a.sp2 ++ opStr a.neg ++ a.sp3 ++ a.word
  | .and a b sp => ustr a ++ sp ++ sAndAnd ++ ustr b
  | .or a b sp => ustr a ++ sp ++ sOrOr ++ ustr b
  | .paren a sp1 sp2 => sp1 ++ sLp ++ ustr a ++ sp2 ++ sRp

theorem unq_expr (c : CExpr) : ∀ (p : Nat), c.okAt p = true → Text.Maps (unq none) c.str (ustr c) := by
  refine okAt_induction (P := fun c => Text.Maps (unq none) c.str (ustr c)) ?atom ?and ?or ?paren c
  case atom =>
    intro a hok'
    obtain ⟨_, _, hk⟩ := kw_facts_lex hok'
    obtain ⟨hwne, _, hw⟩ := word_facts_lex hok'
    obtain ⟨_, _, hq, h1, h2, h3⟩ := atom_parts hok'
    have hqw : Text.Maps (unq none) (quoted a.quote a.word) a.word := by
      cases hqv : a.quote with
      | none => exact unq_noQ hw
      | some q =>
        have hq' : isQuote q = true := by
          rw [hqv] at hq
          rcases hq with hq | hq | hq <;> cases hq <;> decide
        exact unq_quoted hq' hq' hw hwne
    exact unq_noQ (noQ_of_blank h1)
      |>.append (unq_noQ hk)
      |>.append (unq_noQ (noQ_of_blank h2))
      |>.append (unq_noQ (noQ_opStr _))
      |>.append (unq_noQ (noQ_of_blank h3))
      |>.append hqw
  case and | or =>
    intro a b sp hsp iha ihb
    exact iha
      |>.append (unq_noQ (noQ_of_blank hsp))
      |>.append (unq_noQ (noQ_of_all (by decide)))
      |>.append ihb
  case paren =>
    intro a sp1 sp2 h1 h2 ih
    exact unq_noQ (noQ_of_blank h1)
      |>.append (unq_noQ (noQ_of_all (by decide)))
      |>.append ih
      |>.append (unq_noQ (noQ_of_blank h2))
      |>.append (unq_noQ (noQ_of_all (by decide)))

theorem Lex.binop {c : Nat} (hc : c = 124 ∨ c = 38) {a b sp : Str} {ta tb : List Str} (hsp : blank sp = true)
    (ha : Lex a ta) (hb : Lex b tb) : Lex (a ++ sp ++ [c, c] ++ b) (ta ++ [c, c] :: tb) := fun g x hx => by
  have e : a ++ sp ++ [c, c] ++ b ++ x = a ++ (sp ++ [c, c] ++ (b ++ x)) := by simp [List.append_assoc]
  have hb1 : brk (sp ++ [c, c] ++ (b ++ x)) = true := by
    rw [List.append_assoc]; exact brk_blank_append hsp (by rcases hc with rfl | rfl <;> rfl)
  rw [e, ha g _ hb1, scan_G hsp hc, hb _ x hx]
  simp [Option.map_map, Function.comp_def, flush]

theorem scan_expr (c : CExpr) : ∀ (p : Nat), c.okAt p = true → Lex (ustr c) c.toks := by
  refine okAt_induction (P := fun c => Lex (ustr c) c.toks) ?atom ?and ?or ?paren c
  case atom =>
    intro a hok'
    obtain ⟨hkne, hk, _⟩ := kw_facts_lex hok'
    obtain ⟨hwne, hw, _⟩ := word_facts_lex hok'
    obtain ⟨_, _, _, h1, h2, h3⟩ := atom_parts hok'
    have hop : ∀ st x, scan st (opStr a.neg ++ x) = (scan (.gap []) x).map (flush st ++ opStr a.neg :: ·) := by
      cases a.neg
      · exact scan_cmp (Or.inl rfl)
      · exact scan_cmp (Or.inr rfl)
    have hb1 : ∀ x, brk (a.sp2 ++ opStr a.neg ++ (a.sp3 ++ a.word) ++ x) = true := fun x => by
      rw [List.append_assoc, List.append_assoc]; exact brk_blank_append h2 (by cases a.neg <;> rfl)
    -- the keyword, `==` / `!=`, the word
    simpa [ustr, CExpr.toks, List.append_assoc] using
      (Lex.word h1 hkne hk).seq hb1 (Lex.tok_cons h2 hop (Lex.word h3 hwne hw))
  case and =>
    intro a b sp hsp iha ihb
    simpa [ustr, CExpr.toks, sAndAnd] using Lex.binop (Or.inr rfl) hsp iha ihb
  case or =>
    intro a b sp hsp iha ihb
    simpa [ustr, CExpr.toks, sOrOr] using Lex.binop (Or.inl rfl) hsp iha ihb
  case paren =>
    intro a sp1 sp2 h1 h2 ih
    have hb1 : ∀ x, brk (sp2 ++ [41] ++ x) = true := fun x => by
      rw [List.append_assoc]; exact brk_blank_append h2 rfl
    have close : Lex (sp2 ++ [41]) [[41]] := Lex.tok h2 (scan_paren (Or.inr rfl))
    simpa [ustr, CExpr.toks, sLp, sRp, List.append_assoc] using
      Lex.tok_cons (tok := [40]) h1 (scan_paren (Or.inl rfl)) (ih.seq hb1 close)

theorem tokenize_expr (c : CExpr) (hok : c.okAt 0 = true) (trail : Str) (ht : blank trail = true) :
    tokenize (c.str ++ trail) = some c.toks := by
  have ht' : unq none trail = trail := (unq_noQ (noQ_of_blank ht)).whole rfl
  simp only [tokenize, unquote]
  rw [unq_expr c 0 hok trail, ht']
  rw [scan_expr c 0 hok [] trail (by simpa using brk_blank_append ht (y := []) rfl), scan_blank_end ht]
  simp [flush]

theorem toks_length_le (c : CExpr) : ∀ p, c.okAt p = true → c.toks.length ≤ c.str.length := by
  refine okAt_induction (P := fun c => c.toks.length ≤ c.str.length) ?atom ?and ?or ?paren c
  case atom =>
    intro a hok'
    obtain ⟨hkne, _, _⟩ := kw_facts_lex hok'
    obtain ⟨hwne, _, _⟩ := word_facts_lex hok'
    have h1 : 1 ≤ a.kw.length := List.length_pos_iff.mpr hkne
    have h2 : 1 ≤ a.word.length := List.length_pos_iff.mpr hwne
    have h3 : a.word.length ≤ (quoted a.quote a.word).length := by cases a.quote <;> simp [quoted]; omega
    have h4 : (opStr a.neg).length = 2 := by cases a.neg <;> rfl
    simp only [CExpr.toks, CExpr.str, List.length_append, List.length_cons, List.length_nil]
    omega
  case and | or =>
    intro a b sp _ iha ihb
    simp only [CExpr.toks, CExpr.str, List.length_append, List.length_cons, sAndAnd, sOrOr, List.length_nil]; omega
  case paren =>
    intro a sp1 sp2 _ _ ih
    simp only [CExpr.toks, CExpr.str, List.length_append, List.length_cons, sLp, sRp, List.length_nil]; omega

end EupsModel.Cond
