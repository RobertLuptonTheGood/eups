import EupsModel.Lemmas.VroWalk
import EupsModel.Lemmas.VroExpr
import EupsModel.Lemmas.VroView
import EupsModel.Lemmas.VroFirst
/-! The flavor loop of `setup` (`resolveFlavor`, `resolve` of `Model/Vro.lean`): the flavor of what a walk returns, one round of
the loop, its fuel, and the loop as the first flavor that answers (`resolve_eq`); the lines of a table (`runTable`), each
resolved by that loop. -/
namespace EupsModel.Vro

/-! ## the flavor of what a walk returns -/

/-- the request does not name a `LOCAL:` directory that exists (such a product has no flavor) -/
def NoLocal (C : Ctx) (r : Req) : Prop := ∀ v, r.named = some v → localProd C v = none

theorem lookupVT_flavor {C : Ctx} {r : Req} {e v : Str} {post : List Str} {p : Prod} {reason : Str}
    (hloc : localProd C v = none) (h : lookupVT C r e post v = .ok (.hit p reason)) : p.flavor = r.flavor := by
  revert h
  apply lookupVT_cases (motive := (· = .ok (.hit p reason) → p.flavor = r.flavor))
  · nofun
  · intro _; nofun
  · nofun
  · intro x q hq h; cases h; exact (selectLatest_some hq).1
  · intro q _ hq h; cases h; exact ((lookupVersion_some_iff ..).mp hq).2.1
  · intro q _ hq; rw [hloc] at hq; cases hq

theorem lookupTagEntry_flavor {C : Ctx} {r : Req} {e key : Str} {p : Prod} {reason : Str}
    (h : lookupTagEntry C r e key = .hit p reason) : p.flavor = r.flavor := by
  obtain ⟨hq, _⟩ := hitOrSkip_eq_hit.mp (lookupTagEntry_eq C r e key ▸ h)
  split at hq
  · exact latestGo_flavor (by rintro _ ⟨⟩) hq
  · split at hq
    · exact lookupSetup_flavor hq
    · exact ((lookupTag_some_iff ..).mp hq).1

theorem lookupEntry_flavor {C : Ctx} {r : Req} {e : Str} {post : List Str} {p : Prod} {reason : Str}
    (hr : r.already = none) (hloc : NoLocal C r)
    (h : lookupEntry C r e post = .ok (.hit p reason)) : p.flavor = r.flavor := by
  revert h
  apply lookupEntry_cases (motive := (· = .ok (.hit p reason) → p.flavor = r.flavor))
  · nofun
  · intro _ _ _ ha; rw [hr] at ha; cases ha
  · intro v hv; exact lookupVT_flavor (hloc v hv)
  · nofun
  · nofun
  · intro key _ h; exact lookupTagEntry_flavor (Except.ok.inj h)

theorem walk_flavor {C : Ctx} {r : Req} {vro : List Str} {h : Hit}
    (hr : r.already = none) (hloc : NoLocal C r) (hw : walk C r vro = .ok (some h)) : h.prod.flavor = r.flavor := by
  obtain ⟨pre, post, _, h1, _⟩ := walk_hit_iff.mp hw
  exact lookupEntry_flavor hr hloc h1

/-! ## the flavor loop -/

theorem resolveFlavor_of_find_some {C : Ctx} {r : Req} {keep : Bool} {fuel : Nat} {vro : List Str} {h : Hit}
    (hf : find C r vro = .ok (some h)) (hacc : acceptableB r h = .ok true) :
    resolveFlavor C r keep (fuel + 1) vro = .ok (some h) := by
  have hne : vro.isEmpty = false := by
    cases vro with
    | nil => simp [find, walk] at hf
    | cons _ _ => rfl
  unfold resolveFlavor
  simp only [hne, hf, hacc]
  rfl

theorem resolveFlavor_of_find_none {C : Ctx} {r : Req} {keep : Bool} {fuel : Nat} {vro : List Str}
    (hr : r.already = none) (hf : find C r vro = .ok none) :
    resolveFlavor C r keep (fuel + 1) vro = .ok none := by
  unfold resolveFlavor
  by_cases hne : vro.isEmpty = true
  · simp [hne]
  · simp only [hne, hf, hr]
    rfl

theorem acceptableB_of_depth_pos {r : Req} (h : Hit) (hd : 0 < r.depth) : acceptableB r h = .ok true := by
  have : (r.depth == 0) = false := by simpa using Nat.ne_of_gt hd
  unfold acceptableB
  cases r.version <;> simp [this]

theorem acceptableB_error {r : Req} {h : Hit} {err : Err} (ha : acceptableB r h = .error err) : err = .badExpr := by
  unfold acceptableB at ha
  split at ha
  · cases ha
  · split at ha
    · split at ha
      · rename_i e' he; cases ha; exact isExpr_error he
      · cases ha
    · cases ha

/-- every retry of the flavor loop continues on a strictly shorter VRO -/
theorem resolveFlavor_fuel (C : Ctx) (r : Req) (keep : Bool) (fuel : Nat) (vro : List Str)
    (h : vro.length < fuel) : resolveFlavor C r keep fuel vro ≠ .error .outOfFuel := by
  fun_induction resolveFlavor C r keep fuel vro
  case case1 => omega  -- no fuel
  case case3 he =>  -- `find` fails
    intro hc; cases hc; exact find_error he rfl
  case case5 he =>  -- `acceptableB` fails
    intro hc; cases hc; cases acceptableB_error he
  case case9 vro hne _ _ _ _ _ _ _ _ _ ih =>  -- the retry, behind the entry that answered
    refine ih ?_
    have : 0 < vro.length := List.length_pos_iff.mpr (by simpa using hne)
    simp only [List.length_drop]; omega
  all_goals nofun

theorem resolve_cons (C : Ctx) (r : Req) (keep : Bool) (vro : List Str) (fl : Str) (rest : List Str) :
    resolve C r keep vro (fl :: rest) =
      match resolveFlavor C { r with flavor := fl } keep (vro.length + 1) vro with
      | .error e => .error e
      | .ok (some h) => .ok (some h)
      | .ok none => resolve C r keep vro rest := rfl

theorem resolve_eq (C : Ctx) (r : Req) (keep : Bool) (vro flavors : List Str) :
    resolve C r keep vro flavors =
      firstAnswer (fun fl => resolveFlavor C { r with flavor := fl } keep (vro.length + 1) vro) flavors := by
  refine eq_firstAnswer rfl (fun fl rest => ?_) flavors
  rw [resolve]; split <;> simp [*]

theorem resolve_congr {C C' : Ctx} (r : Req) (keep : Bool) (vro flavors : List Str)
    (h : ∀ f ∈ flavors, C.viewAt f = C'.viewAt f) : resolve C r keep vro flavors = resolve C' r keep vro flavors := by
  rw [resolve_eq, resolve_eq]
  refine firstAnswer_congr fun fl hfl => ?_
  rw [← resolveFlavor_viewAt C, ← resolveFlavor_viewAt C', h fl hfl]

/-! ## the lines of a table -/

theorem runTable_vro (C : Ctx) (keep : Bool) (flavors vro : List Str) (lines : List TableLine) :
    (runTable C keep flavors vro lines).vro = vro := by
  induction lines with
  | nil => rfl
  | cons l rest ih =>
    simp only [runTable]
    split
    · rfl
    · exact ih

theorem runTable_outs (C : Ctx) (keep : Bool) (flavors vro : List Str) (lines : List TableLine) :
    (runTable C keep flavors vro lines).outs <+: lines.map (lineOutcome C keep flavors vro) := by
  induction lines with
  | nil => exact List.prefix_refl _
  | cons l rest ih =>
    simp only [runTable, List.map_cons]
    split
    · simp
    · exact List.cons_prefix_cons.mpr ⟨rfl, ih⟩

end EupsModel.Vro
