import EupsModel.Model.Remove
import EupsModel.Lemmas.Deps
import EupsModel.Lemmas.Topo
/-! The model of `Eups.remove` (`Model/Remove.lean`): the equations of `collect`, the ways it fails, what the in-use test
lets through, the destruction loop, and what the three forms of the command do before it (`plan`). -/
namespace EupsModel.Remove
open EupsModel.Deps

theorem collectLoop_cons (sb : Option SetupBy) (force : Bool) (top : Str × Str) (recursive : Bool)
    (recur : Prod → Seen → Except Err (List Prod × Seen)) (q : Prod) (qs acc : List Prod) (seen : Seen) :
    collectLoop sb force top recursive recur (q :: qs) acc seen =
      if inUse sb top q && !force then .error .refused
      else if recursive then
        match recur q seen with
        | .error e => .error e
        | .ok (sub, seen') => collectLoop sb force top recursive recur qs (acc ++ sub ++ [q]) seen'
      else collectLoop sb force top recursive recur qs (acc ++ [q]) seen := rfl

theorem find_some_eq {db : Db} {name ver : Str} {p : Prod} (h : db.find name (some ver) = some p) :
    p = ⟨name, some ver, true⟩ := by
  simp only [Db.find] at h
  split at h
  · exact (Option.some.inj h).symm
  · cases h

theorem collect_succ (db : Db) (sb : Option SetupBy) (force : Bool) (dn : Option Str) (top : Str × Str)
    (f : Nat) (name : Str) (ver : Option Str) (recursive : Bool) (seen : Seen) :
    collect db sb force dn top (f + 1) name ver recursive seen =
      if dn = some name then .ok ([], seen)
      else match db.find name ver with
        | none => .error .notFound
        | some p =>
          match directDeps db p (recursive && !seen.contains (prodkey p)) with
          | .error e => .error e
          | .ok deps =>
            collectLoop sb force top recursive
              (fun q sn => collect db sb force dn top f q.name q.ver (q.name != name) sn) deps []
              (if recursive && !seen.contains (prodkey p) then prodkey p :: seen else seen) := by
  rw [collect]; simp only [beq_iff_eq]; rfl

theorem collect_nonrec_eq (db : Db) (sb : Option SetupBy) (force : Bool) (dn : Option Str) (top : Str × Str)
    (f : Nat) (name : Str) (ver : Option Str) (seen : Seen) :
    collect db sb force dn top (f + 1) name ver false seen =
      if dn = some name then .ok ([], seen)
      else match db.find name ver with
        | none => .error .notFound
        | some p => if inUse sb top p && !force then .error .refused else .ok ([p], seen) := by
  rw [collect_succ]
  split
  · rfl
  · split
    · rfl
    · simp only [Bool.false_and, directDeps, Bool.false_eq_true, if_false, collectLoop, List.nil_append]

theorem collect_nonrec {db : Db} {sb : Option SetupBy} {force : Bool} {dn : Option Str} {top : Str × Str}
    {f : Nat} {name : Str} {ver : Option Str} {seen : Seen} {l : List Prod} {seen' : Seen}
    (h : collect db sb force dn top f name ver false seen = .ok (l, seen')) :
    (dn = some name ∧ l = [] ∨ ∃ p, db.find name ver = some p ∧ l = [p]) ∧ seen' = seen := by
  cases f with
  | zero => cases h
  | succ k =>
    rw [collect_nonrec_eq] at h
    split at h
    · rename_i hd
      injection h with h
      exact ⟨Or.inl ⟨hd, (_root_.Prod.mk.inj h).1.symm⟩, (_root_.Prod.mk.inj h).2.symm⟩
    · split at h
      · cases h
      · rename_i p hp
        split at h
        · cases h
        · injection h with h
          exact ⟨Or.inr ⟨p, hp, (_root_.Prod.mk.inj h).1.symm⟩, (_root_.Prod.mk.inj h).2.symm⟩

/-- the nested call `_remove` makes for the product itself is not recursive: it returns `[p]` and marks nothing -/
theorem collect_self {db : Db} {sb : Option SetupBy} {force : Bool} {dn : Option Str} {top : Str × Str}
    {k : Nat} {name : Str} {ver : Option Str} {p : Prod} {seen : Seen} {l : List Prod} {seen' : Seen}
    (hd : dn ≠ some name) (hp : db.find name ver = some p)
    (h : collect db sb force dn top k p.name p.ver (p.name != name) seen = .ok (l, seen')) :
    l = [p] ∧ seen' = seen := by
  have hn := find_name hp
  rw [hn, bne_self_eq_false] at h
  obtain ⟨⟨hd', _⟩ | ⟨q, hq, rfl⟩, hs⟩ := collect_nonrec h
  · exact absurd hd' hd
  · rw [find_again hp] at hq
    cases hq
    exact ⟨rfl, hs⟩

theorem directDeps_head {db : Db} {p : Prod} {e : Bool} {deps : List Prod} (h : directDeps db p e = .ok deps) :
    ∃ t, deps = p :: t := by
  unfold directDeps at h
  split at h
  · split at h
    · simp at h
    · split at h
      · simp at h
      · simp only [Except.ok.injEq] at h
        exact ⟨_, h.symm⟩
  · simp only [Except.ok.injEq] at h
    exact ⟨[], h.symm⟩

/-- A completed call with the product's own item dealt with: the first of `deps` is the product itself, and the nested
call for it is not recursive (`collect_self`).  So a product that is not expanded is listed once, twice when
`recursive`; for an expanded one the loop over what its table denotes starts from `[p, p]`. -/
theorem collect_ok {db : Db} {sb : Option SetupBy} {force : Bool} {dn : Option Str} {top : Str × Str}
    {f : Nat} {name : Str} {ver : Option Str} {recursive : Bool} {seen : Seen} {l : List Prod} {seen' : Seen}
    (h : collect db sb force dn top f name ver recursive seen = .ok (l, seen')) :
    (dn = some name ∧ l = []) ∨
      ∃ k p, f = k + 1 ∧ db.find name ver = some p ∧
        if recursive && !seen.contains (prodkey p) then
          ∃ deps, directDeps db p true = .ok (p :: deps) ∧
            collectLoop sb force top true (fun q sn => collect db sb force dn top k q.name q.ver (q.name != name) sn)
              deps [p, p] (prodkey p :: seen) = .ok (l, seen')
        else l = (if recursive then [p, p] else [p]) ∧ seen' = seen := by
  cases f with
  | zero => cases h
  | succ k =>
    rw [collect_succ] at h
    split at h
    · rename_i hd
      injection h with h
      exact .inl ⟨hd, (_root_.Prod.mk.inj h).1.symm⟩
    · rename_i hd
      split at h
      · cases h
      · rename_i p hp
        split at h
        · cases h
        · rename_i deps hdeps
          refine .inr ⟨k, p, rfl, hp, ?_⟩
          obtain ⟨t, rfl⟩ := directDeps_head hdeps
          rw [collectLoop_cons] at h
          split at h
          · cases h
          cases recursive with
          | false =>
            cases hdeps
            simpa [collectLoop, eq_comm] using h
          | true =>
            simp only [if_true] at h
            split at h
            · cases h
            rename_i sub sn hq
            obtain ⟨rfl, rfl⟩ := collect_self hd hp hq
            cases hex : seen.contains (prodkey p) with
            | true =>
              simp only [hex, Bool.not_true, Bool.and_false] at hdeps h ⊢
              cases hdeps
              simpa [collectLoop, eq_comm] using h
            | false =>
              simp only [hex, Bool.not_false, Bool.and_true, if_true] at hdeps h ⊢
              exact ⟨t, hdeps, h⟩

theorem directDeps_error {db : Db} {p : Prod} {expand : Bool} {e : Err} (h : directDeps db p expand = .error e) :
    (e = .tableError ∧ db.tableMissing p = true) ∨ e = .outOfFuel := by
  unfold directDeps at h
  split at h
  · split at h
    · rename_i hm; injection h with h; exact Or.inl ⟨h.symm, hm⟩
    · split at h
      · injection h with h; exact Or.inr h.symm
      · cases h
  · cases h

theorem collectLoop_error {sb : Option SetupBy} {force : Bool} {top : Str × Str} {recursive : Bool}
    {recur : Prod → Seen → Except Err (List Prod × Seen)} {e : Err} {qs acc seen}
    (h : collectLoop sb force top recursive recur qs acc seen = .error e) :
      (e = .refused ∧ sb ≠ none ∧ force = false) ∨ ∃ q sn, recur q sn = .error e := by
  fun_induction collectLoop sb force top recursive recur qs acc seen with
  | case1 => cases h
  | case2 q _ _ _ hin =>
    cases h
    simp only [Bool.and_eq_true, Bool.not_eq_true'] at hin
    exact .inl ⟨rfl, fun hs => by subst hs; exact Bool.noConfusion hin.1, hin.2⟩
  | case3 q _ _ seen _ _ e' hq => cases h; exact .inr ⟨q, seen, hq⟩
  | case4 _ _ _ _ _ _ _ _ _ ih => exact ih h
  | case5 _ _ _ _ _ _ ih => exact ih h

theorem collect_error {db : Db} {sb : Option SetupBy} {force : Bool} {dn : Option Str} {top : Str × Str} {e : Err}
    {f name ver recursive seen} (h : collect db sb force dn top f name ver recursive seen = .error e) :
      e = .outOfFuel ∨ e = .notFound ∨ (e = .tableError ∧ ∃ p, db.tableMissing p = true) ∨
        (e = .refused ∧ sb ≠ none ∧ force = false) := by
  fun_induction collect db sb force dn top f name ver recursive seen with
  | case1 => cases h; exact .inl rfl
  | case2 => cases h
  | case3 => cases h; exact .inr (.inl rfl)
  | case4 _ _ _ _ _ _ p _ _ e' he' =>
    cases h
    rcases directDeps_error he' with ⟨h1, h2⟩ | h1
    · exact .inr (.inr (.inl ⟨h1, p, h2⟩))
    · exact .inl h1
  | case5 _ _ _ _ _ _ _ _ _ _ _ ih =>
    rcases collectLoop_error h with h1 | ⟨q, sn, hq⟩
    · exact .inr (.inr (.inr h1))
    · exact ih q sn hq

theorem collectLoop_checked (sb : SetupBy) (top : Str × Str) (recursive : Bool)
    (recur : Prod → Seen → Except Err (List Prod × Seen))
    (hrec : ∀ q sn l sn', recur q sn = .ok (l, sn') → ∀ p ∈ l, inUse (some sb) top p = false)
    (qs acc seen l seen') (hacc : ∀ p ∈ acc, inUse (some sb) top p = false)
    (h : collectLoop (some sb) false top recursive recur qs acc seen = .ok (l, seen')) :
      ∀ p ∈ l, inUse (some sb) top p = false := by
  fun_induction collectLoop (some sb) false top recursive recur qs acc seen with
  | case1 => cases h; exact hacc
  | case2 => cases h
  | case3 => cases h
  | case4 q _ _ _ hu _ sub _ hq ih =>
    exact ih (List.forall_mem_append.mpr ⟨List.forall_mem_append.mpr ⟨hacc, hrec _ _ _ _ hq⟩,
      fun p hp => by simpa [List.mem_singleton.mp hp] using hu⟩) h
  | case5 q _ _ _ hu _ ih =>
    exact ih (List.forall_mem_append.mpr ⟨hacc, fun p hp => by simpa [List.mem_singleton.mp hp] using hu⟩) h

theorem collect_checked {db : Db} {sb : SetupBy} {dn : Option Str} {top : Str × Str}
    {f name ver recursive seen l seen'}
    (h : collect db (some sb) false dn top f name ver recursive seen = .ok (l, seen')) :
      ∀ p ∈ l, inUse (some sb) top p = false := by
  fun_induction collect db (some sb) false dn top f name ver recursive seen generalizing l seen' with
  | case1 | case3 | case4 => cases h
  | case2 => cases h; exact fun p hp => nomatch hp
  -- `@`: with `l`, `seen'` generalised as implicit, the plain form leaves the induction hypothesis without a name
  | @case5 _ _ _ _ _ _ _ _ _ _ _ ih =>
    exact collectLoop_checked sb top _ _ (fun q sn _ _ => ih q sn) _ [] _ l seen' (fun p hp => nomatch hp) h

theorem collect_users {db : Db} {sb : SetupBy} {dn : Option Str} {top : Str × Str}
    {f : Nat} {name : Str} {ver : Option Str} {recursive : Bool} {seen : Seen} {l : List Prod} {seen' : Seen}
    (h : collect db (some sb) false dn top f name ver recursive seen = .ok (l, seen')) :
    ∀ p ∈ l, ∀ u ∈ users sb p.name p.ver, u.name = top.1 ∧ u.ver = top.2 := by
  intro p hp u hu
  have := collect_checked h p hp
  simp only [inUse, usedBy, Bool.not_eq_false', List.isEmpty_iff, List.filter_eq_nil_iff] at this
  simpa using this u hu

theorem mem_uniqProds (l : List Prod) (p : Prod) : p ∈ uniqProds l ↔ p ∈ l := Topo.mem_dedup l p

theorem removed_cons (p : Prod) (ps : List Prod) (n v : Str) :
    removed (p :: ps) n v = (removed [p] n v || removed ps n v) := by
  unfold removed
  simp only [List.any_cons, List.any_nil, Bool.or_false]

theorem removed_nil (n v : Str) : removed [] n v = false := by simp [removed]

theorem destroy_nil (s : State) : destroy s [] = s := by
  cases s
  simp [destroy, removed_nil]

theorem filter_removed {β : Type} (l : List β) (key : β → Str × Str) (p : Prod) (ps : List Prod) :
    (l.filter fun x => !removed [p] (key x).1 (key x).2).filter (fun x => !removed ps (key x).1 (key x).2) =
      l.filter fun x => !removed (p :: ps) (key x).1 (key x).2 := by
  rw [List.filter_filter]
  apply List.filter_congr
  intro x _
  rw [removed_cons p ps]
  cases removed [p] (key x).1 (key x).2 <;> cases removed ps (key x).1 (key x).2 <;> rfl

theorem destroy_destroy (s : State) (p : Prod) (ps : List Prod) :
    destroy (destroy s [p]) ps = destroy s (p :: ps) := by
  unfold destroy
  simp only
  have h1 := filter_removed s.decls (fun d => (d.name, d.ver)) p ps
  have h2 := filter_removed s.tags (fun t => (t.1, t.2.2)) p ps
  have h3 := filter_removed s.dirs (fun d => (d.1, d.2)) p ps
  simp only at h1 h2 h3
  rw [h1, h2, h3]

theorem isSetup_destroy (s : State) (R : List Prod) (q : Prod) : (destroy s R).isSetup q = s.isSetup q := rfl

theorem destroyLoop_ok (force : Bool) (s : State) (R : List Prod) (hw : s.dbWritable = true)
    (h : force = true ∨ ∀ p ∈ R, s.isSetup p = false) : destroyLoop force s R = (.ok, destroy s R) := by
  fun_induction destroyLoop force s R with
  | case1 => rw [destroy_nil]
  | case2 _ _ _ hnw => simp [hw] at hnw
  | case3 _ p _ _ hs =>
    refine absurd hs ?_
    rcases h with rfl | h
    · simp
    · simp [h p (by simp)]
  | case4 _ _ _ _ _ ih =>
    rw [ih hw (h.imp_right fun h q hq => by rw [isSetup_destroy]; exact h q (by simp [hq])), destroy_destroy]

theorem destroyLoop_readonly (force : Bool) (s : State) (hw : s.dbWritable = false) (p : Prod) (ps : List Prod) :
    destroyLoop force s (p :: ps) = (.failed .noPermission, s) := by
  simp [destroyLoop, hw]

theorem destroyLoop_cases (force : Bool) (s : State) (R : List Prod)
    (h : force = true ∨ ∀ p ∈ R, s.isSetup p = false) :
    destroyLoop force s R = (.ok, destroy s R) ∨
      (s.dbWritable = false ∧ destroyLoop force s R = (.failed .noPermission, s)) := by
  cases hw : s.dbWritable with
  | true => exact .inl (destroyLoop_ok force s R hw h)
  | false =>
    cases R with
    | nil => exact .inl (by simp [destroyLoop, destroy_nil])
    | cons p ps => exact .inr ⟨rfl, destroyLoop_readonly force s hw p ps⟩

/-- the in-use index the collection runs with: none when the check is off -/
def index (check : Bool) (uses : UsesOutcome) : Except Err (Option SetupBy) :=
  if check then
    match uses with
    | .outOfFuel => .error .outOfFuel
    | .cycle => .error .cycle
    | .ok sb => .ok (some sb)
  else .ok none

/-- What `Eups.remove` does before it destroys anything — the in-use index, the collection, the set-up pre-check — with
the products to remove or the error the command ends with.  `removeWith`, `removeWithI` and `removeWithIPinned` differ
only in what they do with a plan (`plan_then`), so what they have in common is read off `plan_ok` / `plan_error`. -/
def plan (s : State) (uses : UsesOutcome) (name ver : Str) (recursive check force : Bool) (dn : Option Str) :
    Except Err (List Prod) :=
  match index check uses with
  | .error e => .error e
  | .ok sb =>
    match collect s.db sb force dn (name, ver) s.removeFuel name (some ver) recursive [] with
    | .error e => .error e
    | .ok (l, _) => if !force && (uniqProds l).any s.isSetup then .error .isSetup else .ok (uniqProds l)

section Plan
variable (s : State) (uses : UsesOutcome) (name ver : Str) (recursive check force : Bool) (dn : Option Str)

theorem plan_then (exec : List Prod → Outcome × State × List Prod) :
    (let go (sb : Option SetupBy) : Outcome × State × List Prod :=
      match collect s.db sb force dn (name, ver) s.removeFuel name (some ver) recursive [] with
      | .error e => (.failed e, s, [])
      | .ok (l, _) => if !force && (uniqProds l).any s.isSetup then (.failed .isSetup, s, []) else exec (uniqProds l)
    if check then
      match uses with
      | .outOfFuel => (.failed .outOfFuel, s, [])
      | .cycle => (.failed .cycle, s, [])
      | .ok sb => go (some sb)
    else go none) =
      match plan s uses name ver recursive check force dn with
      | .error e => (.failed e, s, [])
      | .ok R => exec R := by
  have go : ∀ sb, (match collect s.db sb force dn (name, ver) s.removeFuel name (some ver) recursive [] with
        | .error e => (Outcome.failed e, s, ([] : List Prod))
        | .ok (l, _) => if !force && (uniqProds l).any s.isSetup then (.failed .isSetup, s, []) else exec (uniqProds l)) =
      match (match collect s.db sb force dn (name, ver) s.removeFuel name (some ver) recursive [] with
        | .error e => Except.error e
        | .ok (l, _) => if !force && (uniqProds l).any s.isSetup then .error .isSetup else .ok (uniqProds l)) with
      | .error e => (.failed e, s, [])
      | .ok R => exec R := by
    intro sb
    cases collect s.db sb force dn (name, ver) s.removeFuel name (some ver) recursive [] with
    | error e => rfl
    | ok r => simp only; split <;> rfl
  unfold plan index
  cases check with
  | false => exact go _
  | true =>
    cases uses with
    | ok sb => exact go _
    | _ => rfl

theorem removeWith_plan :
    removeWith s uses name ver recursive check force dn =
      match plan s uses name ver recursive check force dn with
      | .error e => (.failed e, s, [])
      | .ok R => ((destroyLoop force s R).1, (destroyLoop force s R).2, R) :=
  plan_then s uses name ver recursive check force dn fun R => ((destroyLoop force s R).1, (destroyLoop force s R).2, R)

theorem removeWithI_plan (answers : List Ans) :
    removeWithI s uses name ver recursive check force dn answers =
      match plan s uses name ver recursive check force dn with
      | .error e => (.failed e, s, [])
      | .ok R => destroyLoopI force ⟨name, some ver, true⟩ s R .y answers :=
  plan_then s uses name ver recursive check force dn fun R => destroyLoopI force ⟨name, some ver, true⟩ s R .y answers

theorem removeWithIPinned_plan (answers : List Ans) :
    removeWithIPinned s uses name ver recursive check force dn answers =
      match plan s uses name ver recursive check force dn with
      | .error e => (.failed e, s, [])
      | .ok R => destroyLoopIPinned force s R .y answers :=
  plan_then s uses name ver recursive check force dn fun R => destroyLoopIPinned force s R .y answers

variable {s uses name ver recursive check force dn}

theorem index_ok {sb : Option SetupBy} (h : index check uses = .ok sb) :
    (check = false ∧ sb = none) ∨ (check = true ∧ ∃ sb', uses = .ok sb' ∧ sb = some sb') := by
  unfold index at h
  cases check with
  | false => cases h; exact .inl ⟨rfl, rfl⟩
  | true => cases uses <;> cases h; exact .inr ⟨rfl, _, rfl, rfl⟩

theorem index_error {e : Err} (h : index check uses = .error e) :
    check = true ∧ (uses = .outOfFuel ∧ e = .outOfFuel ∨ uses = .cycle ∧ e = .cycle) := by
  unfold index at h
  cases check with
  | false => cases h
  | true =>
    cases uses <;> cases h
    · exact ⟨rfl, .inr ⟨rfl, rfl⟩⟩
    · exact ⟨rfl, .inl ⟨rfl, rfl⟩⟩

theorem plan_ok {R : List Prod} (h : plan s uses name ver recursive check force dn = .ok R) :
    ∃ sb l sn, index check uses = .ok sb ∧
      collect s.db sb force dn (name, ver) s.removeFuel name (some ver) recursive [] = .ok (l, sn) ∧
      R = uniqProds l ∧ (force = true ∨ ∀ p ∈ R, s.isSetup p = false) := by
  unfold plan at h
  split at h
  · cases h
  · rename_i sb hsb
    split at h
    · cases h
    · rename_i l sn hl
      split at h
      · cases h
      · rename_i hc
        cases h
        refine ⟨sb, l, sn, hsb, hl, rfl, ?_⟩
        cases force
        · exact .inr (by simpa using hc)
        · exact .inl rfl

theorem plan_ok_setup {R : List Prod} (h : plan s uses name ver recursive check force dn = .ok R) :
    force = true ∨ ∀ p ∈ R, s.isSetup p = false :=
  let ⟨_, _, _, _, _, _, hno⟩ := plan_ok h; hno

/-- with a plan made the destruction loop refuses no product: it destroys all of `R`, or the database is not writable
and nothing is touched -/
theorem plan_destroyLoop {R : List Prod} (h : plan s uses name ver recursive check force dn = .ok R) :
    destroyLoop force s R = (.ok, destroy s R) ∨
      (s.dbWritable = false ∧ destroyLoop force s R = (.failed .noPermission, s)) :=
  destroyLoop_cases force s R (plan_ok_setup h)

theorem plan_error {e : Err} (h : plan s uses name ver recursive check force dn = .error e) :
    index check uses = .error e ∨
      (∃ sb, index check uses = .ok sb ∧
        collect s.db sb force dn (name, ver) s.removeFuel name (some ver) recursive [] = .error e) ∨
      (e = .isSetup ∧ force = false) := by
  unfold plan at h
  split at h
  · rename_i e' he; cases h; exact .inl he
  · rename_i sb hsb
    split at h
    · rename_i e' he; cases h; exact .inr (.inl ⟨sb, hsb, he⟩)
    · split at h
      · rename_i hc
        cases h
        simp only [Bool.and_eq_true, Bool.not_eq_true'] at hc
        exact .inr (.inr ⟨rfl, hc.1⟩)
      · cases h

theorem removeWith_ok {s' : State} {R : List Prod}
    (h : removeWith s uses name ver recursive check force dn = (Outcome.ok, s', R)) :
    plan s uses name ver recursive check force dn = .ok R ∧ s' = destroy s R := by
  rw [removeWith_plan] at h
  split at h
  · cases h
  · rename_i R' hp
    rcases plan_destroyLoop hp with he | ⟨_, he⟩
    · rw [he] at h
      cases h
      exact ⟨hp, rfl⟩
    · rw [he] at h
      cases h

end Plan

theorem destroyLoopI_top_first (force : Bool) (top : Prod) (ps : List Prod) (s : State) (d : Dflt) (answers : List Ans) :
    (destroyLoopI force top s (top :: ps) d answers).2.2 ≠ [] →
      top ∈ (destroyLoopI force top s (top :: ps) d answers).2.2 := by
  unfold destroyLoopI
  split
  · simp
  · simp
  · simp
  · split
    · simp
    · split
      · simp
      · intro _; simp

end EupsModel.Remove
