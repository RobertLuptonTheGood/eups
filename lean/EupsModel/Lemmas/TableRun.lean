import EupsModel.Lemmas.Cond
import EupsModel.Lemmas.TableLine
import EupsModel.Lemmas.Text
/-! C11, `_rewrite` on lists of lines.  The judgment `Run` composes by `Run.append`, so a construct of a table file is
the composition of its lines in the order written; `Emits` is the same between constructs, where what is written can be
stated apart from the state.  `rewrite_of_run` / `rewrite_of_emits` close a text (its lines joined by newlines, with or
without a final one); a text of `Fixed` lines comes out as itself (`rewrite_fixed`), and the `if` block written for a legacy
group is made of such lines (`fixed_ifBlock`).  Then the patterns of `_read` on concatenated lines, and `Good`: raw lines that
`_rewrite` hands on and that are classified as given. -/
namespace EupsModel.TableParse
open EupsModel.Cond EupsModel.C11Spec

theorem rewriteLines_append (a b : List Str) (st : RwState) :
    rewriteLines st (a ++ b) = (rewriteLines st a).bind fun st' => rewriteLines st' b := by
  induction a generalizing st with
  | nil => rfl
  | cons r rs ih => simp [rewriteLines, ih, Res.bind_assoc]

def coresOf (raws : List Str) : List Str := (raws.map strip).filter (fun l => !l.isEmpty)

theorem coresOf_append (a b : List Str) : coresOf (a ++ b) = coresOf a ++ coresOf b := by
  simp [coresOf]

theorem coresOf_flatMap {α : Type} (f : α → List Str) (xs : List α) :
    coresOf (xs.flatMap f) = xs.flatMap fun x => coresOf (f x) := by
  simp [coresOf, List.map_flatMap, List.filter_flatMap]

theorem coresOf_cons_ne {r : Str} {rs : List Str} (h : (strip r).isEmpty = false) :
    coresOf (r :: rs) = strip r :: coresOf rs := by simp [coresOf, h]

theorem rewriteLines_extra {extra : List Str} (h : ∀ e ∈ extra, e = []) (st : RwState) : rewriteLines st extra = .ok st := by
  induction extra with
  | nil => rfl
  | cons e es ih =>
    have he : e = [] := h e (List.mem_cons_self ..)
    subst he
    simp only [rewriteLines, rewriteLine_empty st (by rfl : strip [] = []), Res.bind]
    exact ih (fun q hq => h q (List.mem_cons_of_mem _ hq))

theorem splitLines_eq (cur s : Str) : splitLines cur s = Text.onHead cur (Text.pieces (· == 10) s) :=
  Text.acc_pieces ⟨fun _ => rfl, fun _ _ _ => rfl⟩ cur s

theorem joinNL_eq (ls : List Str) : joinNL ls = Text.join [10] ls := by
  induction ls with
  | nil => rfl
  | cons l r ih => cases r <;> simp_all [joinNL, Text.join]

theorem splitLines_joinNL : ∀ (raws : List Str), (∀ r ∈ raws, r.all (· != 10) = true) → ∀ (nl : Bool),
    ∃ extra, splitLines [] (joinNL raws ++ (if nl then [10] else [])) = raws ++ extra ∧ ∀ e ∈ extra, e = [] := by
  intro raws h nl
  have h' : ∀ l ∈ raws, ∀ x ∈ l, (x == 10) = false := fun l hl => by simpa using h l hl
  rw [splitLines_eq, Text.onHead_nil, joinNL_eq]
  by_cases hne : raws = []
  · subst hne; cases nl <;> simp [Text.join, Text.pieces]
  · cases nl
    · exact ⟨[], by simp [Text.pieces_join (c := 10) rfl hne h'], by simp⟩
    · exact ⟨[[]], by simp [Text.join_terminated 10 hne, Text.pieces_terminated (c := 10) rfl raws h'], by simp⟩

/-- `Run st raws st'`: every one of `raws` is a single line, and `_rewrite`, in state `st` before them, is in state
`st'` after them.  The no-newline half is what lets a text be cut into these lines again (`rewrite_of_run`). -/
structure Run (st : RwState) (raws : List Str) (st' : RwState) : Prop where
  noNL : ∀ r ∈ raws, r.all (· != 10) = true
  run : rewriteLines st raws = .ok st'

theorem Run.nil (st : RwState) : Run st [] st := ⟨fun _ h => (List.not_mem_nil h).elim, rfl⟩

theorem Run.append {st st' st'' : RwState} {a b : List Str} (h1 : Run st a st') (h2 : Run st' b st'') :
    Run st (a ++ b) st'' :=
  ⟨fun r hr => (List.mem_append.mp hr).elim (h1.noNL r) (h2.noNL r), by
    rw [rewriteLines_append, h1.run]; exact h2.run⟩

theorem Run.line {st st' : RwState} {raw : Str} (hnl : raw.all (· != 10) = true) (h : rewriteLine st raw = .ok st') :
    Run st [raw] st' :=
  ⟨fun r hr => by rw [List.mem_singleton.mp hr]; exact hnl, by simp only [rewriteLines, h, Res.bind]⟩

theorem Run.cons {st st' st'' : RwState} {raw : Str} {b : List Str} (h1 : Run st [raw] st') (h2 : Run st' b st'') :
    Run st (raw :: b) st'' := h1.append h2

theorem Run.pass : ∀ {raws : List Str}, raws.all passesLine = true → ∀ (st : RwState), st.newGroup ≠ .inFlavors →
    Run st raws { st with out := st.out ++ coresOf raws }
  | [], _, st, _ => by simpa [coresOf] using Run.nil st
  | r :: rs, h, st, hst => by
    simp only [List.all_cons, passesLine, Bool.and_eq_true, Bool.or_eq_true] at h
    obtain ⟨⟨hnl, hp⟩, hrs⟩ := h
    rcases hp with he | hn
    · have he' := List.isEmpty_iff.mp he
      simpa [coresOf, he'] using (Run.line hnl (rewriteLine_empty st he')).cons (Run.pass hrs st hst)
    · have he := neutral_ne hn
      have e : rewriteLine st r = .ok { st with out := st.out ++ [strip r] } := by
        rw [rewriteLine_neutral' rfl hn]
        cases hg : st.newGroup <;> simp_all
      simpa [coresOf_cons_ne he, List.append_assoc] using (Run.line hnl e).cons (Run.pass hrs _ hst)

/-- what `_rewrite` returns when the file ends in state `st` -/
def RwState.closed (st : RwState) : List Str := if st.newGroup != .no then st.out ++ [sClose] else st.out

theorem rewrite_of_run {raws : List Str} {st : RwState} (h : Run {} raws st) (nl : Bool) :
    rewrite (joinNL raws ++ (if nl then [10] else [])) = .ok st.closed := by
  obtain ⟨extra, hs, hx⟩ := splitLines_joinNL raws h.noNL nl
  simp only [rewrite, hs]
  rw [rewriteLines_append, h.run]
  simp only [Res.bind, rewriteLines_extra hx, RwState.closed]

/-- `Emits ng raws outs ng'`: started between constructs (no old-style group open; `ng`: is a new-style group open),
`_rewrite` writes `outs` while it reads `raws` and is between constructs again.  There the condition under construction
is dead and the flag `old` is only read, so the statement is for all of them and for any output so far. -/
def Emits (ng : NewGroup) (raws outs : List Str) (ng' : NewGroup) : Prop :=
  ∀ old cond out, ∃ cond', Run ⟨old, false, ng, cond, out⟩ raws ⟨old, false, ng', cond', out ++ outs⟩

theorem Emits.nil (ng : NewGroup) : Emits ng [] [] ng := fun _ cond _ => ⟨cond, by simpa using Run.nil _⟩

theorem Emits.append {n1 n2 n3 : NewGroup} {a b o1 o2 : List Str} (h1 : Emits n1 a o1 n2) (h2 : Emits n2 b o2 n3) :
    Emits n1 (a ++ b) (o1 ++ o2) n3 := fun old cond out => by
  obtain ⟨c1, r1⟩ := h1 old cond out
  obtain ⟨c2, r2⟩ := h2 old c1 (out ++ o1)
  exact ⟨c2, by simpa [List.append_assoc] using r1.append r2⟩

theorem Emits.flatMap {α : Type} {ng : NewGroup} {f g : α → List Str} {xs : List α}
    (h : ∀ x ∈ xs, Emits ng (f x) (g x) ng) : Emits ng (xs.flatMap f) (xs.flatMap g) ng :=
  flatMap_rel (R := fun a b => Emits ng a b ng) (Emits.nil ng) Emits.append h

theorem Emits.pass {raws : List Str} (h : raws.all passesLine = true) {ng : NewGroup} (hn : ng ≠ .inFlavors) :
    Emits ng raws (coresOf raws) ng := fun _ cond _ => ⟨cond, Run.pass h _ hn⟩

theorem rewrite_of_emits {hdr raws outs : List Str} {old : Bool} {ng : NewGroup}
    (hh : Run {} hdr ⟨old, false, .no, [], []⟩) (h : Emits .no raws outs ng) (nl : Bool) :
    rewrite (joinNL (hdr ++ raws) ++ (if nl then [10] else [])) = .ok (outs ++ if ng != .no then [sClose] else []) := by
  obtain ⟨c, hc⟩ := h old [] []
  rw [rewrite_of_run (hh.append hc) nl]
  cases ng <;> simp [RwState.closed]

theorem fixed_passes {ls : List Str} (h : ∀ l ∈ ls, Fixed l) : ls.all passesLine = true :=
  List.all_eq_true.mpr fun l hl => by
    have f := h l hl
    simp [passesLine, f.noNL, f.strip_eq, f.neutral]

theorem fixed_cores {rs : List Str} (hall : rs.all passesLine = true) : ∀ l ∈ coresOf rs, Fixed l := by
  intro l hl
  simp only [coresOf, List.mem_filter, List.mem_map, Bool.not_eq_true'] at hl
  obtain ⟨⟨r, hr, rfl⟩, hne⟩ := hl
  have hp := List.all_eq_true.mp hall r hr
  simp only [passesLine, hne, Bool.false_or, Bool.and_eq_true] at hp
  exact fixed_of_coreOK (coreOK_strip r) hp.2

theorem coresOf_fixed : ∀ {ls : List Str}, (∀ l ∈ ls, Fixed l) → coresOf ls = ls
  | [], _ => rfl
  | l :: ls, h => by
    have f := h l (List.mem_cons_self ..)
    rw [coresOf_cons_ne (by rw [f.strip_eq]; exact f.nonempty), f.strip_eq,
      coresOf_fixed fun q hq => h q (List.mem_cons_of_mem _ hq)]

theorem rewrite_fixed {G : Type} (pre : List Str) (block : G → List Str) (gs : List G) (nl : Bool)
    (hpre : pre.all passesLine = true) (hfix : ∀ g ∈ gs, ∀ l ∈ block g, Fixed l) :
    rewrite (joinNL (pre ++ gs.flatMap block) ++ (if nl then [10] else [])) = .ok (coresOf pre ++ gs.flatMap block) := by
  have hfix' : ∀ l ∈ gs.flatMap block, Fixed l := fun l hl => by
    obtain ⟨g, hg, hl⟩ := List.mem_flatMap.mp hl
    exact hfix g hg l hl
  have hall : (pre ++ gs.flatMap block).all passesLine = true := by simp [List.all_append, hpre, fixed_passes hfix']
  rw [rewrite_of_run (Run.pass hall {} (by decide)) nl]
  simp [RwState.closed, coresOf_append, coresOf_fixed hfix']

theorem flav_tok {f : FlavLine} (h : f.ok = true) : f.flavor.all isTokCh = true := by
  simp only [FlavLine.ok, Bool.and_eq_true] at h; exact h.1.2

/-- for any piece `pc g` that a flavor `g` contributes to the condition (the two styles differ in it) -/
theorem lineCh_cond {pc : Str → Str} (hpc : ∀ g, g.all isTokCh = true → (pc g).all lineCh = true) (more : List FlavLine)
    (acc : Str) (hm : more.all FlavLine.ok = true) (h : acc.all lineCh = true) :
    ((more.map FlavLine.flavor).foldl (fun c g => c ++ sBarBar ++ pc g) acc).all lineCh = true :=
  foldl_invariant (P := fun c : Str => c.all lineCh = true) h fun c g hg hc => by
    obtain ⟨f, hf, rfl⟩ := List.mem_map.mp hg
    have a : sBarBar.all lineCh = true := by decide
    simp [List.all_append, hc, a, hpc _ (flav_tok (List.all_eq_true.mp hm f hf))]

theorem fixed_ifOpen {cond : Str} (hc : cond.all lineCh = true) : Fixed (sIfOpen ++ cond ++ sIfClose) := by
  have hall : (sIfOpen ++ cond ++ sIfClose).all lineCh = true := by
    have a : sIfOpen.all lineCh = true := by decide
    have b : sIfClose.all lineCh = true := by decide
    simp only [List.all_append, a, b, hc]; rfl
  have hl : sIfOpen ++ cond ++ sIfClose = 105 :: ([102, 32, 40] ++ cond ++ sIfClose) := by simp [sIfOpen]
  exact fixed_of_head hl hall (by decide) (by decide)

theorem fixed_close : Fixed sClose := fixed_brace (rest := []) rfl (by decide)

theorem fixed_ifBlock {cond : Str} (hc : cond.all lineCh = true) {body : List Str} (hb : body.all passesLine = true) :
    ∀ l ∈ (sIfOpen ++ cond ++ sIfClose) :: coresOf body ++ [sClose], Fixed l := by
  intro l hl
  simp only [List.cons_append, List.mem_cons, List.mem_append, List.mem_nil_iff, or_false] at hl
  rcases hl with rfl | hl | rfl
  · exact fixed_ifOpen hc
  · exact fixed_cores hb l hl
  · exact fixed_close

theorem classifyAll_cons {v : Variant} {pdir : Option Str} {l : Str} {c : Line} {ls : List Str} {cs : List Line}
    (h1 : classify v pdir l = .ok c) (h2 : classifyAll v pdir ls = .ok cs) :
    classifyAll v pdir (l :: ls) = .ok (c :: cs) := by
  simp [classifyAll, h1, h2, Res.bind]

theorem classifyAll_append_bind (v : Variant) (pdir : Option Str) (a b : List Str) :
    classifyAll v pdir (a ++ b) =
      (classifyAll v pdir a).bind fun ca => (classifyAll v pdir b).bind fun cb => .ok (ca ++ cb) := by
  induction a with
  | nil => simp [classifyAll, Res.ok_bind, Res.bind_ok]
  | cons l ls ih => simp [classifyAll, ih, Res.bind_assoc, Res.ok_bind]

theorem classifyAll_append {v : Variant} {pdir : Option Str} {a b : List Str} {ca cb : List Line}
    (h1 : classifyAll v pdir a = .ok ca) (h2 : classifyAll v pdir b = .ok cb) :
    classifyAll v pdir (a ++ b) = .ok (ca ++ cb) := by
  rw [classifyAll_append_bind, h1, h2]; rfl

theorem classify_blk {v : Variant} {pdir : Option Str} {l : Str} {bl : BlockLine} (h : blockLine v l = some bl) :
    classify v pdir l = .ok (.blk bl) := by simp only [classify, h]

/-- a raw line that `_rewrite` either drops (nothing left after stripping) or passes on stripped -/
def passes (raw : Str) : Bool := (strip raw).isEmpty || neutral (strip raw)

/-- raw lines that pass `_rewrite`, hold no newline, and are classified as `ls` -/
def Good (pdir : Option Str) (raws : List Str) (ls : List Line) : Prop :=
  raws.all passes = true ∧ (∀ r ∈ raws, r.all (· != 10) = true) ∧ classifyAll repaired pdir (coresOf raws) = .ok ls

theorem Good.nil (pdir : Option Str) : Good pdir [] [] := ⟨rfl, (fun r hr => by simp at hr), rfl⟩

theorem Good.append {pdir : Option Str} {r1 r2 : List Str} {l1 l2 : List Line} (h1 : Good pdir r1 l1) (h2 : Good pdir r2 l2) :
    Good pdir (r1 ++ r2) (l1 ++ l2) := by
  obtain ⟨pass1, noNL1, cls1⟩ := h1
  obtain ⟨pass2, noNL2, cls2⟩ := h2
  refine ⟨by simp [List.all_append, pass1, pass2],
    fun r hr => (List.mem_append.mp hr).elim (noNL1 r) (noNL2 r), ?_⟩
  rw [coresOf_append]
  exact classifyAll_append cls1 cls2

theorem Good.flatMap {α : Type} {pdir : Option Str} {f : α → List Str} {h : α → List Line} {xs : List α}
    (hx : ∀ x ∈ xs, Good pdir (f x) (h x)) : Good pdir (xs.flatMap f) (xs.flatMap h) :=
  flatMap_rel (Good.nil pdir) Good.append hx

theorem good_bodyLine {pdir : Option Str} {b : BodyLineT} (hb : b.ok pdir = true) :
    Good pdir [b.raw] (Body.lines (bodyAbs [b])) := by
  simp only [BodyLineT.ok, Bool.and_eq_true] at hb
  obtain ⟨hnl, hrest⟩ := hb
  have hnl' : ∀ r ∈ [b.raw], r.all (· != 10) = true := fun r hr => by rw [List.mem_singleton.mp hr]; exact hnl
  cases he : (strip b.raw).isEmpty with
  | true => exact ⟨by simp [passes, he], hnl', by simp [coresOf, he, classifyAll, bodyAbs, Body.lines]⟩
  | false =>
    simp only [he, Bool.false_eq_true, if_false, Bool.and_eq_true, decide_eq_true_eq] at hrest
    exact ⟨by simp [passes, hrest.1], hnl', by
      cases hres : b.res <;> simp [coresOf, he, classifyAll, hrest.2, Res.bind, bodyAbs, Body.lines, lineOf, hres]⟩

theorem good_body {pdir : Option Str} : ∀ {body : List BodyLineT}, body.all (BodyLineT.ok pdir) = true →
    Good pdir (body.map (·.raw)) (Body.lines (bodyAbs body))
  | [], _ => Good.nil pdir
  | b :: bs, h => by
    simp only [List.all_cons, Bool.and_eq_true] at h
    have e : bodyAbs (b :: bs) = bodyAbs [b] ++ bodyAbs bs := by simp only [bodyAbs, List.filter_cons]; split <;> rfl
    simpa [e, Body.lines] using (good_bodyLine h.1).append (good_body h.2)

theorem good_line {pdir : Option Str} {w : Wrap} (hw : w.ok = true) {core : Str} (hf : Fixed core) {x : Line}
    (hc : classify repaired pdir core = .ok x) : Good pdir [w.around core] [x] := by
  have hs := strip_wrap hw hf.coreOK
  refine ⟨by simp [passes, hs, hf.neutral], fun r hr => ?_, ?_⟩
  · rw [List.mem_singleton.mp hr]; exact around_noNL hw hf.noNL
  · simp [coresOf, hs, hf.nonempty, classifyAll, hc, Res.bind]

theorem Good.classified {pdir : Option Str} {raws : List Str} {ls : List Line} (g : Good pdir raws ls) :
    classifyAll repaired pdir (coresOf raws) = .ok ls := g.2.2

/-- the first two parts of `Good` together -/
theorem Good.pass {pdir : Option Str} {raws : List Str} {ls : List Line} (g : Good pdir raws ls) :
    raws.all passesLine = true := by
  obtain ⟨pass, noNL, _⟩ := g
  exact List.all_eq_true.mpr fun r hr => by
    have := List.all_eq_true.mp pass r hr
    simp only [passes] at this
    simp [passesLine, noNL r hr, this]

theorem Good.emits {pdir : Option Str} {raws : List Str} {ls : List Line} (g : Good pdir raws ls) {ng : NewGroup}
    (hn : ng ≠ .inFlavors) : Emits ng raws (coresOf raws) ng := Emits.pass g.pass hn

end EupsModel.TableParse
