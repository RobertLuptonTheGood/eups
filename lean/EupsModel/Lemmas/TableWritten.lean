import EupsModel.Lemmas.TableLine
import EupsModel.Lemmas.TableArgs
/-! C11: a command line as written.  The command words against the keywords of `_rewrite` and of the block pattern,
the command-line pattern on a written command (`cmdLine_written`); the line passes `_rewrite` as itself (`wcmd_fixed`),
is no block line and is normalised with the arguments written, whatever their number (`wcmd_blockLine`, `wcmd_commandLine`),
so `_read` takes it for the action its command and its written arguments denote (`wcmd_classify`) and it is one of the
lines `C11_blocks_text` quantifies over (`wcmd_body`). -/
namespace EupsModel.TableParse
open EupsModel.Cond EupsModel.C11Spec

/-- the keywords of `_rewrite` and of the block pattern -/
abbrev keywords : List Str := [sFile, sProduct, sAction, sQualifiers, sGroupC, sFlavorKw, sCommonC, sEndC, sIf]

/-- no command word is a prefix of a keyword or has one as a prefix -/
theorem keys_vs_keywords : ∀ k ∈ cmdTable.map Prod.fst, ∀ t ∈ keywords, k.isPrefixOf t = false ∧ t.isPrefixOf k = false := by
  simp only [cmdTable]; decide_lit

theorem name_vs_keyword {name : Str} {cmd : Cmd} (hc : cmdTable.lookup (Str.lower name) = some cmd) {t : Str}
    (ht : t ∈ keywords) (rest : Str) :
    lowerPrefix t (name ++ rest) = none := by
  have := keys_vs_keywords _ (List.mem_map_of_mem (mem_of_lookup_eq_some hc)) t ht
  exact lowerPrefix_none_key rfl this.1 this.2 rest

theorem synonyms_noinfix {l : Str} (h : synonyms.all (fun p => !isInfix p.1 l) = true) :
    synonyms.foldl (fun l p => replaceAll p.1 p.2 l) l = l :=
  foldl_fixed fun p hp => replGo_noinfix l (by simpa using List.all_eq_true.mp h p hp)

/-- `^(\w+)\s*\((.*)\)\s*;?\s*$` on a command as written -/
theorem cmdLine_written {name gap argText tl : Str} (hne : name ≠ []) (hn : name.all isWordCh = true)
    (hg : blank gap = true) (ht : cmdTail tl = true) (h41 : 41 ∉ tl) :
    cmdLine (name ++ gap ++ [40] ++ argText ++ [41] ++ tl) = some (name, argText) := by
  have e : name ++ gap ++ [40] ++ argText ++ [41] ++ tl = name ++ (gap ++ 40 :: (argText ++ 41 :: tl)) := by
    simp [List.append_assoc]
  have hr : ∀ c ∈ (gap ++ 40 :: (argText ++ 41 :: tl)).head?, isWordCh c = false := by
    cases gap with
    | nil => simp [isWordCh, Str.isAlnum, Str.isAlpha, Str.isUpper, Str.isLower, Str.isDigit]
    | cons c cs =>
      have h := space_not_tokCh (blank_cons.mp hg).1
      simp only [isTokCh, Bool.or_eq_false_iff] at h
      simp [h.1.1]
  obtain ⟨t1, t2⟩ := span_append (List.all_eq_true.mp hn) hr
  obtain ⟨c0, cs0, hc0⟩ := List.exists_cons_of_ne_nil hne
  rw [e]
  simp only [cmdLine, t1, t2]
  rw [hc0] at t1 ⊢
  have hd : dropSpaces (gap ++ 40 :: (argText ++ 41 :: tl)) = 40 :: (argText ++ 41 :: tl) :=
    dropSpaces_append hg rfl
  simp only [hd, splitLast_append argText h41]
  unfold cmdTail at ht
  split at ht
  · rename_i heq; simp only [heq, if_true]
  · rename_i u heq; simp only [heq, ht, if_true]
  · cases ht

theorem commandLine_written (pdir : Option Str) {name gap argText tl : Str} {cmd : Cmd} (hne : name ≠ [])
    (hn : name.all isWordCh = true) (hg : blank gap = true) (ht : cmdTail tl = true) (h41 : 41 ∉ tl)
    (hc : cmdTable.lookup (Str.lower name) = some cmd) :
    commandLine repaired pdir (name ++ gap ++ [40] ++ argText ++ [41] ++ tl) =
      normalise pdir cmd (parseArgs repaired argText) := by
  simp only [commandLine, cmdLine_written hne hn hg ht h41, hc]

theorem wordCh_facts {c : Nat} (h : isWordCh c = true) : Str.isSpace c = false ∧ c ≠ 125 ∧ lineCh c = true := by
  have ht := wordCh_tokCh h
  refine ⟨?_, ?_, lineCh_of_tokCh ht⟩
  · cases hs : Str.isSpace c with
    | false => rfl
    | true => rw [space_not_tokCh hs] at ht; cases ht
  · intro e; subst e; revert h; decide

theorem wcmd_parts {c : WCmd} (h : c.ok = true) :
    c.wrap.ok = true ∧ c.name ≠ [] ∧ c.name.all isWordCh = true ∧ cmdTable.lookup (Str.lower c.name) = some c.cmd ∧
      hblank c.gap = true ∧ c.args.ok = true ∧ c.tl.all (fun x => x == 32 || x == 9 || x == 59) = true ∧
      cmdTail c.tl = true ∧ c.args.text.all (fun x => x != 10 && x != 35) = true ∧
      synonyms.all (fun p => !isInfix p.1 c.core) = true := by
  simpa only [WCmd.ok, WCmd.textOK, Bool.and_eq_true, Bool.not_eq_true', List.isEmpty_eq_false_iff, beq_iff_eq, and_assoc]
    using h

theorem wcmd_core_eq (c : WCmd) : c.core = c.name ++ (c.gap ++ 40 :: (c.args.text ++ 41 :: c.tl)) := by
  simp [WCmd.core, List.append_assoc]

theorem wcmd_head {c : WCmd} (hok : c.ok = true) : ∃ c0 cs0, c.name = c0 :: cs0 ∧ isWordCh c0 = true := by
  obtain ⟨_, hne, hn, _⟩ := wcmd_parts hok
  obtain ⟨c0, cs0, hname⟩ := List.exists_cons_of_ne_nil hne
  exact ⟨c0, cs0, hname, List.all_eq_true.mp hn c0 (by rw [hname]; exact List.mem_cons_self ..)⟩

theorem wcmd_kw {c : WCmd} (hok : c.ok = true) :
    ∀ t ∈ keywords, lowerPrefix t c.core = none :=
  fun t ht => by rw [wcmd_core_eq]; exact name_vs_keyword (wcmd_parts hok).2.2.2.1 ht _

theorem wcmd_fixed {c : WCmd} (hok : c.ok = true) : Fixed c.core := by
  obtain ⟨_, _, hn, _, hg, _, htl, _, htext, hsyn⟩ := wcmd_parts hok
  obtain ⟨c0, cs0, hname, h0⟩ := wcmd_head hok
  have hsp0 := (wordCh_facts h0).1
  have ecore : c.core = c0 :: (cs0 ++ (c.gap ++ 40 :: (c.args.text ++ 41 :: c.tl))) := by rw [wcmd_core_eq, hname]; rfl
  have hall : c.core.all (fun x => x != 10 && x != 35) = true := by
    have a1 := coreCh_of_lineCh (List.all_eq_true.mpr fun x hx => (wordCh_facts (List.all_eq_true.mp hn x hx)).2.2)
    have a2 := coreCh_of_lineCh (lineCh_of_hblank hg)
    have a3 : c.tl.all (fun x => x != 10 && x != 35) = true := List.all_eq_true.mpr fun x hx => by
      have := List.all_eq_true.mp htl x hx
      simp only [Bool.or_eq_true, beq_iff_eq] at this
      rcases this with (h | h) | h <;> subst h <;> decide
    simp [wcmd_core_eq, List.all_append, a1, a2, a3, htext]
  have hcoreOK : coreOK c.core = true := by
    simp only [coreOK, Bool.and_eq_true]
    exact ⟨by rw [ecore]; simp [nsp, hsp0], hall⟩
  have hnonempty : c.core.isEmpty = false := by rw [ecore]; rfl
  exact fixed_of_coreOK hcoreOK (by
    simp [neutral, hnonempty, kwEqCap, kwEq, kwLine, qualLine, wcmd_kw hok, synonyms_noinfix hsyn])

/-- neither `if` nor `}` starts the line, so it is left to the command pattern -/
theorem blockLine_none {v : Variant} {c0 : Nat} {rest : Str} (hif : lowerPrefix sIf (c0 :: rest) = none) (h125 : c0 ≠ 125) :
    blockLine v (c0 :: rest) = none := by
  simp [blockLine, ifCond, hif, h125]

theorem wcmd_blockLine {c : WCmd} (hok : c.ok = true) : blockLine repaired c.core = none := by
  obtain ⟨c0, cs0, hname, h0⟩ := wcmd_head hok
  have hif := wcmd_kw hok sIf (by simp)
  rw [wcmd_core_eq, hname] at hif ⊢
  exact blockLine_none hif (wordCh_facts h0).2.1

/-- the command pattern finds the command and the arguments as written, whatever their number -/
theorem wcmd_commandLine (pdir : Option Str) {c : WCmd} (hok : c.ok = true) :
    commandLine repaired pdir c.core = normalise pdir c.cmd c.args.vals := by
  obtain ⟨_, hne, hn, hc, hg, ha, htl, htail, _, _⟩ := wcmd_parts hok
  have h41 : 41 ∉ c.tl := fun m => by
    have := List.all_eq_true.mp htl 41 m; revert this; decide
  rw [WCmd.core, commandLine_written pdir hne hn (blank_of_hblank hg) htail h41 hc, parseArgs_wargs ha]

theorem wcmd_classify {pdir : Option Str} {c : WCmd} (hok : c.ok = true) {res : Option Action}
    (hd : c.denote pdir = some res) : classify repaired pdir c.core = .ok (lineOf res) := by
  simp only [classify, wcmd_blockLine hok, wcmd_commandLine pdir hok]
  simp only [WCmd.denote] at hd
  split at hd
  · rename_i a heq; cases hd; rw [heq]; rfl
  · rename_i heq; cases hd; rw [heq]; rfl
  · cases hd

theorem wcmd_body {pdir : Option Str} {c : WCmd} (hok : c.ok = true) {res : Option Action}
    (hd : c.denote pdir = some res) : BodyLineT.ok pdir ⟨c.raw, res⟩ = true :=
  bodyLine_of_fixed (wcmd_parts hok).1 (wcmd_fixed hok) (wcmd_classify hok hd)

theorem wcmd_line {pdir : Option Str} {c : WCmd} (hok : c.ok = true) (hd : (c.denote pdir).isSome = true) :
    (c.line pdir).ok pdir = true := by
  cases h : c.denote pdir with
  | none => rw [h] at hd; cases hd
  | some res => simpa [WCmd.line, h] using wcmd_body hok h

end EupsModel.TableParse

