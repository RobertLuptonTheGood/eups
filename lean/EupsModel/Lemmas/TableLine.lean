import EupsModel.Lemmas.TableStr
import EupsModel.Lemmas.CondChar
import EupsModel.Lemmas.Str
/-! C11, one line of a table file under `_rewrite`.  What stripping leaves of a line written with indentation and a trailing
comment (`strip_wrap`); what `_rewrite` does with a line none of its patterns matches (`rewriteLine_neutral'`) and which lines
those are (`kw_others`, `neutral_of_head`).  `Fixed`: a line handed on as itself; written with any indentation and comment it
is a line of a written table once `_read` classifies it (`bodyLine_of_fixed`).  Then what the patterns make of the keyword
lines `Group:` / `key = value` / `Flavor = f` (`CoreFacts` with `kwLine_facts`, `eqLine_facts`, `flav_facts`, `qual_facts`).
Code points: 9 tab, 10 newline, 32 blank, 35 `#`, 36 `$`, 58 `:`, 61 `=`, 125 `}`. -/
namespace EupsModel.TableParse
open EupsModel.Cond EupsModel.C11Spec

theorem allSpace_of_blank {s : Str} (h : blank s = true) : allSpace s = true := h

theorem blank_of_hblank {s : Str} (h : hblank s = true) : blank s = true :=
  List.all_eq_true.mpr fun c hc => by
    have := List.all_eq_true.mp h c hc
    simp only [Bool.or_eq_true, beq_iff_eq] at this
    rcases this with rfl | rfl <;> decide

theorem hblank_ne {s : Str} (h : hblank s = true) {d : Nat} (hd : d ≠ 32 ∧ d ≠ 9) : d ∉ s := fun hm => by
  have := List.all_eq_true.mp h d hm
  simp only [Bool.or_eq_true, beq_iff_eq] at this
  omega

theorem around_noNL {w : Wrap} (hw : w.ok = true) {core : Str} (hc : core.all (· != 10) = true) :
    (w.around core).all (· != 10) = true := by
  simp only [Wrap.ok, Bool.and_eq_true] at hw
  have h10 : w.indent.all (· != 10) = true := List.all_eq_true.mpr fun a ha => by
    have := hblank_ne hw.1.1 (d := 10) (by omega); simp only [bne_iff_ne, ne_eq]; intro e; exact this (e ▸ ha)
  simp [Wrap.around, List.all_append, h10, hc, hw.1.2]

theorem noNL_of_coreOK {l : Str} (h : coreOK l = true) : l.all (· != 10) = true := by
  simp only [coreOK, Bool.and_eq_true] at h
  exact List.all_eq_true.mpr fun a ha => by
    have := List.all_eq_true.mp h.2 a ha; simp only [Bool.and_eq_true] at this; exact this.1

theorem strip_wrap {w : Wrap} (hw : w.ok = true) {core : Str} (hc : coreOK core = true) :
    strip (w.around core) = core := by
  have hall := around_noNL hw (noNL_of_coreOK hc)
  simp only [Wrap.ok, Bool.and_eq_true, Bool.or_eq_true, List.isEmpty_iff, beq_iff_eq] at hw
  obtain ⟨⟨h1, h3⟩, h4⟩ := hw
  simp only [coreOK, Bool.and_eq_true] at hc
  have c35 : core.all (· != 35) = true := List.all_eq_true.mpr fun a ha => by
    have := List.all_eq_true.mp hc.2 a ha; simp only [Bool.and_eq_true] at this; exact this.2
  have hn : nsp (core ++ w.tail) = true := by
    cases core with
    | nil =>
      rcases h4 with h4 | h4
      · rw [h4]; rfl
      · cases hwt : w.tail with
        | nil => rfl
        | cons a as => rw [hwt] at h4; simp only [List.head?_cons, Option.some.injEq] at h4; subst h4; rfl
    | cons a as => simpa [nsp] using hc.1
  unfold strip
  rw [List.filter_eq_self.mpr (List.all_eq_true.mp hall), Wrap.around, List.append_assoc]
  have := dropSpaces_append (blank_of_hblank h1) hn
  unfold dropSpaces at this
  rw [this]
  exact (span_append (List.all_eq_true.mp c35) (by rcases h4 with h4 | h4 <;> simp [h4])).1

theorem coreOK_strip (x : Str) : coreOK (strip x) = true := by
  simp only [coreOK, Bool.and_eq_true, List.all_eq_true]
  refine ⟨?_, fun c hc => ?_⟩
  · have := List.head?_dropWhile_not Str.isSpace (x.filter (· != 10))
    unfold strip
    cases h : (x.filter (· != 10)).dropWhile Str.isSpace with
    | nil => rfl
    | cons a as =>
      rw [h] at this
      simp only [List.head?_cons] at this
      by_cases ha : (a != 35) = true <;> simp [List.takeWhile, ha, nsp, this]
  · have hm : c ∈ x.filter (· != 10) := (List.dropWhile_sublist _).subset ((List.takeWhile_sublist _).subset hc)
    simp [(List.mem_filter.mp hm).2, mem_takeWhile_pos hc]

theorem strip_of_coreOK {l : Str} (h : coreOK l = true) : strip l = l := by
  have := strip_wrap (w := ⟨[], []⟩) (by decide) h
  simpa [Wrap.around] using this

theorem strip_idem (x : Str) : strip (strip x) = strip x := strip_of_coreOK (coreOK_strip x)

/-- the state of `_rewrite` outside legacy constructs -/
def PlainRw (st : RwState) : Prop := st.old = false ∧ st.inGroup = false ∧ st.newGroup = .no

theorem rewriteLine_empty (st : RwState) {raw : Str} (h : strip raw = []) : rewriteLine st raw = .ok st := by
  simp [rewriteLine, h]

theorem rewriteLine_neutral' {st : RwState} {raw l : Str} (h : strip raw = l)
    (hn : neutral l = true) :
    rewriteLine st raw = .ok (match st.newGroup with
      | .inFlavors => { st with newGroup := .yes, out := st.out ++ [sIfOpen ++ st.cond ++ sIfClose, l] }
      | _ => { st with out := st.out ++ [l] }) := by
  simp only [neutral, Bool.and_eq_true, Bool.not_eq_true', Option.isNone_iff_eq_none, beq_iff_eq] at hn
  obtain ⟨⟨⟨⟨⟨⟨⟨⟨⟨n1, n2⟩, n3⟩, n4⟩, n5⟩, n6⟩, n7⟩, n8⟩, n9⟩, n10⟩ := hn
  simp only [rewriteLine, h, n1, n2, n3, n4, n5, n6, n7, n8, n9, n10]
  cases st.old <;> cases st.inGroup <;> cases st.newGroup <;> simp

theorem rewriteLine_neutral {st : RwState} (hst : PlainRw st) {raw l : Str} (h : strip raw = l) (hn : neutral l = true) :
    rewriteLine st raw = .ok { st with out := st.out ++ [l] } := by
  rw [rewriteLine_neutral' h hn, hst.2.2]

theorem synonyms_head : ∀ p ∈ synonyms, p.1.head? = some 36 := by simp only [synonyms]; decide_lit

theorem synonyms_absent {l : Str} (h : 36 ∉ l) : synonyms.foldl (fun l p => replaceAll p.1 p.2 l) l = l :=
  foldl_fixed fun p hp => replaceAll_absent (synonyms_head p hp) h

/-- the seven first letters: `f`(ile, lavor), `p`(roduct), `a`(ction), `q`(ualifiers), `g`(roup:), `c`(ommon:), `e`(nd:) -/
def kwLetters : List Nat := [102, 112, 97, 113, 103, 99, 101]

theorem kw_others {core : Str} {d : Nat} (h : ∃ c0 rest, core = c0 :: rest ∧ lowerCh c0 = d) :
    (d ≠ 102 → lowerPrefix sFile core = none ∧ lowerPrefix sFlavorKw core = none) ∧
    (d ≠ 112 → lowerPrefix sProduct core = none) ∧ (d ≠ 97 → lowerPrefix sAction core = none) ∧
    (d ≠ 113 → lowerPrefix sQualifiers core = none) ∧ (d ≠ 103 → lowerPrefix sGroupC core = none) ∧
    (d ≠ 99 → lowerPrefix sCommonC core = none) ∧ (d ≠ 101 → lowerPrefix sEndC core = none) := by
  obtain ⟨c0, rest, hl, rfl⟩ := h
  exact ⟨fun h => ⟨lowerPrefix_none_head hl rfl h, lowerPrefix_none_head hl rfl h⟩, lowerPrefix_none_head hl rfl,
    lowerPrefix_none_head hl rfl, lowerPrefix_none_head hl rfl, lowerPrefix_none_head hl rfl, lowerPrefix_none_head hl rfl,
    lowerPrefix_none_head hl rfl⟩

theorem kwEqCap_none {kw l : Str} (h : lowerPrefix kw l = none) (cls : Nat → Bool) : kwEqCap kw cls l = none := by
  simp [kwEqCap, kwEq, h]

theorem qualLine_none {l : Str} (h : lowerPrefix sQualifiers l = none) : qualLine l = false := by
  simp [qualLine, kwEq, h]

theorem neutral_of_head {l : Str} {c : Nat} {l' : Str} (hl : l = c :: l') (h36 : 36 ∉ l) (hc : lowerCh c ∉ kwLetters) :
    neutral l = true := by
  have hne : l.isEmpty = false := by rw [hl]; rfl
  simp only [kwLetters, List.mem_cons, List.not_mem_nil, or_false, not_or] at hc
  simp [neutral, hne, kwEqCap, kwEq, kw_others ⟨c, l', hl, rfl⟩, hc, qualLine, kwLine, synonyms_absent h36]

/-- a line that `_rewrite` hands on as itself -/
structure Fixed (l : Str) : Prop where
  noNL : l.all (· != 10) = true
  strip_eq : strip l = l
  nonempty : l.isEmpty = false
  neutral : neutral l = true

theorem Fixed.coreOK {l : Str} (h : Fixed l) : coreOK l = true := h.strip_eq ▸ coreOK_strip l

theorem neutral_ne {l : Str} (h : neutral l = true) : l.isEmpty = false := by cases l <;> simp_all [neutral]

theorem fixed_of_coreOK {l : Str} (h : coreOK l = true) (hn : neutral l = true) : Fixed l :=
  ⟨noNL_of_coreOK h, strip_of_coreOK h, neutral_ne hn, hn⟩

theorem bodyLine_of_fixed {pdir : Option Str} {w : Wrap} (hw : w.ok = true) {core : Str} (hf : Fixed core)
    {res : Option Action} (hc : classify repaired pdir core = .ok (lineOf res)) :
    BodyLineT.ok pdir ⟨w.around core, res⟩ = true := by
  simp [BodyLineT.ok, around_noNL hw hf.noNL, strip_wrap hw hf.coreOK, hf.nonempty, hf.neutral, hc]

/-- characters that neither end a line, start a comment, nor start a variable reference -/
def lineCh (x : Nat) : Bool := x != 10 && x != 35 && x != 36

theorem lineCh_of_tokCh {x : Nat} (h : isTokCh x = true) : lineCh x = true := by
  simp only [isTokCh, isWordCh, Str.isAlnum, Str.isAlpha, Str.isUpper, Str.isLower, Str.isDigit, Bool.or_eq_true,
    Bool.and_eq_true, decide_eq_true_eq, beq_iff_eq] at h
  simp only [lineCh, Bool.and_eq_true, bne_iff_ne, ne_eq]; omega

theorem wordCh_tokCh {c : Nat} (h : isWordCh c = true) : isTokCh c = true := by simp [isTokCh, h]

theorem lineCh_of_tokChs {s : Str} (h : s.all isTokCh = true) : s.all lineCh = true :=
  List.all_eq_true.mpr fun x hx => lineCh_of_tokCh (List.all_eq_true.mp h x hx)

theorem lineCh_of_hblank {s : Str} (h : hblank s = true) : s.all lineCh = true :=
  List.all_eq_true.mpr fun c hc => by
    have := List.all_eq_true.mp h c hc
    simp only [Bool.or_eq_true, beq_iff_eq] at this
    rcases this with rfl | rfl <;> decide

theorem lineCh_of_lower {k kw : Str} (h : Str.lower k = kw) (hkw : kw.all (fun c => Str.isLower c || c == 58) = true) :
    k.all lineCh = true := by
  subst h
  refine List.all_eq_true.mpr fun c hc => ?_
  have := List.all_eq_true.mp hkw (lowerCh c) (by simp only [Str.lower, List.mem_map]; exact ⟨c, hc, rfl⟩)
  simp only [lowerCh, Str.isLower, Str.isUpper, Bool.or_eq_true, Bool.and_eq_true, decide_eq_true_eq, beq_iff_eq] at this
  simp only [lineCh, Bool.and_eq_true, bne_iff_ne, ne_eq]
  split at this <;> omega

theorem coreCh_of_lineCh {s : Str} (h : s.all lineCh = true) : s.all (fun x => x != 10 && x != 35) = true :=
  List.all_eq_true.mpr fun x hx => by
    have := List.all_eq_true.mp h x hx
    simp only [lineCh, Bool.and_eq_true] at this
    simp [this.1.1, this.1.2]

theorem coreOK_of_lineCh {core : Str} {c : Nat} {l' : Str} (hl : core = c :: l') (hs : Str.isSpace c = false)
    (hall : core.all lineCh = true) : coreOK core = true := by
  simp only [coreOK, Bool.and_eq_true]
  exact ⟨by rw [hl]; simp [nsp, hs], coreCh_of_lineCh hall⟩

theorem not_mem_36 {core : Str} (hall : core.all lineCh = true) : 36 ∉ core := fun hm => by
  have := List.all_eq_true.mp hall 36 hm; revert this; decide

theorem fixed_of_head {core : Str} {c : Nat} {l' : Str} (hl : core = c :: l') (hall : core.all lineCh = true)
    (hs : Str.isSpace c = false) (hc : lowerCh c ∉ kwLetters) : Fixed core :=
  fixed_of_coreOK (coreOK_of_lineCh hl hs hall) (neutral_of_head hl (not_mem_36 hall) hc)

theorem fixed_brace {core rest : Str} (hl : core = 125 :: rest) (hall : core.all lineCh = true) : Fixed core :=
  fixed_of_head hl hall (by decide) (by decide)

theorem lineCh_eq : lineCh 61 = true := by decide

/-- what `_rewrite` needs of a line before it reaches the line's own keyword; `d`, the lower-cased first letter, rules
out every keyword that starts with another -/
structure CoreFacts (raw core : Str) (d : Nat) : Prop where
  strip_eq : strip raw = core
  noNL : raw.all (· != 10) = true
  nonempty : core.isEmpty = false
  head : ∃ c0 rest, core = c0 :: rest ∧ lowerCh c0 = d
  syn : synonyms.foldl (fun l p => replaceAll p.1 p.2 l) core = core

theorem coreFacts_of {w : Wrap} (hw : w.ok = true) {core : Str} {c0 : Nat} {rest : Str} (hl : core = c0 :: rest)
    (hs : Str.isSpace c0 = false) (hall : core.all lineCh = true) : CoreFacts (w.around core) core (lowerCh c0) := by
  have hcore := coreOK_of_lineCh hl hs hall
  exact ⟨strip_wrap hw hcore, around_noNL hw (noNL_of_coreOK hcore), by rw [hl]; rfl, ⟨c0, rest, hl, rfl⟩,
    synonyms_absent (not_mem_36 hall)⟩

theorem kwLine_facts {target : Str} {d : Nat} {t' : Str} (ht : target = d :: t') (hd : 97 ≤ d ∧ d ≤ 122)
    (hlow : target.all (fun c => Str.isLower c || c == 58) = true) {k : KwLine} (hk : k.ok target = true) :
    CoreFacts k.raw k.core d ∧ lowerPrefix target k.core = some k.after ∧ allSpace k.after = true := by
  simp only [KwLine.ok, Bool.and_eq_true, beq_iff_eq] at hk
  obtain ⟨⟨hw, hkw⟩, ha⟩ := hk
  obtain ⟨c0, cs, hkc, hs, hlc⟩ := head_of_lower (hkw.trans ht) hd
  have hall : k.core.all lineCh = true := by
    simp [KwLine.core, List.all_append, lineCh_of_lower hkw hlow, lineCh_of_hblank ha]
  have hl : k.core = c0 :: (cs ++ k.after) := by simp [KwLine.core, hkc]
  have cf := coreFacts_of hw hl hs hall
  rw [hlc] at cf
  exact ⟨cf, by simpa [KwLine.core] using lowerPrefix_of_lower hkw k.after, blank_of_hblank ha⟩

theorem eqLine_core {target : Str} {d : Nat} {t' : Str} (ht : target = d :: t') (hd : 97 ≤ d ∧ d ≤ 122)
    (hlow : target.all (fun c => Str.isLower c || c == 58) = true) {e : EqLine} (hw : e.wrap.ok = true) (hkw : Str.lower e.kw = target)
    (h1 : hblank e.s1 = true) (h2 : hblank e.s2 = true) (ha : hblank e.after = true)
    (hval : e.value.all lineCh = true) (hnsp : nsp (e.value ++ e.after) = true) :
    CoreFacts e.raw e.core d ∧ kwEq target e.core = some (e.value ++ e.after) := by
  obtain ⟨c0, cs, hkc, hs, hlc⟩ := head_of_lower (hkw.trans ht) hd
  have hall : e.core.all lineCh = true := by
    simp [EqLine.core, List.all_append, lineCh_of_lower hkw hlow, hval, lineCh_of_hblank h1, lineCh_of_hblank h2,
      lineCh_of_hblank ha, lineCh_eq]
  have hl : e.core = c0 :: (cs ++ e.s1 ++ [61] ++ e.s2 ++ e.value ++ e.after) := by
    simp [EqLine.core, hkc, List.append_assoc]
  have cf := coreFacts_of hw hl hs hall
  rw [hlc] at cf
  have ecore : e.core = e.kw ++ (e.s1 ++ 61 :: (e.s2 ++ (e.value ++ e.after))) := by simp [EqLine.core, List.append_assoc]
  refine ⟨cf, ?_⟩
  rw [ecore]
  simp only [kwEq, lowerPrefix_of_lower hkw, dropSpaces_append (blank_of_hblank h1) (by rfl : nsp (61 :: _) = true),
    dropSpaces_append (blank_of_hblank h2) hnsp]

theorem kwEqCap_of {kw : Str} {cls : Nat → Bool} {core v rest : Str} (h1 : kwEq kw core = some rest)
    (h2 : rest.takeWhile cls = v) (hne : v ≠ []) : kwEqCap kw cls core = some v := by
  unfold kwEqCap
  rw [h1]
  cases v with
  | nil => exact absurd rfl hne
  | cons a as => simp [h2]

theorem eqLine_facts {target : Str} {d : Nat} {t' : Str} (ht : target = d :: t') (hd : 97 ≤ d ∧ d ≤ 122)
    (hlow : target.all (fun c => Str.isLower c || c == 58) = true) {cls : Nat → Bool} (hcls : ∀ c, cls c = true → isTokCh c = true)
    {e : EqLine} (he : e.ok target cls = true) :
    CoreFacts e.raw e.core d ∧ kwEqCap target cls e.core = some e.value := by
  simp only [EqLine.ok, Bool.and_eq_true, beq_iff_eq, Bool.not_eq_true', List.isEmpty_eq_false_iff] at he
  obtain ⟨⟨⟨⟨⟨⟨hw, hkw⟩, h1⟩, h2⟩, hne⟩, hval⟩, ha⟩ := he
  have htok : e.value.all isTokCh = true := List.all_eq_true.mpr fun c hc => hcls c (List.all_eq_true.mp hval c hc)
  have hnsp : nsp (e.value ++ e.after) = true := by
    obtain ⟨x, xs, hx⟩ := List.exists_cons_of_ne_nil hne
    have hxt : isTokCh x = true := by rw [hx] at htok; simp only [List.all_cons, Bool.and_eq_true] at htok; exact htok.1
    rw [hx]; simp only [List.cons_append, nsp, Bool.not_eq_true']
    cases hsx : Str.isSpace x with
    | false => rfl
    | true => rw [space_not_tokCh hsx] at hxt; cases hxt
  obtain ⟨cf, hkweq⟩ := eqLine_core ht hd hlow hw hkw h1 h2 ha (lineCh_of_tokChs htok) hnsp
  have htw : (e.value ++ e.after).takeWhile cls = e.value :=
    (span_append (List.all_eq_true.mp hval) fun c hc => by
      have hsp := List.all_eq_true.mp (blank_of_hblank ha) c (List.mem_of_mem_head? hc)
      cases hcc : cls c with
      | false => rfl
      | true => have := hcls c hcc; rw [space_not_tokCh hsp] at this; cases this).1
  exact ⟨cf, kwEqCap_of hkweq htw hne⟩

theorem eFlavorKw : sFlavorKw = 102 :: [108, 97, 118, 111, 114] := rfl

/-- a `Flavor =` line is a `key = value` line; `File` shares its first letter -/
theorem flav_facts {f : FlavLine} (hf : f.ok = true) :
    CoreFacts f.raw f.core 102 ∧ lowerPrefix sFile f.core = none ∧ kwEqCap sFlavorKw isTokCh f.core = some f.flavor := by
  obtain ⟨cf, hcap⟩ : CoreFacts f.raw f.core 102 ∧ kwEqCap sFlavorKw isTokCh f.core = some f.flavor :=
    eqLine_facts (e := ⟨f.wrap, f.kw, f.s1, f.s2, f.flavor, f.after⟩) eFlavorKw (by omega) (by decide) (fun _ h => h) hf
  have hk : Str.lower f.kw = sFlavorKw := by
    simp only [FlavLine.ok, Bool.and_eq_true, beq_iff_eq] at hf; exact hf.1.1.1.1.1.2
  have e : f.core = f.kw ++ (f.s1 ++ 61 :: (f.s2 ++ (f.flavor ++ f.after))) := by simp [FlavLine.core, List.append_assoc]
  exact ⟨cf, by rw [e]; exact lowerPrefix_none_key hk (by decide) (by decide) _, hcap⟩

theorem qual_facts {e : EqLine} (he : qualOK e = true) : CoreFacts e.raw e.core 113 ∧ qualLine e.core = true := by
  simp only [qualOK, Bool.and_eq_true, beq_iff_eq] at he
  obtain ⟨⟨⟨⟨⟨hw, hkw⟩, h1⟩, h2⟩, ha⟩, hval⟩ := he
  -- the value is `"`, a text `t` without `"`, newline, `#`, `$`, and `"`
  obtain ⟨t, hv, htext⟩ : ∃ t, e.value = 34 :: (t ++ [34]) ∧
      t.all (fun c => c != 34 && c != 10 && c != 35 && c != 36) = true := by
    split at hval
    · rename_i r hv
      simp only [Bool.and_eq_true, beq_iff_eq] at hval
      obtain ⟨t, rfl⟩ := List.getLast?_eq_some_iff.mp hval.1
      exact ⟨t, hv, by simpa using hval.2⟩
    · cases hval
  have hvl : e.value.all lineCh = true := by
    have htx : t.all lineCh = true := List.all_eq_true.mpr fun x hx => by
      have := List.all_eq_true.mp htext x hx
      simp only [Bool.and_eq_true] at this
      simp [lineCh, this.1.1.2, this.1.2, this.2]
    have q : lineCh 34 = true := by decide
    simp [hv, List.all_append, htx, q]
  obtain ⟨cf, hk⟩ := eqLine_core (target := sQualifiers) rfl (by omega) (by decide) hw hkw h1 h2 ha hvl (by rw [hv]; rfl)
  -- `[^"]*` runs over `t` and stops at the closing quote
  have hdw : (t ++ 34 :: e.after).dropWhile (· != 34) = 34 :: e.after := by
    rw [List.dropWhile_append_of_pos (fun x hx => ?_)]
    · simp
    · have := List.all_eq_true.mp htext x hx; simp only [Bool.and_eq_true] at this; exact this.1.1.1
  refine ⟨cf, ?_⟩
  simp only [qualLine, hk, hv, List.cons_append, List.append_assoc, List.nil_append, hdw]
  rfl

end EupsModel.TableParse
