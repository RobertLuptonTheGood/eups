import EupsModel.Lemmas.PathAlgMulti
/-! The MANPATH-style flags of `envPrepend` / `envAppend` (a leading and/or trailing delimiter written around the
value asks for an empty first / last element) for literal delimiters of any length and values of several pieces: around
a joined list of pieces `reattach` puts exactly the delimiters that were written (`reattach_pieces`);
`envPrepend_lifts_vals_old` is the case where none is written. -/
namespace EupsModel.PathAlg

theorem join_ne_nil_oldD (d : Str) (l : List Str) (hne : l ≠ []) (h : ∀ e ∈ l, OldPieceD d e) :
    join d l ≠ [] := by
  obtain ⟨x, post, hp, _⟩ := head_join_oldD d l hne h
  rw [hp]; simp

theorem reattach_pieces (d : Str) (hd : d ≠ []) (pre app : Bool) (l : List Str) (hne : l ≠ [])
    (h : ∀ e ∈ l, OldPieceD d e) : reattach d pre app (join d l) = flaggedD d pre app (join d l) := by
  have hsw := startsWith_flaggedD_old d hd false false l hne h
  have hew := endsWith_flaggedD_old d hd false false l hne h
  have hew2 := endsWith_flaggedD_old d hd true false l hne h
  simp only [flaggedD, if_true, Bool.false_eq_true, if_false, List.append_nil, List.nil_append] at hsw hew hew2
  cases pre <;> cases app <;> simp [reattach, flaggedD, hsw, hew, hew2]

theorem envPrepend_lifts_flags_old (d : Str) (hd : d ≠ []) (hd36 : 36 ∉ d) (append pre app : Bool) (var : Str)
    (vals oldl : List Str) (env : Env) (hvne : vals ≠ [])
    (hold : ∀ e ∈ oldl, OldPieceD d e) (hv : ∀ e ∈ vals, GoodPieceD d e)
    (henv : (env.get var).getD [] = join d oldl) :
    envPrepend append true var (flaggedD d pre app (join d vals)) d env
      = .ok (env.set var (flaggedD d pre app (join d (applyL append true vals oldl)))) := by
  have hvo := fun e he => (hv e he).old
  rw [envPrepend_flagged_vals d hd append true pre app var vals oldl env hvne hold hvo
      (no_dollar_join_goodD d hd36 _ hv) henv,
    reattach_pieces d hd pre app _ (applyL_fwd_ne_vals append vals oldl hvne)
      (applyL_forall (OldPieceD d) append true vals oldl hold hvo)]

theorem envPrepend_lifts_flags_multi (d : Str) (hd : d ≠ []) (hd36 : 36 ∉ d) (append pre app : Bool) (var : Str)
    (vals oldl : List Str) (env : Env) (hvne : vals ≠ [])
    (hold : ∀ e ∈ oldl, GoodPieceD d e) (hv : ∀ e ∈ vals, GoodPieceD d e)
    (henv : (env.get var).getD [] = join d oldl) :
    envPrepend append true var (flaggedD d pre app (join d vals)) d env
      = .ok (env.set var (flaggedD d pre app (join d (applyL append true vals oldl)))) :=
  envPrepend_lifts_flags_old d hd hd36 append pre app var vals oldl env hvne
    (fun e he => (hold e he).old) hv henv

theorem envPrepend_lifts_flags_multi_single (d : Str) (hd : d ≠ []) (hd36 : 36 ∉ d) (append pre app : Bool)
    (var v : Str) (oldl : List Str) (env : Env)
    (hold : ∀ e ∈ oldl, OldPieceD d e) (hv : GoodPieceD d v)
    (henv : (env.get var).getD [] = join d oldl) :
    envPrepend append true var (flaggedD d pre app v) d env
      = .ok (env.set var (flaggedD d pre app (join d (applyL append true [v] oldl)))) := by
  have := envPrepend_lifts_flags_old d hd hd36 append pre app var [v] oldl env (by simp) hold
    (by intro e he; simp at he; subst he; exact hv) henv
  simpa [join] using this

theorem envPrepend_lifts_vals_old (d : Str) (hd : d ≠ []) (hd36 : 36 ∉ d) (append : Bool) (var : Str)
    (vals oldl : List Str) (env : Env) (hvne : vals ≠ [])
    (hold : ∀ e ∈ oldl, OldPieceD d e) (hv : ∀ e ∈ vals, GoodPieceD d e)
    (henv : (env.get var).getD [] = join d oldl) :
    envPrepend append true var (join d vals) d env
      = .ok (env.set var (join d (applyL append true vals oldl))) :=
  envPrepend_lifts_vals d hd append true var vals oldl env hvne hold (fun e he => (hv e he).old)
    (no_dollar_join_goodD d hd36 vals hv) henv

section Examples

private def MAN : Str := Str.ofString "MANPATH"
private def dd : Str := [58, 58]

example :
    envPrepend false true MAN (Str.ofString "::/m1::/m2") dd [(MAN, Str.ofString "/usr/man::/usr/man")]
      = .ok [(MAN, Str.ofString "::/m1::/m2::/usr/man")] := by unfold MAN dd; decide_lit

example :
    envPrepend true true MAN (Str.ofString "/m1::/m2::") dd [(MAN, Str.ofString "/usr/man")]
      = .ok [(MAN, Str.ofString "/usr/man::/m1::/m2::")] := by unfold MAN dd; decide_lit

-- both flags; a second application does not double the delimiters
example :
    envPrepend false true MAN (Str.ofString "::/m1::") dd [(MAN, Str.ofString "::/m1::/usr/man::")]
      = .ok [(MAN, Str.ofString "::/m1::/usr/man::")] := by unfold MAN dd; decide_lit

-- an old element with `$` text is stored as it is
example :
    envPrepend false true MAN (Str.ofString "::/m1") dd [(MAN, Str.ofString "/a/${X}::/b")]
      = .ok [(MAN, Str.ofString "::/m1::/a/${X}::/b")] := by unfold MAN dd; decide_lit

example : flaggedD dd true false (join dd [Str.ofString "/m1", Str.ofString "/m2"]) = Str.ofString "::/m1::/m2" := by
  unfold dd; decide_lit

example : OldPieceD dd (Str.ofString "/a/${X}") := by unfold OldPieceD dd; decide_lit
example : ¬ GoodPieceD dd (Str.ofString "/a/${X}") := by unfold GoodPieceD dd; decide_lit

end Examples

end EupsModel.PathAlg
