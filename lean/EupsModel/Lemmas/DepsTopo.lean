import EupsModel.Lemmas.Deps
import EupsModel.Lemmas.TopoSpec
import EupsModel.Lemmas.List
/-! From the table walk to the topological depths: in the second pass of `getDependentProducts` the lines of the
opened tables resolve as in the first when no product occurs in two versions, the graph handed to `topologicalSort`
is the graph of the opened tables, and the depth written into an entry is determined by the layer of its name.
With them what the last steps of `getDependentProducts` need: membership and order for `sortStable`, what `uniqueLast`
keeps, `relabel`, and the products of a returned listing in every mode (`getDependentProducts_source`). -/
namespace EupsModel.Deps

/-- the closure of `top` holds no product in two versions (placeholders and `top` itself included) -/
def SingleVersion (db : Db) (top : Prod) : Prop :=
  ∀ u v, (u = top ∨ Listed db [] top u) → (v = top ∨ Listed db [] top v) → u.name = v.name → u = v

theorem lookupLast_mem {r : Required} {n : Str} {v : Option Str} (h : lookupLast r n = some v) : (n, v) ∈ r := by
  unfold lookupLast at h
  have := mem_of_lookup_eq_some h
  simpa using this

theorem lookupLast_none {r : Required} {n : Str} (h : lookupLast r n = none) : ∀ v, (n, v) ∉ r := by
  intro v hv
  have := List.lookup_eq_none_iff.mp h (n, v) (List.mem_reverse.mpr hv)
  simp at this

theorem target_name (db : Db) (req : Required) (d : Dep) : (target db req d).name = d.name := by
  unfold target
  cases h : resolve db req d with
  | none => rfl
  | some p =>
    simp only [Option.getD_some]
    unfold resolve at h
    split at h <;> exact find_name h

theorem resolve_second_pass {db : Db} {top : Prod} (hsv : SingleVersion db top) {out : List Entry}
    (hout : ∀ e ∈ out, Listed db [] top e.prod)
    (w : Prod) (hw : XReach db [] top w) (d : Dep) (hd : d ∈ db.table w) :
    resolve db (pinsOf out) d = resolve db [] d := by
  have hl : Listed db [] top (target db [] d) := ⟨w, hw, d, hd, rfl⟩
  rw [resolve_nil]
  unfold resolve
  cases hlk : lookupLast (pinsOf out) d.name with
  | none => rfl
  | some v =>
    simp only
    obtain ⟨e, he, hpair⟩ := List.mem_map.mp (lookupLast_mem hlk)
    obtain ⟨hn, rfl⟩ := _root_.Prod.mk.inj hpair
    -- the entry that pins the name is the product the line denotes
    rw [hsv _ _ (Or.inr (hout e he)) (Or.inr hl) (by rw [hn, target_name])]
    unfold target
    rw [resolve_nil]
    cases hf : db.find d.name d.ver with
    | none => simp [hf]
    | some p => simp only [Option.getD_some]; exact find_again hf

theorem mem_graphOf {st : St} {p : Prod × List Prod} (h : p ∈ graphOf st) :
    p.1 ∈ st.nodes ∧ p.2 = (st.edges.filter (fun e => e.1 == p.1)).map (·.2) := by
  obtain ⟨k, hk, rfl⟩ := List.mem_map.mp h
  exact ⟨hk, rfl⟩

theorem mem_edgesFrom (st : St) (k v : Prod) :
    v ∈ (st.edges.filter (fun e => e.1 == k)).map (·.2) ↔ (k, v) ∈ st.edges := by
  simp only [List.mem_map, List.mem_filter, beq_iff_eq]
  exact ⟨fun ⟨e, ⟨he, hk⟩, hv⟩ => by rw [← hk, ← hv]; exact he, fun h => ⟨(k, v), ⟨h, rfl⟩, rfl⟩⟩

theorem mem_succs_graph (st : St) (a b : Prod) :
    b ∈ Topo.succs (Topo.normalise (graphOf st)) a ↔ b ≠ a ∧ a ∈ st.nodes ∧ (a, b) ∈ st.edges := by
  rw [Topo.mem_succs_normalise]
  constructor
  · rintro ⟨hne, p, hp, rfl, hb⟩
    obtain ⟨h1, h2⟩ := mem_graphOf hp
    rw [h2] at hb
    exact ⟨hne, h1, (mem_edgesFrom _ _ _).mp hb⟩
  · rintro ⟨hne, ha, hab⟩
    exact ⟨hne, _, List.mem_map_of_mem ha, rfl, (mem_edgesFrom _ _ _).mpr hab⟩

theorem mem_keys_graph (st : St) (v : Prod) :
    v ∈ Topo.keys (Topo.normalise (graphOf st)) ↔ v ∈ st.nodes ∨ ∃ k ∈ st.nodes, (k, v) ∈ st.edges := by
  rw [Topo.mem_keys_normalise]
  constructor
  · rintro (h | ⟨p, hp, hv⟩)
    · obtain ⟨p, hp, rfl⟩ := List.mem_map.mp h
      exact Or.inl (mem_graphOf hp).1
    · obtain ⟨h1, h2⟩ := mem_graphOf hp
      rw [h2] at hv
      exact Or.inr ⟨p.1, h1, (mem_edgesFrom _ _ _).mp hv⟩
  · rintro (h | ⟨k, hk, hkv⟩)
    · exact Or.inl (List.mem_map.mpr ⟨_, List.mem_map_of_mem h, rfl⟩)
    · exact Or.inr ⟨_, List.mem_map_of_mem hk, (mem_edgesFrom _ _ _).mpr hkv⟩

section FirstCall
variable {db : Db} {req : Required} {top : Prod} {out : List Entry} {st : St}

theorem succs_graph_iff (C : Exact db req top out st) (a b : Prod) :
    b ∈ Topo.succs (Topo.normalise (graphOf st)) a ↔ b ≠ a ∧ XReach db req top a ∧ Edge db req a b := by
  rw [mem_succs_graph, C.nodes_iff, C.edges_iff]
  constructor
  · rintro ⟨h1, h2, _, h3⟩; exact ⟨h1, h2, h3⟩
  · rintro ⟨h1, h2, h3⟩; exact ⟨h1, h2, h2, h3⟩

theorem keys_graph_iff (C : Exact db req top out st) (v : Prod) :
    v ∈ Topo.keys (Topo.normalise (graphOf st)) ↔ v = top ∨ Listed db req top v := by
  rw [mem_keys_graph]
  constructor
  · rintro (h | ⟨k, hk, hkv⟩)
    · exact ((C.nodes_iff v).mp h).listed
    · right
      obtain ⟨h1, h2⟩ := (C.edges_iff k v).mp hkv
      exact ⟨k, h1, h2⟩
  · rintro (rfl | ⟨w, hw, he⟩)
    · exact Or.inl ((C.nodes_iff v).mpr (XReach.refl _))
    · exact Or.inr ⟨w, (C.nodes_iff w).mpr hw, (C.edges_iff w v).mpr ⟨hw, he⟩⟩

end FirstCall

theorem mem_depthAssignments (n : Nat) : ∀ (ls : List (List Prod)) (i : Nat) (name : Str) (x : Nat),
    (name, x) ∈ depthAssignments n i ls ↔
      ∃ (j : Nat) (hj : j < ls.length), (∃ p ∈ ls[j], p.name = name) ∧ x = n - (i + j) - 1 := by
  intro ls
  induction ls with
  | nil =>
    intro i name x
    simp only [depthAssignments, List.not_mem_nil, false_iff]
    rintro ⟨j, hj, _⟩
    exact absurd hj (Nat.not_lt_zero _)
  | cons l ls ih =>
    intro i name x
    simp only [depthAssignments, List.mem_append, List.mem_map, ih, _root_.Prod.mk.injEq]
    constructor
    · rintro (⟨p, hp, h1, h2⟩ | ⟨j, hj, hex, hx⟩)
      · exact ⟨0, Nat.zero_lt_succ _, ⟨p, hp, h1⟩, h2.symm⟩
      · exact ⟨j + 1, Nat.succ_lt_succ hj, hex, by rw [hx, Nat.add_assoc, Nat.add_comm 1]⟩
    · rintro ⟨_ | j, hj, hex, hx⟩
      · obtain ⟨p, hp, hpn⟩ := hex
        exact Or.inl ⟨p, hp, hpn, hx.symm⟩
      · exact Or.inr ⟨j, Nat.lt_of_succ_lt_succ hj, hex, by rw [hx, Nat.add_assoc, Nat.add_comm 1]⟩

theorem lookup_const {β γ : Type} [BEq β] [LawfulBEq β] (l : List (β × γ)) (k : β) (c : γ)
    (hall : ∀ x, (k, x) ∈ l → x = c) (hex : ∃ x, (k, x) ∈ l) : l.lookup k = some c := by
  cases h : l.lookup k with
  | none =>
    obtain ⟨x, hx⟩ := hex
    have := List.lookup_eq_none_iff.mp h (k, x) hx
    simp at this
  | some v => rw [hall v (mem_of_lookup_eq_some h)]

theorem depthOfName_unique {n : Nat} {ls : List (List Prod)} {name : Str} {L : Nat} (hL : L < ls.length)
    (hex : ∃ p ∈ ls[L], p.name = name)
    (huniq : ∀ (j : Nat) (hj : j < ls.length), (∃ p ∈ ls[j], p.name = name) → j = L) :
    depthOfName (depthAssignments n 0 ls) name = some (n - L - 1) := by
  unfold depthOfName
  apply lookup_const
  · intro x hx
    have hx' : (name, x) ∈ depthAssignments n 0 ls := by simpa using hx
    obtain ⟨j, hj, hp, rfl⟩ := (mem_depthAssignments n ls 0 name x).mp hx'
    have := huniq j hj hp
    subst this; simp
  · refine ⟨n - L - 1, ?_⟩
    have : (name, n - L - 1) ∈ depthAssignments n 0 ls :=
      (mem_depthAssignments n ls 0 name _).mpr ⟨L, hL, hex, by simp⟩
    simpa using this

theorem mem_insertS {β : Type} (le : β → β → Bool) (x y : β) : ∀ (l : List β),
    y ∈ insertS le x l ↔ y = x ∨ y ∈ l := by
  intro l
  induction l with
  | nil => simp [insertS]
  | cons a as ih =>
    simp only [insertS]
    split
    · simp
    · simp only [List.mem_cons, ih]
      exact or_left_comm

theorem mem_sortStable {β : Type} (le : β → β → Bool) (y : β) : ∀ (l : List β), y ∈ sortStable le l ↔ y ∈ l := by
  intro l
  induction l with
  | nil => simp [sortStable]
  | cons a as ih =>
    have : sortStable le (a :: as) = insertS le a (sortStable le as) := rfl
    rw [this, mem_insertS, ih]; simp

theorem pairwise_insertS {β : Type} (le : β → β → Bool) (htot : ∀ a b, le a b = false → le b a = true)
    (htr : ∀ a b c, le a b = true → le b c = true → le a c = true) (x : β) :
    ∀ l : List β, l.Pairwise (fun a b => le a b = true) → (insertS le x l).Pairwise (fun a b => le a b = true) := by
  intro l
  induction l with
  | nil => intro _; simp [insertS]
  | cons y ys ih =>
    intro hp
    simp only [insertS]
    obtain ⟨hy, hys⟩ := List.pairwise_cons.mp hp
    split
    · rename_i hxy
      refine List.pairwise_cons.mpr ⟨?_, hp⟩
      intro z hz
      simp only [List.mem_cons] at hz
      rcases hz with rfl | hz
      · exact hxy
      · exact htr _ _ _ hxy (hy z hz)
    · rename_i hxy
      have hyx : le y x = true := htot _ _ (by simpa using hxy)
      refine List.pairwise_cons.mpr ⟨?_, ih hys⟩
      intro z hz
      rw [mem_insertS] at hz
      rcases hz with rfl | hz
      · exact hyx
      · exact hy z hz

theorem pairwise_sortStable {β : Type} (le : β → β → Bool) (htot : ∀ a b, le a b = false → le b a = true)
    (htr : ∀ a b c, le a b = true → le b c = true → le a c = true) :
    ∀ l : List β, (sortStable le l).Pairwise (fun a b => le a b = true) := by
  intro l
  induction l with
  | nil => simp [sortStable]
  | cons a as ih => exact pairwise_insertS le htot htr a _ ih

theorem uniqueLast_go_sound (opt : Prod → Bool) (l : List Entry) (seen : List Prod) (acc : List Entry) (e : Entry)
    (h : e ∈ uniqueLast.go opt l seen acc) : e ∈ acc ∨ ∃ e' ∈ l, e = ⟨e'.prod, opt e'.prod, e'.depth⟩ := by
  fun_induction uniqueLast.go opt l seen acc with
  | case1 => exact .inl h
  | case2 _ _ _ _ _ ih => exact (ih h).imp_right fun ⟨e', he', heq⟩ => ⟨e', List.mem_cons_of_mem _ he', heq⟩
  | case3 a _ _ _ _ ih =>
    rcases ih h with h | ⟨e', he', heq⟩
    · rcases List.mem_cons.mp h with h | h
      · exact .inr ⟨a, List.mem_cons_self .., h⟩
      · exact .inl h
    · exact .inr ⟨e', List.mem_cons_of_mem _ he', heq⟩

theorem uniqueLast_go_complete (opt : Prod → Bool) (l : List Entry) (seen : List Prod) (acc : List Entry) (p : Prod)
    (h : p ∈ acc.map (·.prod) ∨ (p ∈ l.map (·.prod) ∧ p ∉ seen)) : p ∈ (uniqueLast.go opt l seen acc).map (·.prod) := by
  fun_induction uniqueLast.go opt l seen acc with
  | case1 => exact h.resolve_right (by simp)
  | case2 a _ seen _ hc ih =>
    -- met before: it is not `p`, which has not been met
    refine ih (h.imp_right fun ⟨h, hn⟩ => ⟨?_, hn⟩)
    rcases List.mem_cons.mp h with rfl | h
    · exact absurd (List.contains_iff_mem.mp hc) hn
    · exact h
  | case3 a _ _ _ _ ih =>
    apply ih
    by_cases hpa : p = a.prod
    · exact .inl (by simp [hpa])
    · rcases h with h | ⟨h, hn⟩
      · exact .inl (by simp [h])
      · exact .inr ⟨(List.mem_cons.mp h).resolve_left hpa, by simp [hpa, hn]⟩

theorem uniqueLast_go_nodup (opt : Prod → Bool) (l : List Entry) (seen : List Prod) (acc : List Entry)
    (hnd : (acc.map (·.prod)).Nodup) (hsub : ∀ p ∈ acc.map (·.prod), p ∈ seen) :
    ((uniqueLast.go opt l seen acc).map (·.prod)).Nodup := by
  fun_induction uniqueLast.go opt l seen acc with
  | case1 => exact hnd
  | case2 _ _ _ _ _ ih => exact ih hnd hsub
  | case3 a _ seen _ hc ih =>
    have hc' : a.prod ∉ seen := fun h => hc (List.contains_iff_mem.mpr h)
    refine ih (List.nodup_cons.mpr ⟨fun h => hc' (hsub _ h), hnd⟩) fun p hp => ?_
    rcases List.mem_cons.mp hp with rfl | hp
    · exact List.mem_cons_self ..
    · exact List.mem_cons_of_mem _ (hsub p hp)

theorem uniqueLast_sound (l : List Entry) (e : Entry) (h : e ∈ uniqueLast l) :
    ∃ e' ∈ l, e.prod = e'.prod ∧ e.depth = e'.depth ∧
      e.optional = (l.filter (fun x => x.prod == e'.prod)).all (·.optional) := by
  unfold uniqueLast at h
  rcases uniqueLast_go_sound _ _ _ _ _ h with h | ⟨e', he', heq⟩
  · simp at h
  · exact ⟨e', by simpa using he', by rw [heq], by rw [heq], by rw [heq]⟩

theorem uniqueLast_complete (l : List Entry) (p : Prod) (h : p ∈ l.map (·.prod)) :
    p ∈ (uniqueLast l).map (·.prod) := by
  unfold uniqueLast
  apply uniqueLast_go_complete
  right
  refine ⟨?_, by simp⟩
  simp only [List.mem_map, List.mem_reverse] at h ⊢
  exact h

theorem uniqueLast_nodup (l : List Entry) : ((uniqueLast l).map (·.prod)).Nodup := by
  unfold uniqueLast
  exact uniqueLast_go_nodup _ _ _ _ (by simp) (by simp)

theorem relabel_sound {ls : List (List Prod)} {out : List Entry} {e : Entry} (h : e ∈ relabel ls out) :
    ∃ e1 ∈ out, e.prod = e1.prod ∧
      e.depth = match depthOfName (depthAssignments (ls.length + 1) 0 ls) e1.prod.name with
        | some d => some d
        | none => e1.depth := by
  obtain ⟨e', he', hp, hd, _⟩ := uniqueLast_sound _ _ h
  rw [mem_sortStable] at he'
  obtain ⟨e1, he1, rfl⟩ := List.mem_map.mp he'
  refine ⟨e1, he1, by rw [hp]; split <;> rfl, ?_⟩
  rw [hd]
  cases depthOfName (depthAssignments (ls.length + 1) 0 ls) e1.prod.name <;> rfl

theorem relabel_prods (ls : List (List Prod)) (out : List Entry) (v : Prod) :
    v ∈ (relabel ls out).map (·.prod) ↔ v ∈ out.map (·.prod) := by
  constructor
  · intro hv
    obtain ⟨e, he, rfl⟩ := List.mem_map.mp hv
    obtain ⟨e1, he1, hp, _⟩ := relabel_sound he
    exact hp ▸ List.mem_map_of_mem he1
  · intro hv
    obtain ⟨e1, he1, rfl⟩ := List.mem_map.mp hv
    apply uniqueLast_complete
    refine List.mem_map.mpr ⟨_, (mem_sortStable _ _ _).mpr (List.mem_map_of_mem he1), ?_⟩
    split <;> rfl

theorem getDependentProducts_ok_inv {db : Db} {fuel : Nat} {top : Prod} {topological cc : Bool} {out : List Entry}
    (hm : db.tableMissing top = false) (h : getDependentProducts db fuel top topological cc = .ok out) :
    ∃ out1 st1, listing db fuel [] top = some (out1, st1) ∧ ((topological || cc) = false → out = out1) ∧
      ((topological || cc) = true → ∃ o2 st2 ls, listing db fuel (pinsOf out1) top = some (o2, st2) ∧
        Topo.topologicalSort (graphOf st2) cc = .ok ls ∧ out = relabel ls out1) := by
  cases h1 : listing db fuel [] top with
  | none => simp [getDependentProducts, hm, h1] at h
  | some r1 =>
    rw [getDependentProducts_eq hm h1] at h
    refine ⟨r1.1, r1.2, rfl, ?_⟩
    cases hmode : (topological || cc) with
    | false => rw [if_pos hmode] at h; cases h; exact ⟨fun _ => rfl, nofun⟩
    | true =>
      rw [if_neg (by simp [hmode])] at h
      refine ⟨nofun, fun _ => ?_⟩
      cases h2 : listing db fuel (pinsOf r1.1) top with
      | none => simp [h2] at h
      | some r2 =>
        cases h3 : Topo.topologicalSort (graphOf r2.2) cc with
        | ok ls =>
          simp only [h2, h3, Outcome.ok.injEq] at h
          exact ⟨r2.1, r2.2, ls, rfl, h3, h.symm⟩
        | _ => simp [h2, h3] at h

theorem listing_unfold {db : Db} {fuel : Nat} {req : Required} {top : Prod} {out : List Entry} {st : St}
    (h : listing db fuel req top = some (out, st)) :
    ∃ o, depsOf db fuel req top true 1 St.empty = some (o, st) ∧ out = o.filter (fun e => e.prod != top) := by
  unfold listing at h
  cases hd : depsOf db fuel req top true 1 St.empty with
  | none => simp [hd] at h
  | some r =>
    obtain ⟨o, s⟩ := r
    simp only [hd, Option.map_some, Option.some.injEq] at h
    exact ⟨o, by rw [← (_root_.Prod.mk.inj h).2], (_root_.Prod.mk.inj h).1.symm⟩

theorem getDependentProducts_source {db : Db} {fuel : Nat} {top : Prod} {topological cc : Bool} {out : List Entry}
    (hm : db.tableMissing top = false) (h : getDependentProducts db fuel top topological cc = .ok out) :
    ∃ o st, depsOf db fuel [] top true 1 St.empty = some (o, st) ∧
      (∀ v, v ∈ out.map (·.prod) ↔ v ∈ o.map (·.prod) ∧ v ≠ top) ∧
      ((topological || cc) = true → (out.map (·.prod)).Nodup) := by
  obtain ⟨out1, st1, h1, hplain, hsecond⟩ := getDependentProducts_ok_inv hm h
  obtain ⟨o, hd, rfl⟩ := listing_unfold h1
  have hfil : ∀ v, v ∈ (o.filter (fun e => e.prod != top)).map (·.prod) ↔ v ∈ o.map (·.prod) ∧ v ≠ top := by
    intro v
    simp only [List.mem_map, List.mem_filter, bne_iff_ne, ne_eq]
    exact ⟨fun ⟨e, ⟨he, hne⟩, hv⟩ => hv ▸ ⟨⟨e, he, rfl⟩, hne⟩, fun ⟨⟨e, he, hv⟩, hne⟩ => ⟨e, ⟨he, hv ▸ hne⟩, hv⟩⟩
  refine ⟨o, st1, hd, ?_⟩
  cases hmode : (topological || cc) with
  | false => cases hplain hmode; exact ⟨hfil, nofun⟩
  | true =>
    obtain ⟨_, _, ls, _, _, rfl⟩ := hsecond hmode
    exact ⟨fun v => (relabel_prods ls _ v).trans (hfil v), fun _ => uniqueLast_nodup _⟩

/-- a returned listing, in every mode and with any fuel, holds exactly the products listed from `top`, minus `top` -/
theorem getDependentProducts_listed {db : Db} (hns : NoUnsetup db) {fuel : Nat} {top : Prod} {topological cc : Bool}
    {out : List Entry} (h : getDependentProducts db fuel top topological cc = .ok out) (v : Prod) :
    v ∈ out.map (·.prod) ↔ Listed db [] top v ∧ v ≠ top := by
  obtain ⟨o, st, hd, hsrc, _⟩ := getDependentProducts_source (tableMissing_false hns top) h
  rw [hsrc, depsOf_listed hns hd]

end EupsModel.Deps
