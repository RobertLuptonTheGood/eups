import EupsModel.Lemmas.Text
import EupsModel.Lemmas.Str
import EupsModel.Model.PathAct
/-! Literal substitution (`replaceAll` is `Text.replace`) and runs of such substitutions: `expandMacros` and `legacySyn`
are runs whose patterns all start with `$`.  A run is stated as data (`substRun` of a table); it does nothing to text
without `$` or to a text whose only `$` starts none of the patterns, and on a text whose only `$` starts one of them
that one fires. -/
namespace EupsModel.PathAct
open EupsModel EupsModel.PathAlg

theorem replaceAllGo_eq (pat repl : Str) (k : Nat) (s : Str) : replaceAllGo pat repl k s = Text.replGo pat repl k s := by
  induction s generalizing k with
  | nil => cases k <;> rfl
  | cons x xs ih => cases k <;> simp [replaceAllGo, Text.replGo, ih]

theorem replaceAll_eq (pat repl s : Str) : replaceAll pat repl s = Text.replace pat repl s := replaceAllGo_eq ..

theorem replaceAll_pre (c : Nat) (ps repl t rest : Str) (h : c ∉ t) :
    replaceAll (c :: ps) repl (t ++ rest) = t ++ replaceAll (c :: ps) repl rest := by
  simpa only [replaceAll_eq] using Text.replace_free repl h rest

theorem replaceAll_absent (pat repl s : Str) {d : Nat} (hp : pat.head? = some d) (h : d ∉ s) :
    replaceAll pat repl s = s :=
  (replaceAll_eq ..).trans (Text.replace_absent hp h)

theorem replaceAll_prefix (c : Nat) (ps repl rest : Str) :
    replaceAll (c :: ps) repl ((c :: ps) ++ rest) = repl ++ replaceAll (c :: ps) repl rest := by
  simpa only [replaceAll_eq] using Text.replace_prefix (by simp) repl rest

theorem replaceAll_pre_then_prefix (c : Nat) (ps repl t rest : Str) (h : c ∉ t) :
    replaceAll (c :: ps) repl (t ++ (c :: ps) ++ rest) = t ++ repl ++ replaceAll (c :: ps) repl rest := by
  rw [List.append_assoc, replaceAll_pre c ps repl t _ h, replaceAll_prefix, List.append_assoc]

theorem replaceAll_cons_nomatch (pat repl : Str) (x : Nat) (xs : Str) (h : pat.isPrefixOf (x :: xs) = false) :
    replaceAll pat repl (x :: xs) = x :: replaceAll pat repl xs := by
  simp [replaceAll, replaceAllGo, h]

theorem replaceAll_one_dollar_nomatch (pat repl pre xs : Str) (hp : pat.head? = some 36) (hpre : 36 ∉ pre)
    (hnp : pat.isPrefixOf (36 :: xs) = false) (h : 36 ∉ xs) :
    replaceAll pat repl (pre ++ 36 :: xs) = pre ++ 36 :: xs := by
  obtain ⟨ps, rfl⟩ := List.head?_eq_some_iff.mp hp
  rw [replaceAll_pre 36 ps repl pre _ hpre, replaceAll_cons_nomatch _ _ _ _ hnp, replaceAll_absent _ _ _ rfl h]

example : replaceAll (Str.ofString "ab") (Str.ofString "X") (Str.ofString "aabab.ab") = Str.ofString "aXX.X" := by
  decide_lit

/-- a run of literal substitutions, each made only when it has a replacement
(`if o: value = re.sub(pat, o, value)`) -/
def substRun (tbl : List (Str × Option Str)) (s : Str) : Str :=
  tbl.foldl (fun s e => match e.2 with | some r => replaceAll e.1 r s | none => s) s

def Dollar (tbl : List (Str × Option Str)) : Prop := ∀ e ∈ tbl, e.1.head? = some 36

def NoneAt (tbl : List (Str × Option Str)) (s : Str) : Prop := ∀ e ∈ tbl, e.1.isPrefixOf s = false

theorem substRun_nil (s : Str) : substRun [] s = s := rfl

theorem substRun_cons (pat : Str) (o : Option Str) (rest : List (Str × Option Str)) (s : Str) :
    substRun ((pat, o) :: rest) s = substRun rest (match o with | some r => replaceAll pat r s | none => s) := rfl

theorem substRun_cons_some (pat r : Str) (rest : List (Str × Option Str)) (s : Str) :
    substRun ((pat, some r) :: rest) s = substRun rest (replaceAll pat r s) := rfl

theorem substRun_append (a b : List (Str × Option Str)) (s : Str) :
    substRun (a ++ b) s = substRun b (substRun a s) := by
  simp [substRun, List.foldl_append]

theorem Dollar.nil : Dollar [] := fun _ h => absurd h (by simp)

theorem Dollar.cons {pat : Str} {o : Option Str} {tbl : List (Str × Option Str)} (h : pat.head? = some 36)
    (ht : Dollar tbl) : Dollar ((pat, o) :: tbl) := by
  intro e he
  rcases List.mem_cons.mp he with rfl | he
  · exact h
  · exact ht e he

theorem Dollar.tail {e : Str × Option Str} {tbl : List (Str × Option Str)} (h : Dollar (e :: tbl)) : Dollar tbl :=
  fun x hx => h x (List.mem_cons_of_mem _ hx)

theorem NoneAt.nil (s : Str) : NoneAt [] s := fun _ h => absurd h (by simp)

theorem NoneAt.cons {pat s : Str} {o : Option Str} {tbl : List (Str × Option Str)}
    (h : pat.isPrefixOf s = false) (ht : NoneAt tbl s) : NoneAt ((pat, o) :: tbl) s := by
  intro e he
  rcases List.mem_cons.mp he with rfl | he
  · exact h
  · exact ht e he

theorem substRun_no_dollar (tbl : List (Str × Option Str)) (s : Str) (hd : Dollar tbl) (h : 36 ∉ s) :
    substRun tbl s = s :=
  foldl_fixed fun e he => by
    split
    · exact replaceAll_absent _ _ s (hd e he) h
    · rfl

/-- the text is given with its decomposition `hs` around its only `$`, so that a caller whose text is written
otherwise (`mDIR ++ tail`) need not rewrite its goal -/
theorem substRun_one_dollar_none {tbl : List (Str × Option Str)} {s pre xs : Str} (hs : s = pre ++ 36 :: xs)
    (hd : Dollar tbl) (hpre : 36 ∉ pre) (hxs : 36 ∉ xs) (hn : NoneAt tbl (36 :: xs)) : substRun tbl s = s := by
  subst hs
  exact foldl_fixed fun e he => by
    split
    · exact replaceAll_one_dollar_nomatch _ _ pre xs (hd e he) hpre (hn e he) hxs
    · rfl

theorem substRun_one_dollar_at {before after : List (Str × Option Str)} {s ps repl pre rest : Str}
    (hs : s = pre ++ 36 :: (ps ++ rest)) (hd : Dollar before) (hpre : 36 ∉ pre) (hrest : 36 ∉ rest) (hps : 36 ∉ ps)
    (hn : NoneAt before (36 :: (ps ++ rest))) :
    substRun (before ++ (36 :: ps, some repl) :: after) s = substRun after (pre ++ repl ++ rest) := by
  rw [substRun_append, substRun_one_dollar_none hs hd hpre (by simp [hps, hrest]) hn,
    substRun_cons_some, hs]
  have := replaceAll_pre_then_prefix 36 ps repl pre rest hpre
  simp only [List.append_assoc, List.cons_append] at this
  simp only [this, replaceAll_absent (36 :: ps) repl rest rfl hrest, List.append_assoc]

end EupsModel.PathAct
