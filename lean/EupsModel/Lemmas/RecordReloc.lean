import EupsModel.Lemmas.RecordMacro
import EupsModel.Lemmas.RecordDict
/-! The two halves of relocation and their composition `relocate`: what `Database.declare` stores for a placement
(`canon_spec`, by cases on the placement) and what a reader whose stack is elsewhere makes of it (`resolve_spec`: the
stored block is a macro record, so `resolve_macro_spec` applies).  Then: other flavors of a version file. -/
namespace EupsModel.Record

section
/- The declaration of a placement is evaluated with these definitions unfolded; `Path.under` and `Path.subpath` are not:
the probes are settled by the laws of `Record.lean` and, where a side condition of `PlaceOK` is needed, by the fact
stated before the call. -/
attribute [local simp] declaredProd DirPl.at TabPl.at canonInfo canonDir canonTab tableName absP Path.rel PVal.truthy
  addFlavorPaths trimInfo orderNew trimKey PInfo.getK PInfo.setK PVal.asPath Path.join Path.dirname Path.basename Except.map
  under_self_append under_append_left under_cons under_nil under_rel_abs under_abs_rel subpath_append_left

theorem canon_spec (ex : Path → Bool) (root : List Str) (name version flavor : Str) (d : DirPl) (t : TabPl)
    (hp : PlaceOK root name version flavor d t) (hx : DeclEx ex root name version flavor d t) :
    (declarePaths ex (declaredProd root name version flavor d t) none).map (·.2)
      = .ok (canonInfo name version flavor d t) := by
  obtain ⟨hroot, hname, hname', hflav, hver, hdir, htab⟩ := hp
  obtain ⟨hexr, hext⟩ := hx
  have hsr : stackRoot { abs := true, segs := root ++ [sUpsDb] } = ⟨true, root⟩ := stackRoot_db root
  have hex : ex ⟨true, root⟩ = true := hexr
  -- a path that leaves the stack is not below its root nor in its database; a path `root/l…` is not in the database
  -- unless `l` starts with `ups_db`
  have out : ∀ a, root.isPrefixOf a = false →
      Path.under ⟨true, a⟩ ⟨true, root⟩ = none ∧ Path.subpath ⟨true, a⟩ ⟨true, root ++ [sUpsDb]⟩ = false :=
    fun a h => ⟨under_not_prefix _ _ h, subpath_not_prefix _ _ (isPrefixOf_append_false _ _ _ h)⟩
  have notDb : ∀ l, l ≠ [] → l.head? ≠ some sUpsDb → Path.subpath ⟨true, l⟩ ⟨true, [sUpsDb]⟩ = false :=
    fun l hne h => by simpa using (under_head_ne true l [] sUpsDb [] hne h).2
  unfold declarePaths canonicalizePaths
  cases d with
  | inside rel =>
    obtain ⟨hrel, hne, hdb⟩ := hdir
    cases t with
    | inUps =>
      have hext2 : ex ⟨true, root ++ (rel ++ [sUps, name ++ sDotTable])⟩ = true := by
        simpa [absP, DirPl.at] using hext (by simp) _ rfl
      simp [hsr, hex, hne, hext2, under_head_ne true rel _ sUpsDb [] hne hdb]
    | absInside trel =>
      obtain ⟨htrel, htne, htdb, hnu⟩ := htab
      have hext2 : ex ⟨true, root ++ trel⟩ = true := by simpa [absP] using hext (by simp) _ rfl
      have h2 : Path.under ⟨false, trel⟩ ⟨false, rel ++ [sUps]⟩ = none := under_not_prefix _ _ hnu
      simp [hsr, hex, hne, hext2, htne, notDb trel htne htdb, h2]
    | absOutside s => simp [hsr, hex, hne, out s htab.2.1]
    | interned => simp [hsr, hex, hne]
    | none => simp [hsr, hex, hne, sNone]
  | outside s =>
    obtain ⟨hs, hnr, hnr'⟩ := hdir
    cases t with
    | inUps =>
      have h1 : Path.subpath ⟨true, s ++ [sUps, name ++ sDotTable]⟩ ⟨true, root ++ [sUpsDb]⟩ = false :=
        subpath_not_prefix _ _ (isPrefixOf_diverge _ _ _ _ hnr hnr')
      simp [hsr, hex, out s hnr, h1]
    | absInside trel =>
      obtain ⟨htrel, htne, htdb, _⟩ := htab
      have hext2 : ex ⟨true, root ++ trel⟩ = true := by simpa [absP] using hext (by simp) _ rfl
      have h2 : Path.under ⟨true, root ++ trel⟩ ⟨true, s⟩ = none :=
        under_not_prefix _ _ (by simpa using isPrefixOf_diverge s root [] trel hnr' hnr)
      simp [hsr, hex, out s hnr, hext2, htne, notDb trel htne htdb, h2]
    | absOutside s' =>
      obtain ⟨hs', hnr2, _, hnd⟩ := htab
      have h2 : Path.under ⟨true, s'⟩ ⟨true, s⟩ = none := under_not_prefix _ _ hnd
      simp [hsr, hex, out s hnr, out s' hnr2, h2]
    | interned => simp [hsr, hex, out s hnr]
    | none => simp [hsr, hex, out s hnr, sNone]
  | none =>
    cases t with
    | inUps => exact absurd rfl htab
    | absInside trel =>
      obtain ⟨htrel, htne, htdb, hnu⟩ := htab
      have hext2 : ex ⟨true, root ++ trel⟩ = true := by simpa [absP] using hext (by simp) _ rfl
      have h2 : Path.under ⟨false, trel⟩ ⟨false, [sNone, sUps]⟩ = none := under_not_prefix _ _ hnu
      have hnn : sNone.isEmpty = false := rfl
      simp [hsr, hex, hext2, htne, notDb trel htne htdb, h2, hnn]
    | absOutside s' => simp [hsr, hex, out s' htab.2.1, sNone]
    | interned => simp [hsr, hex, sNone]
    | none => simp [hsr, hex, sNone]
end

/-- the entries `Database.declare` stores for a placement, as macro expressions: `canonInfo` is their text -/
def placeDir : DirPl → MDir
  | .inside rel => .rel rel
  | .outside s => .abs s
  | .none => .none
def placeUps (name version flavor : Str) : TabPl → MUps
  | .interned => .upsDb [flavor, name, version, sUps]
  | .none => .none
  | _ => .rel [sUps]
def placeTab (name : Str) : TabPl → MTab
  | .inUps => .rel [name ++ sDotTable]
  | .absInside trel => .rel trel
  | .absOutside s => .abs s
  | .interned => .rel [name ++ sDotTable]
  | .none => .none

theorem canonInfo_macro (name version flavor : Str) (d : DirPl) (t : TabPl) :
    canonInfo name version flavor d t =
      ⟨some (placeDir d).toRec, some (placeTab name t).toRec, some (placeUps name version flavor t).toRec⟩ := by
  cases d <;> cases t <;> rfl

theorem place_wf (root : List Str) (name version flavor : Str) (d : DirPl) (t : TabPl)
    (hp : PlaceOK root name version flavor d t) (hd : d ≠ .none ∨ t = .interned ∨ t = .none) :
    MacroWF (placeDir d) (placeUps name version flavor t) (placeTab name t) := by
  obtain ⟨hroot, hname, hname', hflav, hver, hdir, htab⟩ := hp
  refine ⟨?_, ?_, ?_, ?_, ?_, ?_, ?_⟩
  · cases d with
    | inside rel => exact hdir.1.msegs
    | outside s => exact hdir.1.no36
    | none => trivial
  · have hu : MSegs [sUps] := by decide +kernel
    cases t with
    | interned =>
      intro s hs
      simp only [List.mem_cons, List.not_mem_nil, or_false] at hs
      rcases hs with rfl | rfl | rfl | rfl
      · exact Or.inl hflav
      · exact Or.inl hname'
      · exact Or.inl hver
      · exact hu _ (by simp)
    | none => trivial
    | _ => exact hu
  · cases t with
    | inUps => exact ⟨by simpa [No36] using hname.2.2, by simp⟩
    | absInside trel => exact ⟨htab.1.no36, htab.2.1⟩
    | absOutside s => exact htab.1.no36
    | interned => exact ⟨by simpa [No36] using hname.2.2, by simp⟩
    | none => trivial
  · intro s hs
    rcases hd with hd | rfl | rfl
    · cases d with
      | none => exact absurd rfl hd
      | _ => exact fun h => by cases h
    · cases hs
    · cases hs
  · intro s hs; cases t <;> cases hs
  · intro s hs; cases t <;> cases hs
  · intro s hs; cases t <;> cases hs

theorem placeDir_denote (root R : List Str) (name version flavor : Str) (d : DirPl) (t : TabPl)
    (hp : PlaceOK root name version flavor d t) : (placeDir d).denote R flavor = d.at R := by
  cases d with
  | inside rel => simp [placeDir, MDir.denote, DirPl.at, absP, dsegs_plain flavor rel hp.dir_ok.1.no36]
  | outside s => rfl
  | none => rfl

theorem placeTab_denote (ex' : Path → Bool) (root R : List Str) (name version flavor : Str) (d : DirPl) (t : TabPl)
    (hp : PlaceOK root name version flavor d t) (hd : d ≠ .none ∨ t = .interned ∨ t = .none)
    (hx : ReadEx ex' R name version flavor d t) :
    (placeTab name t).denote ex' R flavor (d.at R) ((placeUps name version flavor t).denote R flavor (d.at R))
      = t.at R name version flavor d := by
  obtain ⟨hext, hshadow⟩ := hx
  have hu : dsegs flavor [sUps] = [sUps] := dsegs_plain _ _ (by simp [show 36 ∉ sUps by decide +kernel])
  cases t with
  | inUps =>
    have hdn : d ≠ .none := hp.tab_ok
    cases d with
    | none => exact absurd rfl hdn
    | inside rel =>
      have h1 : ex' ⟨true, R ++ (rel ++ [sUps, name ++ sDotTable])⟩ = true := by
        simpa [absP, DirPl.at, TabPl.at] using hext _ rfl
      simp [placeTab, placeUps, MTab.denote, MUps.denote, below, DirPl.at, TabPl.at, absP, hu, h1]
    | outside s =>
      have h1 : ex' ⟨true, s ++ [sUps, name ++ sDotTable]⟩ = true := by
        simpa [absP, DirPl.at, TabPl.at] using hext _ rfl
      simp [placeTab, placeUps, MTab.denote, MUps.denote, below, DirPl.at, TabPl.at, absP, hu, h1]
  | absInside trel =>
    have h1 : ex' ⟨true, R ++ trel⟩ = true := by simpa [absP, TabPl.at] using hext _ rfl
    cases d with
    | none => simp at hd
    | inside rel =>
      have h2 : ex' ⟨true, R ++ (rel ++ (sUps :: trel))⟩ = false := by simpa [absP] using hshadow
      simp [placeTab, placeUps, MTab.denote, MUps.denote, below, DirPl.at, TabPl.at, absP, hu, h1, h2]
    | outside s =>
      have h2 : ex' ⟨true, s ++ (sUps :: trel)⟩ = false := by simpa [absP] using hshadow
      simp [placeTab, placeUps, MTab.denote, MUps.denote, below, DirPl.at, TabPl.at, absP, hu, h1, h2]
  | absOutside s => rfl
  | interned =>
    have h1 : ex' ⟨true, R ++ [sUpsDb, flavor, name, version, sUps, name ++ sDotTable]⟩ = true := by
      simpa [absP, TabPl.at] using hext _ rfl
    have h36 : No36 [flavor, name, version, sUps] := by
      simp [hp.flavor_ok.2.2, hp.name_ok'.2.2, hp.version_ok.2.2, (by decide +kernel : 36 ∉ sUps)]
    cases d <;>
      simp [placeTab, placeUps, MTab.denote, MUps.denote, DirPl.at, TabPl.at, absP, dsegs_plain _ _ h36, h1]
  | none => rfl

/-- what a reader at `root'` makes of the record of a placement.  With a product directory (or an interned or missing
table file) the record is a macro record and `resolve_macro_spec` applies; without one, `UPS_DIR = ups` stays a relative
name that `resolve_macro_spec` does not cover, and the four phases of `resolvePaths` are followed directly. -/
theorem resolve_spec (ex' : Path → Bool) (root root' : List Str) (name version flavor : Str) (d : DirPl) (t : TabPl)
    (hp : PlaceOK root name version flavor d t) (hroot' : SegsOK root')
    (hx : ReadEx ex' root' name version flavor d t) :
    (resolveInfo ex' name version flavor (absP (root' ++ [sUpsDb])) (canonInfo name version flavor d t)).map
        (fun p => (p.dir, p.table))
      = .ok (d.at root', t.at root' name version flavor d) := by
  by_cases hd : d ≠ .none ∨ t = .interned ∨ t = .none
  · rw [canonInfo_macro, resolve_macro_spec ex' root' name version flavor _ _ _ hroot' hp.flavor_ok
        (place_wf root name version flavor d t hp hd), placeDir_denote root root' name version flavor d t hp,
      placeTab_denote ex' root root' name version flavor d t hp hd hx]
  obtain ⟨hext, hshadow⟩ := hx
  have hsr : stackRoot { abs := true, segs := root' ++ [sUpsDb] } = ⟨true, root'⟩ := stackRoot_db root'
  have hnn : sNone.isEmpty = false := rfl
  have hr' : No36 root' := hroot'.no36
  have hmu : isMacroPath ⟨false, [sUps]⟩ = false := by decide +kernel
  have e2 := fun m b => resolveMacros_plain m b ⟨false, [sUps]⟩ (by simp [show 36 ∉ sUps by decide +kernel])
  cases d with
  | inside rel => simp at hd
  | outside s => simp at hd
  | none =>
    cases t with
    | inUps => exact absurd rfl hp.tab_ok
    | absInside trel =>
      obtain ⟨htrel, htne, htdb, hnu⟩ := hp.tab_ok
      have ht36 : No36 trel := htrel.no36
      have hmtr : isMacroPath ⟨false, trel⟩ = false := isMacroPath_false _ _ ht36
      have hex : ex' ⟨true, root' ++ trel⟩ = true := by simpa [absP] using hext _ rfl
      have hsh : ex' ⟨false, sUps :: trel⟩ = false := by simpa [Path.rel] using hshadow
      have e3 := fun m b => resolveMacros_plain m b ⟨true, root' ++ trel⟩ (by simp [hr', ht36])
      have d3 := hasDollar_false true (root' ++ trel) ((No36_append _ _).mpr ⟨hr', ht36⟩)
      simp [resolveInfo, resolvePaths_phases, dirPhase, upsPhase, tabPhase, lastPhase, Prod.init, canonInfo, canonDir, canonTab,
        DirPl.at, TabPl.at, absP, Path.rel, PVal.truthy, PVal.isReal, Path.join, Except.map,
        hsr, hnn, hmtr, hmu, e2, e3, d3, hex, hsh, htne]
    | absOutside s' =>
      have d3 := hasDollar_false true s' hp.tab_ok.1.no36
      simp [resolveInfo, resolvePaths_phases, dirPhase, upsPhase, tabPhase, lastPhase, Prod.init, canonInfo, canonDir, canonTab,
        DirPl.at, TabPl.at, absP, Path.rel, PVal.truthy, PVal.isReal, Except.map,
        hsr, hnn, hmu, e2, d3]
    | interned => simp at hd
    | none => simp at hd

theorem declared_canon (ex : Path → Bool) (root : List Str) (name version flavor : Str) (d : DirPl) (t : TabPl)
    (hp : PlaceOK root name version flavor d t) (hx : DeclEx ex root name version flavor d t) :
    ∃ c, declarePaths ex (declaredProd root name version flavor d t) none = .ok (c, canonInfo name version flavor d t) := by
  obtain ⟨cp, hdp, h⟩ := map_eq_ok_iff.mp (canon_spec ex root name version flavor d t hp hx)
  exact ⟨cp.1, by rw [hdp, ← h]⟩

theorem relocate (ex ex' : Path → Bool) (root root' : List Str) (name version flavor : Str) (d : DirPl) (t : TabPl)
    (hp : PlaceOK root name version flavor d t) (hroot' : SegsOK root')
    (hd : DeclEx ex root name version flavor d t) (hr : ReadEx ex' root' name version flavor d t) :
    readBack ex ex' root root' name version flavor d t = .ok (d.at root', t.at root' name version flavor d) := by
  obtain ⟨c, hdp⟩ := declared_canon ex root name version flavor d t hp hd
  obtain ⟨p, hri, h2⟩ := map_eq_ok_iff.mp (resolve_spec ex' root root' name version flavor d t hp hroot' hr)
  simp only [readBack, hdp, hri, h2]

theorem canon_db (p c : Prod) (h : canonicalizePaths p = .ok c) : c.db = p.db := by
  unfold canonicalizePaths at h
  simp only at h
  split at h
  · cases h
  · cases h; rfl

theorem declarePaths_db (ex : Path → Bool) (p : Prod) (old : Option PInfo) (c : Prod) (pi : PInfo)
    (h : declarePaths ex p old = .ok (c, pi)) : c.db = p.db := by
  unfold declarePaths at h
  cases hc : canonicalizePaths p with
  | error e => simp [hc] at h
  | ok c0 =>
    simp only [hc] at h
    split at h
    · cases h
    · split at h
      · cases h
      · cases h; exact canon_db p _ hc

/-- no path-valued entry of the block is an existing absolute path below `td` (what the trimming loop of
`VersionFile.write` would rewrite) -/
def TrimStable (ex : Path → Bool) (td : Path) (i : Info) : Prop :=
  ∀ k v, i.paths.getK k = some (.path v) → (v.abs && ex v) = true → v.under td = none

theorem trimKey_stable (ex : Path → Bool) (td : Option Path) (pi : PInfo) (k : PKey)
    (h : ∀ t, td = some t → ∀ v, pi.getK k = some (.path v) → (v.abs && ex v) = true → v.under t = none) :
    trimKey ex td pi k = pi := by
  unfold trimKey
  split
  · rename_i v t hk
    split
    · rename_i hv
      rw [h t rfl v hk hv]
    · rfl
  · rfl

theorem withTrim_self (i : Info) : i.withTrim i.paths = i := by
  simp [Info.withTrim, Info.paths]

theorem trimInfo_stable (ex : Path → Bool) (td : Option Path) (order : List PKey) (i : Info)
    (h : ∀ t, td = some t → TrimStable ex t i) : trimInfo ex td order i.paths = i.paths :=
  foldl_fixed fun k _ => trimKey_stable ex td i.paths k fun t ht v hv hex => h t ht k v hv hex

theorem other_flavors_untouched (ex : Path → Bool) (who now : Str) (vr vr' : VRec) (p : Prod)
    (h : declareRec ex who now vr p = .ok vr') (f' : Str) (hf : f' ≠ p.flavor) (i : Info)
    (hi : dget vr.flavors f' = some i) (hs : TrimStable ex (stackRoot p.db) i) :
    dget vr'.flavors f' = some i := by
  unfold declareRec at h
  simp only at h
  cases hd : declarePaths ex p (Option.map Info.paths (dget vr.flavors p.flavor)) with
  | error e => simp [hd] at h
  | ok cp =>
    obtain ⟨c, pi⟩ := cp
    simp only [hd] at h
    cases h
    simp only
    rw [dget_dset_other _ _ _ _ hf]
    have hdb := declarePaths_db ex p _ c pi hd
    rw [dget_map vr.flavors (fun f i => if f = p.flavor then i else
      i.withTrim (trimInfo ex (if ex (stackRoot c.db) = true then some (stackRoot c.db) else none) orderFile i.paths)) f']
    simp only [hi, Option.map_some, hf, if_false]
    rw [trimInfo_stable ex _ _ i, withTrim_self]
    intro t ht
    split at ht
    · cases ht; rw [hdb]; exact hs
    · cases ht

end EupsModel.Record
