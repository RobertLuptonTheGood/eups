import EupsModel.Lemmas.DepsTopo
/-! `Eups.uses` with `Uses.remember` / `Uses.invert` / `Uses.users` (`usesInfo` over `sbAdd`, `minPerUser`, `users` in
`Model/Deps.lean`): the index is the inverse of the listings. -/
namespace EupsModel.Deps

/-- `u` is recorded under the key `k` -/
def SbMem (sb : SetupBy) (k : Str × Option Str) (u : User) : Prop := ∃ l, (k, l) ∈ sb ∧ u ∈ l

theorem sbMem_iff {sb : SetupBy} {k : Str × Option Str} {u : User} : SbMem sb k u ↔ ∃ p ∈ sb, p.1 = k ∧ u ∈ p.2 :=
  ⟨fun ⟨l, hl, hu⟩ => ⟨(k, l), hl, rfl, hu⟩, fun ⟨p, hp, hk, hu⟩ => ⟨p.2, hk ▸ hp, hu⟩⟩

theorem sbMem_map {sb : SetupBy} (f : (Str × Option Str) × List User → (Str × Option Str) × List User)
    {k : Str × Option Str} {u : User} : SbMem (sb.map f) k u ↔ ∃ p ∈ sb, (f p).1 = k ∧ u ∈ (f p).2 := by
  rw [sbMem_iff]
  constructor
  · rintro ⟨_, hq, h⟩
    obtain ⟨p, hp, rfl⟩ := List.mem_map.mp hq
    exact ⟨p, hp, h⟩
  · rintro ⟨p, hp, h⟩
    exact ⟨f p, List.mem_map_of_mem hp, h⟩

theorem sbAdd_mem (sb : SetupBy) (k : Str × Option Str) (u : User) (k' : Str × Option Str) (u' : User) :
    SbMem (sbAdd sb k u) k' u' ↔ SbMem sb k' u' ∨ (k' = k ∧ u' = u) := by
  unfold sbAdd
  split
  · -- the key is there: its entry gains `u`, every entry keeps its key
    rename_i hany
    obtain ⟨p0, hp0, hk0⟩ := List.any_eq_true.mp hany
    have hk0 : p0.1 = k := beq_iff_eq.mp hk0
    have hstep : ∀ p : (Str × Option Str) × List User,
        (if p.1 == k then (p.1, p.2 ++ [u]) else p).1 = p.1 ∧
          (u' ∈ (if p.1 == k then (p.1, p.2 ++ [u]) else p).2 ↔ u' ∈ p.2 ∨ (p.1 = k ∧ u' = u)) := by
      intro p
      by_cases h : p.1 = k <;> simp [h]
    rw [sbMem_map, sbMem_iff]
    simp only [hstep]
    constructor
    · rintro ⟨p, hp, rfl, hu | ⟨hk, hu⟩⟩
      · exact Or.inl ⟨p, hp, rfl, hu⟩
      · exact Or.inr ⟨hk, hu⟩
    · rintro (⟨p, hp, hk, hu⟩ | ⟨rfl, rfl⟩)
      · exact ⟨p, hp, hk, Or.inl hu⟩
      · exact ⟨p0, hp0, hk0, Or.inr ⟨hk0, rfl⟩⟩
  · -- a new key: one more entry, `(k, [u])`
    simp only [sbMem_iff, List.mem_append, List.mem_singleton]
    constructor
    · rintro ⟨p, hp | rfl, hk, hu⟩
      · exact Or.inl ⟨p, hp, hk, hu⟩
      · exact Or.inr ⟨hk.symm, List.mem_singleton.mp hu⟩
    · rintro (⟨p, hp, hk, hu⟩ | ⟨rfl, rfl⟩)
      · exact ⟨p, Or.inl hp, hk, hu⟩
      · exact ⟨_, Or.inr rfl, rfl, List.mem_singleton_self _⟩

theorem remember_mem (d : Decl) : ∀ (l : List Entry) (sb : SetupBy) (k : Str × Option Str) (u : User),
    SbMem (l.foldl (fun sb e => sbAdd sb (e.prod.name, e.prod.ver)
        ⟨d.name, d.ver, e.prod.ver, e.optional, e.depth.getD 0⟩) sb) k u ↔
      SbMem sb k u ∨ ∃ e ∈ l, k = (e.prod.name, e.prod.ver) ∧
        u = ⟨d.name, d.ver, e.prod.ver, e.optional, e.depth.getD 0⟩ := by
  intro l
  induction l with
  | nil => intro sb k u; simp
  | cons e es ih =>
    intro sb k u
    rw [List.foldl_cons, ih, sbAdd_mem, or_assoc]
    simp only [List.mem_cons, or_and_right, exists_or, exists_eq_left]

/-- a fold whose step always keeps a candidate — the new element or the best so far — ends with an element of the
list or with the candidate it started from -/
theorem foldl_pick {β : Type} (f : Option β → β → Option β)
    (hf : ∀ best u, ∃ x, f best u = some x ∧ (x = u ∨ best = some x)) : ∀ (l : List β) (init : Option β),
    (l.foldl f init = none ↔ (l = [] ∧ init = none)) ∧ (∀ r, l.foldl f init = some r → r ∈ l ∨ init = some r) := by
  intro l
  induction l with
  | nil => intro init; simp
  | cons a as ih =>
    intro init
    obtain ⟨x, hx, hor⟩ := hf init a
    obtain ⟨h1, h2⟩ := ih (some x)
    rw [List.foldl_cons, hx]
    refine ⟨by simp [h1], ?_⟩
    intro r hr
    rcases h2 r hr with h | h
    · exact Or.inl (List.mem_cons_of_mem _ h)
    · cases h
      rcases hor with rfl | hor
      · exact Or.inl (List.mem_cons_self ..)
      · exact Or.inr hor

theorem best_step (best : Option User) (u : User) :
    ∃ x, (fun (best : Option User) (u : User) => match best with
      | none => some u
      | some b => if u.depth < b.depth then some u else some b) best u = some x ∧ (x = u ∨ best = some x) := by
  cases best with
  | none => exact ⟨u, rfl, Or.inl rfl⟩
  | some b =>
    simp only
    split
    · exact ⟨u, rfl, Or.inl rfl⟩
    · exact ⟨b, rfl, Or.inr rfl⟩

theorem minPerUser_sub (l : List User) (u : User) (h : u ∈ minPerUser l) : u ∈ l := by
  unfold minPerUser at h
  simp only [List.mem_filterMap] at h
  obtain ⟨k, _, hf⟩ := h
  rcases (foldl_pick _ best_step _ none).2 u hf with h | h
  · exact (List.mem_filter.mp h).1
  · simp at h

theorem minPerUser_user (l : List User) (u : User) (h : u ∈ l) :
    ∃ u' ∈ minPerUser l, u'.name = u.name ∧ u'.ver = u.ver := by
  unfold minPerUser
  have hk : (u.name, u.ver) ∈ Topo.dedup (l.map fun u => (u.name, u.ver)) := by
    rw [Topo.mem_dedup]; exact List.mem_map.mpr ⟨u, h, rfl⟩
  have hmine : u ∈ l.filter fun x => (x.name, x.ver) == (u.name, u.ver) := by
    simp [List.mem_filter, h]
  obtain ⟨hnone, hsome⟩ := foldl_pick _ best_step (l.filter fun x => (x.name, x.ver) == (u.name, u.ver)) none
  obtain ⟨r, hf⟩ := Option.ne_none_iff_exists'.mp fun h0 => List.ne_nil_of_mem hmine (hnone.mp h0).1
  have hr := (hsome r hf).resolve_right nofun
  have hrk := (List.mem_filter.mp hr).2
  simp only [beq_iff_eq] at hrk
  refine ⟨r, ?_, (_root_.Prod.mk.inj hrk).1, (_root_.Prod.mk.inj hrk).2⟩
  simp only [List.mem_filterMap]
  exact ⟨(u.name, u.ver), hk, hf⟩

/-- what the loop over the declared products leaves in the index, before `minPerUser` -/
theorem usesInfo_go_spec (db : Db) (fuel : Nat) (ds : List Decl) (sb0 sb : SetupBy)
    (h : usesInfo.go db fuel ds sb0 = .ok sb) :
    ∃ raw : SetupBy, sb = raw.map (fun p => (p.1, minPerUser p.2)) ∧
      ∀ k u, SbMem raw k u ↔ SbMem sb0 k u ∨ ∃ d ∈ ds, ∃ l,
        getDependentProducts db fuel ⟨d.name, some d.ver, true⟩ true false = .ok l ∧
        ∃ e ∈ l, k = (e.prod.name, e.prod.ver) ∧ u = ⟨d.name, d.ver, e.prod.ver, e.optional, e.depth.getD 0⟩ := by
  fun_induction usesInfo.go db fuel ds sb0 with
  | case1 sb0 => cases h; exact ⟨sb0, rfl, by simp⟩
  | case2 | case3 => cases h
  | case4 d ds sb0 l hl ih =>
    obtain ⟨raw, hraw, hmem⟩ := ih h
    refine ⟨raw, hraw, fun k u => ?_⟩
    rw [hmem, remember_mem, or_assoc]
    simp only [List.mem_cons, or_and_right, exists_or, exists_eq_left, hl, Outcome.ok.injEq, exists_eq_left']

theorem mem_users (sb : SetupBy) (n : Str) (q : Option Str) (u : User) :
    u ∈ users sb n q ↔ ∃ k, k.1 = n ∧ (q = none ∨ k.2 = q) ∧ SbMem sb k u := by
  unfold users
  rw [mem_sortStable]
  simp only [List.mem_flatMap, List.mem_filter, Bool.and_eq_true, beq_iff_eq, Bool.or_eq_true,
    Option.isNone_iff_eq_none]
  constructor
  · rintro ⟨p, ⟨hp, h1, h2⟩, hu⟩
    exact ⟨p.1, h1, h2, p.2, hp, hu⟩
  · rintro ⟨k, h1, h2, l, hl, hu⟩
    exact ⟨(k, l), ⟨hl, h1, h2⟩, hu⟩

theorem sbMem_minPerUser {raw : SetupBy} {k : Str × Option Str} {u : User}
    (h : SbMem (raw.map fun p => (p.1, minPerUser p.2)) k u) : SbMem raw k u := by
  obtain ⟨p, hp, rfl, hu⟩ := (sbMem_map _).mp h
  exact ⟨p.2, hp, minPerUser_sub _ _ hu⟩

theorem sbMem_minPerUser_user {raw : SetupBy} {k : Str × Option Str} {u : User} (h : SbMem raw k u) :
    ∃ u', SbMem (raw.map fun p => (p.1, minPerUser p.2)) k u' ∧ u'.name = u.name ∧ u'.ver = u.ver := by
  obtain ⟨l, hl, hu⟩ := h
  obtain ⟨u', hu', hn, hv⟩ := minPerUser_user l u hu
  exact ⟨u', (sbMem_map _).mpr ⟨(k, l), hl, rfl, hu'⟩, hn, hv⟩

theorem uses_inverse (db : Db) (fuel : Nat) (sb : SetupBy) (h : usesInfo db fuel = .ok sb)
    (X : Str) (q : Option Str) (Y w : Str) (need : Option Str) :
    (∃ u ∈ users sb X q, u.name = Y ∧ u.ver = w ∧ u.need = need) ↔
      ((q = none ∨ need = q) ∧ ∃ d ∈ db.decls, d.name = Y ∧ d.ver = w ∧ ∃ l,
        getDependentProducts db fuel ⟨Y, some w, true⟩ true false = .ok l ∧
        ∃ e ∈ l, e.prod.name = X ∧ e.prod.ver = need) := by
  unfold usesInfo at h
  obtain ⟨raw, rfl, hmem⟩ := usesInfo_go_spec db fuel _ _ _ h
  have hrec := fun k u (h : SbMem raw k u) =>
    ((hmem k u).mp h).resolve_left (by rintro ⟨l, hl, _⟩; simp at hl)
  simp only [mem_users]
  constructor
  · rintro ⟨u, ⟨k, hk1, hk2, hsm⟩, rfl, rfl, rfl⟩
    obtain ⟨d, hd, l, hl, e, he, rfl, rfl⟩ := hrec k u (sbMem_minPerUser hsm)
    exact ⟨hk2, d, hd, rfl, rfl, l, hl, e, he, hk1, rfl⟩
  · rintro ⟨hq, d, hd, rfl, rfl, l, hl, e, he, rfl, rfl⟩
    obtain ⟨u', hu', hn, hv⟩ := sbMem_minPerUser_user ((hmem _ _).mpr (.inr ⟨d, hd, l, hl, e, he, rfl, rfl⟩))
    -- whatever `minPerUser` kept under the key needs the version of the key
    obtain ⟨_, _, _, _, e', _, hke, hue⟩ := hrec _ _ (sbMem_minPerUser hu')
    exact ⟨u', ⟨_, rfl, hq, hu'⟩, hn, hv, by rw [hue]; exact (_root_.Prod.mk.inj hke).2.symm⟩

end EupsModel.Deps
