import EupsModel.Model.FsEff
import EupsModel.Lemmas.FsStore
/-! The file-system effects of C08, read in the vocabulary of `Lemmas/FsStore.lean` (`Eff.toS`): which files the effects of
a command's steps can change (`get_applyAll`, `touched_expandAll`), and the crash states of the repaired writers
(`always_expand1`, `Always.expand`). -/
namespace EupsModel.FsEff
open EupsModel.Store

/-- `Fs.get` reads the files only: the lookup is stated with no directories and used with any (`get_set`, `get_del`) -/
theorem isStore_files : IsStore Prod.fst Prod.snd (fun l => Fs.get ⟨[], l⟩) setFile delFile where
  -- the lookup is a `match` on what `find?` gives
  get_eq l f := by unfold Fs.get; generalize List.find? _ _ = o; cases o <;> rfl
  set_nil f c := ⟨(f, c), rfl, rfl, rfl⟩
  set_cons := fun (_, _) _ f c => ⟨(f, c), rfl, rfl, rfl⟩
  del_nil _ := rfl
  del_cons := fun (_, _) _ _ => rfl

theorem get_set (fs : Fs) (f g : FPath) (c : FileC) : (fs.set f c).get g = if g = f then some c else fs.get g :=
  isStore_files.get_set fs.files f g c

theorem get_del (fs : Fs) (f g : FPath) : (fs.del f).get g = if g = f then none else fs.get g :=
  isStore_files.get_del fs.files f g

theorem get_set_same (fs : Fs) (f : FPath) (c : FileC) : (fs.set f c).get f = some c := by
  rw [get_set, if_pos rfl]

theorem get_set_other (fs : Fs) (f g : FPath) (c : FileC) (h : g ≠ f) : (fs.set f c).get g = fs.get g := by
  rw [get_set, if_neg h]

theorem get_del_same (fs : Fs) (f : FPath) : (fs.del f).get f = none := by
  rw [get_del, if_pos rfl]

theorem get_del_other (fs : Fs) (f g : FPath) (h : g ≠ f) : (fs.del f).get g = fs.get g := by
  rw [get_del, if_neg h]

theorem mem_setFile {l : List (FPath × FileC)} {f : FPath} {c : FileC} {x : FPath × FileC} (hx : x ∈ setFile l f c) :
    x ∈ l ∨ x = (f, c) := by
  fun_induction setFile l f c with
  | case1 => exact Or.inr (List.mem_singleton.mp hx)
  | case2 => exact (List.mem_cons.mp hx).symm.imp_left (List.mem_cons_of_mem _)
  | case3 _ _ _ _ _ _ ih =>
    rcases List.mem_cons.mp hx with h | h
    · exact Or.inl (h ▸ List.mem_cons_self)
    · exact (ih h).imp_left (List.mem_cons_of_mem _)

theorem mem_delFile {l : List (FPath × FileC)} {f : FPath} {x : FPath × FileC} (hx : x ∈ delFile l f) : x ∈ l := by
  fun_induction delFile l f with
  | case1 => exact hx
  | case2 _ _ _ ih => exact List.mem_cons_of_mem _ (ih hx)
  | case3 _ _ _ _ _ ih => exact (List.mem_cons.mp hx).elim (· ▸ List.mem_cons_self) fun h => List.mem_cons_of_mem _ (ih h)

/-- the one entry a record-level step can add to the listing: the record a `put` writes -/
theorem mem_applyStep {fs : Fs} {s : Step} {x : FPath × FileC} (hx : x ∈ (applyStep fs s).files) :
    x ∈ fs.files ∨ ∃ r c, s = .put r c ∧ x = (.main r, .complete c) := by
  cases s with
  | mkdir p | rmdir p => simp only [applyStep, applyEff] at hx; split at hx <;> exact Or.inl hx
  | put r c => exact (mem_setFile hx).imp_right fun e => ⟨r, c, rfl, e⟩
  | remove r => exact Or.inl (mem_delFile hx)

/-- what an effect does to the files (`mkdir`, `rmdir` change the directories only) -/
def Eff.toS : Eff → SEff FPath FileC
  | .mkdir _ => .nop
  | .rmdir _ => .nop
  | .creat f => .set f .empty
  | .trunc f => .set f .empty
  | .write f c last => .set f (if last then .complete c else .part)
  | .close _ => .nop
  | .rename a b => .rename a b
  | .unlink f => .del f

theorem get_applyEff (fs : Fs) (e : Eff) : (applyEff fs e).get = e.toS.apply fs.get := by
  cases e with
  | mkdir p | rmdir p => simp only [applyEff]; split <;> rfl
  | creat f | trunc f | write f c l => exact funext fun g => get_set ..
  | close f => rfl
  | unlink f => exact funext fun g => get_del ..
  | rename a b =>
    simp only [applyEff, Eff.toS, SEff.apply]
    cases fs.get a with
    | none => rfl
    | some c => exact funext fun g => by rw [get_set, get_del]

theorem get_applyAll (fs : Fs) (es : List Eff) (g : FPath) (h : ∀ e ∈ es, g ∉ e.toS.touched) :
    (applyAll fs es).get g = fs.get g := by
  rw [applyAll, foldl_view Fs.get Eff.toS get_applyEff]
  exact (frame fs.get _ g fun e he => by
    obtain ⟨e', he', rfl⟩ := List.mem_map.mp he; exact h e' he').last

/-! ## The files the effects of a step touch -/

def Step.record : Step → Option RPath
  | .put r _ => some r
  | .remove r => some r
  | _ => none

def OnlyWrites (f : FPath) (es : List Eff) : Prop := ∀ e ∈ es, (∃ c l, e = .write f c l) ∨ e = .close f

theorem onlyWrites_writes (f : FPath) (c : Content) : ∀ n, OnlyWrites f (writes f c n)
  | 0, e, he => by simp [writes] at he
  | 1, e, he => Or.inl ⟨c, true, List.mem_singleton.mp he⟩
  | n + 2, e, he => by
    rcases List.mem_cons.mp he with h | h
    · exact Or.inl ⟨c, false, h⟩
    · exact onlyWrites_writes f c (n + 1) e h

theorem touched_onlyWrites {f : FPath} {es : List Eff} (h : OnlyWrites f es) : ∀ e ∈ es, ∀ g ∈ e.toS.touched, g = f := by
  intro e he g hg
  rcases h e he with ⟨c, l, rfl⟩ | rfl
  · exact List.mem_singleton.mp hg
  · cases hg

theorem touched_expand (atomic : Bool) (fs : Fs) (s : Step) :
    ∀ e ∈ expand atomic fs s, ∀ g ∈ e.toS.touched, ∃ r, s.record = some r ∧ (g = .main r ∨ g = .tmp r) := by
  intro e he g hg
  cases s with
  | mkdir p | rmdir p => simp [expand] at he; subst he; simp [Eff.toS, SEff.touched] at hg
  | remove r =>
    simp [expand] at he; subst he; simp [Eff.toS, SEff.touched] at hg
    exact ⟨r, rfl, Or.inl hg⟩
  | put r c =>
    refine ⟨r, rfl, ?_⟩
    cases atomic with
    | true =>
      simp only [expand, if_true, List.mem_append, List.mem_cons, List.not_mem_nil, or_false] at he
      rcases he with (h | h) | h | h
      · subst h; simp [Eff.toS, SEff.touched] at hg; exact Or.inr hg
      · exact Or.inr (touched_onlyWrites (onlyWrites_writes _ c _) e h g hg)
      · subst h; simp [Eff.toS, SEff.touched] at hg
      · subst h; simp [Eff.toS, SEff.touched] at hg; exact hg.symm
    | false =>
      simp only [expand, Bool.false_eq_true, if_false, List.mem_append, List.mem_cons, List.not_mem_nil, or_false] at he
      rcases he with (h | h) | h
      · subst h; split at hg <;> (simp [Eff.toS, SEff.touched] at hg; exact Or.inl hg)
      · exact Or.inl (touched_onlyWrites (onlyWrites_writes _ c _) e h g hg)
      · subst h; simp [Eff.toS, SEff.touched] at hg

theorem touched_expandAll (atomic : Bool) (fs : Fs) (ss : List Step) :
    ∀ e ∈ expandAll atomic fs ss, ∀ g ∈ e.toS.touched, ∃ s ∈ ss, ∃ r, s.record = some r ∧ (g = .main r ∨ g = .tmp r) := by
  induction ss generalizing fs with
  | nil => simp [expandAll]
  | cons s rest ih =>
    intro e he g hg
    rcases List.mem_append.mp he with h | h
    · exact ⟨s, List.mem_cons_self, touched_expand atomic fs s e h g hg⟩
    · obtain ⟨s', hs', hr⟩ := ih (applyStep fs s) e h g hg
      exact ⟨s', List.mem_cons_of_mem _ hs', hr⟩

/-! ## Crash states of the repaired writers -/

/-- no file has the name of a temporary file (of any record): a writer's temporary file is then new, and last in the listing -/
def NoTmp (fs : Fs) : Prop := ∀ x ∈ fs.files, ∀ r, x.1 ≠ FPath.tmp r

/-- where a new temporary file appears: last in the listing -/
def Fs.extra (fs : Fs) (f : FPath) (a : FileC) : Fs := { fs with files := fs.files ++ [(f, a)] }

section extra
variable {fs : Fs} {f : FPath} (h : ∀ x ∈ fs.files, x.1 ≠ f) (a c : FileC)
include h

theorem set_fresh : fs.set f a = fs.extra f a := by
  have := isStore_files.set_append fs.files [] f a h
  rw [List.append_nil] at this
  rw [Fs.set, this]; rfl

theorem extra_set : (fs.extra f a).set f c = fs.extra f c := by
  rw [Fs.set, Fs.extra, isStore_files.set_append _ _ f c h]; simp [setFile, Fs.extra]

theorem extra_del : (fs.extra f a).del f = fs := by
  rw [Fs.del, Fs.extra, isStore_files.del_append _ _ f h]; simp [delFile]

theorem extra_get : (fs.extra f a).get f = some a := by
  have : fs.files.find? (·.1 = f) = none := List.find?_eq_none.mpr fun x hx => by simpa using h x hx
  simp [Fs.get, Fs.extra, List.find?_append, this]

end extra

theorem extra_get_other {fs : Fs} {f g : FPath} {a : FileC} (h : g ≠ f) : (fs.extra f a).get g = fs.get g := by
  simp only [Fs.get, Fs.extra, List.find?_append]
  cases fs.files.find? (·.1 = g) <;> simp [Ne.symm h]

theorem onlyWrites_shape {fs : Fs} {f : FPath} (h : ∀ x ∈ fs.files, x.1 ≠ f) (es : List Eff) (hes : OnlyWrites f es) :
    ∀ a : FileC, ∃ y, applyAll (fs.extra f a) es = fs.extra f y := by
  induction es with
  | nil => exact fun a => ⟨a, rfl⟩
  | cons e rest ih =>
    intro a
    have hrest := ih fun e' he' => hes e' (List.mem_cons_of_mem _ he')
    rcases hes e List.mem_cons_self with ⟨c, lst, rfl⟩ | rfl
    · obtain ⟨y, hy⟩ := hrest (if lst then .complete c else .part)
      refine ⟨y, ?_⟩
      show applyAll ((fs.extra f a).set f _) rest = _
      rw [extra_set h, hy]
    · exact hrest a

theorem applyAll_writes {fs : Fs} {f : FPath} (h : ∀ x ∈ fs.files, x.1 ≠ f) (c : Content) :
    ∀ (n : Nat) (a : FileC), applyAll (fs.extra f a) (writes f c n) = fs.extra f (if n = 0 then a else .complete c)
  | 0, a => rfl
  | 1, a => extra_set h a _
  | n + 2, a => by
    have := applyAll_writes h c (n + 1) .part
    rw [if_neg (Nat.succ_ne_zero n)] at this
    rw [if_neg (Nat.succ_ne_zero _), ← this, ← extra_set h a .part]; rfl

theorem chunks_pos (c : Content) : chunks c ≠ 0 := by
  cases c <;> simp [chunks] <;> omega

theorem applyAll_append (fs : Fs) (a b : List Eff) : applyAll fs (a ++ b) = applyAll (applyAll fs a) b :=
  List.foldl_append ..

theorem expand_net (fs : Fs) (hnt : NoTmp fs) (s : Step) : applyAll fs (expand true fs s) = applyStep fs s := by
  cases s with
  | mkdir p | rmdir p | remove r => rfl
  | put r c =>
    have h : ∀ x ∈ fs.files, x.1 ≠ FPath.tmp r := fun x hx => hnt x hx r
    simp only [expand, if_true, applyAll_append]
    have hcreat : applyAll fs [.creat (.tmp r)] = fs.extra (.tmp r) .empty := set_fresh h _
    rw [hcreat, applyAll_writes h, if_neg (chunks_pos c)]
    simp only [applyAll, List.foldl_cons, List.foldl_nil, applyEff, extra_get h, extra_del h, applyStep]

theorem NoTmp_applyStep (fs : Fs) (h : NoTmp fs) (s : Step) : NoTmp (applyStep fs s) := fun x hx =>
  (mem_applyStep hx).elim (h x) fun ⟨_, _, _, e⟩ _ => e ▸ nofun

/-- One step of the repaired writers: a kill inside it leaves the state before it, plus possibly its temporary file; the
completed step is the record-level step. -/
theorem always_expand1 (fs : Fs) (hnt : NoTmp fs) (s : Step) :
    Always applyEff (fun x => x = fs ∨ (∃ r y, x = fs.extra (.tmp r) y) ∨ x = applyStep fs s) fs (expand true fs s) := by
  cases s with
  | mkdir p | rmdir p | remove r => exact Always.cons (Or.inl rfl) (Always.nil (Or.inr (Or.inr rfl)))
  | put r c =>
    have h : ∀ x ∈ fs.files, x.1 ≠ FPath.tmp r := fun x hx => hnt x hx r
    have hsplit : expand true fs (.put r c) = (Eff.creat (.tmp r) ::
        (writes (.tmp r) c (chunks c) ++ [Eff.close (.tmp r)])) ++ [Eff.rename (.tmp r) (.main r)] := by
      simp [expand]
    have hnet := expand_net fs hnt (.put r c)
    rw [hsplit] at hnet ⊢
    refine Always.snoc (Always.cons (Or.inl rfl) fun j => Or.inr (Or.inl ?_)) (Or.inr (Or.inr ?_))
    · -- `creat` makes the temporary file; the writes and `close` change only it
      have hto : OnlyWrites (.tmp r) ((writes (.tmp r) c (chunks c) ++ [Eff.close (.tmp r)]).take j) := fun e he =>
        (List.mem_append.mp (List.mem_of_mem_take he)).elim (onlyWrites_writes _ c _ e)
          fun h1 => Or.inr (List.mem_singleton.mp h1)
      obtain ⟨y, hy⟩ := onlyWrites_shape h _ hto .empty
      exact ⟨r, y, by rw [← hy, ← set_fresh h]; rfl⟩
    · rw [← hnet, applyAll, List.foldl_append]; rfl

/-- what holds after every prefix of the record-level steps, and does not look at temporary files, holds at every
crash point of the repaired writers: a kill falls inside the first step or after it -/
theorem _root_.EupsModel.Store.Always.expand {P : Fs → Prop} {ss : List Step} {fs : Fs} (h : Always applyStep P fs ss)
    (hx : ∀ s r y, P s → P (s.extra (.tmp r) y)) (hnt : NoTmp fs) : Always applyEff P fs (expandAll true fs ss) := by
  induction ss generalizing fs with
  | nil => exact Always.nil (h 0)
  | cons s rest ih =>
    have hnet : (FsEff.expand true fs s).foldl applyEff fs = applyStep fs s := expand_net fs hnt s
    refine Always.append (fun j => ?_) fun _ => ?_
    · rcases always_expand1 fs hnt s j with e | ⟨r, y, e⟩ | e <;> rw [e]
      · exact h 0
      · exact hx _ r y (h 0)
      · exact h 1
    · rw [hnet]; exact ih h.tail (NoTmp_applyStep fs hnt s)

theorem commit_points (fs : Fs) (ss : List Step) (hnt : NoTmp fs) (k : Nat) :
    ∃ j, j ≤ ss.length ∧ ∀ r', (applyAll fs ((expandAll true fs ss).take k)).get (.main r')
      = (applySteps fs (ss.take j)).get (.main r') := by
  have h : Always applyStep
      (fun x => ∃ j, j ≤ ss.length ∧ ∀ r', x.get (.main r') = (applySteps fs (ss.take j)).get (.main r')) fs ss :=
    fun j => ⟨min j ss.length, Nat.min_le_right .., fun _ => by rw [List.take_eq_take_min]; rfl⟩
  -- `Eq.trans`, not `.trans`: `nofun` needs the two names known, and they come from the expected type
  exact h.expand (fun s r y ⟨j, hj, h⟩ => ⟨j, hj, fun r' => Eq.trans (extra_get_other nofun) (h r')⟩) hnt k

theorem expandAll_net (fs : Fs) (ss : List Step) (hnt : NoTmp fs) :
    applyAll fs (expandAll true fs ss) = applySteps fs ss := by
  induction ss generalizing fs with
  | nil => rfl
  | cons s rest ih =>
    rw [expandAll, applyAll_append, expand_net fs hnt s, ih _ (NoTmp_applyStep fs hnt s)]; rfl

end EupsModel.FsEff
