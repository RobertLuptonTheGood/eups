import EupsModel.Lemmas.VroUniq
/-! `setEupsPath`: the stacks searched are the directories of the path, each once, in the order of first occurrence: the
result is `uniqFirst` of the pieces kept (`setEupsPath_eq`); `setEupsPath_spec` says which directories it holds,
`uniqDirs_append` is the order law of the loop behind it. -/
namespace EupsModel.Vro

theorem mem_uniqDirs (x : Str) (seen l : List Str) : x ∈ uniqDirs seen l ↔ x ∈ l ∧ x ∉ seen := by
  simp [uniqDirs_eq, mem_uniqFirst]

theorem nodup_uniqDirs (seen l : List Str) : (uniqDirs seen l).Nodup := by
  rw [uniqDirs_eq]; exact (uniqFirst_nodup l).sublist List.filter_sublist

theorem uniqDirs_cons (seen : List Str) (p : Str) (ps : List Str) :
    uniqDirs seen (p :: ps) = if seen.contains p then uniqDirs seen ps else p :: uniqDirs (p :: seen) ps := rfl

theorem uniqDirs_append (seen a b : List Str) :
    uniqDirs seen (a ++ b) = uniqDirs seen a ++ uniqDirs (a.reverse ++ seen) b := by
  simp only [uniqDirs_eq, uniqFirst_append, List.filter_append, List.filter_filter]
  congr 1
  apply List.filter_congr
  intro x _
  simp [Bool.and_comm]

/-- the three branches of `setEupsPath` are one formula: `-z` with an empty word selects every piece, as no `-z` does -/
theorem setEupsPath_eq (isdir : Str → Bool) (path : Str) (dbz : Option Str) :
    setEupsPath isdir path dbz = .ok (uniqFirst ((((splitOn colon [] path).filter fun p =>
      dbz.all fun z => z.isEmpty || dbzMatches z p).filter isdir).map normpath)) := by
  unfold setEupsPath
  cases dbz with
  | none => simp [uniqDirs_nil_eq]
  | some z => cases hz : z.isEmpty <;> simp [uniqDirs_nil_eq, hz]

theorem setEupsPath_spec (isdir : Str → Bool) (path : Str) (dbz : Option Str) (l : List Str)
    (h : setEupsPath isdir path dbz = .ok l) :
    l.Nodup ∧
    ∀ x, x ∈ l ↔ ∃ p ∈ splitOn colon [] path, isdir p = true ∧ x = normpath p ∧
      (∀ z, dbz = some z → z.isEmpty = false → dbzMatches z p = true) := by
  rw [setEupsPath_eq] at h
  cases h
  refine ⟨uniqFirst_nodup _, fun x => ?_⟩
  have hsel : ∀ p, (dbz.all fun z => z.isEmpty || dbzMatches z p) = true ↔
      ∀ z, dbz = some z → z.isEmpty = false → dbzMatches z p = true := by
    intro p
    cases dbz with
    | none => simp
    | some z => cases z <;> simp
  simp only [mem_uniqFirst, List.mem_map, List.mem_filter, hsel]
  constructor
  · rintro ⟨p, ⟨⟨hp, hm⟩, hd⟩, rfl⟩; exact ⟨p, hp, hd, rfl, hm⟩
  · rintro ⟨p, hp, hd, rfl, hm⟩; exact ⟨p, ⟨⟨hp, hm⟩, hd⟩, rfl⟩

end EupsModel.Vro
