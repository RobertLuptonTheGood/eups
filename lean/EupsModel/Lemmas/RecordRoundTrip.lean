import EupsModel.Lemmas.RecordLayout
/-! Version and chain files as instances of the round trip (C16): the layouts of `VersionFile.write` and `ChainFile.write`
(`vLayout`, `cLayout`) and, from `Layout.run_file` with `vStep_reads` / `cStep_reads`, the text-level round trip of each:
with qualified flavor names (`GoodVRecQ`, `GoodCRecQ`) and, as the special case, without. -/
namespace EupsModel.Record

/-- `VersionFile.write`: `Group:`, `FLAVOR`, `QUALIFIERS`, then the fields; one `End:` after the last block -/
def vLayout : Layout vKind where
  op := lGroup
  cl := []
  tail := [lEnd]
  pre _ := []
  post := fieldSpecs
  Good := GoodInfo
  prints := blocksLines
  sep_op := Or.inl rfl
  sep_cl _ h := nomatch h
  sep_tail _ h := Or.inr (List.mem_singleton.mp h)
  rows_pre _ _ _ h := nomatch h
  rows_post i hi := fieldSpecs_ok i hi.fields
  fold i hi := specFold_fieldSpecs i hi.fields
  settled i hi := fixup_good i hi
  prints_nil := rfl
  prints_cons fq f q i r ls hk hi h := by
    simp [blocksLines, blockLines, hk.split, hasNone_good i hi.fields, h, blockText, infoLines_eq, specLines]

theorem vLayout_prints : vLayout.prints = blocksLines := rfl
theorem vLayout_tail : vLayout.tail = [lEnd] := rfl

/-- a version record as the round-trip theorem with qualifiers covers it: as `GoodVRec`, but the flavor names may be
qualified, in an order that satisfies `QualOrder` -/
structure GoodVRecQ (r : VRec) : Prop where
  name : ∃ n, r.name = some n ∧ Clean n
  version : ∃ v, r.version = some v ∧ Clean v
  nonempty : r.flavors ≠ []
  order : QualOrder (r.flavors.map (·.1))
  blocks : ∀ x ∈ r.flavors, QualKey x.1 ∧ GoodInfo x.2

theorem text_roundtrip_version_qual (r : VRec) (h : GoodVRecQ r) (nm vs : Option Str)
    (hnm : nm = none ∨ nm = r.name) (hvs : vs = none ∨ vs = r.version) :
    ∃ text, printVersion r = .ok (some text) ∧ parseVersion nm vs text = .ok r := by
  obtain ⟨n, hn, hcn⟩ := h.name
  obtain ⟨v, hv, hcv⟩ := h.version
  obtain ⟨rn, rv, fl⟩ := r
  simp only at hn hv
  subst hn hv
  have hfl : fl.isEmpty = false := List.isEmpty_eq_false_iff.mpr h.nonempty
  obtain ⟨bl, o, hbl, hrun⟩ := vLayout.run_file vState vStep_reads n v hcn hcv nm vs hnm hvs fl h.blocks h.order
  simp only [vLayout_prints, vLayout_tail, vKind_idLabel, vState_mk] at hbl hrun
  exact ⟨unlines (headerLines lVersion n v ++ bl ++ [lEnd]),
    by simp [printVersion, printVersionLines, hfl, hbl, headerLines],
    by simp only [parseVersion, vLines_eq_run, hrun]⟩

theorem goodVRecQ_of_good (r : VRec) (h : GoodVRec r) : GoodVRecQ r :=
  have ⟨o, b⟩ := qualBlocks_of_plain r.flavors h.nodup h.blocks
  ⟨h.name, h.version, h.nonempty, o, b⟩

theorem text_roundtrip_version (r : VRec) (h : GoodVRec r) (nm vs : Option Str)
    (hnm : nm = none ∨ nm = r.name) (hvs : vs = none ∨ vs = r.version) :
    ∃ text, printVersion r = .ok (some text) ∧ parseVersion nm vs text = .ok r :=
  text_roundtrip_version_qual r (goodVRecQ_of_good r h) nm vs hnm hvs

/-- `ChainFile.write`: `#Group:`, `FLAVOR`, `VERSION`, `QUALIFIERS`, the stamps, `#End:` -/
def cLayout : Layout cKind where
  op := lHGroup
  cl := [lHEnd]
  tail := []
  pre := cversionSpecs
  post := cfieldSpecs
  Good := GoodCInfo
  prints := cBlocksLines
  sep_op := Or.inl rfl
  sep_cl _ h := Or.inr (List.mem_singleton.mp h)
  sep_tail _ h := nomatch h
  rows_pre := cversionSpecs_ok
  rows_post i hi := cfieldSpecs_ok i hi
  fold i hi := cspecFold_cfieldSpecs i hi
  settled _ _ := trivial
  prints_nil := rfl
  prints_cons fq f q i r ls hk hi h := by
    obtain ⟨v, hv, hcv⟩ := hi.version
    obtain ⟨a, v, rfl⟩ := List.exists_cons_of_ne_nil hcv.ne
    simp [cBlocksLines, cBlockLines, hk.split, hv, h, blockText, cversionSpecs, cInfoLines_eq, specLines, fldLine]

theorem cLayout_prints : cLayout.prints = cBlocksLines := rfl
theorem cLayout_tail : cLayout.tail = [] := rfl

structure GoodCRecQ (r : CRec) : Prop where
  name : ∃ n, r.name = some n ∧ Clean n
  tag : ∃ t, r.tag = some t ∧ Clean t
  nonempty : r.flavors ≠ []
  order : QualOrder (r.flavors.map (·.1))
  blocks : ∀ x ∈ r.flavors, QualKey x.1 ∧ GoodCInfo x.2

theorem text_roundtrip_chain_qual (r : CRec) (h : GoodCRecQ r) (nm tg : Option Str)
    (hnm : nm = none ∨ nm = r.name) (htg : tg = none ∨ tg = r.tag) :
    ∃ text, printChain r = .ok (some text) ∧ parseChain nm tg text = .ok r := by
  obtain ⟨n, hn, hcn⟩ := h.name
  obtain ⟨t, ht, hct⟩ := h.tag
  obtain ⟨rn, rt, fl⟩ := r
  simp only at hn ht
  subst hn ht
  have hfl : fl.isEmpty = false := List.isEmpty_eq_false_iff.mpr h.nonempty
  obtain ⟨bl, o, hbl, hrun⟩ := cLayout.run_file cState cStep_reads n t hcn hct nm tg hnm htg fl h.blocks h.order
  simp only [cLayout_prints, cLayout_tail, cKind_idLabel, cState_mk] at hbl hrun
  exact ⟨unlines (headerLines lChain n t ++ bl ++ []),
    by simp [printChain, printChainLines, hfl, hbl, headerLines],
    by simp only [parseChain, cLines_eq_run, hrun]⟩

theorem goodCRecQ_of_good (r : CRec) (h : GoodCRec r) : GoodCRecQ r :=
  have ⟨o, b⟩ := qualBlocks_of_plain r.flavors h.nodup h.blocks
  ⟨h.name, h.tag, h.nonempty, o, b⟩

theorem text_roundtrip_chain (r : CRec) (h : GoodCRec r) (nm tg : Option Str)
    (hnm : nm = none ∨ nm = r.name) (htg : tg = none ∨ tg = r.tag) :
    ∃ text, printChain r = .ok (some text) ∧ parseChain nm tg text = .ok r :=
  text_roundtrip_chain_qual r (goodCRecQ_of_good r h) nm tg hnm htg

end EupsModel.Record
