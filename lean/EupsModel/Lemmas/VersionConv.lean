import EupsModel.Lemmas.VersionCmp
/-! Conventional components and names (C10): the component comparison is the lexicographic order on
(letters, number) keys — the string fallback agrees with it because every ASCII digit sorts before
every ASCII letter — and the comparator on conventional names is assembled from `GoodOn` pieces (`good_cmpSort`; on the
names themselves: `good_cmpN` in `VersionLatest`).
Then what the clauses of the property rest on, and the grammar of the property (`conventional`). -/
namespace EupsModel.VersionCmp
open EupsModel EupsModel.Order

theorem good_nat : GoodOn (fun _ : Nat => True) cmpNat :=
  ⟨fun a _ => cmpNat_self a, fun a b _ _ => cmpNat_antisym a b,
   fun _ _ _ _ _ _ h1 h2 => cmpNat_le.mpr (Nat.le_trans (cmpNat_le.mp h1) (cmpNat_le.mp h2))⟩

theorem good_str : GoodOn (fun _ : Str => True) Str.cmp :=
  (good_congr (good_lexList good_nat) fun a b _ _ => strCmp_eq_lexList a b).mono fun _ _ _ _ => trivial

def cmpOptNat : Option Nat → Option Nat → Int
  | none, none => 0
  | none, some _ => -1
  | some _, none => 1
  | some a, some b => cmpNat a b

theorem good_optNat : GoodOn (fun _ : Option Nat => True) cmpOptNat := by
  refine ⟨?_, ?_, ?_⟩
  · intro a _; cases a <;> simp [cmpOptNat, cmpNat]
  · intro a b _ _
    cases a <;> cases b <;> simp [cmpOptNat]
    exact good_nat.antisym _ _ trivial trivial
  · intro a b c _ _ _ h1 h2
    cases a <;> cases b <;> cases c <;> simp [cmpOptNat] at h1 h2 ⊢
    exact good_nat.trans _ _ _ trivial trivial trivial h1 h2

def optNat (d : Str) : Option Nat := if d.isEmpty then none else some (Str.toNat d)
/-- key of a conventional component: its letters, and its number if it has digits -/
def keyC (x : Str) : Str × Option Nat := (x.takeWhile Str.isAlpha, optNat (x.dropWhile Str.isAlpha))
def cmpKeyC : Str × Option Nat → Str × Option Nat → Int := lexPair Str.cmp cmpOptNat

theorem good_keyC : GoodOn (fun _ : Str × Option Nat => True) cmpKeyC :=
  (good_lexPair good_str good_optNat).mono (fun _ _ => ⟨trivial, trivial⟩)

theorem alpha_not_dig {c : Nat} (h : Str.isAlpha c = true) : isDig c = false := by
  simp [Str.isAlpha, Str.isUpper, Str.isLower, isDig, Str.isDigit] at *; omega
theorem dig_not_alpha {c : Nat} (h : isDig c = true) : Str.isAlpha c = false := by
  simp [Str.isAlpha, Str.isUpper, Str.isLower, isDig, Str.isDigit] at *; omega
theorem alpha_not_sign {c : Nat} (h : Str.isAlpha c = true) : c ≠ 43 ∧ c ≠ 45 := by
  simp [Str.isAlpha, Str.isUpper, Str.isLower] at *; omega
theorem dig_not_sign {c : Nat} (h : isDig c = true) : c ≠ 43 ∧ c ≠ 45 := by
  simp [isDig, Str.isDigit] at *; omega
theorem dig_lt_alpha {x y : Nat} (hx : isDig x = true) (hy : Str.isAlpha y = true) : x < y := by
  simp [Str.isAlpha, Str.isUpper, Str.isLower, isDig, Str.isDigit] at *; omega

/-- `l ++ d`: a conventional component split into its letters and its digits (either may be empty) -/
structure LD (l d : Str) : Prop where
  letters : ∀ c ∈ l, Str.isAlpha c = true
  digits : ∀ c ∈ d, isDig c = true

theorem LD.tail {a : Nat} {l d : Str} (h : LD (a :: l) d) : LD l d :=
  ⟨fun c hc => h.letters c (by simp [hc]), h.digits⟩

theorem LD.span {l d : Str} (h : LD l d) : (l ++ d).takeWhile Str.isAlpha = l ∧ (l ++ d).dropWhile Str.isAlpha = d :=
  span_append h.letters fun c hc => dig_not_alpha (h.digits c (List.mem_of_mem_head? hc))

theorem LD.unique {l1 d1 l2 d2 : Str} (h1 : LD l1 d1) (h2 : LD l2 d2) (e : l1 ++ d1 = l2 ++ d2) : l1 = l2 ∧ d1 = d2 := by
  constructor
  · have := congrArg (List.takeWhile Str.isAlpha) e
    rwa [h1.span.1, h2.span.1] at this
  · have := congrArg (List.dropWhile Str.isAlpha) e
    rwa [h1.span.2, h2.span.2] at this

theorem conv_decomp {x : Str} (h : convComp x = true) :
    LD (x.takeWhile Str.isAlpha) (x.dropWhile Str.isAlpha) ∧ x = x.takeWhile Str.isAlpha ++ x.dropWhile Str.isAlpha := by
  refine ⟨⟨fun c hc => mem_takeWhile_pos hc, ?_⟩, (List.takeWhile_append_dropWhile).symm⟩
  intro c hc
  simp only [convComp, List.all_eq_true] at h
  exact h c hc

theorem LD.keyC {l d : Str} (h : LD l d) : keyC (l ++ d) = (l, optNat d) := by
  simp [VersionCmp.keyC, h.span]

theorem LD.allDigits {l d : Str} (h : LD l d) (hd : d ≠ []) : allDigits d = true := allDigits_iff.mpr ⟨hd, h.digits⟩

theorem strCmp_LD {l1 d1 l2 d2 : Str} (h1 : LD l1 d1) (h2 : LD l2 d2) (hne : l1 ≠ l2) :
    Str.cmp (l1 ++ d1) (l2 ++ d2) = Str.cmp l1 l2 := by
  induction l1 generalizing l2 with
  | nil =>
    cases l2 with
    | nil => exact absurd rfl hne
    | cons y ys =>
      cases d1 with
      | nil => rfl
      | cons x xs =>
        have := dig_lt_alpha (h1.digits x (by simp)) (h2.letters y (by simp))
        simp [Str.cmp, this]
  | cons x xs ih =>
    cases l2 with
    | nil =>
      cases d2 with
      | nil => rfl
      | cons y ys =>
        have := dig_lt_alpha (h2.digits y (by simp)) (h1.letters x (by simp))
        simp only [List.cons_append, List.nil_append, Str.cmp]
        rw [if_neg (by omega), if_pos this]
    | cons y ys =>
      simp only [List.cons_append, Str.cmp]
      by_cases hxy : x = y
      · subst hxy
        simp only [Nat.lt_irrefl, if_false]
        exact ih h1.tail h2.tail (fun e => hne (by rw [e]))
      · rcases Nat.lt_or_gt_of_ne hxy with h | h
        · simp [h]
        · rw [if_neg (by omega), if_pos h, if_neg (by omega), if_pos h]

theorem parseInt_alpha {c : Nat} {r : Str} (hc : Str.isAlpha c = true) : parseInt (c :: r) = none := by
  obtain ⟨h1, h2⟩ := alpha_not_sign hc
  simp [parseInt, h1, h2, allDigits, alpha_not_dig hc]

theorem parseInt_digits {d : Str} (hd : ∀ c ∈ d, isDig c = true) (hne : d ≠ []) :
    parseInt d = some (Int.ofNat (Str.toNat d)) := by
  cases d with
  | nil => exact absurd rfl hne
  | cons c cs =>
    obtain ⟨h1, h2⟩ := dig_not_sign (hd c (by simp))
    simp [parseInt, h1, h2, allDigits_iff.mpr ⟨hne, hd⟩]

theorem nonDig_split {p d : Str} (hp : ∀ c ∈ p, isDig c = false) (hd : ∀ c ∈ d, isDig c = true) :
    (p ++ d).takeWhile (fun c => !isDig c) = p ∧ (p ++ d).dropWhile (fun c => !isDig c) = d :=
  span_append (by intro c hc; simp [hp c hc]) (by intro c hc; simp [hd c (List.mem_of_mem_head? hc)])

theorem LD.pdMatch {l1 d1 l2 d2 : Str} (h1 : LD l1 d1) (h2 : LD l2 d2) :
    pdMatch (l1 ++ d1) (l2 ++ d2) =
      if l1 = l2 ∧ l1 ≠ [] ∧ d1 ≠ [] ∧ d2 ≠ [] then some (Int.ofNat (Str.toNat d1), Int.ofNat (Str.toNat d2)) else none := by
  by_cases hc : l1 = l2 ∧ l1 ≠ [] ∧ d1 ≠ [] ∧ d2 ≠ []
  · obtain ⟨rfl, hl, n1, n2⟩ := hc
    rw [if_pos ⟨rfl, hl, n1, n2⟩,
      pdMatch_append hl (fun c hc => alpha_not_dig (h1.letters c hc)) (h1.allDigits n1) (h2.allDigits n2)]
  · rw [if_neg hc]
    cases hm : VersionCmp.pdMatch (l1 ++ d1) (l2 ++ d2) with
    | none => rfl
    | some r =>
      obtain ⟨p, d, d', hx, hy, hp, hnd, hd, hd', _⟩ := pdMatch_eq_some (a := r.1) (b := r.2) hm
      -- both words split at their first digit
      have s1 := nonDig_split (fun c hc => alpha_not_dig (h1.letters c hc)) h1.digits
      have s2 := nonDig_split (fun c hc => alpha_not_dig (h2.letters c hc)) h2.digits
      rw [hx, (nonDig_split hnd (allDigits_iff.mp hd).2).1, (nonDig_split hnd (allDigits_iff.mp hd).2).2] at s1
      rw [hy, (nonDig_split hnd (allDigits_iff.mp hd').2).1, (nonDig_split hnd (allDigits_iff.mp hd').2).2] at s2
      exact absurd ⟨s1.1.symm.trans s2.1, s1.1 ▸ hp, s1.2 ▸ allDigits_ne_nil hd, s2.2 ▸ allDigits_ne_nil hd'⟩ hc

theorem LD.parseInt {l d : Str} (h : LD l d) :
    parseInt (l ++ d) = if l = [] ∧ d ≠ [] then some (Int.ofNat (Str.toNat d)) else none := by
  cases l with
  | nil =>
    by_cases hd : d = []
    · subst hd; rfl
    · rw [List.nil_append, parseInt_digits h.digits hd, if_pos ⟨rfl, hd⟩]
  | cons c cs => rw [List.cons_append, parseInt_alpha (h.letters c (by simp)), if_neg (by simp)]

theorem LD.compInts {l1 d1 l2 d2 : Str} (h1 : LD l1 d1) (h2 : LD l2 d2) :
    compInts (l1 ++ d1) (l2 ++ d2) =
      if l1 = l2 ∧ d1 ≠ [] ∧ d2 ≠ [] then some (Int.ofNat (Str.toNat d1), Int.ofNat (Str.toNat d2)) else none := by
  rw [compInts_eq, h1.pdMatch h2, h1.parseInt, h2.parseInt]
  by_cases hl : l1 = l2
  · subst hl
    by_cases hl : l1 = [] <;> by_cases n1 : d1 = [] <;> by_cases n2 : d2 = [] <;> simp [hl, n1, n2]
  · have : ¬ (l1 = [] ∧ l2 = []) := fun h => hl (h.1.trans h.2.symm)
    by_cases e1 : l1 = [] <;> by_cases e2 : l2 = [] <;> simp_all

theorem strCmp_append_left (l a b : Str) : Str.cmp (l ++ a) (l ++ b) = Str.cmp a b := by
  rw [strCmp_eq_lexList, strCmp_eq_lexList]; exact lexList_append_left (fun x _ => cmpNat_self x) a b

theorem cmpC_LD {l1 d1 l2 d2 : Str} (h1 : LD l1 d1) (h2 : LD l2 d2) :
    cmpC (l1 ++ d1) (l2 ++ d2) = cmpKeyC (l1, optNat d1) (l2, optNat d2) := by
  simp only [cmpC, cmpComp, h1.compInts h2, cmpKeyC, lexPair]
  by_cases hl : l1 = l2
  · -- the same letters: the numbers decide; no digits is a proper prefix, or the same word
    subst hl
    simp only [strCmp_self, strCmp_append_left, ne_eq, not_true_eq_false, if_false, true_and]
    cases d1 <;> cases d2 <;> simp [optNat, cmpOptNat, Str.cmp]
    exact cmpInt_ofNat _ _
  · -- different letters: compared as strings, and the letters decide
    rw [if_neg (by simp [hl]), if_pos (fun e => hl (strCmp_eq_zero e))]
    exact strCmp_LD h1 h2 hl

theorem cmpC_conv {x y : Str} (hx : convComp x = true) (hy : convComp y = true) :
    cmpC x y = cmpKeyC (keyC x) (keyC y) := by
  obtain ⟨h1, e1⟩ := conv_decomp hx
  obtain ⟨h2, e2⟩ := conv_decomp hy
  have := cmpC_LD h1 h2
  rw [← e1, ← e2] at this
  rw [this]; rfl

theorem good_cmpC : GoodOn (fun x : Str => convComp x = true) cmpC :=
  good_congr ((good_pullback good_keyC keyC).mono (fun _ _ => trivial)) (fun _ _ ha hb => cmpC_conv ha hb)

theorem good_cmpComps : GoodOn (fun l : List Str => ∀ x ∈ l, convComp x = true) cmpComps :=
  good_congr (good_lexList good_cmpC) (fun a b _ _ => cmpComps_eq_lexList a b)

def depth : Lexed → Nat
  | .absent => 0
  | .node _ s t => max (depth s) (depth t) + 1

/-- conventional and of bounded nesting: `GoodOn.lex_trans` wants the whole order on the parts, so the induction is on the bound -/
def ConvD (n : Nat) (a : Lexed) : Prop := convLexed a = true ∧ depth a ≤ n

theorem convD_parts {n : Nat} {a : Lexed} (h : ConvD (n + 1) a) :
    (∀ x ∈ a.comps, convComp x = true) ∧ (ConvD n a.sec ∧ ConvD n a.ter) := by
  cases a with
  | absent =>
    refine ⟨?_, ⟨rfl, Nat.zero_le _⟩, ⟨rfl, Nat.zero_le _⟩⟩
    intro x hx
    simp only [Lexed.comps, Lexed.prim, splitSep, List.mem_singleton] at hx
    subst hx; rfl
  | node p s t =>
    obtain ⟨hc, hd⟩ := h
    simp only [convLexed, Bool.and_eq_true, List.all_eq_true] at hc
    simp only [depth] at hd
    exact ⟨hc.1.1, ⟨hc.1.2, by simp only [Lexed.sec]; omega⟩, ⟨hc.2, by simp only [Lexed.ter]; omega⟩⟩

theorem good_cmpSort_depth : ∀ n, GoodOn (ConvD n) cmpSort := by
  intro n
  induction n with
  | zero =>
    refine ⟨fun a _ => cmpSort_self a, fun a b _ _ => cmpSort_antisym a b, ?_⟩
    intro a b c ha hb hc _ _
    have e : ∀ x, ConvD 0 x → x = .absent := by
      intro x hx
      cases x with
      | absent => rfl
      | node p s t => have := hx.2; simp [depth] at this
    rw [e a ha, e c hc, cmpSort_self]; exact Int.le_refl 0
  | succ n ih =>
    have g := good_pullback (good_lexPair good_cmpComps (good_lexPair (good_absentTop Lexed.present ih) ih)) keyL
    exact good_congr (g.mono (fun a ha => convD_parts ha)) (fun a b _ _ => cmpSort_eq_key a b)

theorem good_cmpSort : GoodOn (fun a : Lexed => convLexed a = true) cmpSort := by
  refine ⟨fun a _ => cmpSort_self a, fun a b _ _ => cmpSort_antisym a b, ?_⟩
  intro a b c ha hb hc h1 h2
  have g := good_cmpSort_depth (max (depth a) (max (depth b) (depth c)))
  exact g.trans a b c ⟨ha, by omega⟩ ⟨hb, by omega⟩ ⟨hc, by omega⟩ h1 h2

theorem cmpC_numeric {l d1 d2 : Str} (h1 : LD l d1) (h2 : LD l d2) (n1 : d1 ≠ []) (n2 : d2 ≠ []) :
    cmpC (l ++ d1) (l ++ d2) = cmpNat (Str.toNat d1) (Str.toNat d2) := by
  rw [cmpC_LD h1 h2]
  simp only [cmpKeyC, lexPair, strCmp_self, ne_eq, not_true_eq_false, if_false]
  cases d1 with
  | nil => exact absurd rfl n1
  | cons a as => cases d2 with
    | nil => exact absurd rfl n2
    | cons b bs => simp [optNat, cmpOptNat]

theorem splitSep_ne_nil (p : Str) : splitSep p ≠ [] := by
  cases p with
  | nil => simp [splitSep]
  | cons c cs =>
    simp only [splitSep]
    split
    · simp
    · split <;> simp

theorem cmpC_nil_right {x : Str} (hx : x ≠ []) : cmpC x [] = 1 := by
  obtain ⟨a, as, rfl⟩ := List.exists_cons_of_ne_nil hx
  have : cmpC [] (a :: as) = -1 := by simp [cmpC, cmpComp, compInts, pdSplit, parseInt, Str.cmp]
  rw [cmpC_antisym, this]; rfl

theorem cmpComps_splitSep_absent {p : Str} (hp : p ≠ []) : cmpComps (splitSep p) [[]] = 1 := by
  cases p with
  | nil => exact absurd rfl hp
  | cons c cs =>
    simp only [splitSep]
    split
    · cases h : splitSep cs with
      | nil => exact absurd h (splitSep_ne_nil cs)
      | cons a as => simp [cmpComps, cmpC_self]
    · split
      · rename_i h; exact absurd h (splitSep_ne_nil cs)
      · simp only [cmpComps]
        rw [cmpC_nil_right (by simp)]; simp

theorem cmpSort_node_absent {p : Str} (s t : Lexed) (hp : p ≠ []) : cmpSort (.node p s t) .absent = 1 := by
  rw [cmpSort_unfold]
  simp only [Lexed.comps, Lexed.prim, splitSep]
  rw [cmpComps_splitSep_absent hp]; rfl

theorem integral_same_letters {l d1 d2 : Str} (h1 : LD l d1) (h2 : LD l d2) (n1 : d1 ≠ []) (n2 : d2 ≠ []) :
    (cmpComp (l ++ d1) (l ++ d2)).2 = true := by
  simp [cmpComp, h1.compInts h2, n1, n2]

theorem integral_digits {x y : Str} (hx : allDigits x = true) (hy : allDigits y = true) : (cmpComp x y).2 = true :=
  integral_same_letters (l := []) ⟨fun _ h => (nomatch h), (allDigits_iff.mp hx).2⟩ ⟨fun _ h => (nomatch h), (allDigits_iff.mp hy).2⟩
    (allDigits_ne_nil hx) (allDigits_ne_nil hy)

theorem sortable_digits {l m : List Str} (hl : l.all allDigits = true) (hm : m.all allDigits = true) : sortable l m = true := by
  induction l generalizing m with
  | nil => cases m <;> rfl
  | cons a as ih =>
    cases m with
    | nil => rfl
    | cons b bs =>
      simp only [List.all_cons, Bool.and_eq_true] at hl hm
      exact sortable_cons (integral_digits hl.1 hm.1) (ih hl.2 hm.2)

/-- the letters in front of the first number (`v` in `v1.2`) -/
def letterPrefix (a : Lexed) : Str := (a.comps.headD []).takeWhile Str.isAlpha

theorem allDigits_conv {d : Str} (h : allDigits d = true) : convComp d = true := by
  obtain ⟨c, cs, rfl, hc⟩ := allDigits_head h
  simp only [allDigits, Bool.and_eq_true, List.all_eq_true] at h
  simp only [convComp, List.dropWhile, dig_not_alpha hc, List.all_eq_true]
  exact h.2

theorem simplePart_conv {a : Lexed} (h : simplePart a = true) : convLexed a = true := by
  cases a with
  | absent => rfl
  | node p s t =>
    simp only [simplePart, Bool.and_eq_true, List.all_eq_true, Bool.not_eq_true'] at h
    obtain ⟨⟨hc, hs⟩, ht⟩ := h
    cases s with
    | node _ _ _ => simp [Lexed.present] at hs
    | absent =>
      cases t with
      | node _ _ _ => simp [Lexed.present] at ht
      | absent =>
        simp only [convLexed, Bool.and_true, List.all_eq_true]
        intro x hx; exact (hc x hx).1

theorem conventional_inv {a : Lexed} (h : conventional a = true) :
    ∃ c cs, a.comps = c :: cs ∧ convComp c = true ∧ c.dropWhile Str.isAlpha ≠ [] ∧ cs.all allDigits = true ∧
      simplePart a.sec = true ∧ simplePart a.ter = true := by
  cases a with
  | absent => simp [conventional] at h
  | node p s t =>
    simp only [conventional, Bool.and_eq_true] at h
    obtain ⟨⟨hp, hs⟩, ht⟩ := h
    split at hp
    · simp at hp
    · rename_i c cs hsplit
      simp only [Bool.and_eq_true, Bool.not_eq_true', List.isEmpty_eq_false_iff] at hp
      exact ⟨c, cs, hsplit, hp.1.1, hp.1.2, hp.2, hs, ht⟩

/-- the grammar of the property lies inside the class the order theorems are about -/
theorem conventional_conv {a : Lexed} (h : conventional a = true) : convLexed a = true := by
  obtain ⟨c, cs, hc, h1, _, h3, hs, ht⟩ := conventional_inv h
  cases a with
  | absent => rfl
  | node p s t =>
    simp only [convLexed, Bool.and_eq_true, List.all_eq_true]
    refine ⟨⟨?_, simplePart_conv hs⟩, simplePart_conv ht⟩
    intro x hx
    rw [show splitSep p = c :: cs from hc] at hx
    rcases List.mem_cons.mp hx with rfl | hx'
    · exact h1
    · exact allDigits_conv (List.all_eq_true.mp h3 x hx')

/-- every compared pair is integral -/
theorem sortable_conventional {a b : Lexed} (ha : conventional a = true) (hb : conventional b = true)
    (hp : letterPrefix a = letterPrefix b) : sortable a.comps b.comps = true := by
  obtain ⟨c, cs, hc, h1, n1, h3, _, _⟩ := conventional_inv ha
  obtain ⟨c', cs', hc', h1', n1', h3', _, _⟩ := conventional_inv hb
  simp only [letterPrefix, hc, hc', List.headD_cons] at hp
  rw [hc, hc']
  refine sortable_cons ?_ (sortable_digits h3 h3')
  obtain ⟨ld, e⟩ := conv_decomp h1
  obtain ⟨ld', e'⟩ := conv_decomp h1'
  rw [e, e', ← hp]
  rw [← hp] at ld'
  exact integral_same_letters ld ld' n1 n1'

end EupsModel.VersionCmp
