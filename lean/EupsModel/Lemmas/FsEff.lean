import EupsModel.Lemmas.FsSteps
/-! What a reader finds at a crash point (C08), from a well-formed state (`WF`).  The chain record of the tag a `declare`
assigns holds, after every prefix, what `ChainFile.write` leaves for blocks reached from the old ones by `setVersion` /
`removeVersion` (`declare_chainAt`); every other record is written at most once (`cnt_steps`), hence old or new
(`steps_atomic`); every record file stays complete and of its kind (`mainGood_crash`). -/
namespace EupsModel.FsEff
open EupsModel.Store

def RecOK : FPath × FileC → Prop
  | (.main (.vfile _ _), .complete (.ver es)) => es ≠ []
  | (.main (.cfile _ _), .complete (.chain es)) => es ≠ []
  | (.main _, _) => False
  | _ => True

/-- a database state as eups leaves it between commands -/
structure WF (fs : Fs) : Prop where
  noTmp : NoTmp fs
  nodup : (fs.files.map (·.1)).Nodup
  recs : ∀ x ∈ fs.files, RecOK x

theorem get_some_mem {fs : Fs} {f : FPath} {c : FileC} (h : fs.get f = some c) : (f, c) ∈ fs.files := by
  unfold Fs.get at h
  split at h
  · rename_i x hf
    have hx : x.1 = f := by simpa using List.find?_some hf
    cases h
    exact hx ▸ List.mem_of_find?_eq_some hf
  · cases h

/-- the file `ChainFile.write` leaves for a block list -/
def chainFile (l : List CEntry) : Option FileC := if (Content.chain l).isEmpty then none else some (.complete (.chain l))

theorem wf_chain_get (fs : Fs) (hwf : WF fs) (p t : Id) : fs.get (.main (.cfile p t)) = chainFile (cread fs p t) := by
  unfold chainFile cread
  cases h : fs.get (.main (.cfile p t)) with
  | none => rfl
  | some c =>
    have := hwf.recs _ (get_some_mem h)
    rcases c with _ | _ | (_ | es) <;> simp [RecOK] at this
    simp [Content.isEmpty, this]

/-! ## The chain record of the tag a `declare` assigns -/

/-- the block lists `ChainFile.setVersion(f, v)` and `removeVersion(f)` lead to from `es` -/
inductive Reach (f v : Id) (es : List CEntry) : List CEntry → Prop
  | refl : Reach f v es es
  | set {l} : Reach f v es l → Reach f v es (setVersionC l f v)
  | drop {l} : Reach f v es l → Reach f v es (dropFlavorC l f)

/-- the chain record of `(p, t)` in `s` is what `ChainFile.write` leaves for blocks reached from those in `fs` -/
def ChainAt (fs : Fs) (p t f v : Id) (s : Fs) : Prop :=
  ∃ l, Reach f v (cread fs p t) l ∧ s.get (.main (.cfile p t)) = chainFile l

theorem cread_of_chainFile {s : Fs} {p t : Id} {l : List CEntry} (h : s.get (.main (.cfile p t)) = chainFile l) :
    cread s p t = l := by
  rw [cread, h]; cases l <;> rfl

theorem declare_chainAt (fs : Fs) (hwf : WF fs) (p v f : Id) (tag : Option Id) (force : Bool) (t : Id)
    (htag : declareTag fs p f tag = some t) :
    Always applyStep (ChainAt fs p t f v) fs (steps fs (.declare p v f tag force)) := by
  refine declare_walk _ fs p v f tag force t htag
    (fun A hA j => ⟨_, .refl, (always_none A _ hA fs j).trans (wf_chain_get fs hwf p t)⟩)
    (fun s ⟨l, hl, hs⟩ => ?_) (fun s ⟨l, hl, hs⟩ => ?_)
  · unfold dbAssignTag
    split
    · exact Always.nil ⟨l, hl, hs⟩
    · exact always_writeRec ⟨l, hl, hs⟩ ⟨_, .set hl, by rw [get_writeRec, cread_of_chainFile hs]; rfl⟩
  · unfold dbUnassignTag
    simp only []
    split
    · exact Always.nil ⟨l, hl, hs⟩
    · exact always_writeRec ⟨l, hl, hs⟩ ⟨_, .drop hl, by rw [get_writeRec, cread_of_chainFile hs]; rfl⟩

theorem Reach.other {f v : Id} {es l : List CEntry} (h : Reach f v es l) {g : Id} (hg : g ≠ f) :
    chainVersion l g = chainVersion es g := by
  induction h with
  | refl => rfl
  | set _ ih => rw [chainVersion_setVersionC, if_neg hg, ih]
  | drop _ ih => rw [chainVersion_dropFlavorC, if_neg hg, ih]

/-- read flavor by flavor: the other flavors as before; `f` as before, or `f ↦ v`, or nothing, by the last operation -/
theorem Reach.forms {f v : Id} {es l : List CEntry} (h : Reach f v es l) :
    (∀ g, chainVersion l g = chainVersion es g) ∨
    (∀ g, chainVersion l g = if g = f then some v else chainVersion es g) ∨
    (∀ g, chainVersion l g = if g = f then none else chainVersion es g) := by
  cases h with
  | refl => exact Or.inl fun _ => rfl
  | set h =>
    refine Or.inr (Or.inl fun g => ?_)
    rw [chainVersion_setVersionC]
    split
    · rfl
    · next hg => exact h.other hg
  | drop h =>
    refine Or.inr (Or.inr fun g => ?_)
    rw [chainVersion_dropFlavorC]
    split
    · rfl
    · next hg => exact h.other hg

theorem Reach.fresh {f v : Id} {es l : List CEntry} (hfr : ∀ e ∈ es, e.flavor ≠ f) (h : Reach f v es l) :
    l = es ∨ ∃ m, l = es ++ [⟨f, v, m⟩] := by
  induction h with
  | refl => exact Or.inl rfl
  | set _ ih =>
    rcases ih with rfl | ⟨m, rfl⟩
    · exact Or.inr ⟨false, by simpa [setVersionC] using isStore_chain.set_append _ [] f v hfr⟩
    · exact Or.inr ⟨true, by rw [isStore_chain.set_append _ _ _ _ hfr]; simp [setVersionC]⟩
  | drop _ ih =>
    rcases ih with rfl | ⟨m, rfl⟩
    · exact Or.inl (by simpa [dropFlavorC] using isStore_chain.del_append _ [] f hfr)
    · exact Or.inl (by rw [isStore_chain.del_append _ _ _ hfr]; simp [dropFlavorC])

def cview (s : Fs) (p t g : Id) : Option Id := chainVersion (cread s p t) g

theorem ChainAt.forms {fs : Fs} {p t f v : Id} {s : Fs} (h : ChainAt fs p t f v s) :
    (∀ g, cview s p t g = cview fs p t g) ∨ (∀ g, cview s p t g = if g = f then some v else cview fs p t g) ∨
    (∀ g, cview s p t g = if g = f then none else cview fs p t g) := by
  obtain ⟨l, hl, hs⟩ := h
  unfold cview
  rw [cread_of_chainFile hs]
  exact hl.forms

theorem seenOf_chainFile_snoc (es : List CEntry) (f v : Id) (m m' : Bool) :
    seenOf (chainFile (es ++ [⟨f, v, m⟩])) = seenOf (chainFile (es ++ [⟨f, v, m'⟩])) := by
  have : ∀ m, chainFile (es ++ [⟨f, v, m⟩]) = some (.complete (.chain (es ++ [⟨f, v, m⟩]))) := fun m => by
    cases es <;> rfl
  simp [this, seenOf]

theorem declare_chain_fresh (fs : Fs) (hwf : WF fs) (p v f : Id) (tag : Option Id) (force : Bool) (t : Id)
    (htag : declareTag fs p f tag = some t) (hfresh : chainVersion (cread fs p t) f = none) :
    Always applyStep (OldOrNew fs (steps fs (.declare p v f tag force)) (.cfile p t)) fs
      (steps fs (.declare p v f tag force)) := by
  have hfr : ∀ e ∈ cread fs p t, e.flavor ≠ f := (chainVersion_none_iff _ _).mp hfresh
  have hP := declare_chainAt fs hwf p v f tag force t htag
  -- the completed command ends with an `assignTag` that writes: the block for `f ↦ v` is there
  obtain ⟨A, B, C, hst, _, _, _, hQ⟩ := declare_parts fs p v f tag force t htag
  obtain ⟨l', hl', hs'⟩ : ChainAt fs p t f v (applySteps fs (A ++ B ++ C)) := by
    have := always_steps hP (A ++ B ++ C).length; rwa [hst, List.take_left' rfl] at this
  have hfin : ∃ m, (applySteps fs (steps fs (.declare p v f tag force))).get (.main (.cfile p t))
      = chainFile (cread fs p t ++ [⟨f, v, m⟩]) := by
    rw [hst, applySteps_append, dbAssignTag, hQ]
    simp only [Bool.not_true, Bool.false_eq_true, if_false]
    rw [get_writeRec, cread_of_chainFile hs']
    rcases (Reach.set hl').fresh hfr with h | ⟨m, h⟩
    · exact absurd (h ▸ chainVersion_setVersionC l' f v f) (by rw [hfresh]; simp)
    · exact ⟨m, by rw [h]; rfl⟩
  obtain ⟨m', hfin⟩ := hfin
  intro j
  obtain ⟨l, hl, hs⟩ := always_steps hP j
  rcases hl.fresh hfr with rfl | ⟨m, rfl⟩
  · exact Or.inl (congrArg seenOf (hs.trans (wf_chain_get fs hwf p t).symm))
  · exact Or.inr ((congrArg seenOf hs).trans ((seenOf_chainFile_snoc _ f v m m').trans (congrArg seenOf hfin.symm)))

/-! ## Old or new -/

/-- the tags are different chain records, and the version record is none of them -/
theorem targets_nodup (fs : Fs) (hn : (fs.files.map (·.1)).Nodup) (c : Cmd) : (targets fs c).Nodup := by
  have hund : ∀ p v f, ([RPath.vfile p v] ++ (findTags fs p v f).map (RPath.cfile p ·)).Nodup := fun p v f =>
    List.nodup_append.mpr ⟨List.pairwise_singleton _ _,
      List.Pairwise.map _ (fun _ _ hne e => hne (RPath.cfile.inj e).2) (findTags_nodup fs hn p v f), fun _ ha _ hb e => by
        obtain ⟨t, _, rfl⟩ := List.mem_map.mp hb
        cases (List.mem_singleton.mp ha).symm.trans e⟩
  cases c with
  | declare p v f tag force => simp only [targets]; cases declareTag fs p f tag <;> simp
  | untag t p f v => simp [targets]
  | undeclare p v f => exact hund p v f
  | undeclareAny p f =>
    simp only [targets]
    cases soleVersion fs p f with
    | none => exact List.nodup_nil
    | some v => exact hund p v f

/-- `hr`: `r` is not the chain record of the tag a `declare` assigns -/
theorem cnt_steps (fs : Fs) (hn : (fs.files.map (·.1)).Nodup) (c : Cmd) (r : RPath)
    (hr : ∀ p v f tag force t, c = .declare p v f tag force → declareTag fs p f tag = some t → r ≠ .cfile p t) :
    cnt r (steps fs c) ≤ 1 := by
  refine Nat.le_trans ((writes_steps fs c).count r) ?_
  rw [List.count_append, List.count_eq_zero_of_not_mem (l := again fs c), Nat.add_zero]
  · exact List.nodup_iff_count.mp (targets_nodup fs hn c) r
  · cases c with
    | declare p v f tag force =>
      simp only [again]
      cases htag : declareTag fs p f tag with
      | none => nofun
      | some t =>
        intro hm
        simp only [List.mem_cons, List.not_mem_nil, or_false, or_self] at hm
        exact hr _ _ _ _ _ _ rfl htag hm
    | _ => nofun

theorem retag_false_fresh (fs : Fs) (p v f : Id) (tag : Option Id) (force : Bool) (t : Id)
    (hnr : retag fs (.declare p v f tag force) = false) (htag : declareTag fs p f tag = some t) :
    chainVersion (cread fs p t) f = none := by
  simp only [retag, htag] at hnr
  cases h : chainVersion (cread fs p t) f with
  | none => rfl
  | some x => simp [h] at hnr

/-- `h`: if `r` is the chain record of the tag a `declare` assigns, the tag is not yet assigned for the flavor -/
theorem steps_atomic (fs : Fs) (hwf : WF fs) (c : Cmd) (r : RPath)
    (h : ∀ p v f tag force t, c = .declare p v f tag force → declareTag fs p f tag = some t → r = .cfile p t →
      chainVersion (cread fs p t) f = none) :
    Always applyStep (OldOrNew fs (steps fs c) r) fs (steps fs c) := by
  by_cases hr : ∃ p v f tag force t, c = .declare p v f tag force ∧ declareTag fs p f tag = some t ∧ r = .cfile p t
  · obtain ⟨p, v, f, tag, force, t, rfl, htag, rfl⟩ := hr
    exact declare_chain_fresh fs hwf p v f tag force t htag (h _ _ _ _ _ _ rfl htag rfl)
  · exact single_writer r _ (cnt_steps fs hwf.nodup c r fun p v f tag force t hc ht e =>
      hr ⟨p, v, f, tag, force, t, hc, ht, e⟩) fs

theorem crash_old_or_new (fs : Fs) (hnt : NoTmp fs) (c : Cmd) (k : Nat) (r : RPath)
    (h : Always applyStep (OldOrNew fs (steps fs c) r) fs (steps fs c)) :
    read (crashAt { atomic := true } fs c k) r = read fs r ∨
    read (crashAt { atomic := true } fs c k) r = read (final { atomic := true } fs c) r := by
  have hfin : final { atomic := true } fs c = applySteps fs (steps fs c) := expandAll_net fs _ hnt
  rw [hfin]
  exact h.expand (fun s r' y hs => hs.of_get_eq (extra_get_other nofun)) hnt k

/-! ## Every record file complete and of its kind -/

def EntryGood : FPath × FileC → Prop
  | (.main r, .complete c) => StepKindOK (.put r c)
  | (.main _, _) => False
  | _ => True

def MainGood (fs : Fs) : Prop := ∀ x ∈ fs.files, EntryGood x

theorem recordsComplete_of_mainGood (fs : Fs) (h : MainGood fs) : recordsComplete fs = true := by
  refine List.all_eq_true.mpr fun x hx => ?_
  have := h x hx
  rcases x with ⟨(_ | _) | _ | _, _ | _ | (_ | _)⟩ <;> simp_all [EntryGood, StepKindOK]

theorem mainGood_of_wf (fs : Fs) (h : WF fs) : MainGood fs := by
  intro x hx
  have := h.recs x hx
  rcases x with ⟨(_ | _) | _ | _, _ | _ | (_ | _)⟩ <;> simp_all [RecOK, EntryGood, StepKindOK]

theorem mainGood_not_garbled (fs : Fs) (h : MainGood fs) (r : RPath) : seenOf (fs.get (.main r)) ≠ .garbled := by
  cases hg : fs.get (.main r) with
  | none => exact nofun
  | some c =>
    have := h _ (get_some_mem hg)
    rcases r with _ | _ <;> rcases c with _ | _ | (_ | _) <;> simp_all [EntryGood, StepKindOK, seenOf]

theorem mainGood_applyStep (fs : Fs) (s : Step) (h : MainGood fs) (hs : StepKindOK s) :
    MainGood (applyStep fs s) := fun x hx =>
  (mem_applyStep hx).elim (h x) fun ⟨_, _, es, ex⟩ => by subst es ex; exact hs

theorem mainGood_crash (fs : Fs) (hwf : WF fs) (c : Cmd) (k : Nat) : MainGood (crashAt { atomic := true } fs c k) := by
  have h : Always applyStep MainGood fs (steps fs c) :=
    Always.inv (mainGood_of_wf fs hwf) fun x s hs hx => mainGood_applyStep x s hx ((writes_steps fs c).kinds s hs)
  -- a leftover temporary file is not a record
  exact h.expand (fun _ _ _ hs x hx => (List.mem_append.mp hx).elim (hs x) fun h1 => List.mem_singleton.mp h1 ▸ trivial)
    hwf.noTmp k

end EupsModel.FsEff
