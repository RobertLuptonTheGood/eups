import EupsModel.Lemmas.SetupResolve
/-! The recursion `setup` / `install` / `acts` taken apart once: one line of a table (`acts_cons_nondep`; a dependency line
that is followed: `acts_dep_ok`, `acts_dep_failed`), induction over a table as `acts` runs it, a table under `-j`
(`acts_noRec`), the cases of `install`, one level of `setup` in each direction.  What rests on this file need not unfold
the three functions again; a proof that knows which version is set up rewrites with `setup_succ_false`.  What holds of
whole runs is not proved from here but through `Lemmas/SetupRun.lean`. -/
namespace EupsModel.Setup

def Res.st? : Res → Option St
  | .ok s | .notFound s | .raised s => some s
  | .fuel => none

theorem Res.st?_of_fail {r : Res} {s : St} (h : r = .notFound s ∨ r = .raised s) : r.st? = some s := by
  rcases h with rfl | rfl <;> rfl

/-- the VRO a dependency line is resolved with (`Action.processArgs`); the statements of C02 call it `C02.lineVro` -/
abbrev depVro (vro : List VroEnt) (tags : List Str) (keepLine : Bool) : List VroEnt :=
  if VroEnt.keep ∈ vro ∨ keepLine = true then VroEnt.keep :: (tags.map VroEnt.tag ++ vro) else tags.map VroEnt.tag ++ vro

/-- the state a table goes on from after the dependency attempted from `s` failed in `s1` (`popStack("env")`) -/
abbrev St.restored (s s1 : St) : St := ⟨s.env, s.aliases, s.unaliased, s1.already, s1.cache⟩

/-- the state `unwind` starts the table from -/
abbrev St.unrecorded (s : St) (d : Decl) : St :=
  { s with env := { s.env with dirs := aunset s.env.dirs d.name, recs := aunset s.env.recs d.name } }

section
variable {rec : Rec} {cfg : Cfg} {fwd : Bool} {depth : Nat} {noRec : Bool} {vro : List VroEnt} {d : Decl} {n : Name}
  {o j : Bool} {v : Option VerReq} {x : Option VExpr} {t : List Str} {kl : Bool} {rest : List Act} {s s1 : St}

theorem acts_cons_nondep {a : Act} (ha : ∀ n o j v x t kl, a ≠ .dep n o j v x t kl) :
    acts rec cfg fwd depth noRec vro d (a :: rest) s = acts rec cfg fwd depth noRec vro d rest (a.apply fwd d.prod s) := by
  cases a with
  | dep n o j v x t kl => exact absurd rfl (ha n o j v x t kl)
  | prepend _ _ _ => simp only [acts]
  | set _ _ => simp only [acts]
  | alias _ _ => simp only [acts]

variable (hgo : (noRec || decide (cfg.maxDepth = some depth)) = false)
include hgo

theorem acts_dep_ok
    (h : rec fwd (depth + 1) j (depVro vro t kl) n (if fwd then v else none) (if fwd then x else none) s = .ok s1) :
    acts rec cfg fwd depth noRec vro d (.dep n o j v x t kl :: rest) s = acts rec cfg fwd depth noRec vro d rest s1 := by
  simp only [acts, hgo, h]; rfl

theorem acts_dep_failed
    (h : rec fwd (depth + 1) j (depVro vro t kl) n (if fwd then v else none) (if fwd then x else none) s = .notFound s1 ∨
      rec fwd (depth + 1) j (depVro vro t kl) n (if fwd then v else none) (if fwd then x else none) s = .raised s1) :
    acts rec cfg fwd depth noRec vro d (.dep n o j v x t kl :: rest) s =
      if fwd && !o then .raised (s.restored s1) else acts rec cfg fwd depth noRec vro d rest (s.restored s1) := by
  rcases h with h | h <;> simp only [acts, hgo, h] <;> rfl

end

section
variable (rec : Rec) (cfg : Cfg) (fwd : Bool) (depth : Nat) (noRec : Bool) (vro : List VroEnt) (d : Decl)

/-- Only `nondep`, `ok`, `cont` are told that the head line is in `l0`. -/
theorem acts_induct (l0 : List Act) {A : List Act → St → Res → Prop}
    (nil : ∀ s, A [] s (.ok s))
    (nondep : ∀ a rest s, a ∈ l0 → (∀ n o j v x t kl, a ≠ .dep n o j v x t kl) →
      A rest (a.apply fwd d.prod s) (acts rec cfg fwd depth noRec vro d rest (a.apply fwd d.prod s)) →
      A (a :: rest) s (acts rec cfg fwd depth noRec vro d rest (a.apply fwd d.prod s)))
    (skip : ∀ n o j v x t kl rest s, (noRec || decide (cfg.maxDepth = some depth)) = true →
      A rest s (acts rec cfg fwd depth noRec vro d rest s) →
      A (.dep n o j v x t kl :: rest) s (acts rec cfg fwd depth noRec vro d rest s))
    (ok : ∀ n o j v x t kl rest s s1, .dep n o j v x t kl ∈ l0 → (noRec || decide (cfg.maxDepth = some depth)) = false →
      rec fwd (depth + 1) j (depVro vro t kl) n (if fwd then v else none) (if fwd then x else none) s = .ok s1 →
      A rest s1 (acts rec cfg fwd depth noRec vro d rest s1) →
      A (.dep n o j v x t kl :: rest) s (acts rec cfg fwd depth noRec vro d rest s1))
    (fuel : ∀ n o j v x t kl rest s, (noRec || decide (cfg.maxDepth = some depth)) = false →
      rec fwd (depth + 1) j (depVro vro t kl) n (if fwd then v else none) (if fwd then x else none) s = .fuel →
      A (.dep n o j v x t kl :: rest) s .fuel)
    (raise : ∀ n j v x t kl rest s s1, (noRec || decide (cfg.maxDepth = some depth)) = false → fwd = true →
      rec true (depth + 1) j (depVro vro t kl) n v x s = .notFound s1 ∨
        rec true (depth + 1) j (depVro vro t kl) n v x s = .raised s1 →
      A (.dep n false j v x t kl :: rest) s (.raised (s.restored s1)))
    (cont : ∀ n o j v x t kl rest s s1, .dep n o j v x t kl ∈ l0 → (noRec || decide (cfg.maxDepth = some depth)) = false →
      (fwd && !o) = false →
      rec fwd (depth + 1) j (depVro vro t kl) n (if fwd then v else none) (if fwd then x else none) s = .notFound s1 ∨
        rec fwd (depth + 1) j (depVro vro t kl) n (if fwd then v else none) (if fwd then x else none) s = .raised s1 →
      A rest (s.restored s1) (acts rec cfg fwd depth noRec vro d rest (s.restored s1)) →
      A (.dep n o j v x t kl :: rest) s (acts rec cfg fwd depth noRec vro d rest (s.restored s1))) :
    ∀ l, (∀ a ∈ l, a ∈ l0) → ∀ s, A l s (acts rec cfg fwd depth noRec vro d l s) := by
  intro l
  induction l with
  | nil => exact fun _ => nil
  | cons a rest ih =>
    intro hl s
    have hm : a ∈ l0 := hl a List.mem_cons_self
    have ih := ih fun a h => hl a (List.mem_cons_of_mem _ h)
    by_cases hdep : ∃ n o j v x t kl, a = .dep n o j v x t kl
    · obtain ⟨n, o, j, v, x, t, kl, rfl⟩ := hdep
      simp only [acts]
      split
      · exact skip _ _ _ _ _ _ _ _ _ ‹_› (ih s)
      · rename_i hgo
        have hgo := Bool.eq_false_iff.2 hgo
        split
        · exact ok _ _ _ _ _ _ _ _ _ _ hm hgo ‹_› (ih _)
        · exact fuel _ _ _ _ _ _ _ _ _ hgo ‹_›
        · rename_i s1 hr
          split
          · rename_i hc
            simp only [Bool.and_eq_true, Bool.not_eq_true'] at hc
            obtain ⟨rfl, rfl⟩ := hc
            exact raise _ _ _ _ _ _ _ _ _ hgo rfl (Or.inl hr)
          · exact cont _ _ _ _ _ _ _ _ _ _ hm hgo (Bool.eq_false_iff.2 ‹_›) (Or.inl hr) (ih _)
        · rename_i s1 hr
          split
          · rename_i hc
            simp only [Bool.and_eq_true, Bool.not_eq_true'] at hc
            obtain ⟨rfl, rfl⟩ := hc
            exact raise _ _ _ _ _ _ _ _ _ hgo rfl (Or.inr hr)
          · exact cont _ _ _ _ _ _ _ _ _ _ hm hgo (Bool.eq_false_iff.2 ‹_›) (Or.inr hr) (ih _)
    · have hnd : ∀ n o j v x t kl, a ≠ .dep n o j v x t kl := fun n o j v x t kl e => hdep ⟨n, o, j, v, x, t, kl, e⟩
      rw [acts_cons_nondep hnd]
      exact nondep a rest s hm hnd (ih _)
end

/-- with `-j` (`noRecursion`) the table of a product is run without any recursive call -/
theorem acts_noRec (rec : Rec) (cfg : Cfg) (fwd : Bool) (depth : Nat) (vro : List VroEnt) (d : Decl) (as : List Act) (s : St) :
    ∃ s', acts rec cfg fwd depth true vro d as s = .ok s' ∧ (∀ m, s'.env.rec? m = s.env.rec? m) ∧ s'.already = s.already := by
  induction as generalizing s with
  | nil => exact ⟨s, rfl, fun _ => rfl, rfl⟩
  | cons a rest ih =>
    obtain ⟨s', h1, h2, h3⟩ := ih (a.apply fwd d.prod s)
    cases a with
    | dep n o j ver ve t kl => simpa [acts] using ih s
    | _ => exact ⟨s', by simpa [acts] using h1, fun m => by rw [h2, apply_rec?], by rw [h3, apply_already]⟩

/-- `same`: at depth > 0 a version of that name or directory is set up and nothing is done (the rule hands out `0 < depth`
only); `replace`: the set-up version is unwound first and `d` recorded whatever the outcome of that. -/
theorem install_cases (rec : Rec) (cfg : Cfg) (depth : Nat) (noRec : Bool) (vro : List VroEnt) (d : Decl)
    (reason : Option VroEnt) (s : St) {P : Res → Prop}
    (fresh : setupProd cfg.db s.env d.name = none →
      P (acts rec cfg true depth noRec vro d (d.actions cfg.exact) (record d reason s)))
    (same : ∀ sd, setupProd cfg.db s.env d.name = some sd → 0 < depth → P (.ok s))
    (fuel : ∀ sd, setupProd cfg.db s.env d.name = some sd → ¬ (sd.ver.1 = d.ver.1 ∧ 0 < depth) →
      rec false depth noRec vro d.name none none s = .fuel → P .fuel)
    (replace : ∀ sd s1, setupProd cfg.db s.env d.name = some sd → ¬ (sd.ver.1 = d.ver.1 ∧ 0 < depth) →
      (rec false depth noRec vro d.name none none s).st? = some s1 →
      P (acts rec cfg true depth noRec vro d (d.actions cfg.exact) (record d reason s1))) :
    P (install rec cfg depth noRec vro d reason s) := by
  unfold install
  split
  · exact fresh ‹_›
  · rename_i sd hsp
    split
    · rename_i hc
      simp only [Bool.and_eq_true, decide_eq_true_eq] at hc
      exact same sd hsp hc.2
    · rename_i hc
      have hne : ¬ (sd.ver.1 = d.ver.1 ∧ 0 < depth) := fun ⟨hv, hd⟩ => hc (by simp [hv, hd])
      split
      · exact fuel sd hsp hne ‹_›
      · rename_i s1 hr; exact replace sd s1 hsp hne (by rw [hr]; rfl)
      · rename_i s1 hr; exact replace sd s1 hsp hne (by rw [hr]; rfl)
      · rename_i s1 hr; exact replace sd s1 hsp hne (by rw [hr]; rfl)

theorem setup_zero (cfg : Cfg) (fwd : Bool) (depth : Nat) (noRec : Bool) (vro : List VroEnt) (name : Name)
    (version : Option VerReq) (vexpr : Option VExpr) (s : St) :
    setup cfg 0 fwd depth noRec vro name version vexpr s = .fuel := rfl

theorem setup_succ_false (cfg : Cfg) (fuel : Nat) (depth : Nat) (noRec : Bool) (vro : List VroEnt) (name : Name)
    (version : Option VerReq) (vexpr : Option VExpr) (s : St) :
    setup cfg (fuel + 1) false depth noRec vro name version vexpr s =
      match setupProd cfg.db s.env name with
      | none => .notFound s
      | some d => acts (setup cfg fuel) cfg false depth noRec vro d (d.actions cfg.exact) (s.unrecorded d) := by
  cases h : setupProd cfg.db s.env name <;> simp [setup, unwind, h]

theorem setup_succ_true (cfg : Cfg) (fuel : Nat) (depth : Nat) (noRec : Bool) (vro : List VroEnt) (name : Name)
    (version : Option VerReq) (vexpr : Option VExpr) (s : St) :
    setup cfg (fuel + 1) true depth noRec vro name version vexpr s =
      match resolve cfg.db cfg.path cfg.keep s.already name version vexpr depth vro.length vro with
      | .none => .notFound s
      | .error => .raised s
      | .found d reason => install (setup cfg fuel) cfg depth noRec vro (pickDecl cfg.db s.cache d) reason
          (register cfg depth (pickDecl cfg.db s.cache d) reason (s.afterResolve cfg depth vro name version vexpr)) := by
  cases h : resolve cfg.db cfg.path cfg.keep s.already name version vexpr depth vro.length vro <;> simp [setup, h]

theorem run_eq (db : Db) (fuel : Nat) (fwd : Bool) (r : Request) (e : Env) :
    (if fwd then runSetup db fuel r e else runUnsetup db fuel r e) =
      setup (r.cfg db) fuel fwd 0 false r.vro r.name (if fwd then r.version else none) none (St.init e) := by
  cases fwd <;> rfl

@[simp] theorem afterResolve_env (s : St) (cfg : Cfg) (depth : Nat) (vro : List VroEnt) (n : Name) (ver : Option VerReq)
    (vexpr : Option VExpr) : (s.afterResolve cfg depth vro n ver vexpr).env = s.env := rfl
@[simp] theorem afterResolve_already (s : St) (cfg : Cfg) (depth : Nat) (vro : List VroEnt) (n : Name)
    (ver : Option VerReq) (vexpr : Option VExpr) : (s.afterResolve cfg depth vro n ver vexpr).already = s.already := rfl

theorem register_env (cfg : Cfg) (depth : Nat) (d : Decl) (r : Option VroEnt) (s : St) :
    (register cfg depth d r s).env = s.env := by
  unfold register; split <;> rfl

theorem register_aliases (cfg : Cfg) (depth : Nat) (d : Decl) (r : Option VroEnt) (s : St) :
    (register cfg depth d r s).aliases = s.aliases ∧ (register cfg depth d r s).unaliased = s.unaliased := by
  unfold register; split <;> exact ⟨rfl, rfl⟩

theorem register_already (cfg : Cfg) (depth : Nat) (d : Decl) (r : Option VroEnt) (s : St)
    (ha : AlreadyOK cfg.db s.already) (hc : Canon cfg.db d) : AlreadyOK cfg.db (register cfg depth d r s).already := by
  unfold register; split
  · exact alreadyOK_aset cfg.db _ (alreadyOfEnv_ok cfg.db s.env) d r hc
  · exact ha

/-- resolution from `s` chose `d` for `reason`, and `install` is entered with `s0` -/
structure Chosen (cfg : Cfg) (k : Nat) (vro : List VroEnt) (n : Name) (ver : Option VerReq) (vexpr : Option VExpr)
    (s : St) (d : Decl) (reason : Option VroEnt) (s0 : St) : Prop where
  found : ∃ d0, resolve cfg.db cfg.path cfg.keep s.already n ver vexpr k vro.length vro = .found d0 reason ∧
    d = pickDecl cfg.db s.cache d0
  canon : Canon cfg.db d
  name : d.name = n
  entered : s0 = register cfg k d reason (s.afterResolve cfg k vro n ver vexpr)
  already : AlreadyOK cfg.db s0.already

section
variable {cfg : Cfg} {k : Nat} {vro : List VroEnt} {n : Name} {ver : Option VerReq} {vexpr : Option VExpr} {s : St} {d : Decl}
  {reason : Option VroEnt} {s0 : St} (h : Chosen cfg k vro n ver vexpr s d reason s0)
include h

theorem Chosen.env : s0.env = s.env := by
  rw [h.entered]; exact register_env ..

theorem Chosen.aliases : s0.aliases = s.aliases ∧ s0.unaliased = s.unaliased := by
  rw [h.entered]; exact register_aliases ..

theorem Chosen.below (hk : 0 < k) : s0 = s.afterResolve cfg k vro n ver vexpr := by
  rw [h.entered]; exact if_neg (by omega)

end

theorem setup_true_cases0 (cfg : Cfg) (fuel : Nat) (depth : Nat) (noRec : Bool) (vro : List VroEnt) (n : Name)
    (ver : Option VerReq) (vexpr : Option VExpr) (s : St) {P : Res → Prop}
    (notFound : P (.notFound s)) (raised : P (.raised s))
    (found : ∀ d0 reason, resolve cfg.db cfg.path cfg.keep s.already n ver vexpr depth vro.length vro = .found d0 reason →
      P (install (setup cfg fuel) cfg depth noRec vro (pickDecl cfg.db s.cache d0) reason
        (register cfg depth (pickDecl cfg.db s.cache d0) reason (s.afterResolve cfg depth vro n ver vexpr)))) :
    P (setup cfg (fuel + 1) true depth noRec vro n ver vexpr s) := by
  rw [setup_succ_true]
  cases hres : resolve cfg.db cfg.path cfg.keep s.already n ver vexpr depth vro.length vro with
  | none => exact notFound
  | error => exact raised
  | found d reason => exact found d reason hres

theorem setup_true_cases (cfg : Cfg) (fuel : Nat) (depth : Nat) (noRec : Bool) (vro : List VroEnt) (n : Name)
    (ver : Option VerReq) (vexpr : Option VExpr) (s : St) (ha : AlreadyOK cfg.db s.already) {P : Res → Prop}
    (notFound : P (.notFound s)) (raised : P (.raised s))
    (found : ∀ d reason s0, Chosen cfg depth vro n ver vexpr s d reason s0 →
      P (install (setup cfg fuel) cfg depth noRec vro d reason s0)) :
    P (setup cfg (fuel + 1) true depth noRec vro n ver vexpr s) := by
  refine setup_true_cases0 cfg fuel depth noRec vro n ver vexpr s notFound raised fun d reason hres => ?_
  obtain ⟨hc, hname⟩ := resolve_spec cfg.db cfg.path cfg.keep s.already ha n ver vexpr depth _ _ _ _ hres
  obtain ⟨hc, hname⟩ := pickDecl_spec cfg.db s.cache d _ hc hname
  exact found _ reason _ ⟨⟨d, hres, rfl⟩, hc, hname, rfl, register_already cfg depth _ reason _ ha hc⟩

theorem setup_false_cases (cfg : Cfg) (fuel : Nat) (depth : Nat) (noRec : Bool) (vro : List VroEnt) (n : Name)
    (ver : Option VerReq) (vexpr : Option VExpr) (s : St) {P : Res → Prop}
    (notFound : setupProd cfg.db s.env n = none → P (.notFound s))
    (unwind : ∀ d, setupProd cfg.db s.env n = some d → Canon cfg.db d → d.name = n → s.env.rec? n = some d.ver →
      P (acts (setup cfg fuel) cfg false depth noRec vro d (d.actions cfg.exact) (s.unrecorded d))) :
    P (setup cfg (fuel + 1) false depth noRec vro n ver vexpr s) := by
  rw [setup_succ_false]
  cases hsp : setupProd cfg.db s.env n with
  | none => exact notFound hsp
  | some d =>
    obtain ⟨hc, hname, hr⟩ := setupProd_some cfg.db s.env n d hsp
    exact unwind d hsp hc hname hr

end EupsModel.Setup
