import EupsModel.Lemmas.ExpandCollect
import EupsModel.Lemmas.SetupCases
/-! Bridge between C17 (`Model/Expand.lean`) and the model of `Eups.setup` (`Model/Setup.lean`, property C01): the action
loop of `Eups.setup`, run in exact mode on the actions of the pin lines of an expanded table, does what `runPins` says
(the Setup half of the hypothesis `ExactSetupHyps.pin_sets_exactly` of `Props/C17.lean`); for the pins of a collected
closure that is: it leaves the build-time records (`acts_pinKeys`). -/
namespace EupsModel.Expand
open EupsModel.Setup

/-- the VRO of `setup <product> <version>` (exact: `selectVRO(versionName=…)` with the default VRO dictionary) -/
def exactVro : List VroEnt := [.typeExact, .commandLine, .version, .versionExpr, .tag tagCurrent]

theorem exactVro_eq : exactVro = selectVRO false false [] := by decide

/-- the action of a pin line `setupX(n -j v)`: dependency on `n`, `-j`, explicit version `v`, no `[expr]`, no `-t` -/
def pinAct (p : Bool × Str × Str) : Act := .dep p.2.1 p.1 true (some (.explicit p.2.2)) none [] false

/-- "declared" for the Setup database: some stack on the request's `EUPS_PATH` declares the version -/
def declaredS (cfg : Setup.Cfg) (n v : Str) : Bool := (cfg.db.findVer cfg.path n v).isSome

/-- the version names of the `SETUP_<P>` records (C17 does not look at the stack of a record) -/
def recNames (e : Setup.Env) : Recs := fun m => (e.rec? m).map (·.1)

theorem resolve_pin_declared (db : Setup.Db) (path : List Nat) (keep : Bool) (al : Already) (n v : Str) (d : Decl)
    (hal : aget al n = none) (hd : db.findVer path n v = some d) :
    resolve db path keep al n (some (.explicit v)) none 1 exactVro.length exactVro = .found d (some .version) := by
  simp [exactVro, resolve, find, walk, hal, hd]

theorem resolve_pin_undeclared (db : Setup.Db) (path : List Nat) (keep : Bool) (al : Already) (n v : Str)
    (hal : aget al n = none) (hd : db.findVer path n v = none) :
    resolve db path keep al n (some (.explicit v)) none 1 exactVro.length exactVro = .none := by
  simp [exactVro, resolve, find, walk, hal, hd, VroEnt.isVersionType]

/-- `Eups.setup(n, v, noRecursion=True)` at depth 1 in exact mode, `n` not set up and not in `alreadySetupProducts` -/
theorem setup_pin (cfg : Cfg) (fuel : Nat) (n v : Str) (s : St)
    (hal : aget s.already n = none) (hrec : s.env.rec? n = none) :
    (∀ d, cfg.db.findVer cfg.path n v = some d →
      ∃ s', setup cfg (fuel + 1) true 1 true exactVro n (some (.explicit v)) none s = .ok s' ∧
        (∃ k, ∀ m, s'.env.rec? m = aget (aset s.env.recs n (v, k)) m) ∧ ∃ x, s'.already = aset s.already n x) ∧
    (cfg.db.findVer cfg.path n v = none →
      setup cfg (fuel + 1) true 1 true exactVro n (some (.explicit v)) none s = .notFound s) := by
  constructor
  · intro d0 hd
    obtain ⟨hc0, hn0, hv0⟩ := findVer_named cfg.db cfg.path n v d0 hd
    let sa := s.afterResolve cfg 1 exactVro n (some (.explicit v)) none
    let d := pickDecl cfg.db s.cache d0
    have hn : d.name = n := (pickDecl_spec cfg.db s.cache d0 n hc0 hn0).2
    have hv : d.ver.1 = v := by rw [← hv0]; exact pickDecl_ver cfg.db s.cache d0
    have hsp : setupProd cfg.db sa.env d.name = none := by
      show setupProd cfg.db s.env d.name = none
      simp [setupProd, hn, hrec]
    obtain ⟨s', h1, h2, h3⟩ := acts_noRec (setup cfg fuel) cfg true 1 exactVro d (d.actions cfg.exact) (record d (some .version) sa)
    refine ⟨s', ?_, ⟨d.ver.2, fun m => ?_⟩, ?_⟩
    · rw [setup_succ_true, resolve_pin_declared cfg.db cfg.path cfg.keep s.already n v d0 hal hd]
      show install (setup cfg fuel) cfg 1 true exactVro d (some .version) (register cfg 1 d (some .version) sa) = _
      simp [install, register, hsp, h1]
    · rw [h2]
      show aget (aset s.env.recs d.name d.ver) m = _
      rw [hn, ← hv]
    · exact ⟨(d, some VroEnt.version), by rw [h3]; show aset s.already d.name _ = _; rw [hn]⟩
  · intro hd
    rw [setup_succ_true, resolve_pin_undeclared cfg.db cfg.path cfg.keep s.already n v hal hd]

theorem acts_pins (cfg : Cfg) (hm : cfg.maxDepth = none) (fuel : Nat) (top : Decl)
    (pins : List (Bool × Str × Str)) (s : St)
    (hnodup : (pins.map (·.2.1)).Nodup)
    (hfresh : ∀ p ∈ pins, aget s.already p.2.1 = none ∧ s.env.rec? p.2.1 = none) :
    (∀ r, runPins declaredS cfg pins (recNames s.env) = some r →
      ∃ s', acts (setup cfg (fuel + 1)) cfg true 0 false exactVro top (pins.map pinAct) s = .ok s' ∧ ∀ m, recNames s'.env m = r m) ∧
    (runPins declaredS cfg pins (recNames s.env) = none →
      ∃ s', acts (setup cfg (fuel + 1)) cfg true 0 false exactVro top (pins.map pinAct) s = .raised s') := by
  induction pins generalizing s with
  | nil =>
    constructor
    · intro r hr; simp [runPins] at hr; subst hr; exact ⟨s, rfl, fun _ => rfl⟩
    · intro hr; simp [runPins] at hr
  | cons p rest ih =>
    obtain ⟨opt, n, v⟩ := p
    obtain ⟨hal, hrec⟩ := hfresh (opt, n, v) (by simp)
    simp only [List.map_cons, List.nodup_cons] at hnodup
    obtain ⟨hnot, hnd⟩ := hnodup
    obtain ⟨hdecl, hundecl⟩ := setup_pin cfg fuel n v s hal hrec
    have hgo : (false || decide (cfg.maxDepth = some 0)) = false := by simp [hm]
    have hvro : depVro exactVro [] false = exactVro := by decide
    cases hl : cfg.db.findVer cfg.path n v with
    | some d =>
      obtain ⟨s1, hs1, ⟨k, hrecs⟩, x, halr⟩ := hdecl d hl
      have hfresh1 : ∀ p ∈ rest, aget s1.already p.2.1 = none ∧ s1.env.rec? p.2.1 = none := by
        intro p hp
        have hne : p.2.1 ≠ n := fun e => hnot (by rw [← e]; exact List.mem_map_of_mem (f := fun q : Bool × Str × Str => q.2.1) hp)
        obtain ⟨h1, h2⟩ := hfresh p (by simp [hp])
        exact ⟨by rw [halr, aget_aset_other _ _ _ _ hne]; exact h1,
               by rw [hrecs, aget_aset_other _ _ _ _ hne]; exact h2⟩
      have hrn : recNames s1.env = Recs.set (recNames s.env) n v := by
        funext m
        simp only [recNames, hrecs, Recs.set]
        by_cases hmn : m = n
        · subst hmn; simp [aget_aset_same]
        · simp [hmn, aget_aset_other _ _ _ _ hmn, Env.rec?]
      -- the head is set up, and `runPins` records it: both sides go on with the rest from `s1`
      rw [List.map_cons, pinAct, acts_dep_ok hgo (hvro ▸ hs1)]
      simpa [runPins, declaredS, hl, hrn] using ih s1 hnd hfresh1
    | none =>
      have hs1 := hundecl hl
      cases opt with
      | true =>
        -- an optional pin that is not declared is skipped by both
        rw [List.map_cons, pinAct, acts_dep_failed hgo (.inl (hvro ▸ hs1))]
        simpa [runPins, declaredS, hl] using ih s hnd (fun p hp => hfresh p (by simp [hp]))
      | false =>
        -- a required one fails both
        exact ⟨fun r hr => by simp [runPins, declaredS, hl] at hr,
          fun _ => ⟨s, by rw [List.map_cons, pinAct, acts_dep_failed hgo (.inl (hvro ▸ hs1))]; rfl⟩⟩

theorem acts_pinKeys (cfg : Cfg) (hm : cfg.maxDepth = none) (fuel : Nat) (top : Decl) (s : St)
    {A : Answers} {o : Opts} {st : RState} {c : CState} (hc : collect A o st = .ok c) (hsound : DepsSound A)
    (hpins : ∀ n v, A.pin n = some v → A.sv n = some v) (hcov : Covered A o st)
    (hdecl : ∀ n v, A.sv n = some v → declaredS cfg n v = true)
    (hclean : ∀ n, o.toplevel ≠ some n → aget s.already n = none ∧ s.env.rec? n = none)
    (htop : ∀ p ∈ c.pinKeys, o.toplevel ≠ some p.2.1) :
    ∃ s', acts (setup cfg (fuel + 1)) cfg true 0 false exactVro top (c.pinKeys.map pinAct) s = .ok s' ∧
      ∀ n, o.toplevel ≠ some n → recNames s'.env n = A.sv n := by
  obtain ⟨r, hrun, hrep⟩ := runPins_reproduces declaredS cfg hc hsound hpins hcov hdecl (recNames s.env)
  obtain ⟨s', hs', hrecs⟩ := (acts_pins cfg hm fuel top c.pinKeys s
    (pinKeys_names_nodup (collect_nodup hc) (desired_recorded hc hsound hpins)) fun p hp => hclean _ (htop p hp)).1 r hrun
  refine ⟨s', hs', fun n hne => ?_⟩
  rw [hrecs, hrep n hne]
  simp only [recNames, (hclean n hne).2, Option.map_none]
  cases A.sv n <;> rfl

end EupsModel.Expand
