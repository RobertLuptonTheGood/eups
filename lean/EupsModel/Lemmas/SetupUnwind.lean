import EupsModel.Lemmas.SetupRun
/-! The unsetup direction, as rule sets of `Lemmas/SetupRun.lean`: it only removes (`unSub_rules`, nothing assumed), and —
C01 clause (c) — unwinding a product preserves `NoResidue X` for any set `X` of products in flux and removes every element
the product owns (`unSpec_rules`). -/
namespace EupsModel.Setup

def tableOf (cfg : Cfg) (p : Prod) : List Act :=
  match cfg.db.lookup p with
  | some d => d.actions cfg.exact
  | none => []

theorem tableOf_canon (cfg : Cfg) (d : Decl) (h : Canon cfg.db d) : tableOf cfg d.prod = d.actions cfg.exact := by
  unfold tableOf; unfold Canon at h; rw [h]

theorem mem_tableOf {cfg : Cfg} {d : Decl} (hc : Canon cfg.db d) {a : Act} (hm : a ∈ d.actions cfg.exact) :
    a ∈ tableOf cfg d.prod := by
  rw [tableOf_canon cfg d hc]; exact hm

/-- every own element / value comes from a line of its product's table; `<P>_DIR` values are filed under `P` -/
structure WellOwned (cfg : Cfg) (e : Env) : Prop where
  path : ∀ var p rel, Elem.own p rel ∈ e.pathOf var →
    ∃ vals app, Act.prepend var vals app ∈ tableOf cfg p ∧ Val.own rel ∈ vals
  vars : ∀ var p rel, aget e.vars var = some (.own p rel) → Act.set var (.own rel) ∈ tableOf cfg p
  dirs : ∀ n p rel, aget e.dirs n = some (.own p rel) → p.1 = n

/-- clause (c): every own element / value / directory variable belongs to the recorded version of its product,
except for the products in `X` (those currently being unwound) -/
structure NoResidue (X : Prod → Prop) (e : Env) : Prop where
  path : ∀ var p rel, Elem.own p rel ∈ e.pathOf var → X p ∨ e.rec? p.1 = some p.2
  vars : ∀ var p rel, aget e.vars var = some (.own p rel) → X p ∨ e.rec? p.1 = some p.2
  dirs : ∀ n p rel, aget e.dirs n = some (.own p rel) → X p ∨ e.rec? p.1 = some p.2

structure Sub (e' e : Env) : Prop where
  path : ∀ var x, x ∈ e'.pathOf var → x ∈ e.pathOf var
  vars : ∀ var x, aget e'.vars var = some x → aget e.vars var = some x
  dirs : ∀ n x, aget e'.dirs n = some x → aget e.dirs n = some x
  recs : ∀ n v, e'.rec? n = some v → e.rec? n = some v

theorem Sub.refl (e : Env) : Sub e e := ⟨fun _ _ h => h, fun _ _ h => h, fun _ _ h => h, fun _ _ h => h⟩

theorem Sub.trans {a b c : Env} (h1 : Sub a b) (h2 : Sub b c) : Sub a c :=
  ⟨fun v x h => h2.path v x (h1.path v x h), fun v x h => h2.vars v x (h1.vars v x h),
   fun n x h => h2.dirs n x (h1.dirs n x h), fun n v h => h2.recs n v (h1.recs n v h)⟩

theorem Sub.unrecorded (s : St) (d : Decl) : Sub (s.unrecorded d).env s.env :=
  ⟨fun _ _ h => h, fun _ _ h => h, fun _ _ h => (aget_aunset_some _ _ _ _ h).1, fun _ _ h => (aget_aunset_some _ _ _ _ h).1⟩

theorem Sub.rec_none {e' e : Env} (hs : Sub e' e) (n : Name) (h : e.rec? n = none) : e'.rec? n = none := by
  cases hc : e'.rec? n with
  | none => rfl
  | some v => rw [hs.recs n v hc] at h; cases h

theorem Sub.var_none {e' e : Env} (hs : Sub e' e) (var : Str) (h : aget e.vars var = none) : aget e'.vars var = none := by
  cases hc : aget e'.vars var with
  | none => rfl
  | some x => rw [hs.vars var x hc] at h; cases h

theorem WellOwned.of_sub {cfg : Cfg} {e' e : Env} (h : WellOwned cfg e) (hs : Sub e' e) : WellOwned cfg e' :=
  ⟨fun v p r hm => h.path v p r (hs.path v _ hm), fun v p r hm => h.vars v p r (hs.vars v _ hm),
   fun n p r hm => h.dirs n p r (hs.dirs n _ hm)⟩

theorem NoResidue.of_sub {X : Prod → Prop} {e' e : Env} (h : NoResidue X e) (hs : Sub e' e)
    (hr : ∀ n, e'.rec? n = e.rec? n) : NoResidue X e' :=
  ⟨fun v p r hm => by rw [hr]; exact h.path v p r (hs.path v _ hm),
   fun v p r hm => by rw [hr]; exact h.vars v p r (hs.vars v _ hm),
   fun n p r hm => by rw [hr]; exact h.dirs n p r (hs.dirs n _ hm)⟩

theorem apply_false_spec (p : Prod) (a : Act) (s : St) :
    Sub (a.apply false p s).env s.env ∧ (∀ n, (a.apply false p s).env.rec? n = s.env.rec? n) ∧
    (∀ var vals app, a = .prepend var vals app → ∀ val ∈ vals, val.elem p ∉ (a.apply false p s).env.pathOf var) ∧
    (∀ var val, a = .set var val → aget (a.apply false p s).env.vars var = none) := by
  cases a with
  | prepend var vals app =>
    refine ⟨⟨?_, fun _ _ h => h, fun _ _ h => h, fun _ _ h => h⟩, fun _ => rfl, ?_, ?_⟩
    · intro var2 x hx
      exact ((mem_pathOf_removePath s.env var var2 (vals.map (Val.elem p)) x).1 hx).1
    · intro var' vals' app' he val hval hm
      cases he
      exact ((mem_pathOf_removePath s.env var var (vals.map (Val.elem p)) _).1 hm).2 rfl (List.mem_map.2 ⟨val, hval, rfl⟩)
    · intro var' val' he; cases he
  | set var val =>
    refine ⟨⟨fun _ _ h => h, ?_, fun _ _ h => h, fun _ _ h => h⟩, fun _ => rfl, ?_, ?_⟩
    · intro var2 x hx
      exact (aget_aunset_some s.env.vars var var2 x hx).1
    · intro var' val' app' he; cases he
    · intro var' val' he; cases he
      exact aget_aunset_same s.env.vars var
  | alias key val =>
    refine ⟨Sub.refl _, fun _ => rfl, ?_, ?_⟩
    · intro _ _ _ he; cases he
    · intro _ _ he; cases he
  | dep n o j v x t kl =>
    refine ⟨Sub.refl _, fun _ => rfl, ?_, ?_⟩
    · intro _ _ _ he; cases he
    · intro _ _ he; cases he

theorem unSub_rules (cfg : Cfg) :
    UnRules cfg (fun _ _ _ s s' => s'.already = s.already ∧ Sub s'.env s.env)
      (fun _ _ _ _ s s' => s'.already = s.already ∧ Sub s'.env s.env) where
  nil := ⟨rfl, Sub.refl _⟩
  line := fun d a s _ _ _ ih => ih.imp (·.trans (apply_already ..)) (·.trans (apply_false_spec d.prod a s).1)
  skip := fun _ ih => ih
  absent := fun _ ih => ih
  ok := fun _ _ _ _ hq ih => ih.imp (·.trans hq.1) (·.trans hq.2)
  unwind := fun d s _ _ _ ih => ih.imp_right (·.trans (Sub.unrecorded s d))

theorem setup_false_sub (cfg : Cfg) {fuel depth : Nat} {noRec : Bool} {vro : List VroEnt} {n : Name} {ver : Option VerReq}
    {vexpr : Option VExpr} {s s' : St} (h : setup cfg fuel false depth noRec vro n ver vexpr s = .ok s') :
    s'.already = s.already ∧ Sub s'.env s.env :=
  (unSub_rules cfg).run fuel h

def UnSpec (cfg : Cfg) (rec : Rec) : Prop :=
  ∀ (X : Prod → Prop) depth noRec vro n ver vexpr s s', WellOwned cfg s.env → NoResidue X s.env →
    rec false depth noRec vro n ver vexpr s = .ok s' → NoResidue X s'.env ∧ Sub s'.env s.env

/-- what unwinding the lines `l` of `d` from `s` to `s'` guarantees, for any in-flux set -/
def UnPost (cfg : Cfg) (d : Decl) (l : List Act) (s s' : St) : Prop :=
  ∀ X : Prod → Prop, WellOwned cfg s.env → NoResidue X s.env →
    NoResidue X s'.env ∧ Sub s'.env s.env ∧
    (∀ var vals app, Act.prepend var vals app ∈ l → ∀ val ∈ vals, val.elem d.prod ∉ s'.env.pathOf var) ∧
    (∀ var val, Act.set var val ∈ l → aget s'.env.vars var = none)

theorem UnPost.dep {cfg : Cfg} {d : Decl} {rest : List Act} {s s1 s' : St} {n : Name} {o j : Bool}
    {v : Option VerReq} {x : Option VExpr} {t : List Str} {kl : Bool}
    (hstep : ∀ X, WellOwned cfg s.env → NoResidue X s.env → NoResidue X s1.env ∧ Sub s1.env s.env)
    (ih : UnPost cfg d rest s1 s') : UnPost cfg d (.dep n o j v x t kl :: rest) s s' := by
  intro X hw hn
  obtain ⟨hn1, hs1⟩ := hstep X hw hn
  obtain ⟨hn2, hs2, hp2, hv2⟩ := ih X (hw.of_sub hs1) hn1
  exact ⟨hn2, hs2.trans hs1, fun var vals app hm => hp2 var vals app (by simpa using hm),
    fun var val hm => hv2 var val (by simpa using hm)⟩

theorem unSpec_rules (cfg : Cfg) :
    UnRules cfg (fun _ _ _ s s' => ∀ X : Prod → Prop, WellOwned cfg s.env → NoResidue X s.env →
        NoResidue X s'.env ∧ Sub s'.env s.env)
      (fun _ _ d l s s' => UnPost cfg d l s s') where
  nil := fun X _ hn =>
    ⟨hn, Sub.refl _, fun _ _ _ hm => absurd hm List.not_mem_nil, fun _ _ hm => absurd hm List.not_mem_nil⟩
  line := fun d a s _ _ _ ih X hw hn => by
    obtain ⟨hs1, hr1, hp1, hv1⟩ := apply_false_spec d.prod a s
    obtain ⟨hn2, hs2, hp2, hv2⟩ := ih X (hw.of_sub hs1) (hn.of_sub hs1 hr1)
    refine ⟨hn2, hs2.trans hs1, ?_, ?_⟩
    · intro var vals app hm val hval
      rcases List.mem_cons.1 hm with hm | hm
      · exact fun hx => hp1 var vals app hm.symm val hval (hs2.path var _ hx)
      · exact hp2 var vals app hm val hval
    · intro var val hm
      rcases List.mem_cons.1 hm with hm | hm
      · exact hs2.var_none var (hv1 var val hm.symm)
      · exact hv2 var val hm
  skip := fun _ ih => ih.dep fun _ _ hn => ⟨hn, Sub.refl _⟩
  absent := fun _ ih => ih.dep fun _ _ hn => ⟨hn, Sub.refl _⟩
  ok := fun _ _ _ _ hq ih => ih.dep hq
  unwind := fun d s hc hname hrec ih X hw hn => by
    have hs0 : Sub (s.unrecorded d).env s.env := Sub.unrecorded s d
    -- while `d` is unwound its own elements are in flux
    let X' : Prod → Prop := fun p => X p ∨ p = d.prod
    have key : ∀ p : Prod, (X p ∨ s.env.rec? p.1 = some p.2) → X' p ∨ (s.unrecorded d).env.rec? p.1 = some p.2 := by
      intro p hp
      rcases hp with hp | hp
      · exact Or.inl (Or.inl hp)
      · by_cases hpn : p.1 = d.name
        · left; right
          rw [hpn, hname, hrec] at hp
          have : d.ver = p.2 := Option.some.inj hp
          unfold Decl.prod; rw [← hpn, this]
        · exact Or.inr ((unrec_rec?_other s.env d.name p.1 hpn).trans hp)
    have hn0 : NoResidue X' (s.unrecorded d).env :=
      ⟨fun v p r hm => key p (hn.path v p r hm), fun v p r hm => key p (hn.vars v p r hm),
       fun n p r hm => key p (hn.dirs n p r (hs0.dirs n _ hm))⟩
    obtain ⟨hn1, hs1, hp1, hv1⟩ := ih X' (hw.of_sub hs0) hn0
    have hw1 := hw.of_sub (hs1.trans hs0)
    have htab := tableOf_canon cfg d hc
    -- what the table leaves belongs to `X'` or to a record, and nothing of `d.prod` itself is left
    have drop : ∀ p {R : Prop}, X' p ∨ R → p ≠ d.prod → X p ∨ R :=
      fun p _ h hne => h.elim (fun h => h.elim Or.inl fun e => absurd e hne) Or.inr
    refine ⟨⟨fun var p rel hm => drop p (hn1.path var p rel hm) ?_, fun var p rel hm => drop p (hn1.vars var p rel hm) ?_,
      fun n' p rel hm => drop p (hn1.dirs n' p rel hm) ?_⟩, hs1.trans hs0⟩
    · rintro rfl
      obtain ⟨vals, app, hline, hval⟩ := hw1.path var _ rel hm
      rw [htab] at hline
      exact hp1 var vals app hline (.own rel) hval hm
    · rintro rfl
      have hline := hw1.vars var _ rel hm
      rw [htab] at hline
      rw [hv1 var (.own rel) hline] at hm; cases hm
    · rintro rfl
      have hkey : d.name = n' := hw1.dirs n' _ rel hm
      subst hkey
      have : aget (aunset s.env.dirs d.name) d.name = some (Elem.own d.prod rel) := hs1.dirs _ _ hm
      rw [aget_aunset_same] at this; cases this

/-- C01 clause (c), unsetup direction -/
theorem setup_false_spec (cfg : Cfg) (X : Prod → Prop) {fuel depth : Nat} {noRec : Bool} {vro : List VroEnt} {n : Name}
    {ver : Option VerReq} {vexpr : Option VExpr} {s s' : St} (hw : WellOwned cfg s.env) (hn : NoResidue X s.env)
    (h : setup cfg fuel false depth noRec vro n ver vexpr s = .ok s') : NoResidue X s'.env ∧ Sub s'.env s.env :=
  (unSpec_rules cfg).run fuel h X hw hn

theorem setup_false_unsets (cfg : Cfg) {fuel depth : Nat} {noRec : Bool} {vro : List VroEnt} {n : Name}
    {ver : Option VerReq} {vexpr : Option VExpr} {s s' : St}
    (h : setup cfg fuel false depth noRec vro n ver vexpr s = .ok s') : s'.env.rec? n = none := by
  cases fuel with
  | zero => cases h
  | succ f =>
    refine setup_false_cases cfg f depth noRec vro n ver vexpr s
      (P := fun res => res = .ok s' → s'.env.rec? n = none) (fun _ h => nomatch h) ?_ h
    intro d _ hc hname _ h
    exact ((unSub_rules cfg).table f hc h).2.rec_none n
      (by rw [← hname]; exact aget_aunset_same _ _)

theorem runUnsetup_spec (db : Db) (fuel : Nat) (r : Request) (e : Env) (s' : St) (X : Prod → Prop)
    (hw : WellOwned (r.cfg db) e) (hn : NoResidue X e) (h : runUnsetup db fuel r e = .ok s') :
    NoResidue X s'.env ∧ Sub s'.env e ∧ s'.env.rec? r.name = none :=
  have h1 := setup_false_spec (r.cfg db) X hw hn h
  ⟨h1.1, h1.2, setup_false_unsets (r.cfg db) h⟩

end EupsModel.Setup
