import EupsModel.Lemmas.LockList
/-! C09, several stacks — the bookkeeping of `takeLocks(path)` / `giveLocks(locks)`.  Which stacks are held, which are still
owed a release and whether the control state is well formed does not depend on what a lock directory is: the path layer needs
from a single-directory machine one call of a process (`stp`), what a `giveLocks` call does next (`rc`) and how it reads the
program counter left behind (`seen s x`: the component `s` shows `x`). -/
namespace EupsModel.LockPathGen
open EupsModel.Lock

abbrev Dir := Nat

/-- what the path layer reads off the program counter a call on one stack leaves behind -/
inductive Seen | hold | unlocked | failedAcq (e : Err) | done | failedRel (e : Err)

/-- control states of the path layer over outcomes `Out` (`LockPath.Ctl`, `LockPathR.Ctl` are this at their `Out`) -/
inductive Ctl (Out : Type)
  | acq (k : Nat) | unw (j k : Nat) (e : Err) | body (n : Nat) (reg : Bool) | rel (j n : Nat) (more : Bool) (o : Out)
  | fin (o : Out)

/-- the outcomes the path layer itself produces -/
structure Outs (Out : Type) where
  done : Out
  failedAcq : Err → Out
  firstFailure : Out → Err → Out

variable {σ Out : Type}

/-- stacks to which the control state still owes a release (or on which it is working) -/
def owed : Ctl Out → List Dir → List Dir
  | .acq k, path => path.take (k + 1)
  | .unw j k _, path => (path.take k).drop j
  | .body n _, path => path.take n
  | .rel j n _ _, path => (path.take n).drop j
  | .fin _, _ => []

/-- the release loops have something left to do, the exit handler is registered, every outcome is a `P` -/
def Ok (P : Out → Prop) : Ctl Out → Prop
  | .acq _ => True
  | .unw j k _ => j < k
  | .body _ reg => reg = true
  | .rel j n _ o => j < n ∧ P o
  | .fin o => P o

/-- the stacks before the one `takeLocks` works on are held; in the command body all are -/
def Held (seen : σ → Seen → Prop) (comp : Dir → σ) (path : List Dir) : Ctl Out → Prop
  | .acq k => k < path.length ∧ ∀ j d, j < k → path[j]? = some d → seen (comp d) .hold
  | .body n _ => n = path.length ∧ ∀ j d, j < n → path[j]? = some d → seen (comp d) .hold
  | _ => True

section
variable (O : Outs Out) (stp rc : σ → σ) (seen : σ → Seen → Prop) (comp : Dir → σ) (path : List Dir) (expl : Bool)

/-- `Branch O stp rc seen comp path expl c d s' c'`: one transition of a process with path `path` and control state `c`
replaces the component of stack `d` by `s'` and takes the control state to `c'`.  `stuck`: the command has finished, or
(never in a reachable state) the control state points past the end of the path; `acqUnlocked`: the "trepidation" exit. -/
inductive Branch : Ctl Out → Dir → σ → Ctl Out → Prop
  | stuck (c : Ctl Out) (d : Dir) : Branch c d (comp d) c
  | acqNext {k d} : path[k]? = some d → seen (stp (comp d)) .hold → k + 1 < path.length →
      Branch (.acq k) d (stp (comp d)) (.acq (k + 1))
  | acqLast {k d} : path[k]? = some d → seen (stp (comp d)) .hold → ¬ k + 1 < path.length →
      Branch (.acq k) d (stp (comp d)) (.body (k + 1) true)
  | acqUnlocked {k d} : path[k]? = some d → seen (stp (comp d)) .unlocked → Branch (.acq k) d (stp (comp d)) (.body k false)
  | acqFailFirst {d e} : path[0]? = some d → seen (stp (comp d)) (.failedAcq e) →
      Branch (.acq 0) d (stp (comp d)) (.fin (O.failedAcq e))
  | acqFailLater {k d e} : path[k]? = some d → seen (stp (comp d)) (.failedAcq e) → k ≠ 0 →
      Branch (.acq k) d (stp (comp d)) (.unw 0 k e)
  | acqStay {k d} : path[k]? = some d → ¬ seen (stp (comp d)) .hold → ¬ seen (stp (comp d)) .unlocked →
      (∀ e, ¬ seen (stp (comp d)) (.failedAcq e)) → Branch (.acq k) d (stp (comp d)) (.acq k)
  | unwNext {j k e d} : path[j]? = some d → seen (rc (comp d)) .done → j + 1 < k →
      Branch (.unw j k e) d (rc (comp d)) (.unw (j + 1) k e)
  | unwEnd {j k e d} : path[j]? = some d → seen (rc (comp d)) .done → ¬ j + 1 < k →
      Branch (.unw j k e) d (rc (comp d)) (.fin (O.failedAcq e))
  | unwFail {j k e d e'} : path[j]? = some d → seen (rc (comp d)) (.failedRel e') →
      Branch (.unw j k e) d (rc (comp d)) (.fin (O.failedAcq e'))
  | unwStay {j k e d} : path[j]? = some d → ¬ seen (rc (comp d)) .done → (∀ e', ¬ seen (rc (comp d)) (.failedRel e')) →
      Branch (.unw j k e) d (rc (comp d)) (.unw j k e)
  | bodyFin {n reg} (d : Dir) : (n = 0 ∨ (expl = false ∧ reg = false)) → Branch (.body n reg) d (comp d) (.fin O.done)
  | bodyGive {n reg} (d : Dir) : expl = true → n ≠ 0 → Branch (.body n reg) d (comp d) (.rel 0 n reg O.done)
  | bodyExit {n reg} (d : Dir) : expl = false → reg = true → n ≠ 0 → Branch (.body n reg) d (comp d) (.rel 0 n false O.done)
  | relNext {j n more o d} : path[j]? = some d → seen (rc (comp d)) .done → j + 1 < n →
      Branch (.rel j n more o) d (rc (comp d)) (.rel (j + 1) n more o)
  | relEnd {j n more o d} : path[j]? = some d → seen (rc (comp d)) .done → ¬ j + 1 < n →
      Branch (.rel j n more o) d (rc (comp d)) (.fin o)
  | relFailNext {j n more o d e} : path[j]? = some d → seen (rc (comp d)) (.failedRel e) → more = true → j + 1 < n →
      Branch (.rel j n more o) d (rc (comp d)) (.rel (j + 1) n false (O.firstFailure o e))
  | relFailEnd {j n more o d e} : path[j]? = some d → seen (rc (comp d)) (.failedRel e) → ¬ (more = true ∧ j + 1 < n) →
      Branch (.rel j n more o) d (rc (comp d)) (.fin (O.firstFailure o e))
  | relStay {j n more o d} : path[j]? = some d → ¬ seen (rc (comp d)) .done → (∀ e, ¬ seen (rc (comp d)) (.failedRel e)) →
      Branch (.rel j n more o) d (rc (comp d)) (.rel j n more o)

end

variable {O : Outs Out} {stp rc : σ → σ} {seen : σ → Seen → Prop} {comp : Dir → σ} {path : List Dir} {expl : Bool}
  {c c' : Ctl Out} {d : Dir} {s' : σ}

theorem Branch.comp_cases (hb : Branch O stp rc seen comp path expl c d s' c') :
    s' = comp d ∨ s' = stp (comp d) ∨ s' = rc (comp d) := by
  cases hb with
  | stuck | bodyFin | bodyGive | bodyExit => exact .inl rfl
  | acqNext | acqLast | acqUnlocked | acqFailFirst | acqFailLater | acqStay => exact .inr (.inl rfl)
  | _ => exact .inr (.inr rfl)

theorem Branch.ok {P : Out → Prop} (hb : Branch O stp rc seen comp path expl c d s' c') (hu : ¬ seen s' .unlocked)
    (hf : ∀ e, ¬ seen s' (.failedRel e)) (hdone : P O.done) (hacq : ∀ e, P (O.failedAcq e)) (h : Ok P c) : Ok P c' := by
  cases hb with
  | stuck | unwStay | relStay => exact h
  | acqUnlocked _ hs => exact absurd hs hu
  | relFailNext _ hs | relFailEnd _ hs | unwFail _ hs => exact absurd hs (hf _)
  | acqFailLater _ _ hk => exact Nat.pos_of_ne_zero hk
  | acqFailFirst | unwEnd => exact hacq _
  | unwNext _ _ hlt => exact hlt
  | relNext _ _ hlt => exact ⟨hlt, h.2⟩
  | relEnd => exact h.2
  | bodyFin => exact hdone
  | bodyGive _ _ hn | bodyExit _ _ _ hn => exact ⟨Nat.pos_of_ne_zero hn, hdone⟩
  | acqNext | acqLast | acqStay => trivial

/-- The owing invariant, for any notion `busy` of "has something in this stack" that ends when the component reports
`done` or a failed acquisition: what the process is busy with after the transition is still owed. -/
theorem Branch.owes {P : Out → Prop} {busy : σ → Bool} (hb : Branch O stp rc seen comp path expl c d s' c')
    (hu : ¬ seen s' .unlocked) (hf : ∀ e, ¬ seen s' (.failedRel e))
    (hgone : (seen s' .done ∨ ∃ e, seen s' (.failedAcq e)) → busy s' = false)
    (hok : Ok P c) (hO : ∀ x, busy (comp x) = true → x ∈ owed c path) (x : Dir)
    (hx : busy (fupd comp d s' x) = true) : x ∈ owed c' path := by
  suffices h : (busy s' = true → d ∈ owed c' path) ∧ ∀ x, x ≠ d → x ∈ owed c path → x ∈ owed c' path by
    by_cases e : x = d
    · subst e; exact h.1 (fupd_same comp x s' ▸ hx)
    · exact h.2 x e (hO x (fupd_other comp s' e ▸ hx))
  have gone : (seen s' .done ∨ ∃ e, seen s' (.failedAcq e)) → busy s' = true → d ∈ owed c' path :=
    fun hs hbz => by rw [hgone hs] at hbz; cases hbz
  cases hb with
  | stuck | bodyGive | bodyExit => exact ⟨hO d, fun _ _ hx => hx⟩
  | acqNext hp =>
    exact ⟨fun _ => List.take_subset_take_left _ (by omega) (mem_take_succ_of_getElem? hp),
      fun x _ hd => List.take_subset_take_left _ (by omega) hd⟩
  | acqLast hp | acqStay hp => exact ⟨fun _ => mem_take_succ_of_getElem? hp, fun x _ hd => hd⟩
  | acqUnlocked _ hs => exact absurd hs hu
  | acqFailFirst hp hs =>
    exact ⟨gone (.inr ⟨_, hs⟩), fun x hne hd => absurd (mem_take_of_mem_take_succ hp hd hne) (by simp)⟩
  | acqFailLater hp hs => exact ⟨gone (.inr ⟨_, hs⟩), fun x hne hd => mem_take_of_mem_take_succ hp hd hne⟩
  | unwNext hp hs | relNext hp hs => exact ⟨gone (.inl hs), fun x hne hd => mem_drop_succ hp hd hne⟩
  | unwEnd hp hs hlt | relEnd hp hs hlt =>
    exact ⟨gone (.inl hs), fun x hne hd => absurd (eq_of_mem_drop_last hp hd hlt) hne⟩
  | unwFail _ hs | relFailNext _ hs | relFailEnd _ hs => exact absurd hs (hf _)
  | unwStay hp => exact ⟨fun _ => mem_drop_head hp hok, fun x _ hd => hd⟩
  | relStay hp => exact ⟨fun _ => mem_drop_head hp hok.1, fun x _ hd => hd⟩
  | @bodyFin n reg _ hor =>
    -- the exit handler is registered (`hok`), so the command had no lock to give back
    have none : ∀ x, x ∈ owed (.body n reg : Ctl Out) path → False := by
      intro x hx
      rcases hor with hn | ⟨_, hreg⟩
      · rw [hn] at hx; cases hx
      · rw [hreg] at hok; cases hok
    exact ⟨fun hbz => (none d (hO d hbz)).elim, fun x _ hd => (none x hd).elim⟩

theorem Held.congr {comp comp' : Dir → σ} (hc : ∀ x, seen (comp x) .hold → seen (comp' x) .hold)
    (h : Held seen comp path c) : Held seen comp' path c := by
  cases c with
  | acq | body => exact ⟨h.1, fun j d hj hd => hc d (h.2 j d hj hd)⟩
  | _ => exact True.intro

theorem Held.body {n : Nat} {reg : Bool} (h : Held (Out := Out) seen comp path (.body n reg)) (hd : d ∈ path) :
    seen (comp d) .hold := by
  obtain ⟨j, hj, hjd⟩ := List.mem_iff_getElem.mp hd
  exact h.2 j d (by have := h.1; omega) (by rw [List.getElem?_eq_getElem hj, hjd])

/-- while `takeLocks` works on element `k` (stack `d`), the earlier elements stay held, and so does `d` once taken (distinct
elements: the component that changes is none of the earlier ones) -/
theorem Branch.held (hb : Branch O stp rc seen comp path expl c d s' c') (hnd : path.Nodup) (hu : ¬ seen s' .unlocked)
    (h : Held seen comp path c) : Held seen (fupd comp d s') path c' := by
  have acq : ∀ {k}, Held (Out := Out) seen comp path (.acq k) → path[k]? = some d →
      (∀ j d', j < k → path[j]? = some d' → seen (fupd comp d s' d') .hold) ∧
      (seen s' .hold → ∀ j d', j < k + 1 → path[j]? = some d' → seen (fupd comp d s' d') .hold) := by
    intro k h hget
    have keep : ∀ j d', j < k → path[j]? = some d' → seen (fupd comp d s' d') .hold := by
      intro j d' hj hjd
      rw [fupd_other comp s' (ne_of_nodup_getElem? hnd hjd hget (by omega))]; exact h.2 j d' hj hjd
    refine ⟨keep, fun hs j d' hj hjd => ?_⟩
    by_cases hjk : j < k
    · exact keep j d' hjk hjd
    · have : j = k := by omega
      subst this
      rw [hget] at hjd; cases hjd
      rw [fupd_same]; exact hs
  cases hb with
  | stuck => rw [Lock.fupd_self]; exact h
  | acqNext hp hs hlt => exact ⟨hlt, (acq h hp).2 hs⟩
  | acqLast hp hs hlt => exact ⟨by have := h.1; omega, (acq h hp).2 hs⟩
  | acqStay hp => exact ⟨h.1, (acq h hp).1⟩
  | acqUnlocked _ hs => exact absurd hs hu
  | _ => exact True.intro

end EupsModel.LockPathGen
