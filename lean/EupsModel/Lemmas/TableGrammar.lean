import EupsModel.Spec.C11Grammar
import EupsModel.Lemmas.TableWritten
/-! C11: the tables of the grammar (`Spec/C11Grammar.lean`) are written tables in the sense of `C11_blocks_text` with the
same text (`gtable_ok`, `gText_eq`), and what they denote (`gDenote`) is what the written table denotes (`gtable_denote`).
Only `gline_ok`, `gline_raw`, `gline_res` look at the kind of a line (a command line is a line of a written table by
`wcmd_line`); everything else follows the tree. -/
namespace EupsModel.TableParse
open EupsModel.Cond EupsModel.C11Spec

theorem gline_ok {pdir : Option Str} {l : GLine} (h : l.ok pdir = true) : (l.line pdir).ok pdir = true := by
  cases l with
  | cmd c =>
    simp only [GLine.ok, Bool.and_eq_true] at h
    exact wcmd_line h.1 h.2
  | note raw =>
    simp only [GLine.ok, Bool.and_eq_true] at h
    simp [GLine.line, BodyLineT.ok, h.1, h.2]

theorem gbody_ok {pdir : Option Str} {b : List GLine} (h : b.all (GLine.ok pdir) = true) :
    (b.map (GLine.line pdir)).all (BodyLineT.ok pdir) = true := by
  simp only [List.all_map, List.all_eq_true, Function.comp] at h ⊢
  exact fun l hl => gline_ok (h l hl)

theorem gitem_ok {pdir : Option Str} {g : GItem} (h : g.ok pdir = true) : (g.toT pdir).ok pdir = true := by
  cases g with
  | line l => exact gline_ok h
  | chain f es els cw ca =>
    simp only [GItem.ok, Bool.and_eq_true] at h
    obtain ⟨⟨⟨⟨hf, hes⟩, hels⟩, hcw⟩, hca⟩ := h
    have hb : ∀ b : GBranch, b.ok pdir = true → (b.toT pdir).ok pdir = true := by
      intro b hb
      simp only [GBranch.ok, Bool.and_eq_true] at hb
      simp [BranchT.ok, GBranch.toT, hb.1.1.1.1.1, hb.1.1.1.1.2, hb.1.1.1.2, hb.1.1.2, hb.1.2, gbody_ok hb.2]
    have hes' : (es.map fun p => (p.1, p.2.toT pdir)).all (fun p => p.1.ok && p.2.ok pdir) = true := by
      simp only [List.all_map, List.all_eq_true, Function.comp, Bool.and_eq_true] at hes ⊢
      exact fun p hp => ⟨(hes p hp).1, hb _ (hes p hp).2⟩
    have hels' : (match els.map (GElse.toT pdir) with | some e => e.ok pdir | none => true) = true := by
      cases els with
      | none => rfl
      | some e =>
        simp only [GElse.ok, Bool.and_eq_true] at hels
        simp [ElseT.ok, GElse.toT, hels.1.1.1, hels.1.1.2, hels.1.2, gbody_ok hels.2]
    simp only [GItem.toT, TItemT.ok, Bool.and_eq_true]
    exact ⟨⟨⟨⟨hb f hf, hes'⟩, hels'⟩, hcw⟩, hca⟩

theorem gtable_ok {pdir : Option Str} {t : List GItem} (h : t.all (GItem.ok pdir) = true) :
    (t.map (GItem.toT pdir)).all (TItemT.ok pdir) = true := by
  simp only [List.all_map, List.all_eq_true, Function.comp] at h ⊢
  exact fun g hg => gitem_ok (h g hg)

theorem gline_raw (pdir : Option Str) (l : GLine) : (l.line pdir).raw = l.raw := by
  cases l <;> simp [GLine.line, GLine.raw, WCmd.line]

theorem gitem_rawLines (pdir : Option Str) (g : GItem) : (g.toT pdir).rawLines = (g.toT none).rawLines := by
  cases g with
  | line l => simp [GItem.toT, TItemT.rawLines, gline_raw]
  | chain f es els cw ca =>
    cases els <;>
      simp [GItem.toT, TItemT.rawLines, GBranch.toT, GElse.toT, BranchT.abs, Branch.text, List.map_map, Function.comp_def,
        gline_raw, List.flatMap_map]

theorem gText_eq (pdir : Option Str) (t : List GItem) (nl : Bool) : gText t nl = tableText (t.map (GItem.toT pdir)) nl := by
  simp only [gText, tableText, List.flatMap_map, gitem_rawLines pdir]

theorem res_none {pdir : Option Str} {b : BodyLineT} (h : b.ok pdir = true) (hs : (strip b.raw).isEmpty = true) :
    b.res = none := by
  simp only [BodyLineT.ok, hs, if_true, Bool.and_eq_true, Option.isNone_iff_eq_none] at h
  exact h.2

theorem line_denote {pdir : Option Str} (env : Env) {b : BodyLineT} (h : b.ok pdir = true) :
    (TItemT.line b).abs.flatMap (denoteItem env) = b.res.toList := by
  cases hs : (strip b.raw).isEmpty with
  | true => simp [TItemT.abs, hs, res_none h hs]
  | false => simp [TItemT.abs, hs, denoteItem]

theorem bodyAbs_acts {pdir : Option Str} : ∀ (body : List BodyLineT), body.all (BodyLineT.ok pdir) = true →
    (bodyAbs body).acts = body.flatMap (·.res.toList) := by
  intro body
  induction body with
  | nil => intro _; rfl
  | cons l ls ih =>
    intro h
    simp only [List.all_cons, Bool.and_eq_true] at h
    have ih' := ih h.2
    simp only [bodyAbs, Body.acts] at ih' ⊢
    simp only [List.filter_cons, List.flatMap_cons]
    cases hs : (strip l.raw).isEmpty with
    | true => simp [res_none h.1 hs, ih']
    | false =>
      simp only [Bool.not_false, if_true, List.map_cons, List.filterMap_cons]
      cases l.res <;> simp [ih']

theorem gline_res (pdir : Option Str) (l : GLine) : (l.line pdir).res.toList = l.acts pdir := by
  cases l with
  | cmd c =>
    simp only [GLine.line, WCmd.line, GLine.acts]
    cases c.denote pdir with
    | none => rfl
    | some r => cases r <;> rfl
  | note raw => rfl

theorem gbody_acts {pdir : Option Str} {b : List GLine} (h : b.all (GLine.ok pdir) = true) :
    (bodyAbs (b.map (GLine.line pdir))).acts = gBody pdir b := by
  rw [bodyAbs_acts _ (gbody_ok h)]
  simp [gBody, List.flatMap_map, gline_res]

theorem denoteBranches_g (env : Env) (pdir : Option Str) : ∀ (bs : List GBranch) (e : List Action),
    (∀ b ∈ bs, b.body.all (GLine.ok pdir) = true) →
    denoteBranches env (bs.map fun b => (b.toT pdir).abs) e
      = gBranches env (bs.map fun b => (b.cond.abs, gBody pdir b.body)) e := by
  intro bs
  induction bs with
  | nil => intro e _; rfl
  | cons b rest ih =>
    intro e h
    have hb := h b (by simp)
    have e1 : ((b.toT pdir).abs).body.acts = gBody pdir b.body := gbody_acts hb
    have e2 : ((b.toT pdir).abs).cond = b.cond := rfl
    simp only [List.map_cons, denoteBranches, gBranches, ih e (fun x hx => h x (by simp [hx])), e1, e2]

theorem gitem_denote {pdir : Option Str} (env : Env) {g : GItem} (h : g.ok pdir = true) :
    (TItemT.abs (g.toT pdir)).flatMap (denoteItem env) = gDenoteItem pdir env g := by
  cases g with
  | line l => exact (line_denote env (gline_ok h)).trans (gline_res pdir l)
  | chain f es els cw ca =>
    simp only [GItem.ok, Bool.and_eq_true] at h
    obtain ⟨⟨⟨⟨hf, hes⟩, hels⟩, _⟩, _⟩ := h
    have hbodies : ∀ b ∈ f :: es.map (·.2), b.body.all (GLine.ok pdir) = true := by
      intro b hb
      simp only [List.mem_cons, List.mem_map] at hb
      rcases hb with hb | ⟨p, hp, rfl⟩
      · subst hb; simp only [GBranch.ok, Bool.and_eq_true] at hf; exact hf.2
      · have := List.all_eq_true.mp hes p hp
        simp only [GBranch.ok, Bool.and_eq_true] at this; exact this.2.2
    have hd := fun e => denoteBranches_g env pdir (f :: es.map (·.2)) e hbodies
    cases els with
    | none =>
      simp only [GItem.toT, TItemT.abs, List.flatMap_cons, List.flatMap_nil, List.append_nil, denoteItem, gDenoteItem,
        List.map_map, Function.comp_def, Option.map_none]
      simpa [List.map_map, Function.comp_def] using hd []
    | some e =>
      simp only [GElse.ok, Bool.and_eq_true] at hels
      have he : (bodyAbs (e.toT pdir).body).acts = gBody pdir e.body := gbody_acts hels.2
      simp only [GItem.toT, TItemT.abs, List.flatMap_cons, List.flatMap_nil, List.append_nil, denoteItem, gDenoteItem,
        List.map_map, Function.comp_def, Option.map_some, he]
      simpa [List.map_map, Function.comp_def] using hd (gBody pdir e.body)

theorem gtable_denote {pdir : Option Str} (env : Env) {t : List GItem} (h : t.all (GItem.ok pdir) = true) :
    denoteTable env (tableAbs (t.map (GItem.toT pdir))) = gDenote pdir env t := by
  simp only [denoteTable, tableAbs, gDenote, List.flatMap_map, List.flatMap_assoc]
  exact flatMap_congr' fun g hg => gitem_denote env (List.all_eq_true.mp h g hg)

end EupsModel.TableParse
