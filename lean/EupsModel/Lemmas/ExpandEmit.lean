import EupsModel.Lemmas.ExpandCollect
import EupsModel.Lemmas.ExpandRead
import EupsModel.Lemmas.List
/-! The emission of `expandTableFile` (`Model/Expand.lean`), block by block: what each emitter writes, the visited blocks
placed at their indentation (`placed`; all blocks when none is a pre-existing exact block, `visit_noPre`), the projections of
the items that the table-level statements speak of — input lines by kind (`origOf`), pins (`pinKey`), final block (`finText`) —
and what stands before the last setup block (`emitVisited_split`). -/
namespace EupsModel.Expand

/-- the brace cosmetics may set the first line of a non-setup block apart from the rest, in indentation only -/
theorem emitPlain_eq (ind : Int) (lines : List BLine) : ∃ i j : Int, (emitPlain ind lines).1 =
    (lines.take 1).map (fun x => Item.orig i x.kind x.text) ++ (lines.drop 1).map (fun x => .orig j x.kind x.text) := by
  unfold emitPlain
  split
  · exact ⟨0, 0, rfl⟩
  · split
    · exact ⟨ind, ind + 1, rfl⟩
    · split
      · exact ⟨ind - 1, ind - 1, rfl⟩
      · exact ⟨ind, ind, rfl⟩

theorem emitPlain_orig (ind : Int) (lines : List BLine) :
    ∀ x ∈ (emitPlain ind lines).1, ∃ i l, l ∈ lines ∧ x = .orig i l.kind l.text := by
  intro x hx
  obtain ⟨i, j, e⟩ := emitPlain_eq ind lines
  simp only [e, List.mem_append, List.mem_map] at hx
  rcases hx with ⟨l, hl, rfl⟩ | ⟨l, hl, rfl⟩
  · exact ⟨i, l, List.mem_of_mem_take hl, rfl⟩
  · exact ⟨j, l, List.mem_of_mem_drop hl, rfl⟩

theorem emitSetupLines_orig (ind : Int) (lines : List BLine) :
    ∀ x ∈ emitSetupLines ind lines, ∃ l ∈ lines, x = .orig ind l.kind (strip l.text) := by
  intro x hx
  induction lines using emitSetupLines.induct ind with
  | case1 => simp [emitSetupLines] at hx
  | case2 l t h => simp [emitSetupLines, t, h] at hx
  | case3 l t h1 h2 => simp [emitSetupLines, t, h1, h2] at hx
  | case4 l t h1 h2 =>
    simp [emitSetupLines, t, h1, h2] at hx; subst hx
    exact ⟨l, by simp, rfl⟩
  | case5 l l2 rest ih =>
    simp only [emitSetupLines, List.mem_append] at hx
    rcases hx with hx | hx
    · split at hx
      · simp at hx
      · simp at hx; subst hx; exact ⟨l, by simp, rfl⟩
    · obtain ⟨l', hl', e⟩ := ih hx
      exact ⟨l', by simp [hl'], e⟩

theorem mem_pinItems {ind : Int} {c : CState} {x : Item} (h : x ∈ pinItems ind c) :
    ∃ n v, (n, v) ∈ c.desired ∧ x = .pin ind (c.optional.contains (n, v) || c.notFound.contains n) n v := by
  unfold pinItems at h
  simp only [List.mem_map] at h
  obtain ⟨⟨n, v⟩, hm, rfl⟩ := h
  exact ⟨n, v, hm, rfl⟩

theorem cmdName_head (opt : Bool) : ∃ r, cmdName opt = 115 :: r := ⟨_, cmdName_eq opt⟩

/-- the pin line is printed as it is made: `output` strips nothing off it -/
theorem strip_pinText (opt : Bool) (n v : Str) : strip (pinText opt n v) = pinText opt n v := by
  have e : pinText opt n v = (cmdName opt ++ [cLpar] ++ pad15 n ++ sJ ++ v) ++ [cRpar] := rfl
  have hl : lstrip (pinText opt n v) = pinText opt n v := by
    obtain ⟨r, hr⟩ := cmdName_head opt
    simp only [pinText, hr, List.cons_append]
    exact lstrip_cons_of_not_space (by decide)
  unfold strip
  rw [hl, e]
  exact rstrip_snoc (by decide)

section
variable {o : Opts} {isLast : Bool} {c : CState} {ind : Int} {lines : List BLine}

theorem emitSetup_add (ha : o.addExactBlock = true) : emitSetup o isLast c ind lines =
    (if isLast then [.gen ind sIfExact] ++ pinItems (ind + 1) c ++ [.gen ind sElse] else [.gen ind sIfNotExact])
      ++ emitSetupLines (ind + 1) lines ++ [.gen ind sClose] := if_pos ha

theorem emitSetup_noAdd (ha : o.addExactBlock = false) : emitSetup o isLast c ind lines = emitSetupLines ind lines :=
  if_neg (ha ▸ Bool.false_ne_true)

end

/-- a block that is not the last one is framed by `if (type != exact) {` … `}` only, hence the condition on `t` -/
theorem mem_emitSetup {o : Opts} {isLast : Bool} {c : CState} {ind : Int} {lines : List BLine} {x : Item}
    (hx : x ∈ emitSetup o isLast c ind lines) :
    (∃ t, x = .gen ind t ∧ (isLast = false → t = sIfNotExact ∨ t = sClose)) ∨
    (x ∈ pinItems (ind + 1) c ∧ isLast = true) ∨
    ∃ i, ∃ l ∈ lines, x = .orig i l.kind (strip l.text) := by
  have own : ∀ {i}, x ∈ emitSetupLines i lines → ∃ i, ∃ l ∈ lines, x = .orig i l.kind (strip l.text) :=
    fun h => ⟨_, emitSetupLines_orig _ _ x h⟩
  cases ha : o.addExactBlock
  · exact .inr (.inr (own (emitSetup_noAdd ha ▸ hx)))
  rw [emitSetup_add ha, List.mem_append, List.mem_append] at hx
  rcases hx with (hx | hx) | hx
  · cases isLast
    · exact .inl ⟨_, List.mem_singleton.mp hx, fun _ => .inl rfl⟩
    · simp only [if_true, List.mem_append, List.mem_singleton] at hx
      rcases hx with (rfl | hx) | rfl
      · exact .inl ⟨_, rfl, nofun⟩
      · exact .inr (.inl ⟨hx, rfl⟩)
      · exact .inl ⟨_, rfl, nofun⟩
  · exact .inr (.inr (own hx))
  · exact .inl ⟨_, List.mem_singleton.mp hx, fun _ => .inr rfl⟩

/-! ## the visited blocks, each at its indentation

`emitVisited` (and the recursions of `Model/ExpandTable.lean` over the visited blocks) threads the indentation: a non-setup
block may change it for the blocks that follow.  `placed` computes the indentation of every block once, so that each of
these recursions is a `flatMap` / `all` over the placed blocks (`flatMap_placed`, `all_placed`: the only inductions that see
the threading) and every fact about them is a fact about one block. -/

def Block.after (ind : Int) (b : Block) : Int := if b.isSetup then ind else (emitPlain ind b.lines).2

/-- a visited block, with its index among the blocks of the table and the indentation it is written at -/
structure Placed where
  ind : Int
  idx : Nat
  block : Block

def placed : Int → List (Nat × Block) → List Placed
  | _, [] => []
  | ind, (i, b) :: rest => ⟨ind, i, b⟩ :: placed (b.after ind) rest

def emitBlock (o : Opts) (ls : Option Nat) (c : CState) (x : Placed) : List Item :=
  if x.block.isSetup then emitSetup o (ls == some x.idx) c x.ind x.block.lines else (emitPlain x.ind x.block.lines).1

section
variable (o : Opts) (ls : Option Nat) (c : CState) (ind : Int) (i : Nat) (lines : List BLine)

theorem emitBlock_setup : emitBlock o ls c ⟨ind, i, ⟨true, lines⟩⟩ = emitSetup o (ls == some i) c ind lines := rfl

theorem emitBlock_plain : emitBlock o ls c ⟨ind, i, ⟨false, lines⟩⟩ = (emitPlain ind lines).1 := rfl

end

theorem flatMap_placed {β : Type} (r : Int → List (Nat × Block) → List β) (f : Placed → List β)
    (hnil : ∀ ind, r ind [] = [])
    (hcons : ∀ ind i b rest, r ind ((i, b) :: rest) = f ⟨ind, i, b⟩ ++ r (b.after ind) rest) (ind : Int)
    (vis : List (Nat × Block)) : r ind vis = (placed ind vis).flatMap f := by
  induction vis generalizing ind with
  | nil => exact hnil ind
  | cons ib rest ih => rw [hcons, ih]; rfl

theorem all_placed (r : Int → List (Nat × Block) → Bool) (p : Placed → Bool)
    (hnil : ∀ ind, r ind [] = true)
    (hcons : ∀ ind i b rest, r ind ((i, b) :: rest) = (p ⟨ind, i, b⟩ && r (b.after ind) rest)) (ind : Int)
    (vis : List (Nat × Block)) : r ind vis = (placed ind vis).all p := by
  induction vis generalizing ind with
  | nil => exact hnil ind
  | cons ib rest ih => rw [hcons, ih]; rfl

theorem emitVisited_eq (o : Opts) (ls : Option Nat) (c : CState) (ind : Int) (vis : List (Nat × Block)) :
    emitVisited o ls c ind vis = (placed ind vis).flatMap (emitBlock o ls c) :=
  flatMap_placed _ _ (fun _ => rfl) (fun _ _ ⟨s, _⟩ _ => by cases s <;> rfl) ind vis

theorem placed_snd (ind : Int) (vis : List (Nat × Block)) : (placed ind vis).map (fun x => (x.idx, x.block)) = vis := by
  induction vis generalizing ind with
  | nil => rfl
  | cons ib rest ih => simp [placed, ih]

theorem mem_placed {ind : Int} {vis : List (Nat × Block)} {x : Placed} (h : x ∈ placed ind vis) : (x.idx, x.block) ∈ vis :=
  placed_snd ind vis ▸ List.mem_map_of_mem (f := fun x : Placed => (x.idx, x.block)) h

def enumFrom : Nat → List Block → List (Nat × Block)
  | _, [] => []
  | i, b :: rest => (i, b) :: enumFrom (i + 1) rest

/-- no block is taken for a pre-existing `if (type == exact) {` block (the fragile `i += 3` path) -/
def NoPreExact (blocks : List Block) : Prop := ∀ b ∈ blocks, isPreExact b = false

theorem visit_noPre (blocks : List Block) (i : Nat) (h : NoPreExact blocks) :
    visit i blocks = .ok (enumFrom i blocks) := by
  induction blocks generalizing i with
  | nil => rfl
  | cons b rest ih =>
    have hb : isPreExact b = false := h b (by simp)
    have hr : NoPreExact rest := fun x hx => h x (by simp [hx])
    unfold visit
    simp [hb, ih (i + 1) hr, enumFrom, bind, Except.bind, pure, Except.pure]

theorem flatMap_enumFrom {β : Type} (f : Block → List β) (i : Nat) (l : List Block) :
    (enumFrom i l).flatMap (fun ib => f ib.2) = l.flatMap f := by
  induction l generalizing i with
  | nil => rfl
  | cons b rest ih => simp [enumFrom, ih]

theorem mem_enumFrom {i : Nat} {l : List Block} {ib : Nat × Block} (h : ib ∈ enumFrom i l) : i ≤ ib.1 ∧ ib.2 ∈ l := by
  induction l generalizing i with
  | nil => simp [enumFrom] at h
  | cons b rest ih =>
    simp only [enumFrom, List.mem_cons] at h
    rcases h with rfl | h
    · simp
    · have := ih h; exact ⟨by omega, by simp [this.2]⟩

/-- the text of an item that is an input line of kind `k` -/
def origOf (k : LKind) : Item → Option Str
  | .orig _ k' t => if k' = k then some t else none
  | _ => none

theorem origOf_map_orig (k : LKind) (i : Int) (lines : List BLine) :
    (lines.map fun x => Item.orig i x.kind x.text).filterMap (origOf k) = (lines.filter (·.kind = k)).map (·.text) := by
  induction lines with
  | nil => rfl
  | cons l rest ih =>
    by_cases hk : l.kind = k <;> simp [origOf, hk, ih]

theorem origOf_emitPlain (k : LKind) (ind : Int) (lines : List BLine) :
    (emitPlain ind lines).1.filterMap (origOf k) = (lines.filter (·.kind = k)).map (·.text) := by
  obtain ⟨i, j, e⟩ := emitPlain_eq ind lines
  rw [e, List.filterMap_append, origOf_map_orig, origOf_map_orig, ← List.map_append, ← List.filter_append,
    List.take_append_drop]

theorem origOf_other_emitSetupLines (ind : Int) (lines : List BLine) (h : ∀ l ∈ lines, l.kind ≠ .other) :
    (emitSetupLines ind lines).filterMap (origOf .other) = [] :=
  List.filterMap_eq_nil_iff.mpr fun x hx => by
    obtain ⟨l, hl, rfl⟩ := emitSetupLines_orig _ _ x hx
    simp [origOf, h l hl]

theorem origOf_setup_emitSetupLines (ind : Int) (lines : List BLine)
    (h : ∀ l ∈ lines, l.kind = .setup → strip l.text ≠ []) :
    (emitSetupLines ind lines).filterMap (origOf .setup)
      = (lines.filter fun l => l.kind = .setup && !contains sExternal (strip l.text)).map (fun l => strip l.text) := by
  induction lines using emitSetupLines.induct ind with
  | case1 => rfl
  | case2 l t hx => simp [emitSetupLines, t, hx]
  | case3 l t h1 h2 =>
    have : l.kind ≠ .setup := fun hk => h l (by simp) hk (by simp at h2; simpa using h2.1)
    simp [emitSetupLines, t, h1, h2, this]
  | case4 l t h1 h2 =>
    by_cases hk : l.kind = .setup <;> simp [emitSetupLines, t, h1, h2, origOf, hk]
  | case5 l l2 rest ih =>
    have := ih (fun x hx => h x (by simp [hx]))
    simp only [emitSetupLines, List.filterMap_append, this]
    by_cases hx : contains sExternal (strip l.text) = true
    · simp [hx, List.filter_cons]
    · by_cases hk : l.kind = .setup <;> simp [hx, hk, origOf, List.filter_cons]

theorem origOf_gen (k : LKind) (ind : Int) (t : Str) : origOf k (.gen ind t) = none := rfl

theorem origOf_pinItems (k : LKind) (ind : Int) (c : CState) : (pinItems ind c).filterMap (origOf k) = [] :=
  List.filterMap_eq_nil_iff.mpr fun x hx => by obtain ⟨n, v, _, rfl⟩ := mem_pinItems hx; rfl

theorem origOf_emitSetup (k : LKind) (o : Opts) (isLast : Bool) (c : CState) (ind : Int) (lines : List BLine) :
    (emitSetup o isLast c ind lines).filterMap (origOf k)
      = (emitSetupLines (if o.addExactBlock then ind + 1 else ind) lines).filterMap (origOf k) := by
  cases ha : o.addExactBlock
  · rw [emitSetup_noAdd ha]; rfl
  · cases isLast <;> simp [emitSetup_add ha, List.filterMap_append, List.filterMap_cons, origOf_pinItems, origOf]

theorem origOf_fin (k : LKind) (l : List Str) : (l.map Item.fin).filterMap (origOf k) = [] :=
  List.filterMap_eq_nil_iff.mpr fun x hx => by obtain ⟨t, _, rfl⟩ := List.mem_map.mp hx; rfl

/-- a projection of the items that does not see the indentation distributes over the blocks -/
theorem filterMap_emitVisited {β : Type} {o : Opts} {ls : Option Nat} {c : CState} (P : Item → Option β) (f : Block → List β)
    (vis : List (Nat × Block)) (h : ∀ x : Placed, (x.idx, x.block) ∈ vis → (emitBlock o ls c x).filterMap P = f x.block)
    (ind : Int) : (emitVisited o ls c ind vis).filterMap P = vis.flatMap (fun ib => f ib.2) := by
  rw [emitVisited_eq, List.filterMap_flatMap, flatMap_congr' fun x hx => h x (mem_placed hx)]
  conv => rhs; rw [← placed_snd ind vis, List.flatMap_map]

def pinKey : Item → Option (Bool × Str × Str)
  | .pin _ opt n v => some (opt, n, v)
  | _ => none

theorem pinKey_pinItems (ind : Int) (c : CState) : (pinItems ind c).filterMap pinKey = c.pinKeys := by
  unfold pinItems CState.pinKeys
  induction c.desired with
  | nil => rfl
  | cons p rest ih => obtain ⟨n, v⟩ := p; simp only [List.map_cons, List.filterMap_cons, pinKey, ih]

theorem pinKey_emitSetupLines (ind : Int) (lines : List BLine) : (emitSetupLines ind lines).filterMap pinKey = [] :=
  List.filterMap_eq_nil_iff.mpr fun x hx => by obtain ⟨l, _, rfl⟩ := emitSetupLines_orig _ _ x hx; rfl

theorem pinKey_emitSetup (o : Opts) (isLast : Bool) (c : CState) (ind : Int) (lines : List BLine) :
    (emitSetup o isLast c ind lines).filterMap pinKey = if o.addExactBlock && isLast then c.pinKeys else [] := by
  cases ha : o.addExactBlock
  · simp [emitSetup_noAdd ha, pinKey_emitSetupLines]
  · cases isLast <;>
      simp [emitSetup_add ha, List.filterMap_append, List.filterMap_cons, pinKey, pinKey_emitSetupLines, pinKey_pinItems]

theorem pinKey_emitPlain (ind : Int) (lines : List BLine) : (emitPlain ind lines).1.filterMap pinKey = [] :=
  List.filterMap_eq_nil_iff.mpr fun x hx => by obtain ⟨i, l, _, rfl⟩ := emitPlain_orig _ _ x hx; rfl

theorem pinKey_emitBlock (o : Opts) (ls : Option Nat) (c : CState) (x : Placed) :
    (emitBlock o ls c x).filterMap pinKey = if o.addExactBlock && x.block.isSetup && (ls == some x.idx) then c.pinKeys else [] := by
  unfold emitBlock
  split
  · rename_i hs; simp [pinKey_emitSetup, hs]
  · rename_i hs; simp [pinKey_emitPlain, hs]

theorem pinKey_fin (l : List Str) : (l.map Item.fin).filterMap pinKey = [] :=
  List.filterMap_eq_nil_iff.mpr fun x hx => by obtain ⟨t, _, rfl⟩ := List.mem_map.mp hx; rfl

def Item.isPin : Item → Bool
  | .pin .. => true
  | _ => false

theorem filter_isPin_eq (items : List Item) :
    ∃ pinsL : List (Int × Bool × Str × Str),
      items.filter Item.isPin = pinsL.map (fun x => Item.pin x.1 x.2.1 x.2.2.1 x.2.2.2) ∧
      pinsL.map (·.2) = items.filterMap pinKey := by
  induction items with
  | nil => exact ⟨[], rfl, rfl⟩
  | cons a rest ih =>
    obtain ⟨pl, h1, h2⟩ := ih
    cases a with
    | pin i opt n v => exact ⟨(i, opt, n, v) :: pl, by simp [List.filter_cons, Item.isPin, h1], by simp [pinKey, h2]⟩
    | _ => exact ⟨pl, by simp [Item.isPin, h1], by simp [List.filterMap_cons, pinKey, h2]⟩

def finText : Item → Option Str
  | .fin t => some t
  | _ => none

theorem finText_emitVisited (o : Opts) (ls : Option Nat) (c : CState) (vis : List (Nat × Block)) (ind : Int) :
    (emitVisited o ls c ind vis).filterMap finText = [] :=
  List.filterMap_eq_nil_iff.mpr fun it hit => by
    rw [emitVisited_eq] at hit
    obtain ⟨⟨_, _, ⟨s, _⟩⟩, _, hb⟩ := List.mem_flatMap.mp hit
    cases s
    · rw [emitBlock_plain] at hb
      obtain ⟨i, l, _, rfl⟩ := emitPlain_orig _ _ _ hb; rfl
    · rw [emitBlock_setup] at hb
      rcases mem_emitSetup hb with ⟨t, rfl, _⟩ | ⟨hp, _⟩ | ⟨i, l, _, rfl⟩
      · rfl
      · obtain ⟨n, v, _, rfl⟩ := mem_pinItems hp; rfl
      · rfl

theorem finText_fin (l : List Str) : (l.map Item.fin).filterMap finText = l := by
  induction l with
  | nil => rfl
  | cons a rest ih => simp [finText, ih]

/-- what can stand before the exact block: input lines and the frame of earlier setup blocks -/
def PreItem (lines : List BLine) : Item → Prop
  | .orig _ _ t => ∃ l ∈ lines, t = l.text ∨ t = strip l.text
  | .gen _ t => t = sIfNotExact ∨ t = sClose
  | _ => False

theorem PreItem_mono {lines lines' : List BLine} (h : ∀ l ∈ lines, l ∈ lines') {x : Item} (hx : PreItem lines x) :
    PreItem lines' x := by
  cases x with
  | orig i k t => obtain ⟨l, hl, ht⟩ := hx; exact ⟨l, h l hl, ht⟩
  | _ => exact hx

theorem emitPlain_pre (ind : Int) (lines : List BLine) : ∀ x ∈ (emitPlain ind lines).1, PreItem lines x := by
  intro x hx
  obtain ⟨i, l, hl, rfl⟩ := emitPlain_orig ind lines x hx
  exact ⟨l, hl, .inl rfl⟩

theorem emitSetup_false_pre (o : Opts) (c : CState) (ind : Int) (lines : List BLine) :
    ∀ x ∈ emitSetup o false c ind lines, PreItem lines x := by
  intro x hx
  rcases mem_emitSetup hx with ⟨t, rfl, ht⟩ | ⟨_, h⟩ | ⟨i, l, hl, rfl⟩
  · exact ht rfl
  · cases h
  · exact ⟨l, hl, .inr rfl⟩

theorem emitBlock_pre (o : Opts) (c : CState) {ls : Option Nat} {x : Placed} (h : (ls == some x.idx) = false) :
    ∀ it ∈ emitBlock o ls c x, PreItem x.block.lines it := by
  unfold emitBlock
  split
  · rw [h]; exact emitSetup_false_pre o c _ _
  · exact emitPlain_pre _ _

theorem emitVisited_pre (o : Opts) (c : CState) (l : List Block) (k : Nat) (ind : Int) :
    ∀ x ∈ emitVisited o none c ind (enumFrom k l), PreItem (l.flatMap (·.lines)) x := by
  intro it hit
  rw [emitVisited_eq] at hit
  obtain ⟨x, hx, hit⟩ := List.mem_flatMap.mp hit
  exact PreItem_mono (fun y hy => List.mem_flatMap.mpr ⟨x.block, (mem_enumFrom (mem_placed hx)).2, hy⟩)
    (emitBlock_pre o c rfl it hit)

theorem placed_split (l : List Block) (k i : Nat) (ind : Int) (b : Block) (hki : k ≤ i) (hb : l[i - k]? = some b) :
    ∃ pre post ind', placed ind (enumFrom k l) = pre ++ ⟨ind', i, b⟩ :: post ∧
      (∀ x ∈ pre, x.idx < i ∧ x.block ∈ l) ∧ ∀ x ∈ post, i < x.idx := by
  induction l generalizing k ind with
  | nil => simp at hb
  | cons b0 rest ih =>
    by_cases hik : i = k
    · subst hik
      simp only [Nat.sub_self, List.getElem?_cons_zero, Option.some.injEq] at hb
      subst hb
      exact ⟨[], placed (b0.after ind) (enumFrom (i + 1) rest), ind, rfl, by simp,
        fun x hx => (mem_enumFrom (mem_placed hx)).1⟩
    · have hb' : rest[i - (k + 1)]? = some b := by
        have : i - k = (i - (k + 1)) + 1 := by omega
        rw [this, List.getElem?_cons_succ] at hb; exact hb
      obtain ⟨pre, post, ind', heq, hpre, hpost⟩ := ih (k + 1) (b0.after ind) (by omega) hb'
      refine ⟨⟨ind, k, b0⟩ :: pre, post, ind', by simp [enumFrom, placed, heq], fun x hx => ?_, hpost⟩
      rcases List.mem_cons.mp hx with rfl | hx
      · exact ⟨by show k < i; omega, by simp⟩
      · exact ⟨(hpre x hx).1, by simp [(hpre x hx).2]⟩

theorem beq_some_ne {i j : Nat} (h : i ≠ j) : (some i == some j) = false := by simp [h]

theorem emitVisited_split (o : Opts) (c : CState) (l : List Block) (k i : Nat) (ind : Int) (b : Block)
    (hki : k ≤ i) (hb : l[i - k]? = some b) (hs : b.isSetup = true) :
    ∃ pre post ind', emitVisited o (some i) c ind (enumFrom k l) = pre ++ emitSetup o true c ind' b.lines ++ post ∧
      (∀ x ∈ pre, PreItem (l.flatMap (·.lines)) x) ∧ post.filterMap pinKey = [] := by
  obtain ⟨pre, post, ind', heq, hpre, hpost⟩ := placed_split l k i ind b hki hb
  refine ⟨pre.flatMap (emitBlock o (some i) c), post.flatMap (emitBlock o (some i) c), ind', ?_, fun it hit => ?_, ?_⟩
  · simp [emitVisited_eq, heq, emitBlock, hs]
  · obtain ⟨x, hx, hit⟩ := List.mem_flatMap.mp hit
    exact PreItem_mono (fun y hy => List.mem_flatMap.mpr ⟨x.block, (hpre x hx).2, hy⟩)
      (emitBlock_pre o c (beq_some_ne (Nat.ne_of_gt (hpre x hx).1)) it hit)
  · rw [List.filterMap_flatMap]
    exact List.flatMap_eq_nil_iff.mpr fun x hx => by
      rw [pinKey_emitBlock, beq_some_ne (Nat.ne_of_lt (hpost x hx))]; simp

theorem pinKey_pre {lines : List BLine} {l : List Item} (h : ∀ x ∈ l, PreItem lines x) : l.filterMap pinKey = [] :=
  List.filterMap_eq_nil_iff.mpr fun x hx =>
    match x, h x hx with
    | .orig .., _ | .gen .., _ => rfl

end EupsModel.Expand
