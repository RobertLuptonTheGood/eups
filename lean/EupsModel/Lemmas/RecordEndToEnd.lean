import EupsModel.Lemmas.RecordRoundTrip
import EupsModel.Lemmas.RecordReloc
/-! Paths and their strings; relocation, and hand-written macro records, through the printed text of the record (C16). -/
namespace EupsModel.Record

def SegP (s : Str) : Prop := s ≠ [] ∧ 47 ∉ s

theorem head_joinWith (segs : List Str) (h : ∀ s ∈ segs, SegP s) : (joinWith 47 segs).head? ≠ some 47 := by
  cases segs with
  | nil => simp [joinWith]
  | cons s r =>
    have hs := h s (by simp)
    cases s with
    | nil => exact absurd rfl hs.1
    | cons x xs =>
      have hx : x ≠ 47 := fun e => hs.2 (by simp [e])
      cases r with
      | nil => simp [joinWith, hx]
      | cons s' r' => simp [joinWith, hx]

theorem split_join (segs : List Str) (h : ∀ s ∈ segs, SegP s) :
    (splitOn 47 (joinWith 47 segs)).filter (!·.isEmpty) = segs := by
  cases segs with
  | nil => rfl
  | cons s r =>
    rw [splitOn_joinWith 47 _ (by simp) (fun x hx => (h x hx).2), List.filter_eq_self]
    intro x hx
    have := (h x hx).1
    cases x <;> simp_all

theorem ofStr_toStr (p : Path) (h : ∀ s ∈ p.segs, SegP s) : Path.ofStr p.toStr = p := by
  obtain ⟨abs, segs⟩ := p
  cases abs with
  | true => simp [Path.toStr, Path.ofStr, splitOn, split_join segs h]
  | false =>
    have hb : ((joinWith 47 segs).head? == some 47) = false := by simpa using head_joinWith segs h
    simp [Path.toStr, Path.ofStr, hb, split_join segs h]

theorem pval_roundtrip (v : PVal)
    (h : match v with
      | .null => True
      | .ph s => isRealStr s = false
      | .path p => (∀ s ∈ p.segs, SegP s) ∧ isRealStr p.toStr = true) :
    pOfFld (fldOfP (some v)) = some v := by
  cases v with
  | null => rfl
  | ph s => simp only at h; simp [fldOfP, PVal.toStr, pOfFld, PVal.ofStr, h]
  | path p =>
    simp only at h
    simp [fldOfP, PVal.toStr, pOfFld, PVal.ofStr, h.2, ofStr_toStr p h.1]

/-- a path segment of clean text (47 = `/`) -/
def SegC (s : Str) : Prop := Clean s ∧ 47 ∉ s
def SegsC (l : List Str) : Prop := ∀ s ∈ l, SegC s
theorem SegC.segP {s : Str} (h : SegC s) : SegP s := ⟨h.1.ne, h.2⟩

theorem Clean.append {a b : Str} (ha : Clean a) (hb : Clean b) : Clean (a ++ b) := by
  refine ⟨by simp [ha.ne], List.not_mem_append ha.no35 hb.no35, List.not_mem_append ha.no10 hb.no10,
    List.not_mem_append ha.no13 hb.no13, List.not_mem_append ha.no34 hb.no34, fun c hc => ?_, fun c hc => ?_⟩
  · cases a with
    | nil => exact absurd rfl ha.ne
    | cons x r => exact ha.headNS c (by simpa using hc)
  · rw [getLast?_append_ne _ _ hb.ne] at hc
    exact hb.lastNS c hc

theorem clean_joinWith (segs : List Str) (hne : segs ≠ []) (h : SegsC segs) : Clean (joinWith 47 segs) := by
  induction segs with
  | nil => exact absurd rfl hne
  | cons s r ih =>
    cases r with
    | nil => exact (h s (by simp)).1
    | cons s' r' =>
      exact (h s (by simp)).1.append (Clean.append (a := [47]) (by decide +kernel) (ih (by simp) fun x hx => h x (by simp [hx])))

theorem clean_abs (segs : List Str) (h : SegsC segs) : Clean (47 :: joinWith 47 segs) := by
  cases segs with
  | nil => decide +kernel
  | cons s r => exact Clean.append (a := [47]) (by decide +kernel) (clean_joinWith _ (by simp) h)

theorem isRealStr_head (s : Str) (c : Nat) (h : s.head? = some c) (h1 : c ≠ 110) (h2 : c ≠ 63) (h3 : c ≠ 40) :
    isRealStr s = true := by
  cases s with
  | nil => simp at h
  | cons x r =>
    simp at h; subst h
    have a : ¬ (x = 110) := h1
    have b : ¬ (x = 63) := h2
    have c' : ¬ (x = 40) := h3
    simp [isRealStr, sNone, sQQQ, sPNone, a, b, c']

theorem isRealStr_long (s : Str) (h : 7 ≤ s.length) : isRealStr s = true := by
  have a : s ≠ sNone := by intro e; rw [e] at h; simp [sNone] at h
  have b : s ≠ sQQQ := by intro e; rw [e] at h; simp [sQQQ] at h
  have c : s ≠ sPNone := by intro e; rw [e] at h; simp [sPNone] at h
  simp [isRealStr, a, b, c]

/-- a path-valued entry the end-to-end theorems cover: clean segments, and a relative path that does not read back as a placeholder -/
def GoodPV : PVal → Prop
  | .null => False
  | .ph s => s = sNone
  | .path p => SegsC p.segs ∧ (p.abs = false → p.segs ≠ [] ∧ isRealStr (joinWith 47 p.segs) = true)

theorem goodPV_fld (v : PVal) (h : GoodPV v) :
    (∃ str, fldOfP (some v) = .val str ∧ Clean str) ∧ pOfFld (fldOfP (some v)) = some v := by
  cases v with
  | null => exact absurd h (by simp [GoodPV])
  | ph s =>
    simp only [GoodPV] at h; subst h
    exact ⟨⟨sNone, rfl, by decide +kernel⟩, pval_roundtrip _ (by decide +kernel)⟩
  | path p =>
    obtain ⟨abs, segs⟩ := p
    simp only [GoodPV] at h
    obtain ⟨hc, hrel⟩ := h
    have hp : ∀ s ∈ segs, SegP s := fun s hs => (hc s hs).segP
    cases abs with
    | true =>
      have hcl : Clean (Path.toStr ⟨true, segs⟩) := by simpa [Path.toStr] using clean_abs segs hc
      have hreal : isRealStr (Path.toStr ⟨true, segs⟩) = true :=
        isRealStr_head _ 47 (by simp [Path.toStr]) (by decide +kernel) (by decide +kernel) (by decide +kernel)
      exact ⟨⟨_, rfl, hcl⟩, pval_roundtrip _ ⟨hp, hreal⟩⟩
    | false =>
      obtain ⟨hne, hreal⟩ := hrel rfl
      have hcl : Clean (Path.toStr ⟨false, segs⟩) := by simpa [Path.toStr] using clean_joinWith segs hne hc
      have hreal' : isRealStr (Path.toStr ⟨false, segs⟩) = true := by simpa [Path.toStr] using hreal
      exact ⟨⟨_, rfl, hcl⟩, pval_roundtrip _ ⟨hp, hreal'⟩⟩

/-- what the end-to-end theorem needs beyond `PlaceOK`: everything that is written into the record is clean text -/
structure TextOK (name version flavor who now : Str) (d : DirPl) (t : TabPl) : Prop where
  nameC : Clean name
  versionC : Clean version
  notLocal : sLOCAL.isPrefixOf version = false
  flavorC : CleanKey flavor
  whoC : Clean who
  nowC : Clean now
  dirC : match d with
    | .inside rel => SegsC rel ∧ isRealStr (joinWith 47 rel) = true
    | .outside s => SegsC s
    | .none => True
  tabC : match t with
    | .absInside trel => SegsC trel ∧ isRealStr (joinWith 47 trel) = true
    | .absOutside s => SegsC s
    | _ => True

/-- the version record with one block whose three path entries are the given macro expressions -/
def macroRec (name version flavor who now : Str) (md : MDir) (mu : MUps) (mt : MTab) : VRec :=
  { name := some name, version := some version,
    flavors := [(flavor, { declarer := .val who, declared := .val now, productDir := fldOfP (some md.toRec),
                           tableFile := fldOfP (some mt.toRec), upsDir := fldOfP (some mu.toRec) })] }

/-- the counterpart of `TextOK` for hand-written entries; a `UPS_DIR` line must be present -/
structure MacroTextOK (name version flavor who now : Str) (md : MDir) (mu : MUps) (mt : MTab) : Prop where
  nameC : Clean name
  versionC : Clean version
  notLocal : sLOCAL.isPrefixOf version = false
  flavorC : CleanKey flavor
  whoC : Clean who
  nowC : Clean now
  dirG : GoodPV md.toRec
  upsG : GoodPV mu.toRec
  tabG : GoodPV mt.toRec

instance (s : Str) : Decidable (SegC s) := by unfold SegC; infer_instance
instance (l : List Str) : Decidable (SegsC l) := by unfold SegsC; infer_instance
instance : (v : PVal) → Decidable (GoodPV v)
  | .null => isFalse id
  | .ph s => inferInstanceAs (Decidable (s = sNone))
  | .path p => inferInstanceAs (Decidable (SegsC p.segs ∧ (p.abs = false → p.segs ≠ [] ∧ isRealStr (joinWith 47 p.segs) = true)))

theorem canonInfo_good (root : List Str) (name version flavor who now : Str) (d : DirPl) (t : TabPl)
    (hp : PlaceOK root name version flavor d t) (ht : TextOK name version flavor who now d t) :
    GoodPV (canonDir d) ∧ GoodPV (canonTab name version flavor t).1 ∧ GoodPV (canonTab name version flavor t).2 := by
  have hnt : SegC (name ++ sDotTable) := ⟨ht.nameC.append (by decide +kernel), hp.name_ok.2.1⟩
  have hups : SegC sUps := by decide +kernel
  have hdb : SegC mUPS_DB := by decide +kernel
  have hfl : SegC flavor := ⟨ht.flavorC.clean, hp.flavor_ok.2.1⟩
  have hnm : SegC name := ⟨ht.nameC, hp.name_ok'.2.1⟩
  have hvs : SegC version := ⟨ht.versionC, hp.version_ok.2.1⟩
  have htn : GoodPV (.path (tableName name)) := by
    refine ⟨?_, fun _ => ⟨by simp [tableName, Path.rel], ?_⟩⟩
    · intro s hs; simp [tableName, Path.rel] at hs; subst hs; exact hnt
    · simp only [tableName, Path.rel, joinWith]
      apply isRealStr_long
      have := ht.nameC.ne
      cases name <;> simp_all [sDotTable]
  have hu : GoodPV (.path (Path.rel [sUps])) := by decide +kernel
  have hn : GoodPV (.ph sNone) := rfl
  refine ⟨?_, ?_⟩
  · cases d with
    | inside rel => exact ⟨ht.dirC.1, fun _ => ⟨hp.dir_ok.2.1, ht.dirC.2⟩⟩
    | outside s => exact ⟨ht.dirC, fun h => by simp [absP] at h⟩
    | none => rfl
  · cases t with
    | inUps => exact ⟨htn, hu⟩
    | absInside trel => exact ⟨⟨ht.tabC.1, fun _ => ⟨hp.tab_ok.2.1, ht.tabC.2⟩⟩, hu⟩
    | absOutside s => exact ⟨⟨ht.tabC, fun h => by simp [absP] at h⟩, hu⟩
    | interned =>
      refine ⟨htn, ⟨?_, fun _ => ⟨by simp [Path.rel], ?_⟩⟩⟩
      · intro s hs
        simp [Path.rel] at hs
        rcases hs with rfl | rfl | rfl | rfl | rfl <;> assumption
      · simp only [Path.rel]
        exact isRealStr_head _ 36 (by simp [joinWith, mUPS_DB]) (by decide +kernel) (by decide +kernel) (by decide +kernel)
    | none => exact ⟨hn, hn⟩

/-- the version record with one block, stamped by `who` at `now`, whose path entries are written from `pd`, `tf`, `ud` -/
def singleRec (name version flavor who now : Str) (pd tf ud : PVal) : VRec :=
  { name := some name, version := some version,
    flavors := [(flavor, { declarer := .val who, declared := .val now, productDir := fldOfP (some pd),
                           tableFile := fldOfP (some tf), upsDir := fldOfP (some ud) })] }

theorem single_via_text (ex : Path → Bool) (name version flavor who now : Str) (pd tf ud : PVal) (db : Path)
    (hn : Clean name) (hv : Clean version) (hloc : sLOCAL.isPrefixOf version = false) (hf : CleanKey flavor)
    (hw : Clean who) (hnow : Clean now) (hpd : GoodPV pd) (htf : GoodPV tf) (hud : GoodPV ud) :
    ∃ text,
      printVersion (singleRec name version flavor who now pd tf ud) = .ok (some text) ∧
      parseVersion (some name) (some version) text = .ok (singleRec name version flavor who now pd tf ud) ∧
      makeProduct ex (singleRec name version flavor who now pd tf ud) flavor db
        = resolveInfo ex name version flavor db { productDir := some pd, tableFile := some tf, upsDir := some ud } := by
  obtain ⟨⟨s1, hs1, hc1⟩, hr1⟩ := goodPV_fld _ hpd
  obtain ⟨⟨s2, hs2, hc2⟩, hr2⟩ := goodPV_fld _ htf
  obtain ⟨⟨s3, hs3, hc3⟩, hr3⟩ := goodPV_fld _ hud
  have hgood : GoodVRec (singleRec name version flavor who now pd tf ud) := by
    refine ⟨⟨name, rfl, hn⟩, ⟨version, rfl, hv⟩, by simp [singleRec], by simp [singleRec], ?_⟩
    intro x hx
    simp only [singleRec, List.mem_singleton] at hx
    subst hx
    exact ⟨hf, ⟨⟨Or.inr ⟨who, rfl, hw⟩, Or.inr ⟨now, rfl, hnow⟩, Or.inl rfl, Or.inl rfl, Or.inr ⟨s1, hs1, hc1⟩,
      Or.inr ⟨s3, hs3, hc3⟩, Or.inr ⟨s2, hs2, hc2⟩⟩, by simp [hs1], by simp [hs2], Or.inl (by simp [hs3])⟩⟩
  obtain ⟨text, hprint, hparse⟩ := text_roundtrip_version _ hgood (some name) (some version) (Or.inr rfl) (Or.inr rfl)
  refine ⟨text, hprint, hparse, ?_⟩
  simp only [makeProduct, singleRec, dget, if_true, strOf, hloc, Bool.false_eq_true, if_false, Info.paths, hr1, hr2, hr3]

theorem relocate_via_text (ex ex' : Path → Bool) (root root' : List Str) (name version flavor who now : Str)
    (d : DirPl) (t : TabPl) (hp : PlaceOK root name version flavor d t) (hroot' : SegsOK root')
    (ht : TextOK name version flavor who now d t)
    (hd : DeclEx ex root name version flavor d t) (hr : ReadEx ex' root' name version flavor d t) :
    ∃ vr text,
      declareRec ex who now { name := some name, version := some version, flavors := [] }
        (declaredProd root name version flavor d t) = .ok vr ∧
      printVersion vr = .ok (some text) ∧
      parseVersion (some name) (some version) text = .ok vr ∧
      (makeProduct ex' vr flavor (absP (root' ++ [sUpsDb]))).map (fun p => (p.dir, p.table))
        = .ok (d.at root', t.at root' name version flavor d) := by
  obtain ⟨c, hdp⟩ := declared_canon ex root name version flavor d t hp hd
  have hflav : (declaredProd root name version flavor d t).flavor = flavor := by cases t <;> rfl
  have hrec : declareRec ex who now { name := some name, version := some version, flavors := [] }
      (declaredProd root name version flavor d t)
      = .ok (singleRec name version flavor who now (canonDir d) (canonTab name version flavor t).1
          (canonTab name version flavor t).2) := by
    simp only [declareRec, hflav, dget, Option.map_none, hdp, List.map_nil, dset, stamp, Info.withPaths, canonInfo]
    rfl
  obtain ⟨gd, gt, gu⟩ := canonInfo_good root name version flavor who now d t hp ht
  obtain ⟨text, hprint, hparse, hmake⟩ := single_via_text ex' name version flavor who now _ _ _ (absP (root' ++ [sUpsDb]))
    ht.nameC ht.versionC ht.notLocal ht.flavorC ht.whoC ht.nowC gd gt gu
  exact ⟨_, text, hrec, hprint, hparse, by rw [hmake]; exact resolve_spec ex' root root' name version flavor d t hp hroot' hr⟩

theorem macro_via_text (ex : Path → Bool) (R : List Str) (name version f who now : Str) (md : MDir) (mu : MUps)
    (mt : MTab) (hR : SegsOK R) (hf : SegOK f) (hwf : MacroWF md mu mt)
    (ht : MacroTextOK name version f who now md mu mt) :
    ∃ text,
      printVersion (macroRec name version f who now md mu mt) = .ok (some text) ∧
      parseVersion (some name) (some version) text = .ok (macroRec name version f who now md mu mt) ∧
      (makeProduct ex (macroRec name version f who now md mu mt) f (absP (R ++ [sUpsDb]))).map
          (fun p => (p.dir, p.table))
        = .ok (md.denote R f, mt.denote ex R f (md.denote R f) (mu.denote R f (md.denote R f))) := by
  obtain ⟨text, hprint, hparse, hmake⟩ := single_via_text ex name version f who now md.toRec mt.toRec mu.toRec
    (absP (R ++ [sUpsDb])) ht.nameC ht.versionC ht.notLocal ht.flavorC ht.whoC ht.nowC ht.dirG ht.tabG ht.upsG
  exact ⟨text, hprint, hparse, by
    rw [show macroRec name version f who now md mu mt = singleRec name version f who now md.toRec mt.toRec mu.toRec from rfl,
      hmake]
    exact resolve_macro_spec ex R name version f md mu mt hR hf hwf⟩

end EupsModel.Record
