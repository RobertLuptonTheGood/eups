import EupsModel.Lemmas.PathAct
/-! `${EUPS_PATH[n]}` in the arguments of table actions (`Model/PathAct.lean`, repair of D122): every subscripted
reference is replaced by its own element of `$EUPS_PATH`, and the text around it stays.
Code points: `$` 36, `[` 91, `]` 93, `{` 123, `}` 125, `E` 69; a reference is `pEUPSPATH ++ digits ++ 93 :: 125 :: rest`. -/
namespace EupsModel.PathAct
open EupsModel EupsModel.PathAlg

theorem mEUPSPATH_eq : mEUPSPATH = [36,123,69,85,80,83,95,80,65,84,72,125] := by unfold mEUPSPATH; decide_lit
theorem pEUPSPATH_eq : pEUPSPATH = [36,123,69,85,80,83,95,80,65,84,72,91] := by unfold pEUPSPATH; decide_lit
theorem pEUPSPATH_length : pEUPSPATH.length = 12 := by rw [pEUPSPATH_eq]; rfl

theorem eupsPathAt_ne (c : Nat) (cs : Str) (h : c ≠ 36) : eupsPathAt (c :: cs) = none := by
  unfold eupsPathAt
  rw [pEUPSPATH_eq]
  simp [isPrefixOf_head_ne 36 c _ cs h]

theorem hasEupsPathRef_pre (pre rest : Str) (h : 36 ∉ pre) :
    hasEupsPathRef (pre ++ rest) = hasEupsPathRef rest := by
  induction pre with
  | nil => rfl
  | cons c cs ih =>
    obtain ⟨hc, hcs⟩ := List.ne_and_not_mem_of_not_mem_cons h
    simp [hasEupsPathRef, eupsPathAt_ne c _ hc.symm, ih hcs]

theorem hasEupsPathRef_no_dollar (s : Str) (h : 36 ∉ s) : hasEupsPathRef s = false := by
  simpa [hasEupsPathRef] using hasEupsPathRef_pre s [] h

theorem subEupsPath_pre (elems : List Str) (pre rest : Str) (f : Nat) (hpre : 36 ∉ pre) :
    subEupsPath elems f (pre ++ rest) = pre ++ subEupsPath elems (f - pre.length) rest := by
  induction pre generalizing f with
  | nil => simp
  | cons c cs ih =>
    obtain ⟨hc, hcs⟩ := List.ne_and_not_mem_of_not_mem_cons hpre
    cases f with
    | zero => simp [subEupsPath]
    | succ f =>
      simp only [List.cons_append, subEupsPath, eupsPathAt_ne c _ hc.symm, ih f hcs, List.length_cons,
        Nat.add_sub_add_right]

theorem subEupsPath_nil (elems : List Str) (f : Nat) : subEupsPath elems f [] = [] := by
  cases f <;> rfl

theorem subEupsPath_no_dollar (elems : List Str) (f : Nat) (s : Str) (h : 36 ∉ s) :
    subEupsPath elems f s = s := by
  simpa [subEupsPath_nil] using subEupsPath_pre elems s [] f h

theorem expandArg_no_ref (p : ProdInfo) (ep : Option Str) (arg : Str)
    (h : hasEupsPathRef (expandMacros p arg) = false) : expandArg p ep arg = expandMacros p arg := by
  unfold expandArg
  simp [h]

theorem expandArg_no_dollar (p : ProdInfo) (ep : Option Str) (s : Str) (h : 36 ∉ s) : expandArg p ep s = s := by
  have hm := expandMacros_no_dollar p s h
  rw [expandArg_no_ref p ep s (by rw [hm]; exact hasEupsPathRef_no_dollar s h), hm]

/-- `\d+` -/
def AllDigits (ds : Str) : Prop := ds ≠ [] ∧ ∀ c ∈ ds, Str.isDigit c = true

theorem spanDigits_digits (ds rest : Str) (h : ∀ c ∈ ds, Str.isDigit c = true)
    (hr : rest.head?.all (fun c => !Str.isDigit c) = true) : spanDigits (ds ++ rest) = (ds, rest) := by
  induction ds with
  | nil =>
    cases rest with
    | nil => rfl
    | cons c cs => simp at hr; simp [spanDigits, hr]
  | cons a as ih =>
    have ha := h a (by simp)
    have := ih (fun x hx => h x (by simp [hx]))
    simp [spanDigits, ha, this]

theorem AllDigits.no_dollar {ds : Str} (h : AllDigits ds) : 36 ∉ ds :=
  fun hm => absurd (h.2 36 hm) (by decide)

theorem eupsPathAt_ref (ds rest : Str) (h : AllDigits ds) :
    eupsPathAt (pEUPSPATH ++ ds ++ 93 :: 125 :: rest) = some (Str.toNat ds, rest) := by
  obtain ⟨hne, hd⟩ := h
  have hp : pEUPSPATH.isPrefixOf (pEUPSPATH ++ ds ++ 93 :: 125 :: rest) = true := by
    rw [List.append_assoc]; exact isPrefixOf_append_self _ _
  have hdrop : (pEUPSPATH ++ ds ++ 93 :: 125 :: rest).drop pEUPSPATH.length = ds ++ 93 :: 125 :: rest := by
    rw [List.append_assoc]; exact List.drop_left
  cases ds with
  | nil => exact absurd rfl hne
  | cons d ds' =>
    have hs := spanDigits_digits (d :: ds') (93 :: 125 :: rest) hd rfl
    unfold eupsPathAt
    rw [if_pos hp, hdrop, hs]
    rfl

theorem eupsPathAt_nil : eupsPathAt [] = none := by rw [eupsPathAt, pEUPSPATH_eq]; rfl

theorem hasEupsPathRef_at (s : Str) (m : Nat × Str) (h : eupsPathAt s = some m) : hasEupsPathRef s = true := by
  cases s with
  | nil => rw [eupsPathAt_nil] at h; cases h
  | cons c cs => simp [hasEupsPathRef, h]

theorem hasEupsPathRef_ref (pre ds post : Str) (hpre : 36 ∉ pre) (h : AllDigits ds) :
    hasEupsPathRef (pre ++ pEUPSPATH ++ ds ++ 93 :: 125 :: post) = true := by
  have e : pre ++ pEUPSPATH ++ ds ++ 93 :: 125 :: post = pre ++ (pEUPSPATH ++ ds ++ 93 :: 125 :: post) := by
    simp only [List.append_assoc]
  rw [e, hasEupsPathRef_pre _ _ hpre]
  exact hasEupsPathRef_at _ _ (eupsPathAt_ref ds post h)

theorem subEupsPath_at (elems : List Str) (f : Nat) (s : Str) (i : Nat) (rest : Str)
    (h : eupsPathAt s = some (i, rest)) :
    subEupsPath elems (f + 1) s = elems.getD i mEUPSPATH ++ subEupsPath elems f rest := by
  cases s with
  | nil => rw [eupsPathAt_nil] at h; cases h
  | cons c cs => rw [subEupsPath, h]

theorem subEupsPath_ref_step (elems : List Str) (pre ds rest : Str) (f : Nat) (hpre : 36 ∉ pre)
    (h : AllDigits ds) :
    subEupsPath elems (f + 1 + pre.length) (pre ++ pEUPSPATH ++ ds ++ 93 :: 125 :: rest)
      = pre ++ elems.getD (Str.toNat ds) mEUPSPATH ++ subEupsPath elems f rest := by
  have e : pre ++ pEUPSPATH ++ ds ++ 93 :: 125 :: rest = pre ++ (pEUPSPATH ++ ds ++ 93 :: 125 :: rest) := by
    simp only [List.append_assoc]
  rw [e, subEupsPath_pre elems pre _ _ hpre, Nat.add_sub_cancel, subEupsPath_at elems f _ _ _ (eupsPathAt_ref ds rest h)]
  simp only [List.append_assoc]

theorem subEupsPath_one_ref (elems : List Str) (pre ds post : Str) (hpre : 36 ∉ pre) (hpost : 36 ∉ post)
    (h : AllDigits ds) (f : Nat) (hf : pre.length + 1 ≤ f) :
    subEupsPath elems f (pre ++ pEUPSPATH ++ ds ++ 93 :: 125 :: post)
      = pre ++ elems.getD (Str.toNat ds) mEUPSPATH ++ post := by
  have hfe : f = (f - (pre.length + 1)) + 1 + pre.length := by omega
  rw [hfe, subEupsPath_ref_step elems pre ds post _ hpre h, subEupsPath_no_dollar elems _ post hpost]

theorem subEupsPath_two_refs (elems : List Str) (pre ds1 mid ds2 post : Str) (hpre : 36 ∉ pre)
    (hmid : 36 ∉ mid) (hpost : 36 ∉ post) (h1 : AllDigits ds1) (h2 : AllDigits ds2) (f : Nat)
    (hf : pre.length + mid.length + 2 ≤ f) :
    subEupsPath elems f
        (pre ++ pEUPSPATH ++ ds1 ++ 93 :: 125 :: (mid ++ pEUPSPATH ++ ds2 ++ 93 :: 125 :: post))
      = pre ++ elems.getD (Str.toNat ds1) mEUPSPATH ++ (mid ++ elems.getD (Str.toNat ds2) mEUPSPATH ++ post) := by
  have hfe : f = (f - (pre.length + 1)) + 1 + pre.length := by omega
  rw [hfe, subEupsPath_ref_step elems pre ds1 _ _ hpre h1,
    subEupsPath_one_ref elems mid ds2 post hmid hpost h2 _ (by omega)]

/-- an argument whose only `$` opens `${E…`: every fixed macro goes on `${P…` or `${U…`; the product's own
`${<NAME>_DIR}` is the only one that could match -/
theorem expandMacros_foreign (p : ProdInfo) (pre ys : Str) (hpre : 36 ∉ pre) (hys : 36 ∉ ys)
    (hname : (mNameDir p.name).isPrefixOf (36 :: 123 :: 69 :: ys) = false) :
    expandMacros p (pre ++ 36 :: 123 :: 69 :: ys) = pre ++ 36 :: 123 :: 69 :: ys := by
  have hxs : 36 ∉ 123 :: 69 :: ys := by simp [hys]
  rw [expandMacros_pipeline,
    substRun_one_dollar_none rfl (dollar_products _) hpre hxs
      (NoneAt.cons (by simp [mPRODUCTS_eq, List.isPrefixOf]) (NoneAt.nil _)),
    expandPdir_one_dollar_none p rfl hpre hxs
      (by unfold pdirAt; rw [mDIR_eq, mDIRopt_eq, mEXTRA_eq, mEXTRAopt_eq]; simp [List.isPrefixOf]),
    substRun_one_dollar_none rfl (dollar_tail p) hpre hxs
      (NoneAt.cons hname (NoneAt.cons (by simp [mFLAVOR_eq, List.isPrefixOf])
        (NoneAt.cons (by simp [mNAME_eq, List.isPrefixOf]) (NoneAt.cons (by simp [mVERSION_eq, List.isPrefixOf])
          (NoneAt.cons (by simp [mUPS_eq, List.isPrefixOf]) (NoneAt.nil _))))))]

/-- `<NAME>_DIR}` is no prefix of `EUPS_PATH[<digit>…` when the name has no `[`: it would end before the `[`, and
`EUPS_PATH` has no `}` -/
theorem nameDir_no_match (u t : Str) (h : 91 ∉ u) :
    (u ++ [95,68,73,82,125]).isPrefixOf (69 :: 85 :: 80 :: 83 :: 95 :: 80 :: 65 :: 84 :: 72 :: 91 :: t) = false := by
  rw [Bool.eq_false_iff]
  intro hp
  have h1 := (isPrefixOf_stop (c := 91) [69,85,80,83,95,80,65,84,72] t (by simp [h])).symm.trans hp
  have : 125 ∈ [69,85,80,83,95,80,65,84,72] := (List.isPrefixOf_iff_prefix.mp h1).subset (by simp)
  exact absurd this (by decide)

theorem expandMacros_eups_ref (p : ProdInfo) (pre ds post : Str) (hpre : 36 ∉ pre) (hpost : 36 ∉ post)
    (h : AllDigits ds) (hname : 91 ∉ p.name) :
    expandMacros p (pre ++ pEUPSPATH ++ ds ++ 93 :: 125 :: post) = pre ++ pEUPSPATH ++ ds ++ 93 :: 125 :: post := by
  have e : pre ++ pEUPSPATH ++ ds ++ 93 :: 125 :: post
      = pre ++ 36 :: 123 :: 69 :: ([85,80,83,95,80,65,84,72,91] ++ ds ++ 93 :: 125 :: post) := by  -- `UPS_PATH[`
    rw [pEUPSPATH_eq]; simp
  have hys : 36 ∉ [85,80,83,95,80,65,84,72,91] ++ ds ++ 93 :: 125 :: post := by
    have := h.no_dollar
    simp [this, hpost]
  rw [e]
  apply expandMacros_foreign p pre _ hpre hys
  rw [mNameDir_eq]
  have := nameDir_no_match (upper p.name) (ds ++ 93 :: 125 :: post) (upper_not_mem 91 (by decide) _ hname)
  simpa [List.isPrefixOf, Str.ofString] using this

theorem expandArg_unset_ref (p : ProdInfo) (arg : Str) (h : hasEupsPathRef (expandMacros p arg) = true) :
    expandArg p none arg = arg := by
  unfold expandArg
  simp [h]

theorem expandArg_unset (p : ProdInfo) (pre ds post : Str) (hpre : 36 ∉ pre) (hpost : 36 ∉ post)
    (h : AllDigits ds) (hname : 91 ∉ p.name) :
    expandArg p none (pre ++ pEUPSPATH ++ ds ++ 93 :: 125 :: post)
      = pre ++ pEUPSPATH ++ ds ++ 93 :: 125 :: post :=
  expandArg_unset_ref p _ (by
    rw [expandMacros_eups_ref p pre ds post hpre hpost h hname]; exact hasEupsPathRef_ref pre ds post hpre h)

example : AllDigits (Str.ofString "10") := by unfold AllDigits; decide_lit
example : Str.toNat (Str.ofString "10") = 10 := by decide_lit
example : eupsPathAt (Str.ofString "${EUPS_PATH[10]}/x") = some (10, Str.ofString "/x") := by decide_lit
example : eupsPathAt (Str.ofString "${EUPS_PATH[]}/x") = none := by decide_lit
example : eupsPathAt (Str.ofString "${EUPS_PATH}/x") = none := by decide_lit

example : expandMacros exProd (Str.ofString "a/${EUPS_PATH[0]}/share")
    = Str.ofString "a/${EUPS_PATH[0]}/share" := by unfold exProd; decide_lit

/-- the hypothesis `91 ∉ p.name` is needed: a product called `EUPS_PATH[0]}` owns `${EUPS_PATH[0]}_DIR}` -/
example : expandMacros { exProd with name := Str.ofString "EUPS_PATH[0]}" } (Str.ofString "${EUPS_PATH[0]}_DIR}")
    = Str.ofString "/st/p/1" := by unfold exProd; decide_lit

/-- D122: the pinned rule lost the text around the reference -/
example : subEupsPathPinned [Str.ofString "/st", Str.ofString "/o"] (Str.ofString "${EUPS_PATH[0]}/share")
    = some (Str.ofString "/st") := by decide_lit
example : subEupsPath [Str.ofString "/st", Str.ofString "/o"] 40 (Str.ofString "${EUPS_PATH[0]}/share")
    = Str.ofString "/st/share" := by decide_lit
/-- two references with different indices (the pinned rule: the first element, for the whole argument) -/
example : subEupsPath [Str.ofString "/st", Str.ofString "/o"] 60
    (Str.ofString "${EUPS_PATH[1]}/lib:${EUPS_PATH[0]}/lib") = Str.ofString "/o/lib:/st/lib" := by decide_lit
example : subEupsPathPinned [Str.ofString "/st", Str.ofString "/o"]
    (Str.ofString "${EUPS_PATH[1]}/lib:${EUPS_PATH[0]}/lib") = some (Str.ofString "/o") := by decide_lit
example : subEupsPath [Str.ofString "/st", Str.ofString "/o"] 40 (Str.ofString "x${EUPS_PATH[2]}/share")
    = Str.ofString "x${EUPS_PATH}/share" := by decide_lit
example : subEupsPathPinned [Str.ofString "/st", Str.ofString "/o"] (Str.ofString "x${EUPS_PATH[2]}/share")
    = none := by decide_lit
example : expandArg exProd (some (Str.ofString "/st:/o")) (Str.ofString "${EUPS_PATH[1]}/share/${PRODUCT_NAME}")
    = Str.ofString "/o/share/p" := by unfold exProd; decide_lit
example : expandArg exProd none (Str.ofString "${EUPS_PATH[1]}/share/${PRODUCT_NAME}")
    = Str.ofString "${EUPS_PATH[1]}/share/${PRODUCT_NAME}" := by unfold exProd; decide_lit
example : expandArg exProd none (Str.ofString "/share/${PRODUCT_NAME}") = Str.ofString "/share/p" := by
  unfold exProd; decide_lit

end EupsModel.PathAct
