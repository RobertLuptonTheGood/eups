import EupsModel.Lemmas.PathAct
/-! The execution of table actions on the `Eups` state (`exec`, `run` of `Model/PathAct.lean`): each command as an
equation, the frames of `envPrepend` / `envSet` / `envUnset`, what a successful action can change (`exec_var_cases`),
the frame and `--force` facts read off it, and `envPrepend(VAR, ${PRODUCT_DIR}/bin)` end to end. -/
namespace EupsModel.PathAct
open EupsModel EupsModel.PathAlg

@[simp] theorem forgetEnv_env (s : St) (var : Str) : (forgetEnv s var).env = s.env := by
  unfold forgetEnv; split <;> rfl
@[simp] theorem forgetEnv_aliases (s : St) (var : Str) : (forgetEnv s var).aliases = s.aliases := by
  unfold forgetEnv; split <;> rfl
@[simp] theorem forgetEnv_oldAliases (s : St) (var : Str) : (forgetEnv s var).oldAliases = s.oldAliases := by
  unfold forgetEnv; split <;> rfl
@[simp] theorem forgetEnv_force (s : St) (var : Str) : (forgetEnv s var).force = s.force := by
  unfold forgetEnv; split <;> rfl
theorem forgetEnv_noforce (s : St) (var : Str) (hf : s.force = false) : forgetEnv s var = s := by
  simp [forgetEnv, hf]

/-- `if Eups.force and key in Eups.oldAliases: del Eups.oldAliases[key]`: the twin of `forgetEnv` that `exec` writes
out in its alias branch -/
def forgetAlias (s : St) (key : Str) : St :=
  if s.force && s.oldAliases.has key then { s with oldAliases := s.oldAliases.del key } else s

@[simp] theorem forgetAlias_env (s : St) (k : Str) : (forgetAlias s k).env = s.env := by
  unfold forgetAlias; split <;> rfl
@[simp] theorem forgetAlias_oldEnv (s : St) (k : Str) : (forgetAlias s k).oldEnv = s.oldEnv := by
  unfold forgetAlias; split <;> rfl
@[simp] theorem forgetAlias_aliases (s : St) (k : Str) : (forgetAlias s k).aliases = s.aliases := by
  unfold forgetAlias; split <;> rfl
@[simp] theorem forgetAlias_force (s : St) (k : Str) : (forgetAlias s k).force = s.force := by
  unfold forgetAlias; split <;> rfl
theorem forgetAlias_noforce (s : St) (k : Str) (hf : s.force = false) : forgetAlias s k = s := by
  simp [forgetAlias, hf]

theorem exec_alias_eq (fwd : Bool) (key : Str) (ws : List Str) (s : St) :
    exec fwd (.alias key ws) s = .ok
      (if fwd then { forgetAlias s key with aliases := (forgetAlias s key).aliases.set key (joinWords ws) }
       else { forgetAlias s key with aliases := (forgetAlias s key).aliases.unset key,
                                     oldAliases := (forgetAlias s key).oldAliases.setNone key }) := by
  cases fwd <;> rfl

theorem exec_alias_cases {fwd : Bool} {key : Str} {ws : List Str} {s s' : St}
    (h : exec fwd (.alias key ws) s = .ok s') :
    s' = if fwd then { forgetAlias s key with aliases := (forgetAlias s key).aliases.set key (joinWords ws) }
         else { forgetAlias s key with aliases := (forgetAlias s key).aliases.unset key,
                                       oldAliases := (forgetAlias s key).oldAliases.setNone key } := by
  rw [exec_alias_eq] at h
  injection h with h
  exact h.symm

theorem exec_path_eq (fwd app : Bool) (var value delim : Str) (s : St) :
    exec fwd (.path app var value delim) s =
      match envPrepend app fwd var value delim s.env, exec.expandSkips app fwd var value delim s.env with
      | .runtimeError, _ => .runtimeError
      | .ok _, true => .ok s
      | .ok env', false => .ok { forgetEnv s var with env := env' } := rfl

theorem expandSkips_eq (app fwd : Bool) (var value delim : Str) (env : Env) :
    exec.expandSkips app fwd var value delim env
      = (match expand env (core delim value) with | .skip => true | _ => false) := rfl

theorem exec_path_skip (fwd app : Bool) (var value delim : Str) (s : St)
    (h : expand s.env (core delim value) = .skip) : exec fwd (.path app var value delim) s = .ok s := by
  have h1 : envPrepend app fwd var value delim s.env = .ok s.env := by rw [envPrepend_core, h]
  rw [exec_path_eq, expandSkips_eq, h, h1]

theorem exec_path_value (fwd app : Bool) (var value delim w : Str) (s : St) (env' : Env)
    (h : expand s.env (core delim value) = .value w)
    (he : envPrepend app fwd var value delim s.env = .ok env') :
    exec fwd (.path app var value delim) s = .ok { forgetEnv s var with env := env' } := by
  rw [exec_path_eq, expandSkips_eq, h, he]

theorem exec_path_cases {fwd app : Bool} {var value delim : Str} {s s' : St}
    (h : exec fwd (.path app var value delim) s = .ok s') :
    ∃ env', envPrepend app fwd var value delim s.env = .ok env' ∧
      s' = if exec.expandSkips app fwd var value delim s.env then s else { forgetEnv s var with env := env' } := by
  rw [exec_path_eq] at h
  split at h
  · cases h
  all_goals
    rename_i env' he hs
    injection h with h
    exact ⟨env', he, by rw [hs]; exact h.symm⟩

theorem exec_set_eq (fwd : Bool) (var value : Str) (s : St) :
    exec fwd (.set var value) s =
      match envSet fwd var value (forgetEnv s var).env with
      | .ok env' => .ok { forgetEnv s var with env := env' }
      | .runtimeError => .runtimeError := rfl

theorem exec_unset_eq (fwd : Bool) (var : Str) (s : St) :
    exec fwd (.unset var) s =
      match envUnset fwd var s.env with
      | .ok env' => .ok { s with env := env' }
      | .runtimeError => .runtimeError := rfl

theorem exec_set_cases {fwd : Bool} {var value : Str} {s s' : St}
    (h : exec fwd (.set var value) s = .ok s') :
    ∃ env', envSet fwd var value s.env = .ok env' ∧ s' = { forgetEnv s var with env := env' } := by
  rw [exec_set_eq] at h
  split at h
  · rename_i env' heq
    injection h with h
    rw [forgetEnv_env] at heq
    exact ⟨env', heq, h.symm⟩
  · cases h

/-- the variable an action is about (an alias action is about no variable: `exec_alias_env`) -/
def Act.target : Act → Str
  | .path _ var _ _ => var
  | .set var _ => var
  | .unset var => var
  | .alias _ _ => []

theorem exec_alias_env (fwd : Bool) (key : Str) (ws : List Str) (s s' : St)
    (h : exec fwd (.alias key ws) s = .ok s') : s'.env = s.env ∧ s'.oldEnv = s.oldEnv := by
  obtain rfl := exec_alias_cases h
  cases fwd <;> simp

theorem envPrepend_frame (append fwd : Bool) (var value delim : Str) (env env' : Env)
    (h : envPrepend append fwd var value delim env = .ok env') (k : Str) (hk : k ≠ var) :
    env'.get k = env.get k := by
  rw [envPrepend_core] at h
  dsimp only at h
  split at h
  · injection h with h; subst h; exact Env.get_set_other _ _ _ _ hk
  · injection h with h; subst h; rfl
  · cases fwd
    · injection h with h; subst h; exact Env.get_set_other _ _ _ _ hk
    · cases h

theorem envSet_frame (fwd : Bool) (var value : Str) (env env' : Env)
    (h : envSet fwd var value env = .ok env') (k : Str) (hk : k ≠ var) : env'.get k = env.get k := by
  unfold envSet at h
  split at h
  · split at h
    · injection h with h; subst h; rfl
    · injection h with h; subst h; exact Env.get_set_other _ _ _ _ hk
    · injection h with h; subst h; rfl
    · cases h
  · injection h with h; subst h; exact Env.get_unset_other _ _ _ hk

theorem envUnset_frame (fwd : Bool) (var : Str) (env env' : Env)
    (h : envUnset fwd var env = .ok env') (k : Str) (hk : k ≠ var) : env'.get k = env.get k := by
  unfold envUnset at h
  split at h
  · injection h with h; subst h; exact Env.get_unset_other _ _ _ hk
  · injection h with h; subst h; rfl

/-- what a successful action that is not an alias action (`exec_alias_cases`) does to the state: the environment changes
at its own variable at most, and of the rest only the record of the old environment can change, through `forgetEnv` -/
theorem exec_var_cases (fwd : Bool) (a : Act) (s s' : St) (h : exec fwd a s = .ok s') :
    (∃ key ws, a = .alias key ws) ∨
    ∃ env', (∀ k, k ≠ a.target → env'.get k = s.env.get k) ∧
      (s' = { s with env := env' } ∨ s' = { forgetEnv s a.target with env := env' }) := by
  cases a with
  | path app var value delim =>
    obtain ⟨env', he, rfl⟩ := exec_path_cases h
    split
    · exact .inr ⟨s.env, fun _ _ => rfl, Or.inl rfl⟩
    · exact .inr ⟨env', envPrepend_frame app fwd var value delim s.env env' he, Or.inr rfl⟩
  | set var value =>
    obtain ⟨env', he, rfl⟩ := exec_set_cases h
    exact .inr ⟨env', envSet_frame fwd var value s.env env' he, Or.inr rfl⟩
  | unset var =>
    rw [exec_unset_eq] at h
    split at h
    · rename_i env' he
      injection h with h
      exact .inr ⟨env', envUnset_frame fwd var s.env env' he, Or.inl h.symm⟩
    · cases h
  | alias key ws => exact .inl ⟨key, ws, rfl⟩

theorem exec_other_var (fwd : Bool) (a : Act) (s s' : St) (k : Str)
    (h : exec fwd a s = .ok s') (hk : k ≠ a.target) : s'.env.get k = s.env.get k := by
  obtain ⟨key, ws, rfl⟩ | ⟨env', hfr, rfl | rfl⟩ := exec_var_cases fwd a s s' h
  · rw [(exec_alias_env fwd key ws s s' h).1]
  all_goals exact hfr k hk

theorem OMap.get_del_same (m : OMap) (k : Str) : (OMap.del m k).get k = none := by
  induction m with
  | nil => rfl
  | cons p r ih => by_cases h : p.1 = k <;> simp_all [OMap.del, OMap.get]

theorem OMap.get_del_other (m : OMap) (k k2 : Str) (h : k2 ≠ k) : (OMap.del m k).get k2 = m.get k2 := by
  induction m with
  | nil => rfl
  | cons p r ih => by_cases h1 : p.1 = k <;> by_cases h2 : p.1 = k2 <;> simp_all [OMap.del, OMap.get]

theorem OMap.get_setNone_same (m : OMap) (k : Str) : (OMap.setNone m k).get k = some none := by
  fun_induction OMap.setNone m k <;> simp_all [OMap.get]

theorem OMap.get_setNone_other (m : OMap) (k k2 : Str) (h : k2 ≠ k) :
    (OMap.setNone m k).get k2 = m.get k2 := by
  fun_induction OMap.setNone m k <;> simp_all [OMap.get, Ne.symm h, OMap.get_del_other]

theorem OMap.has_iff_get (m : OMap) (k : Str) : m.has k = (m.get k).isSome := by
  induction m with
  | nil => rfl
  | cons p rest ih =>
    obtain ⟨k', v⟩ := p
    by_cases h : k' = k
    · simp [OMap.has, OMap.get, h]
    · have ih' : rest.any (fun p => p.1 == k) = (OMap.get rest k).isSome := ih
      simp [OMap.has, OMap.get, h, ih']

theorem forgetEnv_force_get (s : St) (var : Str) (hf : s.force = true) (hin : s.oldEnv.has var = true) :
    (forgetEnv s var).oldEnv.get var = some none := by
  simp [forgetEnv, hf, hin, OMap.get_setNone_same]

theorem forgetAlias_force_get (s : St) (key : Str) (hf : s.force = true) :
    (forgetAlias s key).oldAliases.get key = none := by
  by_cases hin : s.oldAliases.has key = true
  · simp [forgetAlias, hf, hin, OMap.get_del_same]
  · have hg : s.oldAliases.get key = none := by
      have := OMap.has_iff_get s.oldAliases key
      cases hgk : s.oldAliases.get key with
      | none => rfl
      | some v => rw [hgk] at this; exact absurd this (by simpa using hin)
    simp [forgetAlias, hf, hin, hg]

theorem exec_alias_setup_force (key : Str) (ws : List Str) (s s' : St) (hf : s.force = true)
    (h : exec true (.alias key ws) s = .ok s') : s'.oldAliases.get key = none := by
  obtain rfl := exec_alias_cases h
  exact forgetAlias_force_get s key hf

theorem exec_aliases_untouched (fwd : Bool) (a : Act) (s s' : St) (h : exec fwd a s = .ok s')
    (ha : ∀ k ws, a ≠ .alias k ws) : s'.aliases = s.aliases ∧ s'.oldAliases = s.oldAliases := by
  obtain ⟨key, ws, rfl⟩ | ⟨env', _, rfl | rfl⟩ := exec_var_cases fwd a s s' h
  · exact absurd rfl (ha key ws)
  · exact ⟨rfl, rfl⟩
  · exact ⟨forgetEnv_aliases s _, forgetEnv_oldAliases s _⟩

theorem exec_force (fwd : Bool) (a : Act) (s s' : St) (h : exec fwd a s = .ok s') : s'.force = s.force := by
  obtain ⟨key, ws, rfl⟩ | ⟨env', _, rfl | rfl⟩ := exec_var_cases fwd a s s' h
  · obtain rfl := exec_alias_cases h
    cases fwd <;> simp
  · rfl
  · exact forgetEnv_force s _

theorem exec_noforce_oldAliases_setup (a : Act) (s s' : St) (hf : s.force = false)
    (h : exec true a s = .ok s') : s'.oldAliases = s.oldAliases := by
  cases a with
  | alias key ws =>
    obtain rfl := exec_alias_cases h
    show (forgetAlias s key).oldAliases = _
    rw [forgetAlias_noforce s key hf]
  | _ => exact (exec_aliases_untouched true _ s s' h (by intro k ws e; cases e)).2

theorem exec_set_force_others (fwd : Bool) (var value : Str) (s s' : St) (k : Str) (hk : k ≠ var)
    (h : exec fwd (.set var value) s = .ok s') : s'.oldEnv.get k = s.oldEnv.get k := by
  obtain ⟨env', _, rfl⟩ := exec_set_cases h
  show (forgetEnv s var).oldEnv.get k = _
  unfold forgetEnv; split
  · exact OMap.get_setNone_other _ _ _ hk
  · rfl

theorem exec_path_skip_keeps (fwd app : Bool) (var value delim : Str) (s s' : St)
    (hs : exec.expandSkips app fwd var value delim s.env = true)
    (h : exec fwd (.path app var value delim) s = .ok s') : s' = s := by
  obtain ⟨_, _, rfl⟩ := exec_path_cases h
  rw [hs]; rfl

theorem exec_unset (var : Str) (s : St) : exec true (.unset var) s = .ok { s with env := s.env.unset var } := rfl

theorem run_cons_ok (a : Bool × Act) (rest : List (Bool × Act)) (s s' : St) (h : run (a :: rest) s = .ok s') :
    ∃ s1, exec a.1 a.2 s = .ok s1 ∧ run rest s1 = .ok s' := by
  simp only [run] at h
  cases he : exec a.1 a.2 s with
  | runtimeError => rw [he] at h; cases h
  | ok s1 => rw [he] at h; exact ⟨s1, rfl, h⟩

theorem run_other_var (acts : List (Bool × Act)) (s s' : St) (k : Str)
    (h : run acts s = .ok s') (hk : ∀ a ∈ acts, k ≠ a.2.target) :
    s'.env.get k = s.env.get k := by
  induction acts generalizing s with
  | nil => simp [run] at h; subst h; rfl
  | cons a rest ih =>
    obtain ⟨s1, he, hr⟩ := run_cons_ok a rest s s' h
    rw [ih s1 hr (fun b hb => hk b (by simp [hb])), exec_other_var a.1 a.2 s s1 k he (hk a (by simp))]

theorem run_aliases_untouched (acts : List (Bool × Act)) (s s' : St)
    (h : run acts s = .ok s') (hal : ∀ a ∈ acts, ∀ key ws, a.2 ≠ .alias key ws) :
    s'.aliases = s.aliases := by
  induction acts generalizing s with
  | nil => simp [run] at h; subst h; rfl
  | cons a rest ih =>
    obtain ⟨s1, he, hr⟩ := run_cons_ok a rest s s' h
    rw [ih s1 hr (fun b hb => hal b (by simp [hb])), (exec_aliases_untouched a.1 a.2 s s1 he (hal a (by simp))).1]

theorem exec_path_good (c : Nat) (fwd app : Bool) (var v : Str) (oldl : List Str) (s : St)
    (hold : ∀ e ∈ oldl, OldPiece c e) (hv : GoodPiece c v)
    (henv : (s.env.get var).getD [] = join [c] oldl) :
    exec fwd (.path app var v [c]) s
      = .ok { forgetEnv s var with env := s.env.set var (join [c] (applyL app fwd [v] oldl)) } :=
  exec_path_value fwd app var v [c] v s _
    (by rw [core_plain _ _ (startsWith_not_mem c v hv.2.1) (endsWith_not_mem c v hv.2.1)]
        exact expand_no_dollar s.env v hv.2.2)
    (envPrepend_lifts_old c app fwd var v oldl s.env hold hv henv)

theorem exec_path_product_dir (c : Nat) (hc : c ≠ 36) (p : ProdInfo) (fwd app : Bool) (var d tail : Str)
    (oldl : List Str) (s : St) (hd : p.dir = some d) (hne : d ≠ []) (hvar : 36 ∉ var)
    (hold : ∀ e ∈ oldl, GoodPiece c e) (hv : GoodPiece c (d ++ tail))
    (henv : (s.env.get var).getD [] = join [c] oldl) :
    exec fwd ((Act.path app var (mDIR ++ tail) [c]).expandMacros p) s
      = .ok { forgetEnv s var with env := s.env.set var (join [c] (applyL app fwd [d ++ tail] oldl)) } := by
  have h36 : 36 ∉ d ∧ 36 ∉ tail := by
    have := hv.2.2
    simpa [List.mem_append, not_or] using this
  have hcc : (36 : Nat) ∉ [c] := by simpa using Ne.symm hc
  have ha : (Act.path app var (mDIR ++ tail) [c]).expandMacros p = .path app var (d ++ tail) [c] := by
    show Act.path app (expandMacros p var) (expandMacros p (mDIR ++ tail)) (expandMacros p [c]) = _
    rw [expandMacros_no_dollar p var hvar, expandMacros_no_dollar p [c] hcc,
      expandMacros_product_dir p d tail hd hne h36.1 h36.2]
  rw [ha]
  exact exec_path_good c fwd app var (d ++ tail) oldl s (fun e he => (hold e he).old) hv henv

theorem exec_path_product_dir_get (c : Nat) (hc : c ≠ 36) (p : ProdInfo) (var d tail : Str)
    (oldl : List Str) (s : St) (hd : p.dir = some d) (hne : d ≠ []) (hvar : 36 ∉ var)
    (hold : ∀ e ∈ oldl, GoodPiece c e) (hv : GoodPiece c (d ++ tail))
    (henv : (s.env.get var).getD [] = join [c] oldl) :
    ∃ s', exec true ((Act.path false var (mDIR ++ tail) [c]).expandMacros p) s = .ok s' ∧
      s'.env.get var = some (join [c] ((d ++ tail) :: (uniq oldl).filter (fun x => decide (x ≠ d ++ tail)))) := by
  refine ⟨_, exec_path_product_dir c hc p true false var d tail oldl s hd hne hvar hold hv henv, ?_⟩
  dsimp only
  rw [Env.get_set_same, applyL_prepend_single]
  congr 3
  apply List.filter_congr
  intro x _
  by_cases hx : x = d ++ tail
  · subst hx; simp
  · simp [hx]

/-! A state is written ⟨env, oldEnv, aliases, oldAliases, force⟩. -/

example :
    exec true ((Act.path false (Str.ofString "PATH") (Str.ofString "${PRODUCT_DIR}/bin") [58]).expandMacros exProd)
      ⟨[(Str.ofString "PATH", Str.ofString "/usr/bin")], [], [], [], false⟩
    = .ok ⟨[(Str.ofString "PATH", Str.ofString "/st/p/1/bin:/usr/bin")], [], [], [], false⟩ := by
  unfold exProd; decide_lit
example :
    exec true (.set (Str.ofString "X") (Str.ofString "1"))
      ⟨[], [(Str.ofString "X", some (Str.ofString "0"))], [], [], true⟩
    = .ok ⟨[(Str.ofString "X", Str.ofString "1")], [(Str.ofString "X", none)], [], [], true⟩ := by decide_lit
example :
    exec false (.alias (Str.ofString "ll") [Str.ofString "ls", Str.ofString "-l"])
      ⟨[], [], [(Str.ofString "ll", Str.ofString "ls -l")], [], false⟩
    = .ok ⟨[], [], [], [(Str.ofString "ll", none)], false⟩ := by decide_lit

end EupsModel.PathAct
