import EupsModel.Lemmas.SetupSpec
/-! C04 keep clause: with `keep` at the head of the VRO, a request at depth > 0 for a name that has a record resolves to
the recorded product and is skipped; so when the requested product itself is not set up beforehand, nothing is ever
unwound and every prior record survives.  Stated for the records in a predicate `D` that holds at least of those naming a
declared version (`Decd`): a record `findSetupProduct` cannot find is not a set-up product, and `keep` cannot protect it. -/
namespace EupsModel.Setup

def Decd (db : Db) (m : Name) (v : Ver) : Prop := ∃ d, db.lookup (m, v) = some d

theorem resolve_keep {db : Db} {path : List Nat} {keep : Bool} {al : Already} {name : Name} {version : Option VerReq}
    {vexpr : Option VExpr} {depth k : Nat} {post : List VroEnt} {d0 d : Decl} {r0 r : Option VroEnt}
    (hg : aget al name = some (d0, r0))
    (h : resolve db path keep al name version vexpr (depth + 1) k (.keep :: post) = .found d r) : d = d0 := by
  cases k with
  | zero => simp [resolve] at h
  | succ k =>
    have hw : walk db path al name version (depth + 1) vexpr (.keep :: post) = some (d0, .keep, .keep) := by
      simp [walk, hg]
    have hf : ∃ r', find db path al name version vexpr (depth + 1) (.keep :: post) = some (d0, r') := by
      unfold find; rw [hw]; simp only [hg]
      cases r0 with
      | none => exact ⟨_, rfl⟩
      | some oreason =>
        simp only
        split
        · exact ⟨_, rfl⟩
        · exact ⟨_, rfl⟩
    obtain ⟨r', hf⟩ := hf
    simp only [resolve, List.isEmpty_cons, Bool.false_eq_true, if_false, hf] at h
    cases version with
    | none => simp at h; exact h.1.symm
    | some req =>
      cases req with
      | explicit v => simp at h; exact h.1.symm
      | expr e => simp at h; exact h.1.symm

theorem selectVRO_keep (inexact : Bool) (tags : List Str) : VroEnt.keep ∈ selectVRO true inexact tags := by
  unfold selectVRO
  have h3 : lastFixed 0 0 [VroEnt.keep, .typeExact, .commandLine, .version, .versionExpr, .tag tagCurrent] = 3 := by decide +kernel
  simp only [if_true, h3]
  cases inexact <;> cases tags <;> simp [dedup, List.mem_filter]

/-- `alreadySetupProducts` as rebuilt at depth 0 holds every record of a declared version -/
theorem aget_alreadyOfEnvD (db : Db) (l : List (Name × Ver)) (m : Name) (v : Ver) (h : aget l m = some v)
    (hd : Decd db m v) :
    ∃ d, aget (l.filterMap (fun (nv : Name × Ver) => (db.lookup (nv.1, nv.2)).map (fun d => (nv.1, ((d, none) : Decl × Option VroEnt))))) m
      = some (d, none) ∧ d.ver = v := by
  induction l with
  | nil => simp [aget] at h
  | cons p rest ih =>
    obtain ⟨n', v'⟩ := p
    by_cases hn : n' = m
    · subst hn
      simp [aget] at h; subst h
      obtain ⟨d', hd'⟩ := hd
      simp only [List.filterMap_cons, hd', Option.map_some]
      exact ⟨d', by simp [aget], (lookup_some db _ d' hd').2.2⟩
    · simp [aget, hn] at h
      obtain ⟨d, hg, hv⟩ := ih h
      refine ⟨d, ?_, hv⟩
      simp only [List.filterMap_cons]
      cases hl : db.lookup (n', v') with
      | none => simpa using hg
      | some d0 => simp [aget, hn]; exact hg

section
variable (D : Name → Ver → Prop)

/-- every record in `D` is mirrored in `alreadySetupProducts` by a product of the same version -/
def Mirror (s : St) : Prop := ∀ m v, s.env.rec? m = some v → D m v → ∃ d r, aget s.already m = some (d, r) ∧ d.ver = v

def ExtA (s s' : St) : Prop := ∀ m v, s.env.rec? m = some v → D m v → aget s'.already m = aget s.already m
def ExtR (s s' : St) : Prop := ∀ m v, s.env.rec? m = some v → D m v → s'.env.rec? m = some v

theorem mirror_record (d : Decl) (r : Option VroEnt) (s : St) (hm : Mirror (fun m v => m ≠ d.name ∧ D m v) s) :
    Mirror D (record d r s) := by
  intro m v h hd
  by_cases hmd : m = d.name
  · subst hmd
    rw [record_rec?_same] at h
    exact ⟨d, r, by simp [record, aget_aset_same], Option.some.inj h⟩
  · rw [record_rec?_other d r s m hmd] at h
    obtain ⟨d', r', hg, hv⟩ := hm m v h ⟨hmd, hd⟩
    exact ⟨d', r', (record_already_other d r s m hmd).trans hg, hv⟩

theorem mirror_setupProd (db : Db) (s : St) (ha : AlreadyOK db s.already) (hm : Mirror D s) (n : Name) (v : Ver)
    (h : s.env.rec? n = some v) (hd : D n v) :
    ∃ d r, aget s.already n = some (d, r) ∧ d.ver = v ∧ setupProd db s.env n = some d := by
  obtain ⟨d, r, hg, hv⟩ := hm n v h hd
  obtain ⟨hc, hn⟩ := ha n d r hg
  refine ⟨d, r, hg, hv, ?_⟩
  have : (n, v) = d.prod := by unfold Decl.prod; rw [hn, hv]
  rw [setupProd_of_rec h, this]; exact hc

/-- what a forward run with `keep` in the VRO guarantees about its outcome -/
def KeepPost (s : St) : Res → Prop
  | .ok s' => ExtA D s s' ∧ ExtR D s s' ∧ Mirror D s'
  | .notFound s' => ExtA D s s'
  | .raised s' => ExtA D s s'
  | .fuel => True

theorem keepPost_refl (s : St) (hm : Mirror D s) : KeepPost D s (.ok s) := ⟨fun _ _ _ _ => rfl, fun _ _ h _ => h, hm⟩

theorem keepPost_trans (s s1 : St) (r : Res) (hA : ExtA D s s1) (hR : ExtR D s s1) (h : KeepPost D s1 r) :
    KeepPost D s r := by
  cases r with
  | ok s' =>
    obtain ⟨hA2, hR2, hm2⟩ := h
    exact ⟨fun m w hw hd => by rw [hA2 m w (hR m w hw hd) hd, hA m w hw hd],
      fun m w hw hd => hR2 m w (hR m w hw hd) hd, hm2⟩
  | notFound s' => exact fun m w hw hd => by rw [h m w (hR m w hw hd) hd, hA m w hw hd]
  | raised s' => exact fun m w hw hd => by rw [h m w (hR m w hw hd) hd, hA m w hw hd]
  | fuel => trivial

theorem keepPost_extA (s : St) (r : Res) (h : KeepPost D s r) (s' : St) (hs : r.st? = some s') : ExtA D s s' := by
  cases r with
  | ok s1 => cases hs; exact h.1
  | notFound s1 => cases hs; exact h
  | raised s1 => cases hs; exact h
  | fuel => cases hs

theorem record_keep (db : Db) (d : Decl) (r : Option VroEnt) (s : St) (ha : AlreadyOK db s.already) (hm : Mirror D s)
    (hnone : setupProd db s.env d.name = none) : KeepPost D s (.ok (record d r s)) := by
  have hne : ∀ m v, s.env.rec? m = some v → D m v → m ≠ d.name := by
    intro m v h hd e
    subst e
    obtain ⟨_, _, _, _, hsp⟩ := mirror_setupProd D db s ha hm d.name v h hd
    rw [hnone] at hsp; cases hsp
  refine ⟨?_, ?_, ?_⟩
  · intro m v h hd
    exact record_already_other d r s m (hne m v h hd)
  · intro m v h hd
    rw [record_rec?_other d r s m (hne m v h hd)]; exact h
  · exact mirror_record D d r s fun m v h hd => hm m v h hd.2

variable {cfg : Cfg}

theorem depVro_keep {vro : List VroEnt} (hk : VroEnt.keep ∈ vro) (t : List Str) (kl : Bool) :
    depVro vro t kl = .keep :: (t.map VroEnt.tag ++ vro) := if_pos (Or.inl hk)

theorem mirror_apply {fwd : Bool} {p : Prod} {a : Act} {s : St} (hm : Mirror D s) : Mirror D (a.apply fwd p s) := by
  intro m w hw hd
  rw [apply_rec?] at hw
  rw [apply_already]; exact hm m w hw hd

theorem mirror_restored {s s1 : St} {r : Res} (hm : Mirror D s) (hp : KeepPost D s r)
    (hr : r = .notFound s1 ∨ r = .raised s1) : ExtA D s (s.restored s1) ∧ Mirror D (s.restored s1) := by
  have hA : ExtA D s s1 := keepPost_extA D s r hp s1 (Res.st?_of_fail hr)
  refine ⟨hA, fun m w hw hd => ?_⟩
  obtain ⟨d', r', hg, hv⟩ := hm m w hw hd
  exact ⟨d', r', (hA m w hw hd).trans hg, hv⟩

theorem Chosen.keepPost {k : Nat} {vro : List VroEnt} {n : Name} {ver : Option VerReq} {vexpr : Option VExpr} {s : St}
    {d : Decl} {reason : Option VroEnt} {s0 : St} (h : Chosen cfg k vro n ver vexpr s d reason s0) (hk : 0 < k)
    (hm : Mirror D s) : KeepPost D s (.ok s0) := by
  -- below the top level `register` does nothing and `afterResolve` touches the product cache only, which `KeepPost` does
  -- not read: the fact about `s` closes the goal about `s.afterResolve …`
  rw [h.below hk]; exact keepPost_refl D s hm

/-- `replace` cannot happen at depth > 0 under a VRO that starts with `keep`: a name that has a record resolves to it -/
theorem keep_rules (hD : ∀ m v, Decd cfg.db m v → D m v) :
    FwdRules cfg (fun k _ vro _ s res => 0 < k → (∃ post, vro = .keep :: post) → Mirror D s → KeepPost D s res)
      (fun _ _ vro _ _ s res => VroEnt.keep ∈ vro → Mirror D s → KeepPost D s res) where
  nil := fun _ hm => keepPost_refl D _ hm
  line := fun _ _ _ _ _ _ ih hk hm =>
    keepPost_trans D _ _ _ (fun _ _ _ _ => by rw [apply_already]) (fun _ _ hw _ => by rw [apply_rec?]; exact hw)
      (ih hk (mirror_apply D hm))
  skip := fun _ ih => ih
  ok := fun _ _ _ _ _ _ hq ih hk hm => by
    obtain ⟨hA, hR, hm1⟩ := hq (Nat.succ_pos _) ⟨_, depVro_keep hk _ _⟩ hm
    exact keepPost_trans D _ _ _ hA hR (ih hk hm1)
  raise := fun hr hq hk hm => (mirror_restored D hm (hq (Nat.succ_pos _) ⟨_, depVro_keep hk _ _⟩ hm) hr).1
  cont := fun hr hq ih hk hm => by
    obtain ⟨hA, hm1⟩ := mirror_restored D hm (hq (Nat.succ_pos _) ⟨_, depVro_keep hk _ _⟩ hm) hr
    exact keepPost_trans D _ _ _ hA (fun _ _ h _ => h) (ih hk hm1)
  notFound := fun _ _ _ _ _ _ _ => rfl
  raised := fun _ _ _ _ _ _ _ => rfl
  same := fun hch _ hk _ _ hm => hch.keepPost D hk hm
  fresh := fun hch hsp ih hk ⟨_, hv⟩ hm => by
    obtain ⟨hA0, hR0, hm0⟩ := hch.keepPost D hk hm
    obtain ⟨hA1, hR1, hm1⟩ := record_keep D cfg.db _ _ _ hch.already hm0 (by rw [hch.env, hch.name]; exact hsp)
    exact keepPost_trans D _ _ _ hA0 hR0 (keepPost_trans D _ _ _ hA1 hR1 (ih (hv ▸ List.mem_cons_self) hm1))
  replace := fun ha hch hsp hnv _ _ hk ⟨post, hv⟩ hm => by
    obtain ⟨d0, hres, rfl⟩ := hch.found
    obtain ⟨hcs, rfl, hrec⟩ := setupProd_some _ _ _ _ hsp
    obtain ⟨d1, r1, hg, hv1, _⟩ := mirror_setupProd D _ _ ha hm _ _ hrec (hD _ _ ⟨_, hcs⟩)
    obtain ⟨k, rfl⟩ := Nat.exists_eq_succ_of_ne_zero (Nat.ne_of_gt hk)
    subst hv
    have := resolve_keep hg hres
    exact absurd ⟨by rw [pickDecl_ver, this, hv1], hk⟩ hnv

end
end EupsModel.Setup
