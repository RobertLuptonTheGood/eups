import EupsModel.Lemmas.LockStep
import EupsModel.Lemmas.LockAcct
/-! C09, pinned protocol — "released locks leave no residue", for EVERY configuration and EVERY schedule, the racy ones
included: `Acct` with the pinned protocol's `hasFile`, and `inside` for "responsible". -/
namespace EupsModel.Lock

/-- responsible for the directory: past the gate (its `mkdir` succeeded, or it found the directory there) and not through
with `giveLocks`; `scan2` is left out (there a lock file exists, whose owner is responsible) -/
def inside : PC → Bool
  | .scan | .create | .hold | .isdir | .rexists | .remove | .count | .rmdir => true
  | _ => false

def hasFile : PC → Bool
  | .hold | .isdir | .rexists | .remove => true
  | _ => false

theorem hasFile_inside {p : PC} (h : hasFile p = true) : inside p = true := by
  cases p <;> first | rfl | cases h

def ResInv (s : St) : Prop := Acct hasFile inside s.kind s.dir s.files s.pc

theorem resInv_init (kind : Pid → Kind) (lp : Pid → Option Pid) (tries : Pid → Nat) :
    ResInv (init kind lp tries) := by
  constructor <;> simp [init, hasFile]

namespace ResInv
variable {s : St}

theorem owned (h : ResInv s) (k : Kind) (j : Pid) (hm : (k, j) ∈ s.files) : hasFile (s.pc j) = true ∧ s.kind j = k :=
  ⟨(h.owner _ hm).2, (h.owner _ hm).1.symm⟩

theorem move (h : ResInv s) {i : Pid} {a v : PC} (hpc : s.pc i = a) (d' : Bool) (hfile : hasFile v = hasFile a)
    (hdir : s.files ≠ [] → d' = true) (hr : Acct.Resp hasFile inside s.dir s.files d' a v) :
    ResInv ⟨d', s.files, s.kind, s.lp, upd s.pc i v⟩ :=
  Acct.move h (fun _ => hasFile_inside) hpc d' hfile hdir hr

end ResInv

theorem resInv_step (s : St) (i : Pid) (h : ResInv s) : ResInv (step s i) := by
  obtain ⟨v, d, fs, hb, he⟩ := step_branch s i
  rw [he]
  cases hb with
  | mkdirNew hpc hd => exact h.move hpc true rfl (fun _ => rfl) (.self rfl)
  | mkdirEx hpc | mkdirSh hpc | scanParent hpc | scanOther hpc | msgLast hpc | msgRetry hpc | dirThere hpc
  | dirGone hpc | scan2Gone hpc | scan2Parent hpc | scan2Other hpc | unlockedEnds hpc =>
    exact h.move hpc s.dir rfl h.inDir (.bystander rfl rfl)
  | scanNone hpc | countZero hpc | bodyEnds hpc | isdirYes hpc | existsYes hpc =>
    exact h.move hpc s.dir rfl h.inDir (.self rfl)
  | scanOne hpc hn => exact h.move hpc s.dir rfl h.inDir (.fileOwner rfl (fun e => by rw [e] at hn; cases hn) rfl)
  | scanMany hpc hn => exact h.move hpc s.dir rfl h.inDir (.fileOwner rfl (fun e => by rw [e] at hn; exact hn rfl) rfl)
  | createNew hpc hd hnf => exact Acct.create h i _ hd hnf rfl rfl
  | createOld hpc _ hf => exact absurd hf (h.noFile hpc rfl)
  | createGone hpc hd | countGone hpc hd | rmdirGone hpc hd => exact h.move hpc s.dir rfl h.inDir (.noDir hd)
  | isdirNo hpc hd => have := h.inDir (List.ne_nil_of_mem (h.own_of hpc rfl)); rw [hd] at this; cases this
  | existsNo hpc hnf | removeGone hpc hnf => exact absurd (h.own_of hpc rfl) hnf
  | removeOk hpc hf => exact Acct.remove h i _ hf rfl rfl
  | countSome hpc _ hne | rmdirFull hpc _ hne => exact h.move hpc s.dir rfl h.inDir (.fileOwner rfl hne rfl)
  | rmdirOk hpc hd hfs => exact h.move hpc false rfl (fun hne => absurd hfs hne) (.noDir rfl)
  | idle => rw [upd_self]; exact h

theorem resInv_run (s : St) (sched : List Pid) (h : ResInv s) : ResInv (run s sched) :=
  foldl_keeps (P := ResInv) resInv_step sched h

theorem inside_engaged {p : PC} (h : inside p = true) : engaged p = true := by
  cases p <;> first | rfl | cases h

theorem ResInv.clean {s : St} (h : ResInv s) (hq : ∀ i, engaged (s.pc i) = false) :
    s.dir = false ∧ s.files = [] :=
  Acct.clean h (fun i => by
    cases hi : inside (s.pc i) with
    | false => rfl
    | true => exact (inside_engaged hi).symm.trans (hq i))

end EupsModel.Lock
