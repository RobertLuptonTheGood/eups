import EupsModel.Lemmas.TableGrammar
import EupsModel.Lemmas.TableText
import EupsModel.Lemmas.TableBlocks
/-! C11, where the clauses meet: `_rewrite` and the patterns of `_read` on the lines of a written table (`good_table`), the
block machine behind them (`tableActions_classified`), the grammar as written tables (`gtable_ok`, `gtable_denote`).
`tableActions_text` joins them for a written table and its text, `tableActions_as` for a table of the grammar and any text
that `_rewrite` turns into its lines (`tableActions_gText`: its own text); `groups_denote` is the latter for lines of the
grammar followed by groups that stand for tables of the grammar (the two legacy styles). -/
namespace EupsModel.TableParse
open EupsModel.Cond EupsModel.C11Spec

theorem tableActions_text {env : Env} (hfl : flavorOK env.flavor = true) {pdir : Option Str} (t : List TItemT)
    (hok : t.all (TItemT.ok pdir) = true) (nl : Bool) :
    tableActions repaired pdir env (tableText t nl) = .ok (denoteTable env (tableAbs t)) :=
  tableActions_classified hfl (tableAbs_ok t hok) (rewrite_table t hok nl) (good_table t hok).classified

theorem tableActions_as {env : Env} (hfl : flavorOK env.flavor = true) {pdir : Option Str} {t : List GItem}
    (hok : t.all (GItem.ok pdir) = true) {text : Str}
    (hrw : rewrite text = .ok (coresOf ((t.map (GItem.toT pdir)).flatMap TItemT.rawLines))) :
    tableActions repaired pdir env text = .ok (gDenote pdir env t) := by
  have g := good_table _ (gtable_ok hok)
  rw [tableActions_classified hfl (tableAbs_ok _ (gtable_ok hok)) hrw g.classified, gtable_denote env hok]

theorem tableActions_gText {env : Env} (hfl : flavorOK env.flavor = true) {pdir : Option Str} (t : List GItem)
    (hok : t.all (GItem.ok pdir) = true) (nl : Bool) :
    tableActions repaired pdir env (gText t nl) = .ok (gDenote pdir env t) :=
  tableActions_as hfl hok (by rw [gText_eq pdir]; exact rewrite_table _ (gtable_ok hok) nl)

theorem glines_rawLines (pdir : Option Str) (ls : List GLine) :
    ((ls.map GItem.line).map (GItem.toT pdir)).flatMap TItemT.rawLines = ls.map GLine.raw := by
  simp [List.map_eq_flatMap (f := GLine.raw), List.flatMap_map, GItem.toT, TItemT.rawLines, gline_raw]

/-- lines of the grammar followed by groups of any kind `G`: `items g` is the table of the grammar a group stands for,
`block g` what `_rewrite` makes of the group, `den g` what it denotes -/
theorem groups_denote {G : Type} {block : G → List Str} {items : G → List GItem} {den : G → List Action}
    {env : Env} (hfl : flavorOK env.flavor = true) {pdir : Option Str} {text : Str} {pre : List GLine} {gs : List G}
    (hpre : pre.all (GLine.ok pdir) = true)
    (hrw : rewrite text = .ok (coresOf (pre.map GLine.raw) ++ gs.flatMap block))
    (hg : ∀ g ∈ gs, (items g).all (GItem.ok pdir) = true ∧
      coresOf (((items g).map (GItem.toT pdir)).flatMap TItemT.rawLines) = block g ∧ gDenote pdir env (items g) = den g) :
    tableActions repaired pdir env text = .ok (gBody pdir pre ++ gs.flatMap den) := by
  rw [tableActions_as (t := pre.map .line ++ gs.flatMap items) hfl ?_ ?_]
  · simp only [gDenote, List.flatMap_append, List.flatMap_map, List.flatMap_assoc]
    exact congrArg (fun x => Res.ok (gBody pdir pre ++ x)) (flatMap_congr' fun g hg' => (hg g hg').2.2)
  · simp only [List.all_append, List.all_map, List.all_flatMap, Bool.and_eq_true, List.all_eq_true]
    exact ⟨fun l hl => List.all_eq_true.mp hpre l hl, fun g hg' => List.all_eq_true.mp (hg g hg').1⟩
  · rw [hrw, List.map_append, List.flatMap_append, coresOf_append, glines_rawLines, List.map_flatMap, List.flatMap_assoc,
      coresOf_flatMap]
    exact congrArg (fun x => Res.ok (coresOf (pre.map GLine.raw) ++ x)) (flatMap_congr' fun g hg' => (hg g hg').2.1.symm)

end EupsModel.TableParse
