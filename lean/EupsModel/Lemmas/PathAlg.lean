import EupsModel.Model.PathAlg
import EupsModel.Lemmas.List
/-! Lemmas about `Model/PathAlg.lean`: the list layer (`uniq`, the normal form `applyL_eq` of one action, its
instances, membership), text before the first `$`, and the vocabulary of well-formed values (`GoodPiece`, `OldPiece`,
`flagged`, for one delimiter character and for a delimiter string). -/
namespace EupsModel.PathAlg
section
variable {α : Type} [DecidableEq α]

theorem mem_uniq (l : List α) (a : α) : a ∈ uniq l ↔ a ∈ l := mem_keepFirst rfl (fun _ _ => rfl) l a

theorem uniq_nodup (l : List α) : (uniq l).Nodup := nodup_keepFirst rfl (fun _ _ => rfl) l

theorem filter_uniq (p : α → Bool) (l : List α) : (uniq l).filter p = uniq (l.filter p) := by
  induction l with
  | nil => simp [uniq]
  | cons x xs ih =>
    simp only [uniq, List.filter_cons]
    split
    · simp only [uniq, ← ih, List.filter_filter]
      congr 1
      apply List.filter_congr; intro a _; simp [Bool.and_comm]
    · rename_i hx
      rw [← ih, List.filter_filter]
      apply List.filter_congr
      intro a _
      by_cases h : a = x
      · subst h; simp [hx]
      · simp [h]

theorem uniq_idem (l : List α) : uniq (uniq l) = uniq l := by
  induction l with
  | nil => simp [uniq]
  | cons x xs ih => simp only [uniq]; rw [← filter_uniq, ih]; simp [List.filter_filter]

theorem filter_ne_self (v : α) (l : List α) (h : v ∉ l) : l.filter (· != v) = l :=
  List.filter_bne_eq_self_of_not_mem h

theorem uniq_of_nodup (l : List α) (h : l.Nodup) : uniq l = l := by
  induction l with
  | nil => simp [uniq]
  | cons x xs ih =>
    rw [uniq, ih (List.nodup_cons.mp h).2, filter_ne_self x xs (List.nodup_cons.mp h).1]

theorem filter_ne_notin (v : α) (vs l : List α) :
    (l.filter (· != v)).filter (fun x => decide (x ∉ vs)) = l.filter (fun x => decide (x ∉ v :: vs)) := by
  rw [List.filter_filter]
  apply List.filter_congr
  intro x _
  by_cases h : x = v <;> simp [h]

@[simp] theorem filter_notin_nil (l : List α) : l.filter (fun x => decide (x ∉ ([] : List α))) = l := by
  simp

theorem filter_notin_singleton (v : α) (l : List α) :
    l.filter (fun x => decide (x ∉ [v])) = l.filter (· != v) := by
  apply List.filter_congr
  intro x _
  by_cases h : x = v <;> simp [h]

theorem uniq_append (a b : List α) :
    uniq (a ++ b) = uniq a ++ (uniq b).filter (fun x => decide (x ∉ a)) := by
  induction a with
  | nil => simp only [List.nil_append, uniq, filter_notin_nil]
  | cons x xs ih =>
    simp only [List.cons_append, uniq, ih, List.filter_append, List.filter_filter]
    congr 2
    apply List.filter_congr
    intro y _
    by_cases h : y = x <;> simp [h]

theorem uniq_append_singleton (v : α) (xs : List α) (h : v ∉ xs) : uniq (xs ++ [v]) = uniq xs ++ [v] := by
  simp [uniq_append, uniq, h]

theorem uniq_appendL (v : α) (l : List α) : uniq (appendL v l) = (uniq l).filter (· != v) ++ [v] := by
  unfold appendL
  rw [uniq_append_singleton v _ (by simp), filter_uniq]

omit [DecidableEq α] in
theorem foldl_prependL_reverse (vals old : List α) :
    vals.reverse.foldl (fun np v => prependL v np) old = vals ++ old := by
  induction vals with
  | nil => rfl
  | cons v vs ih =>
    rw [List.reverse_cons, List.foldl_append, ih]; rfl

theorem foldl_removeL (vals old : List α) :
    vals.foldl (fun np v => removeL v np) old = old.filter (fun x => decide (x ∉ vals)) := by
  induction vals generalizing old with
  | nil => simp only [List.foldl_nil, filter_notin_nil]
  | cons v vs ih => rw [List.foldl_cons, ih, removeL, filter_ne_notin]

/-- each of `vals` is moved to the end in turn, so what stands there is the LAST occurrence of each -/
theorem uniq_foldl_appendL (vals old : List α) :
    uniq (vals.foldl (fun np v => appendL v np) old)
      = (uniq old).filter (fun x => decide (x ∉ vals)) ++ (uniq vals.reverse).reverse := by
  induction vals generalizing old with
  | nil => simp only [List.foldl_nil, filter_notin_nil, List.reverse_nil, uniq, List.append_nil]
  | cons v vs ih =>
    rw [List.foldl_cons, ih, uniq_appendL, List.filter_append, filter_ne_notin, List.reverse_cons, uniq_append]
    by_cases h : v ∈ vs <;> simp [uniq, h]

/-- The loop and `pathUnique` in one normal form, for every command, direction and value: what the value puts in
front (prepend: its pieces, first occurrences), the first occurrences of the prior elements that the value does not
name, what the value puts behind (append: its pieces, last occurrences). -/
theorem applyL_eq (app fwd : Bool) (vals old : List α) :
    applyL app fwd vals old
      = (if fwd && !app then uniq vals else []) ++ (uniq old).filter (fun x => decide (x ∉ vals))
          ++ (if fwd && app then (uniq vals.reverse).reverse else []) := by
  unfold applyL loopVals
  cases fwd
  · simp [foldl_removeL, filter_uniq]
  · cases app
    · simp only [Bool.true_and, Bool.not_false, Bool.false_eq_true, ↓reduceIte, List.append_nil]
      rw [foldl_prependL_reverse, uniq_append]
    · simp [uniq_foldl_appendL]

theorem mem_applyL (app fwd : Bool) (vals old : List α) (e : α) :
    e ∈ applyL app fwd vals old ↔ (fwd = true ∧ e ∈ vals) ∨ (e ∈ old ∧ e ∉ vals) := by
  rw [applyL_eq]
  cases fwd <;> cases app <;> simp [mem_uniq, or_comm]

theorem uniq_applyL (app fwd : Bool) (vals old : List α) :
    uniq (applyL app fwd vals old) = applyL app fwd vals old := by
  unfold applyL; exact uniq_idem _

theorem applyL_nodup (app fwd : Bool) (vals old : List α) : (applyL app fwd vals old).Nodup :=
  uniq_nodup _

omit [DecidableEq α] in
theorem foldl_nodup {β : Type} (step : List α → β → List α) (h : ∀ l b, (step l b).Nodup) (acts : List β)
    (hne : acts ≠ []) (old : List α) : (acts.foldl step old).Nodup := by
  rw [← List.dropLast_concat_getLast hne, List.foldl_append]
  exact h _ _

omit [DecidableEq α] in
theorem mem_loopVals (append fwd : Bool) (vals : List α) (e : α) :
    e ∈ loopVals append fwd vals ↔ e ∈ vals := by
  unfold loopVals; split <;> simp

omit [DecidableEq α] in
theorem mem_prependL {e v : α} {np : List α} (h : e ∈ prependL v np) : e = v ∨ e ∈ np := List.mem_cons.mp h

theorem mem_appendL {e v : α} {np : List α} (h : e ∈ appendL v np) : e = v ∨ e ∈ np :=
  (List.mem_append.mp h).elim (fun h => .inr (List.mem_filter.mp h).1) (fun h => .inl (List.mem_singleton.mp h))

theorem mem_removeL {e v : α} {np : List α} (h : e ∈ removeL v np) : e ∈ np := (List.mem_filter.mp h).1

theorem filter_applyL (f : α → Bool) (app fwd : Bool) (vals old : List α) (hx : ∀ x ∈ vals, f x = false) :
    (applyL app fwd vals old).filter f = (uniq old).filter f := by
  have hnil : ∀ l : List α, (∀ x ∈ l, x ∈ vals) → l.filter f = [] :=
    fun l hl => List.filter_eq_nil_iff.2 fun x hm => by simp [hx x (hl x hm)]
  rw [applyL_eq, List.filter_append, List.filter_append, List.filter_filter,
    hnil _ (by split <;> simp [mem_uniq]), hnil _ (by split <;> simp [mem_uniq]), List.nil_append, List.append_nil]
  apply List.filter_congr
  intro a _
  by_cases ha : a ∈ vals
  · simp [hx a ha]
  · simp [ha]

theorem applyL_forall (P : α → Prop) (append fwd : Bool) (vals old : List α)
    (hold : ∀ e ∈ old, P e) (hv : ∀ e ∈ vals, P e) : ∀ e ∈ applyL append fwd vals old, P e :=
  fun e he => ((mem_applyL append fwd vals old e).mp he).elim (fun h => hv e h.2) (fun h => hold e h.1)

theorem applyL_setup_mem_iff (append : Bool) (vals old : List α) (e : α) :
    e ∈ applyL append true vals old ↔ e ∈ vals ∨ e ∈ old := by
  rw [mem_applyL]; by_cases h : e ∈ vals <;> simp [h]

theorem applyL_fwd_ne_vals (append : Bool) (vals old : List α) (hvne : vals ≠ []) :
    applyL append true vals old ≠ [] := by
  obtain ⟨v, hv⟩ := List.exists_mem_of_ne_nil vals hvne
  exact List.ne_nil_of_mem ((applyL_setup_mem_iff append vals old v).mpr (Or.inl hv))

theorem applyL_prepend_single (v : α) (old : List α) :
    applyL false true [v] old = v :: (uniq old).filter (· != v) := by
  rw [applyL_eq, filter_notin_singleton]; simp [uniq]

theorem applyL_append_single (v : α) (old : List α) :
    applyL true true [v] old = (uniq old).filter (· != v) ++ [v] := by
  rw [applyL_eq, filter_notin_singleton]; simp [uniq]

theorem applyL_remove_single (append : Bool) (v : α) (old : List α) :
    applyL append false [v] old = (uniq old).filter (· != v) := by
  rw [applyL_eq, filter_notin_singleton]; simp

theorem applyL_setup_single (app : Bool) (v : α) (old : List α) :
    applyL app true [v] old
      = (if app then [] else [v]) ++ (uniq old).filter (· != v) ++ (if app then [v] else []) := by
  rw [applyL_eq, filter_notin_singleton]; cases app <;> simp [uniq]

end

theorem splitGo_nil (d cur : Str) (k : Nat) : splitGo d k cur [] = [cur.reverse] := by
  cases k <;> simp [splitGo]

theorem varAt_ne (c : Nat) (cs : Str) (h : c ≠ 36) : varAt (c :: cs) = none := by
  unfold varAt
  split
  · rename_i heq; injection heq with h1 _; exact absurd h1 h
  · rfl

theorem refAt_ne (c : Nat) (cs : Str) (h : c ≠ 36) : refAt (c :: cs) = none := by
  unfold refAt
  split
  · rename_i heq; injection heq with h1 _; exact absurd h1 h
  · rfl

/-! Text before the first `$` is copied, whatever the fuel: when the fuel runs out inside the prefix the rest is
returned as it is, which is what fuel `0` does to it (hence the truncated subtraction).  Text without `$` is the case
of an empty rest. -/

theorem expandGo_pre (env : Env) (pre rest : Str) (f : Nat) (h : 36 ∉ pre) :
    expandGo env f (pre ++ rest) =
      (match expandGo env (f - pre.length) rest with
       | .value t => .value (pre ++ t)
       | o => o) := by
  induction pre generalizing f with
  | nil =>
    simp only [List.length_nil, Nat.sub_zero, List.nil_append]
    cases expandGo env f rest <;> rfl
  | cons c cs ih =>
    obtain ⟨hc, hcs⟩ := List.ne_and_not_mem_of_not_mem_cons h
    cases f with
    | zero => simp [expandGo]
    | succ f =>
      simp only [List.cons_append, expandGo, varAt_ne c _ hc.symm, ih f hcs, List.length_cons,
        Nat.add_sub_add_right]
      cases expandGo env (f - cs.length) rest <;> simp

theorem expandGo_nil (env : Env) (f : Nat) : expandGo env f [] = .value [] := by
  cases f <;> rfl

theorem expandGo_no_dollar (env : Env) (f : Nat) (s : Str) (h : 36 ∉ s) : expandGo env f s = .value s := by
  simpa [expandGo_nil] using expandGo_pre env s [] f h

theorem expand_no_dollar (env : Env) (s : Str) (h : 36 ∉ s) : expand env s = .value s :=
  expandGo_no_dollar env _ s h

theorem interp_pre (env : Env) (pre rest : Str) (f : Nat) (h : 36 ∉ pre) :
    interp env f (pre ++ rest) = pre ++ interp env (f - pre.length) rest := by
  induction pre generalizing f with
  | nil => simp
  | cons c cs ih =>
    obtain ⟨hc, hcs⟩ := List.ne_and_not_mem_of_not_mem_cons h
    cases f with
    | zero => simp [interp]
    | succ f =>
      simp only [List.cons_append, interp, refAt_ne c _ hc.symm, ih f hcs, List.length_cons,
        Nat.add_sub_add_right]

theorem interp_nil (env : Env) (f : Nat) : interp env f [] = [] := by
  cases f <;> rfl

theorem interp_no_dollar (env : Env) (f : Nat) (s : Str) (h : 36 ∉ s) : interp env f s = s := by
  simpa [interp_nil] using interp_pre env s [] f h

/-- a piece of a value as a table writes it, for the delimiter character `c` -/
def GoodPiece (c : Nat) (e : Str) : Prop := e ≠ [] ∧ c ∉ e ∧ 36 ∉ e

/-- a piece of the list a variable already holds: it may hold `$` text, since the stored list is not interpolated
(repair of D123) -/
def OldPiece (c : Nat) (e : Str) : Prop := e ≠ [] ∧ c ∉ e

/-- the value with the MANPATH-style delimiters written around it -/
def flagged (c : Nat) (pre app : Bool) (v : Str) : Str :=
  (if pre then [c] else []) ++ v ++ (if app then [c] else [])

/-- the same for a delimiter string `d`: the piece shares no character with it, which is enough for `split`,
`startswith` and `endswith` not to find part of a delimiter in a piece -/
def GoodPieceD (d : Str) (e : Str) : Prop := e ≠ [] ∧ (∀ ch ∈ d, ch ∉ e) ∧ 36 ∉ e

def OldPieceD (d : Str) (e : Str) : Prop := e ≠ [] ∧ ∀ ch ∈ d, ch ∉ e

def flaggedD (d : Str) (pre app : Bool) (v : Str) : Str := (if pre then d else []) ++ v ++ (if app then d else [])

theorem GoodPiece.old {c : Nat} {e : Str} (h : GoodPiece c e) : OldPiece c e := ⟨h.1, h.2.1⟩

theorem GoodPieceD.old {d e : Str} (h : GoodPieceD d e) : OldPieceD d e := ⟨h.1, h.2.1⟩

theorem goodPieceD_single (c : Nat) (e : Str) : GoodPieceD [c] e ↔ GoodPiece c e := by
  simp [GoodPieceD, GoodPiece]

theorem oldPieceD_single (c : Nat) (e : Str) : OldPieceD [c] e ↔ OldPiece c e := by
  simp [OldPieceD, OldPiece]

theorem flaggedD_single (c : Nat) (pre app : Bool) (v : Str) : flaggedD [c] pre app v = flagged c pre app v := rfl

end EupsModel.PathAlg
