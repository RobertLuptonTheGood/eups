import EupsModel.Lemmas.SetupFrame
/-! C01 clause (b): after a successful request every set-up product has the own path contributions of its table in place
(`Present cfg Y e`: for the names not in `Y`).  Unsetup: elements disappear only with their product's record (`Kept`).
Forward, under `NameDag`: a request keeps the elements of names of higher rank (`setup_keepHigher`). -/
namespace EupsModel.Setup

def Present (cfg : Cfg) (Y : Name → Prop) (e : Env) : Prop :=
  ∀ n v, ¬ Y n → e.rec? n = some v → ∀ var vals app rel,
    Act.prepend var vals app ∈ tableOf cfg (n, v) → Val.own rel ∈ vals → Elem.own (n, v) rel ∈ e.pathOf var

/-- an own element of `e` is still in `e'` unless its product has no record there -/
def Kept (e e' : Env) : Prop :=
  ∀ var p rel, Elem.own p rel ∈ e.pathOf var → Elem.own p rel ∈ e'.pathOf var ∨ e'.rec? p.1 = none

theorem Kept.refl (e : Env) : Kept e e := fun _ _ _ h => Or.inl h

theorem Kept.trans {a b c : Env} (h1 : Kept a b) (h2 : Kept b c) (hs : Sub c b) : Kept a c := by
  intro var p rel hm
  rcases h1 var p rel hm with h | h
  · exact h2 var p rel h
  · exact Or.inr (hs.rec_none p.1 h)

theorem present_of_kept {cfg : Cfg} {Y : Name → Prop} {e e' : Env} (hp : Present cfg Y e) (hs : Sub e' e)
    (hk : Kept e e') : Present cfg Y e' := by
  intro n v hy hr var vals app rel hline hval
  rcases hk var (n, v) rel (hp n v hy (hs.recs n v hr) var vals app rel hline hval) with h | h
  · exact h
  · rw [hr] at h; cases h

theorem pathOf_apply_set (fwd : Bool) (p : Prod) (v : Str) (val : Val) (s : St) (var : Str) :
    ((Act.set v val).apply fwd p s).env.pathOf var = s.env.pathOf var := by cases fwd <;> rfl

theorem pathOf_apply_alias (fwd : Bool) (p : Prod) (k v : Str) (s : St) (var : Str) :
    ((Act.alias k v).apply fwd p s).env.pathOf var = s.env.pathOf var := by cases fwd <;> rfl

theorem mem_apply_true_of_mem (p : Prod) (a : Act) (s : St) (var : Str) (y : Elem) (h : y ∈ s.env.pathOf var) :
    y ∈ (a.apply true p s).env.pathOf var := by
  cases a with
  | prepend v val app => exact (mem_pathOf_addPath s.env v var _ y app).2 (Or.inr h)
  | set v val => rw [pathOf_apply_set]; exact h
  | alias k v => rw [pathOf_apply_alias]; exact h
  | dep n o j v x t kl => exact h

theorem mem_apply_of_mem_other (fwd : Bool) (p : Prod) (a : Act) (s : St) (var : Str) (q : Prod) (rel : Str)
    (hq : q ≠ p) (h : Elem.own q rel ∈ s.env.pathOf var) : Elem.own q rel ∈ (a.apply fwd p s).env.pathOf var := by
  cases fwd with
  | true => exact mem_apply_true_of_mem p a s var _ h
  | false =>
    cases a with
    | prepend v vals app =>
      refine (mem_pathOf_removePath s.env v var _ _).2 ⟨h, fun _ hm => ?_⟩
      obtain ⟨val, _, he⟩ := List.mem_map.1 hm
      cases val with
      | own r => simp [Val.elem] at he; exact hq he.1.symm
      | lit t => simp [Val.elem] at he
    | set v val => rw [pathOf_apply_set]; exact h
    | alias k v => rw [pathOf_apply_alias]; exact h
    | dep n o j v x t kl => exact h

theorem unKept_rules (cfg : Cfg) :
    UnRules cfg (fun _ _ _ s s' => Kept s.env s'.env)
      (fun _ _ d _ s s' => s.env.rec? d.name = none → Kept s.env s'.env ∧ Sub s'.env s.env) where
  nil := fun _ => ⟨Kept.refl _, Sub.refl _⟩
  line := fun d a s _ _ _ ih hr => by
    obtain ⟨hs1, hrec1, _, _⟩ := apply_false_spec d.prod a s
    obtain ⟨hk2, hs2⟩ := ih (by rw [hrec1]; exact hr)
    have hk1 : Kept s.env (a.apply false d.prod s).env := by
      intro var p rel hm
      by_cases hp : p = d.prod
      · right; rw [hp, hrec1]; exact hr
      · left; exact mem_apply_of_mem_other false d.prod a s var p rel hp hm
    exact ⟨hk1.trans hk2 hs2, hs2.trans hs1⟩
  skip := fun _ ih => ih
  absent := fun _ ih => ih
  ok := fun _ _ _ hr1 hq ih hr => by
    have hs1 := (setup_false_sub cfg hr1).2
    obtain ⟨hk2, hs2⟩ := ih (hs1.rec_none _ hr)
    exact ⟨hq.trans hk2 hs2, hs2.trans hs1⟩
  unwind := fun _ _ _ _ _ ih => (ih (aget_aunset_same _ _)).1

theorem setup_false_kept (cfg : Cfg) {fuel depth : Nat} {noRec : Bool} {vro : List VroEnt} {n : Name} {ver : Option VerReq}
    {vexpr : Option VExpr} {s s' : St} (h : setup cfg fuel false depth noRec vro n ver vexpr s = .ok s') :
    Kept s.env s'.env :=
  (unKept_rules cfg).run fuel h

theorem setup_keepHigher (cfg : Cfg) (rank : Name → Nat) (hdag : NameDag cfg.db rank) {fuel : Nat} {fwd : Bool}
    {depth : Nat} {noRec : Bool} {vro : List VroEnt} {n : Name} {ver : Option VerReq} {vexpr : Option VExpr} {s s' : St}
    (ha : AlreadyOK cfg.db s.already) (h : setup cfg fuel fwd depth noRec vro n ver vexpr s = .ok s') (var : Str)
    (p : Prod) (rel : Str) (hp : rank n < rank p.1) (hm : Elem.own p rel ∈ s.env.pathOf var) :
    Elem.own p rel ∈ s'.env.pathOf var := by
  have hcl : ClosedAt cfg (fun _ m => rank m ≤ rank n) := by
    intro d hd k hS _ g n' o j v x t kl hg
    have := hdag d hd g n' o j v x t kl hg
    omega
  have hP : SubjInv cfg (fun _ m => rank m ≤ rank n) (fun e => Elem.own p rel ∈ e.pathOf var) := by
    refine ⟨?_, fun _ _ _ _ _ _ hp => hp, fun _ _ _ _ _ hp => hp⟩
    intro fwd' k d a s0 _ _ hS hp0
    refine mem_apply_of_mem_other fwd' d.prod a s0 var p rel ?_ hp0
    intro e
    have : p.1 = d.name := by rw [e]; rfl
    rw [this] at hp; omega
  exact setup_subjInv cfg hcl hP.stInv (Nat.le_refl _) ha hm h

theorem present_apply_true (cfg : Cfg) (Y : Name → Prop) (p : Prod) (a : Act) (s : St) (h : Present cfg Y s.env) :
    Present cfg Y (a.apply true p s).env := by
  intro n v hy hr var vals app rel hline hval
  rw [apply_rec?] at hr
  exact mem_apply_true_of_mem p a s var _ (h n v hy hr var vals app rel hline hval)

/-- the outcome of the lines `l` of `d`'s table: clause (b) outside `d`, `d`'s elements of `s` kept, those of `l` in place,
`d` still recorded -/
structure PresPost (cfg : Cfg) (Y : Name → Prop) (d : Decl) (l : List Act) (s s' : St) : Prop where
  others : Present cfg (fun m => Y m ∨ m = d.name) s'.env
  kept : ∀ var rel, Elem.own d.prod rel ∈ s.env.pathOf var → Elem.own d.prod rel ∈ s'.env.pathOf var
  lines : ∀ var vals app rel, Act.prepend var vals app ∈ l → Val.own rel ∈ vals → Elem.own d.prod rel ∈ s'.env.pathOf var
  recorded : s'.env.rec? d.name = some d.ver

theorem PresPost.dep {cfg : Cfg} {Y : Name → Prop} {d : Decl} {rest : List Act} {s s1 s' : St} {n : Name} {o j : Bool}
    {v : Option VerReq} {x : Option VExpr} {t : List Str} {kl : Bool}
    (hk : ∀ var rel, Elem.own d.prod rel ∈ s.env.pathOf var → Elem.own d.prod rel ∈ s1.env.pathOf var)
    (h : PresPost cfg Y d rest s1 s') : PresPost cfg Y d (.dep n o j v x t kl :: rest) s s' :=
  ⟨h.others, fun var rel hm => h.kept var rel (hk var rel hm),
    fun var vals app rel hm hval => h.lines var vals app rel (by simpa using hm) hval, h.recorded⟩

theorem present_record (cfg : Cfg) (Y : Name → Prop) (d : Decl) (r : Option VroEnt) (s : St) (h : Present cfg Y s.env) :
    Present cfg (fun m => Y m ∨ m = d.name) (record d r s).env := by
  intro n v hy hr var vals app rel hline hval
  have hne : n ≠ d.name := fun e => hy (Or.inr e)
  rw [record_rec?_other d r s n hne] at hr
  exact h n v (fun hyn => hy (Or.inl hyn)) hr var vals app rel hline hval

theorem PresPost.present {cfg : Cfg} {Y : Name → Prop} {d : Decl} {s s' : St} (hc : Canon cfg.db d)
    (h : PresPost cfg Y d (d.actions cfg.exact) s s') : Present cfg Y s'.env := by
  intro n v hy hr var vals app rel hline hval
  by_cases hnd : n = d.name
  · subst hnd
    rw [h.recorded] at hr
    have hv : d.ver = v := Option.some.inj hr
    subst hv
    exact h.lines var vals app rel (tableOf_canon cfg d hc ▸ hline) hval
  · exact h.others n v (fun h => h.elim hy hnd) hr var vals app rel hline hval

section
variable {cfg : Cfg} (rank : Name → Nat) (hdag : NameDag cfg.db rank)
include hdag

theorem pres_rules :
    FwdRules cfg
      (fun _ _ _ n s res => ∀ Y : Name → Prop, (∀ y, Y y → rank n < rank y) → WellOwned cfg s.env →
        NoResidue Empty s.env → Present cfg Y s.env → ∀ s', res = .ok s' → Present cfg Y s'.env)
      (fun _ _ _ d l s res => ∀ Y : Name → Prop, (∀ y, Y y → rank d.name < rank y) → TableInv cfg d s.env →
        Present cfg (fun m => Y m ∨ m = d.name) s.env → ∀ s', res = .ok s' → PresPost cfg Y d l s s') where
  nil := fun _ _ hi hp _ h => by
    cases h; exact ⟨hp, fun _ _ h => h, fun _ _ _ _ hm => absurd hm List.not_mem_nil, hi.recorded⟩
  line := fun d a s hc hmem _ ih Y hY hi hp s' h => by
    have h2 := ih Y hY (hi.apply a (mem_tableOf hc hmem))
      (present_apply_true cfg _ d.prod a s hp) s' h
    refine ⟨h2.others, fun var rel hm => h2.kept var rel (mem_apply_true_of_mem d.prod a s var _ hm), ?_, h2.recorded⟩
    intro var vals app rel hm hval
    rcases List.mem_cons.1 hm with hm | hm
    · subst hm
      exact h2.kept var rel ((mem_pathOf_addPath s.env var var _ _ app).2
        (Or.inl ⟨rfl, List.mem_map.2 ⟨Val.own rel, hval, rfl⟩⟩))
    · exact h2.lines var vals app rel hm hval
  skip := fun _ ih Y hY hi hp s' h => PresPost.dep (fun _ _ h => h) (ih Y hY hi hp s' h)
  ok := fun d hc ha hmem _ hr1 hq ih Y hY hi hp s' h => by
    have hnr := hdag.dep hc hmem
    have hp1 := hq (fun m => Y m ∨ m = d.name)
      (by intro y hy; rcases hy with hy | hy
          · have := hY y hy; omega
          · rw [hy]; exact hnr) hi.owned hi.clean hp _ rfl
    have hi1 := hi.ok (setup_spec cfg rank hdag ha hi.owned hi.clean hr1) (of_rank_lt (setup_frame cfg rank hdag ha hr1 _) hnr)
    exact PresPost.dep (fun var rel hm => setup_keepHigher cfg rank hdag ha hr1 var d.prod rel hnr hm) (ih Y hY hi1 hp1 s' h)
  raise := fun _ _ _ _ _ _ _ h => nomatch h
  cont := fun _ _ ih Y hY hi hp s' h => by
    refine PresPost.dep ?_ (ih Y hY hi hp s' h)
    exact fun _ _ h => h
  notFound := fun _ _ _ _ _ _ h => nomatch h
  raised := fun _ _ _ _ _ _ h => nomatch h
  same := fun hch _ _ _ _ _ _ hp _ h => by cases h; rw [hch.env]; exact hp
  fresh := fun hch hsp ih Y hY hw hn hp s' h =>
    (ih Y (hch.name ▸ hY) (.fresh hch hw hn hsp) (present_record cfg Y _ _ _ (hch.env ▸ hp)) s' h).present hch.canon
  replace := fun _ hch _ _ hr ih Y hY hw hn hp s' h =>
    (ih Y (hch.name ▸ hY) (.replace hch hw hn hr)
      (present_record cfg Y _ _ _ (present_of_kept (hch.env ▸ hp) (setup_false_sub cfg hr).2 (setup_false_kept cfg hr)))
      s' h).present hch.canon

end

/-- C01 clause (b) -/
theorem setup_presSpec (cfg : Cfg) (rank : Name → Nat) (hdag : NameDag cfg.db rank) (Y : Name → Prop) {fuel : Nat}
    {fwd : Bool} {depth : Nat} {noRec : Bool} {vro : List VroEnt} {n : Name} {ver : Option VerReq} {vexpr : Option VExpr}
    {s s' : St} (hY : ∀ y, Y y → rank n < rank y) (ha : AlreadyOK cfg.db s.already) (hw : WellOwned cfg s.env)
    (hn : NoResidue Empty s.env) (hp : Present cfg Y s.env)
    (h : setup cfg fuel fwd depth noRec vro n ver vexpr s = .ok s') : Present cfg Y s'.env := by
  cases fwd with
  | false => exact present_of_kept hp (setup_false_sub cfg h).2 (setup_false_kept cfg h)
  | true => exact (pres_rules rank hdag).run fuel ha h nofun Y hY hw hn hp s' rfl

end EupsModel.Setup
