import EupsModel.Lemmas.RecordFields
/-! Qualified flavor keys `base:qual` (`QualKey`, `PrintsAs`; `QualOrder`: the readers re-use a block `base` that is there
when `FLAVOR = base` comes, and rename it at `QUALIFIERS`), how a writer lays a file out (`Layout`), and from the rules of
`Kind.Reads` the round trip of a block, of a dictionary of blocks and of a file, once for both kinds of file (C16). -/
namespace EupsModel.Record

/-- the part of a flavor key before the first `:` -/
def baseOf (fq : Str) : Str := fq.takeWhile (· != 58)

/-- a flavor key of the round trip with qualifiers: a clean unqualified name, or `base:qual` with `base` such a name and
`qual` clean and not starting with another `:` (the writer's pattern swallows a second colon) -/
def QualKey (fq : Str) : Prop :=
  CleanKey fq ∨ ∃ f q, fq = f ++ 58 :: q ∧ CleanKey f ∧ Clean q ∧ q.head? ≠ some 58

/-- the keys are distinct, and no unqualified flavor precedes a qualified flavor of the same base -/
def QualOrder (keys : List Str) : Prop :=
  keys.Pairwise (fun a b => a ≠ b ∧ (58 ∈ b → a ≠ baseOf b))

instance (keys : List Str) : Decidable (QualOrder keys) := by unfold QualOrder; infer_instance

theorem baseOf_plain (fq : Str) (h : 58 ∉ fq) : baseOf fq = fq := takeWhile_all (all_ne h)

theorem baseOf_qual (f q : Str) (h : 58 ∉ f) : baseOf (f ++ 58 :: q) = f :=
  (span_append_cons 58 q (all_ne h) (by simp)).1

/-- the key `fq` is printed as `FLAVOR = f` and `QUALIFIERS = "q"` -/
structure PrintsAs (fq f q : Str) : Prop where
  base : CleanKey f
  qual : (q = [] ∧ fq = f) ∨ (Clean q ∧ q.head? ≠ some 58 ∧ fq = f ++ 58 :: q)

theorem QualKey.printsAs {fq : Str} (h : QualKey fq) : ∃ f q, PrintsAs fq f q := by
  rcases h with hk | ⟨f, q, rfl, hf, hq, hq58⟩
  · exact ⟨fq, [], hk, Or.inl ⟨rfl, rfl⟩⟩
  · exact ⟨f, q, hf, Or.inr ⟨hq, hq58, rfl⟩⟩

namespace PrintsAs
variable {fq f q : Str} (h : PrintsAs fq f q)
include h

theorem baseOf : baseOf fq = f := by
  rcases h.qual with ⟨_, rfl⟩ | ⟨_, _, rfl⟩
  · exact baseOf_plain _ h.base.no58
  · exact baseOf_qual f q h.base.no58

theorem ne_nil : fq ≠ [] := by
  rcases h.qual with ⟨_, rfl⟩ | ⟨_, _, rfl⟩
  · exact h.base.clean.ne
  · simp

/-- the writers' pattern `^([^:]+)(:?:(.*)$)?` -/
theorem split : splitFlavor fq = some (f, q) := by
  have hp := all_ne h.base.no58
  have h3 : f.isEmpty = false := List.isEmpty_eq_false_iff.mpr h.base.clean.ne
  unfold splitFlavor
  rcases h.qual with ⟨rfl, rfl⟩ | ⟨_, hq58, rfl⟩
  · simp [takeWhile_all hp, dropWhile_all hp, h3]
  · simp only [(span_append_cons 58 q hp (by simp)).1, (span_append_cons 58 q hp (by simp)).2, h3,
      Bool.false_eq_true, if_false]
    cases q with
    | nil => rfl
    | cons c r =>
      have : c ≠ 58 := fun e => hq58 (by simp [e])
      split
      · rename_i heq; simp at heq; exact absurd heq.1 this
      · rename_i heq; cases heq; rfl
      · rename_i h2; exact (h2 _ rfl).elim

end PrintsAs

theorem qualOrder_of_plain (keys : List Str) (hnd : keys.Nodup) (hp : ∀ k ∈ keys, 58 ∉ k) : QualOrder keys := by
  unfold QualOrder
  induction keys with
  | nil => exact List.Pairwise.nil
  | cons a r ih =>
    simp only [List.nodup_cons] at hnd
    refine List.Pairwise.cons ?_ (ih hnd.2 (fun k hk => hp k (by simp [hk])))
    intro b hb
    exact ⟨fun e => hnd.1 (e ▸ hb), fun h58 => absurd h58 (hp b (by simp [hb]))⟩

/-- blocks under distinct keys without `:` are blocks under qualified keys, in an order the readers give back -/
theorem qualBlocks_of_plain {β : Type} {Good : β → Prop} (fl : List (Str × β)) (hnd : (fl.map (·.1)).Nodup)
    (hb : ∀ x ∈ fl, CleanKey x.1 ∧ Good x.2) : QualOrder (fl.map (·.1)) ∧ ∀ x ∈ fl, QualKey x.1 ∧ Good x.2 := by
  refine ⟨qualOrder_of_plain _ hnd ?_, fun x hx => ⟨Or.inl (hb x hx).1, (hb x hx).2⟩⟩
  intro k hk
  obtain ⟨x, hx, rfl⟩ := List.mem_map.mp hk
  exact (hb x hx).1.no58

/-- the lines of one block as both writers lay them out; `pre`, `post`: the rows printed before and after `QUALIFIERS` -/
def blockText (op : Str) (cl : List Str) (f q : Str) (pre post : List Spec) : List Str :=
  [[], op, lFlavor ++ f] ++ specLines pre ++ [lQualifiers ++ q ++ [34]] ++ specLines post ++ cl

/-- the four lines both writers put before the blocks; `idLabel` is `VERSION = ` / `CHAIN = ` -/
def headerLines (idLabel n v : Str) : List Str := [lFileVersion, lProduct ++ n, idLabel ++ v, lStars]

namespace Kind
variable {β : Type} (K : Kind β)

theorem reads_seps (ls : List Str) (s : RState β) (hs : ∀ l ∈ ls, K.Sep l) (hb : K.Between s.2) : K.ReadsAll ls s s := by
  induction ls with
  | nil => exact .nil _
  | cons l r ih => exact .cons (.sep l s (hs l (by simp)) hb) (ih fun x hx => hs x (by simp [hx]))

theorem reads_rows (specs : List Spec) (h : Option Str × Option Str) (f : Str) (hs : K.Rows specs) :
    ∀ (l : List (Str × β)) (j : β), dget l f = some j →
      K.ReadsAll (specLines specs) (h, l, some f) (h, dset l f (specFold K.set j specs), some f) := by
  induction specs with
  | nil => intro l j hj; rw [show specFold K.set j [] = j from rfl, dset_same _ _ _ hj]; exact .nil _
  | cons s r ih =>
    intro l j hj
    obtain ⟨lb, k, d, x⟩ := s
    obtain ⟨⟨hl, hk⟩, hx⟩ := hs (lb, k, d, x) (by simp)
    have ih' := ih fun s' hs' => hs s' (by simp [hs'])
    rcases hx with rfl | ⟨v, rfl, hv⟩
    · exact ih' l j hj
    · obtain ⟨a, v, rfl⟩ := List.exists_cons_of_ne_nil hv.ne
      have hr := ih' (dset l f (K.set j k (a :: v))) (K.set j k (a :: v)) (dget_dset_self _ _ _)
      rw [dset_dset] at hr
      exact .cons (.field lb k (a :: v) h l f j hl hk hv hj) hr

end Kind

/-- How a writer lays out a file of kind `K`: the separators around a block and after the last one, the rows printed
before and after `QUALIFIERS`, the blocks the round trip covers (`Good`: their rows are stored fields, reading the rows
back gives the block, and it is settled) and the printer of a dictionary, which prints a good block as `blockText`. -/
structure Layout {β : Type} (K : Kind β) where
  op : Str
  cl : List Str
  tail : List Str
  pre : β → List Spec
  post : β → List Spec
  Good : β → Prop
  prints : List (Str × β) → Except Err (List Str)
  sep_op : K.Sep op
  sep_cl : ∀ l ∈ cl, K.Sep l
  sep_tail : ∀ l ∈ tail, K.Sep l
  rows_pre : ∀ i, Good i → K.Rows (pre i)
  rows_post : ∀ i, Good i → K.Rows (post i)
  fold : ∀ i, Good i → specFold K.set (specFold K.set K.empty (pre i)) (post i) = i
  settled : ∀ i, Good i → K.Settled i
  prints_nil : prints [] = .ok []
  prints_cons : ∀ fq f q i r ls, PrintsAs fq f q → Good i → prints r = .ok ls →
    prints ((fq, i) :: r) = .ok (blockText op cl f q (pre i) (post i) ++ ls)

namespace Layout
variable {β : Type} {K : Kind β} (L : Layout K)

/-- a good block as `L` lays it out, read when neither its key nor the base of its key is in the dictionary -/
theorem reads_block (h : Option Str × Option Str) {l : List (Str × β)} {o : Option Str} {fq f q : Str} {i : β}
    (hi : L.Good i) (hk : PrintsAs fq f q) (hb : K.Between (l, o)) (hbase : dget l f = none) (hfresh : dget l fq = none) :
    K.ReadsAll (blockText L.op L.cl f q (L.pre i) (L.post i)) (h, l, o) (h, l ++ [(fq, i)], some fq) := by
  have hopen : K.ReadsAll [[], L.op, lFlavor ++ f] (h, l, o) (h, l ++ [(f, K.empty)], some f) :=
    .cons (.blank _) (.cons (.sep L.op _ L.sep_op hb) (.cons (.flavor f h l o hk.base.clean hbase) (.nil _)))
  -- the rows before `QUALIFIERS` go into the empty block `f`
  have hpre := K.reads_rows (L.pre i) h f (L.rows_pre i hi) _ K.empty (dget_append_new l f K.empty hbase)
  rw [dset_append_new _ _ _ _ hbase] at hpre
  have hfold := L.fold i hi
  generalize specFold K.set K.empty (L.pre i) = j at hpre hfold
  -- `QUALIFIERS = "q"` renames it, unless `q` is empty
  have hQ : K.Reads (lQualifiers ++ q ++ [34]) (h, l ++ [(f, j)], some f) (h, l ++ [(fq, j)], some fq) := by
    rcases hk.qual with ⟨rfl, rfl⟩ | ⟨hq, _, rfl⟩
    · exact .noQualifiers _ _ _
    · have hne : f ++ 58 :: q ≠ f := fun e => by simpa using congrArg List.length e
      rw [← rename_last l f _ j hbase hfresh hne]
      exact .qualifiers q h _ f j hq.ne hq.no34 hq.no35 hq.no10 (dget_append_new l f j hbase)
  -- the rows after it complete the block to `i`
  have hpost := K.reads_rows (L.post i) h fq (L.rows_post i hi) _ j (dget_append_new l fq j hfresh)
  rw [dset_append_new _ _ _ _ hfresh, hfold] at hpost
  exact (((hopen.append hpre).append (.cons hQ (.nil _))).append hpost).append
    (K.reads_seps L.cl _ L.sep_cl (Or.inr ⟨fq, _, rfl, hk.ne_nil, dget_append_new _ _ _ hfresh, L.settled i hi⟩))

/-- each key and its base must be new when its block is read: `QualOrder` -/
theorem reads_blocks (h : Option Str × Option Str) (fl : List (Str × β)) :
    ∀ (l : List (Str × β)) (o : Option Str), K.Between (l, o) → (∀ x ∈ fl, QualKey x.1 ∧ L.Good x.2) →
      QualOrder (fl.map (·.1)) → (∀ x ∈ fl, dget l x.1 = none ∧ dget l (baseOf x.1) = none) →
      ∃ ls o', L.prints fl = .ok ls ∧ K.ReadsAll ls (h, l, o) (h, l ++ fl, o') ∧ K.Between (l ++ fl, o') := by
  induction fl with
  | nil => intro l o hb _ _ _; exact ⟨[], o, L.prints_nil, by simpa using .nil _, by simpa using hb⟩
  | cons x r ih =>
    intro l o hb hgood hord hfresh
    obtain ⟨fq, i⟩ := x
    obtain ⟨hkey, hi⟩ := hgood (fq, i) (by simp)
    obtain ⟨f, q, hk⟩ := hkey.printsAs
    simp only [QualOrder, List.map_cons, List.pairwise_cons] at hord
    obtain ⟨hfq, hfb⟩ := hfresh (fq, i) (by simp)
    simp only [hk.baseOf] at hfb
    have hfresh' : ∀ y ∈ r, dget (l ++ [(fq, i)]) y.1 = none ∧ dget (l ++ [(fq, i)]) (baseOf y.1) = none := by
      intro y hy
      have hrel := hord.1 y.1 (List.mem_map_of_mem hy)
      have hbase : fq ≠ baseOf y.1 := by
        by_cases h58 : 58 ∈ y.1
        · exact hrel.2 h58
        · rw [baseOf_plain y.1 h58]; exact hrel.1
      rw [dget_append_old _ _ _ _ (Ne.symm hrel.1), dget_append_old _ _ _ _ (Ne.symm hbase)]
      exact hfresh y (by simp [hy])
    obtain ⟨ls, o', hls, hrun, hb'⟩ := ih (l ++ [(fq, i)]) (some fq)
      (Or.inr ⟨fq, i, rfl, hk.ne_nil, dget_append_new _ _ _ hfq, L.settled i hi⟩)
      (fun y hy => hgood y (by simp [hy])) hord.2 hfresh'
    simp only [List.append_assoc, List.singleton_append] at hrun hb'
    exact ⟨_, o', L.prints_cons fq f q i r ls hk hi hls, (L.reads_block h hi hk hb hfb hfq).append hrun, hb'⟩

theorem run_file {S : Type} {step : S → Str → Except Err S} (mk : RState β → S)
    (sim : ∀ {t s s'}, K.Reads t s s' → step (mk s) t = .ok (mk s')) (n v : Str) (hn : Clean n) (hv : Clean v)
    (nm x : Option Str) (hnm : nm = none ∨ nm = some n) (hx : x = none ∨ x = some v)
    (fl : List (Str × β)) (hgood : ∀ x ∈ fl, QualKey x.1 ∧ L.Good x.2) (hord : QualOrder (fl.map (·.1))) :
    ∃ ls o, L.prints fl = .ok ls ∧
      runLines step (mk ((nm, x), [], none)) (splitOn 10 (unlines (headerLines K.idLabel n v ++ ls ++ L.tail)))
        = .ok (mk ((some n, some v), fl, o)) := by
  obtain ⟨ls, o, hls, hrun, hb'⟩ :=
    L.reads_blocks (some n, some v) fl [] none (Or.inl rfl) hgood hord (fun _ _ => by simp [dget])
  rw [List.nil_append] at hrun hb'
  have hhd : K.ReadsAll (headerLines K.idLabel n v) ((nm, x), [], none) ((some n, some v), [], none) :=
    .cons (.file _) (.cons (.product n nm x _ hn hnm) (.cons (.ident v _ x _ hv hx) (.cons (.stars _) (.nil _))))
  have hfile := (hhd.append hrun).append (K.reads_seps L.tail _ L.sep_tail hb')
  -- the text splits into its lines and the empty piece after the last newline
  refine ⟨ls, o, hls, ?_⟩
  rw [splitOn_unlines _ hfile.no10]
  exact (hfile.append (.cons (.blank _) (.nil _))).run mk sim

end Layout

end EupsModel.Record
