/-! A depth-first walk with a visited set, seen from outside.  `Table.dependencies` (`Deps.depsLoop`) and `Eups._remove`
(`Remove.collectLoop`) are such walks: an opened node is read item by item, every item has facts recorded for it and
may open another node unless that one is marked.  What a completed run guarantees (`Post`) is stated once, with one
rule per way of dealing with an item (`Post.plain`, `Post.descend`) and `Post.nil` for the end of the list; for the
outermost run — begun without facts, and what it began with marked (the root, or nothing) read completely at the end
(`h0`) — it follows that the record is exactly what the reachable nodes ask for (`Just`, `Post.facts_iff`).  A walk is
tied to this by one induction along its own recursion that names the rule for every branch. -/
namespace EupsModel.Walk

/-- nodes `ν`, marked by keys `κ` (`node` gives back the node a mark stands for); an opened node is read item by item
(`ι`); for an item the walk records facts (`φ`, `needs`) and may open another node (`opens`) -/
structure Sys (ν κ ι φ : Type) where
  key : ν → κ
  node : κ → ν
  items : ν → List ι
  needs : ν → ι → φ → Prop
  opens : ν → ι → ν → Prop
  node_key : ∀ {u i v}, opens u i v → node (key v) = v

variable {ν κ ι φ : Type} (S : Sys ν κ ι φ)

/-- a walk begun at `u` may come to open `v`: a chain of nodes from `u` to `v`, each opened by an item of the one before
(marks are not looked at) -/
inductive Reach : ν → ν → Prop
  | refl (u : ν) : Reach u u
  | head {u w v : ν} {i : ι} : i ∈ S.items u → S.opens u i w → Reach w v → Reach u v

theorem Reach.tail {S : Sys ν κ ι φ} {u w v : ν} {i : ι} (h : Reach S u w) (hi : i ∈ S.items w)
    (ho : S.opens w i v) : Reach S u v := by
  induction h with
  | refl => exact .head hi ho (.refl _)
  | head hj hp _ ih => exact .head hj hp (ih hi ho)

/-- the walk from `top` is right to record `f`: an item of some node it may come to open asks for it -/
def Just (top : ν) (f : φ) : Prop := ∃ w i, Reach S top w ∧ i ∈ S.items w ∧ S.needs w i f

/-- the walk is through with the item `i` of `u`: what it asks for is among the facts `F`, what it opens is marked in
`seen` -/
def ItemDone (u : ν) (seen : List κ) (F : φ → Prop) (i : ι) : Prop :=
  (∀ f, S.needs u i f → F f) ∧ ∀ v, S.opens u i v → S.key v ∈ seen

/-- `u` has been read completely: the walk is through with each of its items -/
def Done (seen : List κ) (F : φ → Prop) (u : ν) : Prop := ∀ i ∈ S.items u, ItemDone S u seen F i

variable {S}

theorem Done.mono {u : ν} {seen seen' : List κ} {F F' : φ → Prop} (h : Done S seen F u)
    (hs : ∀ k ∈ seen, k ∈ seen') (hF : ∀ f, F f → F' f) : Done S seen' F' u :=
  fun i hi => ⟨fun f hf => hF f ((h i hi).1 f hf), fun v hv => hs _ ((h i hi).2 v hv)⟩

theorem Just.head {u w : ν} {i : ι} {f : φ} (hi : i ∈ S.items u) (ho : S.opens u i w) (h : Just S w f) :
    Just S u f := by
  obtain ⟨x, j, hx, hj, hn⟩ := h
  exact ⟨x, j, .head hi ho hx, hj, hn⟩

variable (S) in
/-- What the walk guarantees once it has read the items `is` of `top`, having started with the marks `seen` and the
facts `F` and ended with `seen'`, `F'`.  One marked before may still be open further up, so `new` speaks of the nodes
marked meanwhile only: each can be opened from `top` and is completely read (`Done`). -/
structure Post (top : ν) (is : List ι) (seen : List κ) (F : φ → Prop) (seen' : List κ) (F' : φ → Prop) : Prop where
  seen_mono : ∀ k ∈ seen, k ∈ seen'
  facts_mono : ∀ f, F f → F' f
  sound : ∀ f, F' f → F f ∨ Just S top f
  items_done : ∀ i ∈ is, ItemDone S top seen' F' i
  new : ∀ k ∈ seen', k ∈ seen ∨ (∃ w, Reach S top w ∧ S.key w = k) ∧ Done S seen' F' (S.node k)

theorem Post.nil (top : ν) (seen : List κ) (F : φ → Prop) : Post S top [] seen F seen F where
  seen_mono := fun _ h => h
  facts_mono := fun _ h => h
  sound := fun _ h => .inl h
  items_done := fun _ h => nomatch h
  new := fun _ h => .inl h

theorem Post.plain {top : ν} {i : ι} {is : List ι} {seen seen' : List κ} {F F1 F' : φ → Prop}
    (hi : i ∈ S.items top) (hF1 : ∀ f, F1 f ↔ F f ∨ S.needs top i f) (ho : ∀ v, S.opens top i v → S.key v ∈ seen)
    (P : Post S top is seen F1 seen' F') : Post S top (i :: is) seen F seen' F' where
  seen_mono := P.seen_mono
  facts_mono := fun f hf => P.facts_mono f ((hF1 f).mpr (.inl hf))
  sound := fun f hf => (P.sound f hf).elim
    (fun h => ((hF1 f).mp h).imp_right fun hn => ⟨top, i, .refl _, hi, hn⟩) .inr
  items_done := List.forall_mem_cons.mpr
    ⟨⟨fun f hf => P.facts_mono f ((hF1 f).mpr (.inr hf)), fun v hv => P.seen_mono _ (ho v hv)⟩, P.items_done⟩
  new := P.new

/-- an item that opens `v`: `v` is marked and read completely (`C`: of the facts `F` so far the nested walk is handed
`Fin`, the others, `K`, are kept aside; it returns `Fout`), the item's facts are added (`F3`), then the rest -/
theorem Post.descend {top v : ν} {i : ι} {is : List ι} {seen seen2 seen' : List κ} {F K Fin Fout F3 F' : φ → Prop}
    (hi : i ∈ S.items top) (hv : S.opens top i v) (huniq : ∀ v', S.opens top i v' → v' = v)
    (C : Post S v (S.items v) (S.key v :: seen) Fin seen2 Fout)
    (hF : ∀ f, F f ↔ K f ∨ Fin f) (hF3 : ∀ f, F3 f ↔ K f ∨ S.needs top i f ∨ Fout f)
    (P : Post S top is seen2 F3 seen' F') : Post S top (i :: is) seen F seen' F' where
  seen_mono := fun k hk => P.seen_mono k (C.seen_mono k (List.mem_cons_of_mem _ hk))
  facts_mono := fun f hf => P.facts_mono f
    ((hF3 f).mpr (((hF f).mp hf).imp_right fun h => .inr (C.facts_mono f h)))
  sound := by
    intro f hf
    rcases P.sound f hf with h | h
    · rcases (hF3 f).mp h with h | h | h
      · exact .inl ((hF f).mpr (.inl h))
      · exact .inr ⟨top, i, .refl _, hi, h⟩
      · exact (C.sound f h).imp (fun h => (hF f).mpr (.inr h)) (Just.head hi hv)
    · exact .inr h
  items_done := List.forall_mem_cons.mpr
    ⟨⟨fun f hf => P.facts_mono f ((hF3 f).mpr (.inr (.inl hf))),
      fun v' hv' => huniq v' hv' ▸ P.seen_mono _ (C.seen_mono _ (List.mem_cons_self ..))⟩, P.items_done⟩
  new := by
    -- marked before, here, inside the nested walk, or later
    intro k hk
    refine (P.new k hk).elim (fun h2 => ?_) .inr
    have up : ∀ {w}, Done S seen2 Fout w → Done S seen' F' w :=
      fun h => h.mono P.seen_mono fun f hf => P.facts_mono f ((hF3 f).mpr (.inr (.inr hf)))
    rcases C.new k h2 with h | ⟨⟨w, hw, hk⟩, h⟩
    · rcases List.mem_cons.mp h with rfl | h
      · exact .inr ⟨⟨v, .head hi hv (.refl _), rfl⟩, by rw [S.node_key hv]; exact up C.items_done⟩
      · exact .inl h
    · exact .inr ⟨⟨w, .head hi hv hw, hk⟩, up h⟩

section Top
-- the outermost walk: what was marked at the start (the root, or nothing) is completely read at the end (`h0`; for the
-- root that is `P.items_done`, carried along `S.node (S.key top) = top`)
variable {top : ν} {seen seen' : List κ} {F F' : φ → Prop} (P : Post S top (S.items top) seen F seen' F')
  (h0 : ∀ k ∈ seen, Done S seen' F' (S.node k))
include P h0

theorem Post.done_trans {u w : ν} (h : Reach S u w) : Done S seen' F' u → Done S seen' F' w := by
  induction h with
  | refl => exact id
  | head hi ho _ ih =>
    intro hu
    have := (P.new _ ((hu _ hi).2 _ ho)).elim (h0 _) (·.2)
    rw [S.node_key ho] at this
    exact ih this

/-- **Sound and complete**: begun with nothing, the walk records exactly what the nodes it can open ask for. -/
theorem Post.facts_iff (hF : ∀ f, ¬F f) (f : φ) : F' f ↔ Just S top f :=
  ⟨fun h => (P.sound f h).resolve_left (hF f), fun ⟨_, i, hw, hi, hn⟩ => (P.done_trans h0 hw P.items_done i hi).1 f hn⟩

end Top

end EupsModel.Walk
