import EupsModel.Model.Str
/-! Model of version resolution (python/eups/Eups.py): `findProductFromVRO` (l.777), the per-entry
lookups `_findTaggedProduct` (l.1121), `_findLatestProduct` (l.1276), `_findProductsByExpr` (l.1331),
`_selectPreferredProduct` (l.1371), the flavor loop of `Eups.setup` (l.1872-1918), and `selectVRO`
(l.3592) with `__mergeWarnings`, `makeVroExact` and `_kindlySetPreferredTags` (l.644).

Interfaces kept open on purpose:
* the version order: `Ord.cmp` (`Eups.version_cmp`) and `Ord.matches` (`Eups.version_match`) are
  parameters; C10 owns them.  The theorems assume the order properties (`GoodOrd`) as hypotheses.
* *which declarations a lookup can see* is an input: `Ctx.db` is the view used by every entry
  except `latest`, `Ctx.dbLatest` the one used by `latest` (`_findTaggedProduct` calls
  `_findLatestProduct` without forwarding `noCache`).  Through the files the view is the whole
  database; through the cache of a fresh process it is `cacheView` (D16, shared with C07). -/
namespace EupsModel.Vro

/-! ## vocabulary (code points, see `Model/Str.lean`) -/
def kPath : Str := [112, 97, 116, 104]  -- 'path'
def kKeep : Str := [107, 101, 101, 112]  -- 'keep'
def kCommandLine : Str := [99, 111, 109, 109, 97, 110, 100, 76, 105, 110, 101]  -- 'commandLine'
def kVersion : Str := [118, 101, 114, 115, 105, 111, 110]  -- 'version'
def kVersionBang : Str := [118, 101, 114, 115, 105, 111, 110, 33]  -- 'version!'
def kVersionExpr : Str := [118, 101, 114, 115, 105, 111, 110, 69, 120, 112, 114]  -- 'versionExpr'
def kLatest : Str := [108, 97, 116, 101, 115, 116]  -- 'latest'
def kSetup : Str := [115, 101, 116, 117, 112]  -- 'setup'
def kType : Str := [116, 121, 112, 101]  -- 'type'
def kWarn : Str := [119, 97, 114, 110]  -- 'warn'
def kDefault : Str := [100, 101, 102, 97, 117, 108, 116]  -- 'default'
def kTypeExact : Str := [116, 121, 112, 101, 58, 101, 120, 97, 99, 116]  -- 'type:exact'
def kWarn1 : Str := [119, 97, 114, 110, 58, 49]  -- 'warn:1'
def kExact : Str := [101, 120, 97, 99, 116]  -- 'exact'
def kFileColon : Str := [102, 105, 108, 101, 58]  -- 'file:'
def kWarnColon : Str := [119, 97, 114, 110, 58]  -- 'warn:'
def kTypeColon : Str := [116, 121, 112, 101, 58]  -- 'type:'
def kCurrent : Str := [99, 117, 114, 114, 101, 110, 116]  -- 'current'
def colon : Nat := 58
def kLocal : Str := [76, 79, 67, 65, 76, 58]  -- 'LOCAL:' (Product.LocalVersionPrefix)
def kPathFromVersion : Str := [112, 97, 116, 104, 32, 102, 114, 111, 109, 32, 118, 101, 114, 115, 105, 111, 110]  -- 'path from version'
def kUserColon : Str := [117, 115, 101, 114, 58]  -- 'user:'
def kGlobalColon : Str := [103, 108, 111, 98, 97, 108, 58]  -- 'global:'

/-- hooks.py l.49: `config.Eups.VRO["default"]` -/
def defaultBase : List Str := [kTypeExact, kCommandLine, kVersion, kVersionExpr, kCurrent]

/-- the pseudo tags registered by `Eups.__init__` (l.338) -/
def pseudoTags : List Str :=
  [kCommandLine, kKeep, kPath, kSetup, kType, kVersion, kVersionBang, kVersionExpr, kWarn]

/-! ## data -/

structure Decl where
  name : Str
  version : Str
  flavor : Str
deriving DecidableEq, Repr

/-- one flavor group of a chain file: `tag` is assigned to `version` of `name` for `flavor` -/
structure TagRec where
  tag : Str
  name : Str
  flavor : Str
  version : Str
deriving DecidableEq, Repr

structure Stack where
  decls : List Decl
  tags : List TagRec
deriving DecidableEq, Repr

/-- the stacks in EUPS_PATH order -/
abbrev Db := List Stack

/-- what a lookup returns: version, flavor and the index of the stack on the path -/
structure Prod where
  version : Str
  flavor : Str
  stack : Nat
deriving DecidableEq, Repr

/-- `Eups.version_cmp` and `Eups.version_match` (owned by C10) -/
structure Ord where
  cmp : Str → Str → Int
  vmatch : Str → Str → Bool

/-- the order properties the `latest` / expression theorems need, on the names satisfying `P`
(C10 proves them for the conventional names; `Lemmas/VroSort.lean`) -/
structure GoodOrdOn (P : Str → Prop) (cmp : Str → Str → Int) : Prop where
  refl : ∀ a, P a → cmp a a ≤ 0
  flip : ∀ a b, P a → P b → 0 ≤ cmp a b → cmp b a ≤ 0
  trans : ∀ a b c, P a → P b → P c → cmp a b ≤ 0 → cmp b c ≤ 0 → cmp a c ≤ 0

/-- the same on all names -/
abbrev GoodOrd (cmp : Str → Str → Int) : Prop := GoodOrdOn (fun _ => True) cmp

/-! ## the view a lookup has (interface with C07 / D16)

A stack whose cache a fresh process *accepted* is loaded for the flavors the process asked the cache
for (`neededFlavors`); a stack that was rebuilt in this process holds every flavor of the database.
Which of the two happened is decided by the load-versus-rebuild rule (C07's model); here it is an
input, one `Bool` per stack.

Since fix 9143b09 `Eups.__init__` installs the configured fallback flavors before it reads the cache,
so `loaded` = the native flavor and its fallbacks — exactly the flavors the flavor loop of `setup`
visits.  Before it (`…Pinned` below, D16) the list was the native flavor alone. -/

def restrictStack (loaded : List Str) (st : Stack) : Stack :=
  { decls := st.decls.filter (fun d => loaded.contains d.flavor),
    tags := st.tags.filter (fun t => loaded.contains t.flavor) }

def cacheView (loaded : List Str) : List Bool → Db → Db
  | a :: as, st :: rest => (if a then restrictStack loaded st else st) :: cacheView loaded as rest
  | _, rest => rest

/-- the pinned tree (before 9143b09): an accepted cache is read for the native flavor only -/
def cacheViewPinned (native : Str) : List Bool → Db → Db := cacheView [native]

/-- how an `Eups` instance reaches the database -/
inductive Mode where
  | files     -- `Eups(readCache=False)` (what `setup` uses): every lookup reads the files
  | cache     -- `Eups()` and `noCache=False`: every lookup goes through the loaded cache
  | mixed     -- `Eups()` and `noCache=True`: the files, except `latest`, which still uses the cache
deriving DecidableEq, Repr

/-- every version name declared in the database satisfies `P` -/
def DeclIn (P : Str → Prop) (db : Db) : Prop := ∀ st ∈ db, ∀ d ∈ st.decls, P d.version

/-! ## per-stack lookups -/

def declared (st : Stack) (n v f : Str) : Bool :=
  st.decls.any fun d => d.name == n && d.version == v && d.flavor == f

/-- the version a stack's chain file gives for (tag, product, flavor) -/
def tagVersion (st : Stack) (t n f : Str) : Option Str :=
  (st.tags.find? fun r => r.tag == t && r.name == n && r.flavor == f).map (·.version)

/-- the tag is usable in this stack: it points to a version declared *here* for the flavor -/
def tagHere (st : Stack) (t n f : Str) : Option Str :=
  match tagVersion st t n f with
  | some v => if declared st n v f then some v else none
  | none => none

/-- insertion into a list sorted by Python string order (`_cmp_by_verflav`) -/
def insertStr (v : Str) : List Str → List Str
  | [] => [v]
  | x :: xs => if Str.cmp v x < 0 then v :: x :: xs else x :: insertStr v xs

def sortStr : List Str → List Str
  | [] => []
  | x :: xs => insertStr x (sortStr xs)

/-- the versions of `n` declared in the stack for flavor `f`, in the order both
`Database.findProducts` (sorted by version string) and a cache rebuilt from it enumerate them -/
def versionsOf (st : Stack) (n f : Str) : List Str :=
  sortStr ((st.decls.filter fun d => d.name == n && d.flavor == f).map (·.version))

/-- `vers.sort(version_cmp); vers[-1]`: for a comparison that is a total preorder a stable sort
puts last the *latest-listed* of the maximal elements, which is what this fold computes. -/
def lastMaxGo (cmp : Str → Str → Int) (best : Str) : List Str → Str
  | [] => best
  | v :: vs => lastMaxGo cmp (if 0 ≤ cmp v best then v else best) vs

def lastMax (cmp : Str → Str → Int) : List Str → Option Str
  | [] => none
  | v :: vs => some (lastMaxGo cmp v vs)

/-! ## path-order lookups -/

/-- first stack (index counted from `i`) for which `f` answers -/
def firstStack {α : Type} (f : Stack → Option α) : Nat → Db → Option (Nat × α)
  | _, [] => none
  | i, st :: rest =>
    match f st with
    | some a => some (i, a)
    | none => firstStack f (i + 1) rest

/-- explicit version: the first stack on the path declaring (name, version, flavor) -/
def lookupVersion (db : Db) (n v f : Str) : Option Prod :=
  (firstStack (fun st => if declared st n v f then some () else none) 0 db).map
    fun (i, _) => ⟨v, f, i⟩

/-- tag entry: the first stack carrying the tag on a version declared there for the flavor -/
def lookupTag (db : Db) (t n f : Str) : Option Prod :=
  (firstStack (fun st => tagHere st t n f) 0 db).map fun (i, v) => ⟨v, f, i⟩

/-- `_findLatestProduct`: the maximum over *all* stacks; a later stack wins only when strictly newer -/
def latestGo (cmp : Str → Str → Int) (n f : Str) : Nat → Option Prod → Db → Option Prod
  | _, out, [] => out
  | i, out, st :: rest =>
    match lastMax cmp (versionsOf st n f) with
    | none => latestGo cmp n f (i + 1) out rest
    | some v =>
      match out with
      | none => latestGo cmp n f (i + 1) (some ⟨v, f, i⟩) rest
      | some o =>
        if 0 < cmp v o.version then latestGo cmp n f (i + 1) (some ⟨v, f, i⟩) rest
        else latestGo cmp n f (i + 1) out rest

def lookupLatest (cmp : Str → Str → Int) (db : Db) (n f : Str) : Option Prod :=
  latestGo cmp n f 0 none db

/-- `_findProductsByExpr`: the satisfying versions, unique by version name, in path order -/
def exprCandsGo (vm : Str → Str → Bool) (n f x : Str) : Nat → List (Nat × Str) → Db → List (Nat × Str)
  | _, acc, [] => acc
  | i, acc, st :: rest =>
    let vs := (versionsOf st n f).filter fun v => vm v x
    let acc' := vs.foldl (fun a v => if a.any (fun c => c.2 == v) then a else a ++ [(i, v)]) acc
    exprCandsGo vm n f x (i + 1) acc' rest

def exprCands (vm : Str → Str → Bool) (db : Db) (n f x : Str) : List (Nat × Str) :=
  exprCandsGo vm n f x 0 [] db

/-- `_selectPreferredProduct(products, ["latest"])` -/
def selectLatest (cmp : Str → Str → Int) (f : Str) (cands : List (Nat × Str)) : Option Prod :=
  match lastMax cmp (cands.map (·.2)) with
  | none => none
  | some m => (cands.find? fun c => c.2 == m).map fun c => ⟨c.2, f, c.1⟩

def lookupExpr (o : Ord) (db : Db) (n f x : Str) : Option Prod :=
  selectLatest o.cmp f (exprCands o.vmatch db n f x)

/-! ## `findProductFromVRO` -/

deriving instance DecidableEq for Except

inductive Err where
  | badExpr        -- `isLegalRelativeVersion` raised EupsException ("= 1.0": did you mean '=='?)
  | indexError     -- a bare `warn` entry: `int(vroTag.split(":")[1])`
  | typeError      -- `vroReason[0]` on `None` in the flavor loop
  | valueError     -- `vro.index(..)` of an absent entry / `t.split(":")` with two colons
  | unboundLocal   -- `where` used before assignment in selectVRO (-T without -t on a VRO without version entries)
  | runtimeError   -- selectVRO: both a command-line VRO and a tag; no usable dictionary entry
  | keyError
  | outOfFuel      -- never produced (`resolve_fuel_enough`); kept distinct from every real result
  | unsupported    -- an entry outside the model (`setup`, qualified tags, `file:` tags)
deriving DecidableEq, Repr

def hasInfix (needle : Str) : Str → Bool
  | [] => needle.isEmpty
  | c :: cs => needle.isPrefixOf (c :: cs) || hasInfix needle cs

def skipSpaces : Str → Str
  | [] => []
  | c :: cs => if Str.isSpace c then skipSpaces cs else c :: cs

/-- `_bad_relop_re = ^\s*=\s+\S+` -/
def badRelop (v : Str) : Bool :=
  match skipSpaces v with
  | 61 :: c :: rest => Str.isSpace c && !(skipSpaces (c :: rest)).isEmpty
  | _ => false

/-- `isLegalRelativeVersion`: `<=?|>=?|==` occurs somewhere -/
def isExpr (v : Str) : Except Err Bool :=
  if v.contains 60 || v.contains 62 || hasInfix [61, 61] v then .ok true
  else if badRelop v then .error .badExpr
  else .ok false

def isVT (e : Str) : Bool := e == kVersion || e == kVersionBang || e == kVersionExpr

def allDigits (s : Str) : Bool := !s.isEmpty && s.all Str.isDigit

/-- `^warn(:\d+)?$` -/
def isWarn (e : Str) : Bool :=
  e == kWarn || (kWarnColon.isPrefixOf e && allDigits (e.drop kWarnColon.length))

/-- `^warn:(\d+)$` -/
def warnLevel (e : Str) : Option Nat :=
  if kWarnColon.isPrefixOf e && allDigits (e.drop kWarnColon.length) then
    some (Str.toNat (e.drop kWarnColon.length)) else none

/-- `^type:(.+)$` -/
def isType (e : Str) : Bool := kTypeColon.isPrefixOf e && kTypeColon.length < e.length

/-- `SETUP_<NAME> = "name version -f flavor -Z dir"` as `findSetupVersion` parses it; `stack` is the
index of `dir` on EUPS_PATH (`none`: no `-Z`, or a directory that is not a stack on the path) -/
structure SetupRec where
  version : Str
  flavor : Str
  stack : Option Nat
deriving DecidableEq, Repr

structure Req where
  name : Str
  version : Option Str            -- the `version` argument (None or "" = not named)
  vexpr : Option Str              -- the `versionExpr` argument (table files: `1.0 [>= 1.0]`)
  depth : Nat                     -- recursionDepth
  flavor : Str
  ignoreVersions : Bool
  /-- `alreadySetupProducts.get(name)`: the product and `reason[0]` of the reason it was chosen for
  (`none` = set up by an earlier command) -/
  already : Option (Prod × Option Str)
  /-- what `findSetupVersion(name)` reads from `SETUP_<NAME>` (`none` = not set up); consulted by the
  `setup` pseudo-tag only -/
  setupEnv : Option SetupRec := none
deriving Repr

structure Ctx where
  ord : Ord
  db : Db
  dbLatest : Db
  /-- registered global tags (hooks.config.Eups.globalTags); `latest` is always registered -/
  globalTags : List Str
  /-- registered user tags (hooks.config.Eups.userTags and the user's tag cache), unqualified names -/
  userTags : List Str := []
  /-- the directories that exist, for `LOCAL:<dir>` versions (`os.path.exists`) -/
  dirs : List Str := []

/-- `Tags.isRecognized` of an unqualified name -/
def Ctx.recognized (C : Ctx) (e : Str) : Bool :=
  C.globalTags.contains e || e == kLatest || pseudoTags.contains e || C.userTags.contains e

/-- the name under which the chain records of a tag entry are kept (`str(Tags.getTag(e))`): a user tag,
spelled `mine` or `user:mine`, is kept as `user:mine`; a global tag spelled `global:t` or `:t` as `t`.
`none`: the entry is not a recognised tag. -/
def Ctx.tagKey (C : Ctx) (e : Str) : Option Str :=
  if !e.contains colon then
    if C.globalTags.contains e || e == kLatest || pseudoTags.contains e then some e
    else if C.userTags.contains e then some (kUserColon ++ e)
    else none
  else if kUserColon.isPrefixOf e && !(e.drop kUserColon.length).contains colon then
    if C.userTags.contains (e.drop kUserColon.length) then some e else none
  else if kGlobalColon.isPrefixOf e && !(e.drop kGlobalColon.length).contains colon then
    if C.globalTags.contains (e.drop kGlobalColon.length) then some (e.drop kGlobalColon.length) else none
  else
    match e with
    | 58 :: t => if !t.contains colon && C.globalTags.contains t then some t else none
    | _ => none

/-- the two views of a lookup, from the full database, the mode, the flavors the process reads from an
accepted cache (native + fallbacks) and the per-stack load outcome -/
def mkCtx (o : Ord) (globalTags : List Str) (full : Db) (m : Mode) (loaded : List Str) (accepted : List Bool) : Ctx :=
  match m with
  | .files => { ord := o, db := full, dbLatest := full, globalTags := globalTags }
  | .cache => { ord := o, db := cacheView loaded accepted full, dbLatest := cacheView loaded accepted full,
                globalTags := globalTags }
  | .mixed => { ord := o, db := full, dbLatest := cacheView loaded accepted full, globalTags := globalTags }

/-- the same context with user tags registered and the given directories existing -/
def Ctx.withExtras (C : Ctx) (userTags dirs : List Str) : Ctx := { C with userTags := userTags, dirs := dirs }

/-- the same on the pinned tree (D16) -/
def mkCtxPinned (o : Ord) (globalTags : List Str) (full : Db) (m : Mode) (native : Str) (accepted : List Bool) : Ctx :=
  mkCtx o globalTags full m [native] accepted

inductive Outcome where
  | skip                                   -- `continue`
  | abort                                  -- `break` with no product
  | hit (p : Prod) (reason : Str)          -- `break` with a product; `reason` = `vroReason[0]`
deriving DecidableEq, Repr

/-- the effective version (Python truthiness: `None` and `""` are "not named") -/
def Req.named (r : Req) : Option Str :=
  match r.version with
  | some v => if v.isEmpty || r.ignoreVersions then none else some v
  | none => none

/-- the expression lookup of a `versionExpr` entry (l.856-863): `x` is the `versionExpr` in force -/
def exprPart (C : Ctx) (r : Req) (x : Option Str) : Except Err (Option Prod) :=
  match x with
  | none => .ok none
  | some x =>
    if x.isEmpty then .ok none
    else
      match isExpr x with
      | .error err => .error err
      | .ok true => .ok (lookupExpr C.ord C.db r.name r.flavor x)
      | .ok false => .ok none

/-- `LOCAL:<dir>` (l.895-902): `Product(name, version)` — no flavor, no database; the stack index is
the length of the path ("none of the stacks") -/
def localProd (C : Ctx) (v : Str) : Option Prod :=
  if kLocal.isPrefixOf v && C.dirs.contains (v.drop kLocal.length) then some ⟨v, [], C.db.length⟩ else none

/-- a `version` / `version!` / `versionExpr` entry for a request naming `v` (l.840-912).

The code threads one piece of state through the loop: `versionExpr = version` is executed at a
`versionExpr` entry when the requested version is an expression.  The assignment is idempotent and
`versionExpr` is read only at `versionExpr` entries, directly after it, so the state is a function of
the request and the loop body is modelled without it. -/
def lookupVT (C : Ctx) (r : Req) (e : Str) (post : List Str) (v : Str) : Except Err Outcome :=
  match isExpr v with
  | .error err => .error err
  | .ok ex =>
    if ex && e != kVersionExpr then
      -- an expression at a `version` entry: wait for `versionExpr` if there is one
      if post.contains kVersionExpr then .ok .skip else .ok .abort
    else
      match exprPart C r (if e == kVersionExpr then (if ex then some v else r.vexpr) else none) with
      | .error err => .error err
      | .ok (some p) => .ok (.hit p kVersionExpr)
      | .ok none =>
        -- "If we failed to find a versionExpr, we can still use the explicit version"
        match lookupVersion C.db r.name v r.flavor with
        | some p => .ok (.hit p (if r.depth == 0 then kCommandLine else kVersion))
        | none =>
          -- l.895-902: no stack declares it, but it names a directory that exists
          match localProd C v with
          | some p => .ok (.hit p (if r.depth == 0 then kCommandLine else kPathFromVersion))
          | none => if post.any isVT then .ok .skip else .ok .abort   -- never falls through to tags

/-- `findSetupProduct(name)` as `_findTaggedProduct` uses it for the `setup` pseudo-tag (l.1142-1147):
the version `SETUP_<NAME>` names, looked up in the one stack its `-Z` names (`findProduct(..,
noCache=False)`: through the cache when the instance has one) for the flavor its `-f` names; discarded
when that is not the flavor asked for.  A `LOCAL:` version is taken as it stands. -/
def lookupSetup (C : Ctx) (r : Req) : Option Prod :=
  match r.setupEnv with
  | none => none
  | some s =>
    if s.flavor != r.flavor then none
    else if kLocal.isPrefixOf s.version then some ⟨s.version, s.flavor, s.stack.getD C.db.length⟩
    else
      match s.stack with
      | none => none
      | some i =>
        match C.dbLatest[i]? with
        | some st => if declared st r.name s.version s.flavor then some ⟨s.version, s.flavor, i⟩ else none
        | none => none

/-- a tag entry (`latest` and `setup` included); `key` = `C.tagKey e`, the name the chain records carry -/
def lookupTagEntry (C : Ctx) (r : Req) (e key : Str) : Outcome :=
  match (if key == kLatest then lookupLatest C.ord.cmp C.dbLatest r.name r.flavor
         else if key == kSetup then lookupSetup C r
         else lookupTag C.db key r.name r.flavor) with
  | some p => .hit p e
  | none => .skip

/-- an ordinary tag entry: a registered global tag other than `latest` that none of the earlier
branches of the loop body intercepts -/
def isPlainTag (C : Ctx) (e : Str) : Bool :=
  C.globalTags.contains e && e != kLatest && !pseudoTags.contains e && !isWarn e && !e.contains colon

/-- The body of the `for i, vroTag in enumerate(vro)` loop for one entry; `post = vro[i+1:]`. -/
def lookupEntry (C : Ctx) (r : Req) (e : Str) (post : List Str) : Except Err Outcome :=
  if e == kPath then .ok .skip                        -- `vroTag in ("path",)` (a substring test before fix dce50ce, D33)
  else if 0 < r.depth && e == kKeep then
    match r.already with
    | some (p, _) => .ok (.hit p kKeep)
    | none => .ok .skip
  else if e == kCommandLine then
    match r.already with
    | some (p, some rt) => if rt == kCommandLine then .ok (.hit p kCommandLine) else .ok .skip
    | _ => .ok .skip
  else if isVT e then
    match r.named with
    | none => .ok .skip
    | some v => lookupVT C r e post v
  else if isWarn e then
    if e == kWarn then .error .indexError else .ok .skip
  else
    match C.tagKey e with
    | some key =>                                      -- `self.tags.isRecognized(vroTag)`
      -- with `ignore_versions` the `findProduct` inside `findSetupProduct` turns into `findPreferredProduct`
      -- (the pre-VRO API reading the instance's own preferred tags): outside the model
      if key == kSetup && r.ignoreVersions && r.setupEnv.isSome then .error .unsupported
      else .ok (lookupTagEntry C r e key)
    | none =>
      if e.contains colon then
        if isType e then .ok .skip else .error .unsupported   -- `file:`, other tag groups
      else .ok .skip                                   -- "Impossible entry on the VRO"

/-- a product, the reason reported for it, and the VRO entry at which the loop stopped (`vroTag0`) -/
structure Hit where
  prod : Prod
  reason : Str
  entry : Str
deriving DecidableEq, Repr

/-- the loop: stop at the first entry that does not say `continue` -/
def walk (C : Ctx) (r : Req) : List Str → Except Err (Option Hit)
  | [] => .ok none
  | e :: post =>
    match lookupEntry C r e post with
    | .error err => .error err
    | .ok .skip => walk C r post
    | .ok .abort => .ok none
    | .ok (.hit p reason) => .ok (some ⟨p, reason, e⟩)

def idxOf (e : Str) : List Str → Nat
  | [] => 0
  | x :: xs => if x == e then 0 else idxOf e xs + 1

/-- l.974-990: a product set up earlier *by this command* for a reason that stands earlier on the VRO
keeps its place ("old vro tag takes priority") -/
def applyAlready (r : Req) (vro : List Str) (h : Hit) : Hit :=
  match r.already with
  | some (op, some ot) =>
    if vro.contains ot && idxOf ot vro < idxOf h.entry vro then ⟨op, ot, h.entry⟩ else h
  | _ => h

/-- `findProductFromVRO` -/
def find (C : Ctx) (r : Req) (vro : List Str) : Except Err (Option Hit) :=
  match walk C r vro with
  | .error err => .error err
  | .ok none => .ok none
  | .ok (some h) => .ok (some (applyAlready r vro h))

/-! ## the flavor loop of `Eups.setup` (l.1872-1918) -/

/-- l.1887-1889: at the top level an explicitly named version is the only acceptable answer -/
def acceptableB (r : Req) (h : Hit) : Except Err Bool :=
  match r.version with
  | none => .ok true
  | some v =>
    if !v.isEmpty && r.depth == 0 then
      match isExpr v with
      | .error e => .error e
      | .ok ex => .ok (ex || h.prod.version == v)
    else .ok true

/-- the `while not product and vro` loop for one flavor.  `none` = try the next flavor. -/
def resolveFlavor (C : Ctx) (r : Req) (keep : Bool) : Nat → List Str → Except Err (Option Hit)
  | 0, _ => .error .outOfFuel
  | fuel + 1, vro =>
    if vro.isEmpty then .ok none
    else
      match find C r vro with
      | .error e => .error e
      | .ok found =>
        -- "We couldn't find it, but maybe it's already setup"
        let cand : Option (Hit × Bool) :=
          match found, r.already with
          | some h, _ => some (h, true)
          | none, some (p, _) =>
            if !keep && some p.version != r.version then none else some (⟨p, [], []⟩, false)
          | none, none => none
        match cand with
        | none => .ok none
        | some (h, viaFind) =>
          match acceptableB r h with
          | .error e => .error e
          | .ok true => .ok (some h)
          | .ok false =>
            -- "Maybe we'll find the product again further down the VRO"
            if !viaFind then .error .typeError
            else if !vro.contains h.reason then .error .valueError
            else resolveFlavor C r keep fuel (vro.drop (idxOf h.reason vro + 1))

/-- `for fallbackFlavor in [native] + fallbacks` -/
def resolve (C : Ctx) (r : Req) (keep : Bool) (vro : List Str) : List Str → Except Err (Option Hit)
  | [] => .ok none
  | fl :: rest =>
    match resolveFlavor C { r with flavor := fl } keep (vro.length + 1) vro with
    | .error e => .error e
    | .ok (some h) => .ok (some h)
    | .ok none => resolve C r keep vro rest

/-! ## `selectVRO` -/

inductive VroVal where
  | flat (l : List Str)
  | byDbz (d : List (Str × List Str))
deriving Repr

structure VroCfg where
  vroDict : List (Str × VroVal)   -- `self._vroDict` (hooks.config.Eups.VRO, values split)
  userVRO : Bool                  -- `Eups(vro=...)`
  keep : Bool
  exact : Bool                    -- `self.exact_version` on entry
  globalTags : List Str
  cmdTags : List Str              -- `self.commandLineTagNames` on entry (empty for a fresh instance)
  prevPreferred : List Str        -- `self.preferredTags` on entry
deriving Repr

structure VroArgs where
  tags : List Str                 -- `-t` (None and [] alike)
  productDir : Bool               -- `productDir and productDir != 'none'`
  versionName : Bool              -- `versionName` is truthy
  dbz : Option Str
  inexact : Bool
  postTags : List Str             -- `-T`
deriving Repr

def VroCfg.recognized (c : VroCfg) (e : Str) : Bool :=
  c.globalTags.contains e || e == kLatest || pseudoTags.contains e

/-- `Tags.getTag(v0).isGlobal()` for an unqualified recognised name -/
def VroCfg.isGlobal (c : VroCfg) (e : Str) : Bool := c.globalTags.contains e || e == kLatest

def lookupKey {α : Type} (k : Str) : List (Str × α) → Option α
  | [] => none
  | (k', v) :: rest => if k' == k then some v else lookupKey k rest

def insertAt (l : List Str) (i : Nat) (xs : List Str) : List Str := l.take i ++ xs ++ l.drop i

/-- index after the last entry satisfying `p` (`where = i + 1` in a loop), `none` if there is none -/
def afterLast (p : Str → Bool) : Nat → List Str → Option Nat
  | _, [] => none
  | i, x :: xs =>
    match afterLast p (i + 1) xs with
    | some j => some j
    | none => if p x then some (i + 1) else none

/-- l.3686-3697: drop repeated entries; every `warn` entry is kept, `warn` becoming `warn:1` -/
def dedupe : List Str → List Str → List Str
  | _, [] => []
  | seen, e :: rest =>
    if seen.contains e then dedupe seen rest
    else if isWarn e then (if (warnLevel e).isSome then e else kWarn1) :: dedupe seen rest
    else e :: dedupe (e :: seen) rest

def natToStr (n : Nat) : Str := (Nat.toDigits 10 n).map Char.toNat

/-- `__mergeWarnings`: a run of consecutive `warn:N` becomes one `warn:min` -/
def mergeWarnings : Option Nat → List Str → List Str
  | none, [] => []
  | some m, [] => [kWarnColon ++ natToStr m]
  | pend, e :: rest =>
    match warnLevel e with
    | some n => mergeWarnings (some (match pend with | some m => min m n | none => n)) rest
    | none =>
      (match pend with | some m => [kWarnColon ++ natToStr m] | none => []) ++ e :: mergeWarnings none rest

def splitColon0 (e : Str) : Str := e.takeWhile (· != colon)

/-- does `makeVroExact` move this entry to the end? -/
def movedByExact (c : VroCfg) (cmdTags : List Str) (e : Str) : Bool :=
  let v0 := splitColon0 e
  !c.recognized v0 || (!cmdTags.contains v0 && c.isGlobal v0)

/-- keep the first occurrence of each entry (`if not tagVroEntries.count(v): tagVroEntries.append(v)`) -/
def uniqFirst : List Str → List Str
  | [] => []
  | x :: xs => x :: (uniqFirst xs).filter (· != x)

/-- `makeVroExact` (l.3753): tags that are not command-line tags go to the end, behind a `warn:1` -/
def makeVroExact (c : VroCfg) (cmdTags : List Str) (vro : List Str) : List Str :=
  if c.userVRO then vro else
  let moved := uniqFirst (vro.filter (movedByExact c cmdTags))
  let kept := vro.filter (fun e => !movedByExact c cmdTags e)
  -- `movedTags`: some kept entry stands behind a moved one
  let movedTags := (vro.dropWhile (fun e => !movedByExact c cmdTags e)).any
                      (fun e => !movedByExact c cmdTags e)
  if moved.isEmpty then kept
  else
    let hasWarn01 := kept.any fun x => (kWarnColon ++ [48]).isPrefixOf x || (kWarnColon ++ [49]).isPrefixOf x
    kept ++ (if movedTags && !hasWarn01 then [kWarn1] else []) ++ moved

def countColons (e : Str) : Nat := (e.filter (· == colon)).length

/-- one tag of `_kindlySetPreferredTags`: `true` = accepted, `false` = "not okay" -/
def kindlyOne (c : VroCfg) (t : Str) : Except Err Bool :=
  if kFileColon.isPrefixOf t then .error .unsupported
  else if t.contains colon && t.getLast? != some colon then
    -- `re.search(r":.+$", t)`; `tbase, suffix = t.split(":")`
    if countColons t != 1 then .error .valueError
    else .ok (c.recognized (splitColon0 t))
  else if t.contains colon then .ok false        -- trailing colon: parses to an unknown group
  else .ok (c.recognized t)

def kindlyGo (c : VroCfg) : List Str → Except Err (List Str × Bool)
  | [] => .ok ([], false)
  | t :: rest =>
    match kindlyOne c t with
    | .error e => .error e
    | .ok ok =>
      match kindlyGo c rest with
      | .error e => .error e
      | .ok (l, bad) => .ok (if ok then (t :: l, bad) else (l, true))

/-- `_kindlySetPreferredTags(tags)` in its non-strict form; returns the new `preferredTags`.
When some tag is refused, `tags = list(filter(self.tags.isRecognized, tags))` also drops the
qualified entries (`type:exact`, `warn:1`): they parse to a group that does not exist. -/
def kindly (c : VroCfg) (tags : List Str) : Except Err (List Str) :=
  match kindlyGo c tags with
  | .error e => .error e
  | .ok (ok, bad) =>
    let ok' := if bad then ok.filter (fun t => !t.contains colon) else ok
    if ok'.isEmpty then .ok c.prevPreferred else .ok ok'

structure VroOut where
  vro : List Str
  exact : Bool                    -- `self.exact_version` afterwards
  cmdTags : List Str
  /-- `self._vroDict` afterwards: `keep` and the tags are inserted into the dictionary's own list
  (`self._vro = vro` aliases it), so a second `selectVRO` on the same instance starts from there -/
  dict' : List (Str × VroVal)
deriving Repr

def setKey {α : Type} (k : Str) (v : α) : List (Str × α) → List (Str × α)
  | [] => []
  | (k', v') :: rest => if k' == k then (k, v) :: rest else (k', v') :: setKey k v rest

/-- l.3598-3646: which list of the dictionary is used, and how its in-place modification is stored
back (`tags` = the -t tags in force) -/
def chooseBase (c : VroCfg) (a : VroArgs) (tags : List Str) :
    Except Err (List Str × (List Str → List (Str × VroVal))) :=
  let keys := c.vroDict.map (·.1)
  let vroTag0 : Option Str := if c.userVRO then some kCommandLine else tags.find? (fun t => keys.contains t)
  let vroTag1 : Str := match vroTag0 with
    | some t => t
    | none => if a.productDir then kPath else if a.versionName then kCommandLine else kDefault
  let vroTag : Option Str :=
    if c.userVRO then some vroTag1
    else if keys.contains vroTag1 then some vroTag1
    else if keys.contains kDefault then some kDefault
    else none
  match vroTag with
  | none => .error .runtimeError
  | some vroTag =>
    match lookupKey vroTag c.vroDict with
    | none => .error .keyError
    | some (.flat l) => .ok (l, fun l' => setKey vroTag (VroVal.flat l') c.vroDict)
    | some (.byDbz d) =>
      match (match a.dbz with | some z => (lookupKey z d).map (fun l => (z, l)) | none => none) with
      | some (z, l) => .ok (l, fun l' => setKey vroTag (VroVal.byDbz (setKey z l' d)) c.vroDict)
      | none =>
        match lookupKey kDefault d with
        | some l => .ok (if a.versionName then kCommandLine :: l else l,
                         fun l' => setKey vroTag (VroVal.byDbz (setKey kDefault l' d)) c.vroDict)
        | none => .error .runtimeError

/-- `where` after the loop of l.3654-3656 (`none` when there are no -t tags: the loop is not run) -/
def pretagPos (v1 tags : List Str) : Option Nat :=
  if tags.isEmpty then none
  else some ((afterLast (fun v => v == kCommandLine || isType v) 0 v1).getD 0)

/-- the -t tags go behind the last `commandLine` / `type:*` entry -/
def withPretags (v1 tags : List Str) : List Str :=
  match pretagPos v1 tags with
  | some w => insertAt v1 w tags
  | none => v1

/-- l.3648-3682: `keep` at the head, the -t tags behind the last `commandLine` / `type:*` entry, the
-T tags behind the last version-type entry (`where` keeps its earlier value when there is none, and
is unbound when there were no -t tags either) -/
def placeTags (keep : Bool) (base tags postTags : List Str) : Except Err (List Str) :=
  let v1 := if keep then kKeep :: base else base
  if postTags.isEmpty then .ok (withPretags v1 tags)
  else
    match afterLast isVT 0 (withPretags v1 tags), pretagPos v1 tags with
    | some w, _ => .ok (insertAt (withPretags v1 tags) w postTags)
    | none, some w => .ok (insertAt (withPretags v1 tags) w postTags)
    | none, none => .error .unboundLocal

/-- l.3683-3707: duplicates out, warnings merged, exact / inexact processing -/
def cleanVro (c : VroCfg) (cmdTags : List Str) (inexact : Bool) (v3 : List Str) : List Str :=
  let v4 := mergeWarnings none (dedupe [] v3)
  if c.userVRO then v4
  else
    let x := if c.exact then makeVroExact c cmdTags v4 else v4
    if inexact then x.filter (· != kTypeExact) else x

def selectVRO (c : VroCfg) (a : VroArgs) : Except Err VroOut :=
  if c.userVRO && !a.tags.isEmpty then .error .runtimeError
  else
    let tags := if c.userVRO then [] else a.tags
    let cmdTags := if tags.isEmpty then c.cmdTags else tags
    match chooseBase c a tags with
    | .error e => .error e
    | .ok (base, store) =>
      match placeTags c.keep base tags a.postTags with
      | .error e => .error e
      | .ok v3 =>
        match kindly c (cleanVro c cmdTags a.inexact v3) with
        | .error e => .error e
        | .ok pref =>
          -- `findProductFromVRO("")` runs the `type:*` entries: `type:exact` switches exact mode on; the
          -- rewrite of `_vro` it triggers is overwritten by `self._vro = self.preferredTags`
          .ok { vro := pref, exact := c.exact || pref.contains kTypeExact, cmdTags := cmdTags, dict' := store v3 }

/-- `eups vro [-t..] [-T..] product [version]`: `EupsCmd.createEups` has already called
`selectVRO(tag, productDir, None, dbz)` on the instance before `VroCmd.execute` calls it with all
the arguments; the second call sees the state the first one left. -/
def selectVROTwice (c : VroCfg) (a : VroArgs) : Except Err VroOut :=
  match selectVRO c { a with versionName := false, inexact := false, postTags := [] } with
  | .error e => .error e
  | .ok o1 =>
    selectVRO { c with vroDict := o1.dict', exact := o1.exact, cmdTags := o1.cmdTags, prevPreferred := o1.vro } a

/-! ## command-line glue: `setup [-t..] [-T..] [-c] [-e] [-z db] product [version]` (setupcmd.py l.222-253) and
`eups vro` with the same arguments (cmd.py `VroCmd.execute`), which is documented to "print the VRO to use if
issuing the setup command with the same arguments" -/

inductive CliTok where
  | tag (t : Str)          -- `-t t`
  | postTag (t : Str)      -- `-T t`
  | current                -- `-c`
deriving DecidableEq, Repr

def kNone : Str := [78, 111, 110, 101]  -- 'None'

/-- `opts.tag`: the `-t` values in command-line order (optparse `append`) -/
def cliTags (l : List CliTok) : List Str :=
  l.filterMap fun k => match k with | .tag t => some t | _ => none

/-- `opts.postTag` when `-c` is an optparse *callback* that appends `current` where it stands (setupcmd.py
`append_current`; `eups vro` too since fix D91) -/
def cliPostInOrder (l : List CliTok) : List Str :=
  l.filterMap fun k => match k with | .postTag t => some t | .current => some kCurrent | .tag _ => none

/-- `opts.postTag` of `eups vro` before fix D91: `-c` was a flag, `current` appended after all `-T` values -/
def cliPostFlagLast (l : List CliTok) : List Str :=
  (l.filterMap fun k => match k with | .postTag t => some t | _ => none) ++
    (if l.contains .current then [kCurrent] else [])

/-- hooks.config.Eups.defaultTags -/
structure DefaultTags where
  pre : List Str
  post : List Str
deriving Repr

/-- `Eups._processDefaultTags(opts)` (l.74-102): `-t None` / `-t ""` mean "no tag, and no default tags
either"; default tags are used when neither -t nor -T is given -/
def processDefaultTags (userVRO : Bool) (d : DefaultTags) (tags postTags : List Str) : List Str × List Str :=
  if tags == [kNone] || tags == [[]] then ([], postTags)
  else if userVRO then (tags, postTags)
  else if tags.isEmpty && postTags.isEmpty then (d.pre, d.post)
  else (tags, postTags)

structure CliCmd where
  toks : List CliTok
  version : Bool             -- a version argument follows the product
  exact : Bool               -- `-e`
  dbz : Option Str           -- `-z`
deriving Repr

def cliArgs (k : CliCmd) (tags post : List Str) (version : Bool) : VroArgs :=
  { tags := tags, productDir := false, versionName := version, dbz := k.dbz, inexact := false, postTags := post }

/-- the VRO `setup` resolves with: default tags first, then one `selectVRO` on the fresh instance -/
def setupCmdVro (c : VroCfg) (d : DefaultTags) (k : CliCmd) : Except Err VroOut :=
  let tp := processDefaultTags c.userVRO d (cliTags k.toks) (cliPostInOrder k.toks)
  selectVRO { c with exact := k.exact } (cliArgs k tp.1 tp.2 k.version)

/-- `eups vro` (with fixes D90, D91): default tags first; `createEups` calls `selectVRO(tag, None, None, dbz)` on
the instance, `execute` calls it again with all the arguments (`selectVROTwice`) -/
def vroCmd (c : VroCfg) (d : DefaultTags) (k : CliCmd) : Except Err VroOut :=
  let tp := processDefaultTags c.userVRO d (cliTags k.toks) (cliPostInOrder k.toks)
  selectVROTwice { c with exact := k.exact } (cliArgs k tp.1 tp.2 k.version)

/-- `eups vro` on the pinned tree: `createEups` ran `selectVRO` with the *raw* `-t` values (so `-t None` put
`None` into the dictionary's list) before `_processDefaultTags` (D90), and `-c` was appended last (D91) -/
def vroCmdPinned (c : VroCfg) (d : DefaultTags) (k : CliCmd) : Except Err VroOut :=
  let raw := cliTags k.toks
  let c0 := { c with exact := k.exact }
  match selectVRO c0 (cliArgs k raw [] false) with
  | .error e => .error e
  | .ok o1 =>
    let tp := processDefaultTags c.userVRO d raw (cliPostFlagLast k.toks)
    selectVRO { c0 with vroDict := o1.dict', exact := o1.exact, cmdTags := o1.cmdTags, prevPreferred := o1.vro }
      (cliArgs k tp.1 tp.2 k.version)

/-! ## the VRO in force for one `setupRequired` / `setupOptional` line (table.py `processArgs`, l.889-945) -/

/-- `vro` = `Eups.getPreferredTags()`; `lineVro` = the words of `--vro`, `lineTags` = the recognised `-t`
tags of the line, `lineKeep` = `-k`.  The result is pushed with `pushStack("vro", ..)` for the
duration of the dependency's setup. -/
def tableLineVro (vro : List Str) (lineVro : Option (List Str)) (lineTags : List Str) (lineKeep : Bool) : List Str :=
  let keep :=
    match lineVro with
    | some v => if v == [kVersionBang] then false else vro.contains kKeep
    | none => lineKeep || vro.contains kKeep
  let base :=
    match lineVro with
    | some v => v
    | none => lineTags ++ vro
  if keep then kKeep :: base else base

/-! ## the lines of one table: `pushStack("vro", requested)` … `popStack("vro")` (table.py l.1010-1025)

The state threaded through the lines is the command's VRO (`Eups.preferredTags`).  For each
`setupRequired` / `setupOptional` line `processArgs` builds the list in force from a *copy* of it
(`getPreferredTags()`), `pushStack` saves another copy and installs the requested list, the
dependency is set up, and `popStack` puts the saved copy back — before a failed required dependency
raises.  So a line's `-k` / `-t` / `--vro` is in force for that line only. -/

structure TableLine where
  name : Str
  version : Option Str
  vexpr : Option Str
  lineVro : Option (List Str)
  lineTags : List Str
  lineKeep : Bool
  optional : Bool
  /-- `alreadySetupProducts.get(name)` when the line is reached -/
  already : Option (Prod × Option Str)
deriving Repr

inductive LineOut where
  | setUp (h : Hit)
  | failed            -- not found, or any exception inside the dependency's setup
deriving DecidableEq, Repr

/-- the outcome of one line when `vro` is the command's VRO at that moment -/
def lineOutcome (C : Ctx) (keep : Bool) (flavors : List Str) (vro : List Str) (l : TableLine) : LineOut :=
  let inForce := tableLineVro vro l.lineVro l.lineTags l.lineKeep
  let r : Req := { name := l.name, version := l.version, vexpr := l.vexpr, depth := 1, flavor := [],
                   ignoreVersions := false, already := l.already }
  match resolve C r keep inForce flavors with
  | .ok (some h) => .setUp h
  | _ => .failed

structure TableRun where
  outs : List LineOut       -- one per line reached
  raised : Bool             -- a required dependency failed: the remaining lines are not reached
  vro : List Str            -- the command's VRO afterwards
deriving Repr

def runTable (C : Ctx) (keep : Bool) (flavors : List Str) : List Str → List TableLine → TableRun
  | vro, [] => ⟨[], false, vro⟩
  | vro, l :: rest =>
    let saved := vro                                   -- pushStack("vro", ..) keeps a copy
    let out := lineOutcome C keep flavors vro l        -- the requested list is in force for this setup only
    let vro' := saved                                  -- popStack("vro")
    if out == .failed && !l.optional then ⟨[out], true, vro'⟩
    else
      let r := runTable C keep flavors vro' rest
      ⟨out :: r.outs, r.raised, r.vro⟩

/-! ## several top-level requests served by ONE `Eups` object (API use; Eups.setup l.1925-1940, l.1995-2060)

The object carries `alreadySetupProducts` (`Dict`: product ↦ (product set up, reason it was chosen for)) from one request
to the next.  A top-level `setup X`:
1. looks `X` up with the dictionary as the previous request left it (so `setup dep 1.0; setup dep` answers 1.0 through the
   `commandLine` entry);
2. then RESETS the dictionary to "what the environment shows, reason unknown" and records `X` with its reason;
3. unsets the version of `X` that is set up, with the dependencies of its table; sets `X` up;
4. runs the table: every line is resolved with the dictionary entry of its product — after the reset that is
   (what is set up, no reason), so nothing an earlier, finished request chose for a reason can outrank what the VRO
   designates now (`applyAlready` only acts on entries that carry a reason).
`unsetup X` touches the environment only. -/

abbrev Dict := List (Str × (Prod × Option Str))
abbrev EnvS := List (Str × Prod)

def assocGet {α : Type} (k : Str) : List (Str × α) → Option α
  | [] => none
  | (k', v) :: rest => if k' == k then some v else assocGet k rest

def assocSet {α : Type} (k : Str) (v : α) (l : List (Str × α)) : List (Str × α) :=
  (k, v) :: l.filter (fun kv => kv.1 != k)

def assocDel {α : Type} (k : Str) (l : List (Str × α)) : List (Str × α) := l.filter (fun kv => kv.1 != k)

/-- one `setupRequired` / `setupOptional` line of a table, without the bookkeeping input of `TableLine` -/
structure LineSpec where
  name : Str
  version : Option Str
  vexpr : Option Str
  lineVro : Option (List Str)
  lineTags : List Str
  lineKeep : Bool
  optional : Bool
deriving Repr

structure HistCmd where
  name : Str                    -- the product named
  version : Option Str
  lines : List LineSpec         -- the table of that product (the same for each of its versions)
  unsetup : Bool
deriving Repr

structure HistState where
  env : EnvS                    -- `SETUP_<NAME>`: what is set up
  dict : Dict                   -- `alreadySetupProducts`
deriving Repr

inductive CmdOut where
  | ok (top : Prod) (raised : Bool)      -- the product chosen; `raised`: a required dependency failed
  | failed                               -- nothing found for the product named / not set up / an exception in the lookup
deriving DecidableEq, Repr

/-- `getSetupProducts()` entered with "reason unknown" -/
def resetDict (env : EnvS) : Dict := env.map fun kv => (kv.1, (kv.2, none))

/-- the lines of a table at depth 1, threading environment and dictionary -/
def histLines (C : Ctx) (keep : Bool) (flavors vro : List Str) : EnvS → Dict → List LineSpec → EnvS × Dict × Bool
  | env, dict, [] => (env, dict, false)
  | env, dict, l :: rest =>
    let tl : TableLine := { name := l.name, version := l.version, vexpr := l.vexpr, lineVro := l.lineVro,
                            lineTags := l.lineTags, lineKeep := l.lineKeep, optional := l.optional,
                            already := assocGet l.name dict }
    match lineOutcome C keep flavors vro tl with
    | .failed => if l.optional then histLines C keep flavors vro env dict rest else (env, dict, true)
    | .setUp h =>
      -- l.1995-2009: the version already set up is left alone (and nothing is recorded)
      match assocGet l.name env with
      | some sp =>
        if sp.version == h.prod.version then histLines C keep flavors vro env dict rest
        else histLines C keep flavors vro (assocSet l.name h.prod env) (assocSet l.name (h.prod, some h.reason) dict) rest
      | none =>
        histLines C keep flavors vro (assocSet l.name h.prod env) (assocSet l.name (h.prod, some h.reason) dict) rest

/-- `unsetup X` / `unsetupSetupProduct(X)`: the product and the dependencies its table names leave the environment -/
def unsetEnv (env : EnvS) (name : Str) (lines : List LineSpec) : EnvS :=
  lines.foldl (fun e l => assocDel l.name e) (assocDel name env)

def histStep (C : Ctx) (keep : Bool) (flavors vro : List Str) (s : HistState) (c : HistCmd) : HistState × CmdOut :=
  if c.unsetup then
    match assocGet c.name s.env with
    | none => (s, .failed)
    | some p => ({ s with env := unsetEnv s.env c.name c.lines }, .ok p false)
  else
    let r : Req := { name := c.name, version := c.version, vexpr := none, depth := 0, flavor := [],
                     ignoreVersions := false, already := assocGet c.name s.dict }
    match resolve C r keep vro flavors with
    | .ok (some h) =>
      -- the reset, from the environment as it is when the product has been found
      let dict1 := assocSet c.name (h.prod, some h.reason) (resetDict s.env)
      let env1 := if (assocGet c.name s.env).isSome then unsetEnv s.env c.name c.lines else s.env
      let env2 := assocSet c.name h.prod env1
      let (env3, dict3, raised) := histLines C keep flavors vro env2 dict1 c.lines
      ({ env := env3, dict := dict3 }, .ok h.prod raised)
    | _ => (s, .failed)

def runHistory (C : Ctx) (keep : Bool) (flavors vro : List Str) : HistState → List HistCmd → List CmdOut × HistState
  | s, [] => ([], s)
  | s, c :: rest =>
    let (s1, o) := histStep C keep flavors vro s c
    let (os, s2) := runHistory C keep flavors vro s1 rest
    (o :: os, s2)

/-! ## a small concrete order for the correspondence runs and the examples

Dotted decimal versions (`1.0`, `1.10`, `2.0.1`): components compared as numbers, a proper prefix
first.  This is *not* the model of `version_cmp` (C10 builds that); it agrees with it on the names
the C03 generator uses, which the harness re-checks on every run. -/

def splitDots : Str → Str → List Str
  | cur, [] => [cur.reverse]
  | cur, c :: cs => if c == 46 then cur.reverse :: splitDots [] cs else splitDots (c :: cur) cs

def cmpComps : List Nat → List Nat → Int
  | [], [] => 0
  | [], _ :: _ => -1
  | _ :: _, [] => 1
  | a :: as, b :: bs => if a < b then -1 else if b < a then 1 else cmpComps as bs

def simpleCmp (a b : Str) : Int :=
  cmpComps ((splitDots [] a).map Str.toNat) ((splitDots [] b).map Str.toNat)

def flushTok (cur : Str) : List Str := if cur.isEmpty then [] else [cur.reverse]

/-- tokens of a version expression: operators `< <= > >= ==`, `||`, `&&`, and operands -/
def exprTokens : Str → Str → List Str
  | cur, [] => flushTok cur
  | cur, 60 :: 61 :: cs => flushTok cur ++ [60, 61] :: exprTokens [] cs
  | cur, 62 :: 61 :: cs => flushTok cur ++ [62, 61] :: exprTokens [] cs
  | cur, 61 :: 61 :: cs => flushTok cur ++ [61, 61] :: exprTokens [] cs
  | cur, 124 :: 124 :: cs => flushTok cur ++ [124, 124] :: exprTokens [] cs
  | cur, 38 :: 38 :: cs => flushTok cur ++ [38, 38] :: exprTokens [] cs
  | cur, c :: cs =>
    if Str.isSpace c then flushTok cur ++ exprTokens [] cs
    else if c == 60 || c == 62 then flushTok cur ++ [c] :: exprTokens [] cs
    else exprTokens (c :: cur) cs

def relop (op : Str) (c : Int) : Bool :=
  if op == [60] then c < 0 else if op == [60, 61] then c ≤ 0 else if op == [61, 61] then c == 0
  else if op == [62] then 0 < c else 0 ≤ c

def isRelop (t : Str) : Bool := t == [60] || t == [60, 61] || t == [61, 61] || t == [62] || t == [62, 61]

/-- one term of `version_match`: `.inl b` = return `b` now, `.inr v` = the new `value` -/
def matchTerm (value logop : Option Bool) (rhs : Bool) : Bool ⊕ Option Bool :=
  match logop, value with
  | none, some _ => .inr value                    -- "Expected logical operator": the term is ignored
  | none, none => .inr (some rhs)
  | some false, _ => .inr (some (value == some true && rhs))
  | some true, _ => if value == some true || rhs then .inl true else .inr (some false)

/-- `version_match` on `[op] v (|| [op] v)*` and `&&`, evaluated left to right as the code does;
`logop`: `some true` = or, `some false` = and -/
def matchGo (cmp : Str → Str → Int) (v : Str) : Option Bool → Option Bool → List Str → Bool
  | value, _, [] => value == some true
  | value, logop, t :: rest =>
    if t == [124, 124] then matchGo cmp v value (some true) rest
    else if t == [38, 38] then
      if value != some true then false else matchGo cmp v value (some false) rest
    else if isRelop t then
      match rest with
      | [] => false
      | o :: r =>
        match matchTerm value logop (relop t (cmp v o)) with
        | .inl b => b
        | .inr val => matchGo cmp v val logop r
    else
      match matchTerm value logop (relop [61, 61] (cmp v t)) with
      | .inl b => b
      | .inr val => matchGo cmp v val logop rest

def simpleMatch (v x : Str) : Bool := matchGo simpleCmp v none none (exprTokens [] x)

def simpleOrd : Ord := ⟨simpleCmp, simpleMatch⟩

end EupsModel.Vro
