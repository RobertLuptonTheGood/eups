import EupsModel.Model.Str
/-! Environments as association lists (first binding wins on lookup; `set` replaces in place or appends). -/
namespace EupsModel

abbrev Env := List (Str × Str)

namespace Env

def get (e : Env) (k : Str) : Option Str :=
  match e with
  | [] => none
  | (k', v) :: rest => if k' = k then some v else get rest k

def unset (e : Env) (k : Str) : Env := e.filter (fun p => p.1 ≠ k)

def set (e : Env) (k v : Str) : Env :=
  match e with
  | [] => [(k, v)]
  | (k', v') :: rest => if k' = k then (k, v) :: unset rest k else (k', v') :: set rest k v

def has (e : Env) (k : Str) : Bool := (get e k).isSome

theorem get_unset_same (e : Env) (k : Str) : get (unset e k) k = none := by
  induction e with
  | nil => rfl
  | cons p r ih => by_cases h : p.1 = k <;> simp_all [unset, get]

theorem get_unset_other (e : Env) (k k2 : Str) (h : k2 ≠ k) : get (unset e k) k2 = get e k2 := by
  induction e with
  | nil => rfl
  | cons p r ih => by_cases h1 : p.1 = k <;> by_cases h2 : p.1 = k2 <;> simp_all [unset, get]

theorem get_set_same (e : Env) (k v : Str) : get (set e k v) k = some v := by
  fun_induction set e k v <;> simp_all [get]

theorem get_set_other (e : Env) (k v k2 : Str) (h : k2 ≠ k) : get (set e k v) k2 = get e k2 := by
  fun_induction set e k v <;> simp_all [get, Ne.symm h, get_unset_other]

theorem unset_unset (e : Env) (k : Str) : unset (unset e k) k = unset e k := by
  simp [unset, List.filter_filter]

/-- a second assignment to a variable overwrites the first: the binding keeps its place -/
theorem set_set (e : Env) (k x y : Str) : set (set e k y) k x = set e k x := by
  induction e with
  | nil => simp [set, unset]
  | cons p r ih =>
    obtain ⟨k', v'⟩ := p
    by_cases h : k' = k
    · simp [set, h, unset_unset]
    · simp [set, h, ih]

end Env
end EupsModel
