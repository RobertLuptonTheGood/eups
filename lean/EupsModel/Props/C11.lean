import EupsModel.Model.CondPinned
import EupsModel.Lemmas.TableLegacyDenote
import EupsModel.Lemmas.TableDeclOpts
import EupsModel.Lemmas.SetupType
/-! C11 — table files mean what they say.  Property theorems only (specification in `Spec/C11.lean` and
`Spec/C11Grammar.lean`); every clause with examples that its hypotheses can be met and, where the tree as pinned differs,
a witness. -/
namespace EupsModel.C11
open EupsModel.Cond EupsModel.C11Spec EupsModel.TableParse

/-- **C11_cond.**  Every condition over `FLAVOR` and `TYPE` built from `==`, `!=`, `&&`, `||` and parentheses,
written with any spelling of the keywords, any quoting of the words, redundant parentheses and blanks anywhere
between tokens (`c : CExpr`, well-formed at the top level), evaluates — text in, truth value out, through the
tokeniser, the symbol lookup and the recursive descent of `VersionParser` — to the value its truth table gives
(`denote`), for every flavor that is not itself one of the evaluator's four special tokens and every list of
setup types, with the fuel the driver uses (or more). -/
theorem C11_cond (env : Env) (hfl : flavorOK env.flavor = true) (c : CExpr) (hok : c.okAt 0 = true)
    (trail : Str) (ht : blank trail = true) (f : Nat) (hf : fuelFor (c.str ++ trail) ≤ f) :
    evalCond env f (c.str ++ trail) = .ok (denote env c.abs) :=
  evalCond_written hfl c hok ht hf

theorem render_abs (e : BExpr) : ∀ p, (render p e).abs = e := by
  induction e with
  | atom v neg w => intro p; rfl
  | and a b iha ihb =>
    intro p; simp only [render]; split <;> simp [CExpr.abs, iha, ihb]
  | or a b iha ihb =>
    intro p; simp only [render]; split <;> simp [CExpr.abs, iha, ihb]

theorem render_ok (e : BExpr) : e.wordsOK = true → ∀ p, (render p e).okAt p = true := by
  induction e with
  | atom v neg w =>
    intro hw p
    simp only [BExpr.wordsOK] at hw
    cases v <;> simp [render, CExpr.okAt, Atom.ok, hw, Var.kw, blank, Str.isSpace] <;> decide
  | and a b iha ihb =>
    intro hw p
    simp only [BExpr.wordsOK, Bool.and_eq_true] at hw
    simp only [render]
    split
    · simp [CExpr.okAt, iha hw.1 1, ihb hw.2 2, blank, Str.isSpace]
    · rename_i hp; simp [CExpr.okAt, iha hw.1 1, ihb hw.2 2, blank, Str.isSpace]; omega
  | or a b iha ihb =>
    intro hw p
    simp only [BExpr.wordsOK, Bool.and_eq_true] at hw
    simp only [render]
    split
    · simp [CExpr.okAt, iha hw.1 0, ihb hw.2 1, blank, Str.isSpace]
    · rename_i hp; simp [CExpr.okAt, iha hw.1 0, ihb hw.2 1, blank, Str.isSpace]; omega

/-- the same for the canonical text of an expression: `eval (tokenize (render e)) env = denote e env` -/
theorem C11_cond_render (env : Env) (hfl : flavorOK env.flavor = true) (e : BExpr) (hw : e.wordsOK = true) :
    evalCond env (fuelFor (render 0 e).str) (render 0 e).str = .ok (denote env e) := by
  have := C11_cond env hfl (render 0 e) (render_ok e hw 0) [] rfl (fuelFor (render 0 e).str) (by simp)
  simpa [render_abs] using this

def sampleCond : CExpr :=
  .and (.paren (.or (.atom ⟨Str.ofString "TYPE", .type, false, Str.ofString "build", none, [32], [32], [32]⟩)
                    (.atom ⟨Str.ofString "flavor", .flavor, true, Str.ofString "Linux64", some 39, [32], [32], [32]⟩) [32]) [] [32])
       (.atom ⟨Str.ofString "Flavor", .flavor, false, Str.ofString "Darwin", some 34, [], [], []⟩) []

example : sampleCond.okAt 0 = true := by unfold sampleCond; decide_lit
example : sampleCond.str = Str.ofString "( TYPE == build || flavor != 'Linux64' )&&Flavor==\"Darwin\"" := by unfold sampleCond; decide_lit
example : flavorOK (Str.ofString "Darwin") = true := by decide_lit
example : evalCond ⟨Str.ofString "Darwin", []⟩ (fuelFor sampleCond.str) sampleCond.str = .ok true := by unfold sampleCond; decide_lit
example : evalCond ⟨Str.ofString "Linux64", []⟩ (fuelFor sampleCond.str) sampleCond.str = .ok false := by unfold sampleCond; decide_lit

/-- `A && B || C` with `A` false and `C` true -/
def d3Expr : BExpr :=
  .or (.and (.atom .flavor false (Str.ofString "Darwin")) (.atom .type false (Str.ofString "build")))
      (.atom .flavor false (Str.ofString "Linux"))
def d3Env : Env := ⟨Str.ofString "Linux", [Str.ofString "build"]⟩

/-- **C11_cond is false of the evaluator as pinned (D3), 1.**  `FLAVOR == Darwin && TYPE == build || FLAVOR == Linux`
for flavor Linux: the truth table says true; the pinned `_expr` does not consume `TYPE == build` after the false
`FLAVOR == Darwin`, reads `TYPE` as an operator, stops, and returns false. -/
theorem C11_shortcircuit_witness_1 :
    (render 0 d3Expr).str = Str.ofString " FLAVOR == Darwin && TYPE == build || FLAVOR == Linux" ∧
    d3Expr.wordsOK = true ∧ flavorOK d3Env.flavor = true ∧ denote d3Env d3Expr = true ∧
    CondPinned.evalCond d3Env (fuelFor (render 0 d3Expr).str) (render 0 d3Expr).str = .ok false := by unfold d3Expr d3Env; decide_lit

/-- the same expression with its redundant parentheses written out -/
def d3Paren : CExpr :=
  .or (.paren (.and (.atom ⟨Str.ofString "FLAVOR", .flavor, false, Str.ofString "Darwin", none, [], [32], [32]⟩)
                    (.atom ⟨Str.ofString "TYPE", .type, false, Str.ofString "build", none, [32], [32], [32]⟩) [32]) [] [])
      (.atom ⟨Str.ofString "FLAVOR", .flavor, false, Str.ofString "Linux", none, [32], [32], [32]⟩) [32]

/-- **C11_cond is false of the evaluator as pinned (D3), 2.**  `(FLAVOR == Darwin && TYPE == build) || FLAVOR == Linux`:
inside the parentheses the same tokens are left over; `_prim` finds `TYPE` where it expects `)` and raises
`RuntimeError` when no setup type is given, and when one is given the list bound to `TYPE` has been pushed back
onto the token stream and `_lookup` fails on it with `AttributeError`. -/
theorem C11_shortcircuit_witness_2 :
    d3Paren.str = Str.ofString "(FLAVOR == Darwin && TYPE == build) || FLAVOR == Linux" ∧
    d3Paren.okAt 0 = true ∧ denote d3Env d3Paren.abs = true ∧ denote { d3Env with types := [] } d3Paren.abs = true ∧
    CondPinned.evalCond d3Env (fuelFor d3Paren.str) d3Paren.str = .err .attribute ∧
    CondPinned.evalCond { d3Env with types := [] } (fuelFor d3Paren.str) d3Paren.str = .err .runtime := by
  unfold d3Paren d3Env; decide_lit

example : evalCond d3Env (fuelFor (render 0 d3Expr).str) (render 0 d3Expr).str = .ok true := by unfold d3Env d3Expr; decide_lit
example : evalCond d3Env (fuelFor d3Paren.str) d3Paren.str = .ok true := by unfold d3Env d3Paren; decide_lit

/-- **C11_blocks (on classified lines).**  For every table — single lines and if / else-if / else chains of any
length, every branch holding any lines at all (commands, lines the reader skips, or nothing), conditions written
in any form — the repaired block state machine of `Table._read`, run over the table's lines, followed by the
branch selection of `Table.actions`, yields exactly what the table denotes: unconditional commands always, of
each chain the first branch whose condition is true, else the else branch, in the order written.  "Classified"
= each line is given as what the two patterns of `_read` make of it (`TableParse.classify`). -/
theorem C11_blocks_lines (env : Env) (hfl : flavorOK env.flavor = true) (t : List TItem) (hok : t.all TItem.ok = true) :
    actions repaired env (finish repaired (runL repaired {} (tableLines t))) = .ok (denoteTable env t) :=
  blocks_lines hfl t hok

/-- **C11_blocks (text, given the classification of the lines).**  If `_rewrite` turns the text into `lines` and
the patterns of `_read` classify these as the lines of table `t`, then
`Table(text).actions(flavor, types)` is what `t` denotes. -/
theorem C11_blocks (env : Env) (hfl : flavorOK env.flavor = true) (pdir : Option Str) (text : Str) (lines : List Str)
    (t : List TItem) (hok : t.all TItem.ok = true) (hrw : rewrite text = .ok lines)
    (hcl : classifyAll repaired pdir lines = .ok (tableLines t)) :
    tableActions repaired pdir env text = .ok (denoteTable env t) :=
  tableActions_classified hfl hok hrw hcl

/-- **C11_blocks (text).**  For every table *text* made of if / else-if / else chains written with any layout —
indentation, spelling of `if`/`else` in any letter case, blanks around parentheses and braces, a trailing comment
on any line of the block structure, conditions in any written form — around arbitrary other lines (each any text
that, once stripped, is empty or is passed on by `_rewrite` and classified by the patterns of `_read` as the action
it stands for, or as nothing), with or without a final newline:
`Table(text, product).actions(flavor, types)` is what the table denotes. -/
theorem C11_blocks_text (env : Env) (hfl : flavorOK env.flavor = true) (pdir : Option Str) (t : List TItemT)
    (hok : t.all (TItemT.ok pdir) = true) (nl : Bool) :
    tableActions repaired pdir env (tableText t nl) = .ok (denoteTable env (tableAbs t)) :=
  tableActions_text hfl t hok nl

def envLinux : Env := ⟨Str.ofString "Linux", [Str.ofString "build"]⟩
def actA : Action := ⟨Str.ofString "envSet", [Str.ofString "A", Str.ofString "1"], .none⟩
def actB : Action := ⟨Str.ofString "envSet", [Str.ofString "B", Str.ofString "x y"], .none⟩
def condBuild : CExpr := .atom ⟨Str.ofString "TYPE", .type, false, Str.ofString "build", none, [], [32], [32]⟩

/-- a table text with layout: upper-case `IF`, `Else if`, `}else{`, comments after block lines, an empty branch,
an unknown command, a quoted argument -/
def sampleTable : List TItemT :=
  [ .line ⟨Str.ofString "# a table", none⟩,
    .chain
      ⟨⟨Str.ofString "  ", Str.ofString "# only there"⟩, ⟨Str.ofString "IF", [32], [32], [32, 32, 32]⟩,
        .atom ⟨Str.ofString "FLAVOR", .flavor, false, Str.ofString "Linux", none, [32], [32], [32]⟩, [32],
        [⟨Str.ofString "\tenvSet(A, 1)", some actA⟩]⟩
      [(⟨[32], Str.ofString "Else", [32]⟩, ⟨⟨Str.ofString "  ", []⟩, ⟨Str.ofString "if", [32], [], []⟩, condBuild, [], []⟩)]
      (some ⟨⟨Str.ofString "  ", Str.ofString "# otherwise"⟩, ⟨[], Str.ofString "else", []⟩, [32],
        [⟨Str.ofString "      frobnicate(x)", none⟩, ⟨Str.ofString "      envSet(B, \"x y\")  # comment", some actB⟩]⟩)
      ⟨Str.ofString "  ", []⟩ [] ]

example : tableText sampleTable true = Str.ofString
    "# a table\n  IF ( FLAVOR == Linux ) {   # only there\n\tenvSet(A, 1)\n  } Else if (TYPE == build){\n  }else{ # otherwise\n      frobnicate(x)\n      envSet(B, \"x y\")  # comment\n  }\n" := by
  unfold sampleTable actA actB condBuild; decide_lit
example : sampleTable.all (TItemT.ok none) = true := by unfold sampleTable actA actB condBuild; decide_lit
example : denoteTable envLinux (tableAbs sampleTable) = [actA] ∧
    denoteTable ⟨Str.ofString "Darwin", [Str.ofString "build"]⟩ (tableAbs sampleTable) = [] ∧
    denoteTable ⟨Str.ofString "Darwin", []⟩ (tableAbs sampleTable) = [actB] := by unfold envLinux sampleTable actA actB condBuild; decide_lit

def condLinux : CExpr := .atom ⟨Str.ofString "FLAVOR", .flavor, false, Str.ofString "Linux", none, [], [32], [32]⟩
/-- `if (FLAVOR == Linux) { } else { envSet(A, 1) }` — the shape `expandTableFile` writes for an empty exact block -/
def emptyIfTable : List TItem := [.chain ⟨condLinux, [], []⟩ [] (some [some actA]) true]
def emptyIfText : Str := Str.ofString "if (FLAVOR == Linux) {\n} else {  # otherwise\n  envSet(A, 1)\n}\n"
def onlyD4Pinned : Variant := { repaired with d4 := false }

example : emptyIfTable.all TItem.ok = true := by unfold emptyIfTable condLinux actA; decide_lit
example : denoteTable envLinux emptyIfTable = [] := by unfold envLinux emptyIfTable condLinux actA; decide_lit
/-- the hypotheses of `C11_blocks` hold for the text above -/
theorem emptyIf_lines : rewrite emptyIfText = .ok [Str.ofString "if (FLAVOR == Linux) {", Str.ofString "} else {  ",
      Str.ofString "envSet(A, 1)", Str.ofString "}"] ∧
    classifyAll repaired none [Str.ofString "if (FLAVOR == Linux) {", Str.ofString "} else {  ",
      Str.ofString "envSet(A, 1)", Str.ofString "}"] = .ok (tableLines emptyIfTable) := by
  unfold emptyIfText emptyIfTable condLinux actA; decide_lit
example : rewrite emptyIfText = .ok [Str.ofString "if (FLAVOR == Linux) {", Str.ofString "} else {  ",
      Str.ofString "envSet(A, 1)", Str.ofString "}"] ∧
    classifyAll repaired none [Str.ofString "if (FLAVOR == Linux) {", Str.ofString "} else {  ",
      Str.ofString "envSet(A, 1)", Str.ofString "}"] = .ok (tableLines emptyIfTable) := emptyIf_lines
example : tableActions repaired none envLinux emptyIfText = .ok [] := by
  rw [C11_blocks envLinux (by unfold envLinux; decide_lit) none _ _ emptyIfTable
    (by unfold emptyIfTable condLinux actA; decide_lit) emptyIf_lines.1 emptyIf_lines.2]
  unfold envLinux emptyIfTable condLinux actA; decide_lit

/-- **C11_blocks is false of the block state machine as pinned (D4).**  A chain with a branch that holds no
command: for flavor Linux the table denotes nothing, the pinned reader applies the else branch — on the classified
lines and on the text. -/
theorem C11_empty_branch_witness :
    emptyIfTable.all TItem.ok = true ∧ denoteTable envLinux emptyIfTable = [] ∧
    actions onlyD4Pinned envLinux (finish onlyD4Pinned (runL onlyD4Pinned {} (tableLines emptyIfTable))) = .ok [actA] ∧
    tableActions onlyD4Pinned none envLinux emptyIfText = .ok [actA] := by unfold emptyIfTable condLinux actA envLinux emptyIfText; decide_lit

/-- **D31 as pinned.**  Blanks (what is left of a trailing comment) after the `{` of `} else {`: the pinned
pattern does not match the line, which is then skipped as unrecognised, so the else block runs under the if condition:
for Darwin nothing is applied, for Linux the else branch. -/
theorem C11_else_trailing_blank_witness :
    blockLine { repaired with d31 := false } (Str.ofString "} else {  ") = none ∧
    blockLine repaired (Str.ofString "} else {  ") = some (.elseOpen true) ∧
    tableActions { repaired with d31 := false } none ⟨Str.ofString "Darwin", []⟩ emptyIfText = .ok [] ∧
    tableActions { repaired with d31 := false } none envLinux emptyIfText = .ok [actA] ∧
    tableActions repaired none ⟨Str.ofString "Darwin", []⟩ emptyIfText = .ok [actA] ∧
    tableActions repaired none envLinux emptyIfText = .ok [] := by unfold emptyIfText envLinux actA; decide_lit

/-- **C11_legacy_groups (runs of `Flavor=` lines).**  For every table text made of lines outside any group
followed by groups — each one or more `Flavor = f` lines (keyword in any letter case, blanks around `=`,
indentation, trailing comments) and then the lines up to the next group — `_rewrite` produces exactly the lines
of the same table with every group written as `if (FLAVOR == f1 || FLAVOR == f2 …) {` … `}`; hence, whatever the
reader variant, the product and the environment, `Table.actions` gives the same result for the legacy text and
for its `if` form. -/
theorem C11_legacy_groups (pre : List Str) (gs : List FGroup) (nl : Bool) (hpre : pre.all passesLine = true)
    (hgs : gs.all FGroup.ok = true) :
    rewrite (legacyText pre gs nl) = rewrite (legacyAsIfText pre gs nl) ∧
    ∀ (v : Variant) (pdir : Option Str) (env : Env),
      tableActions v pdir env (legacyText pre gs nl) = tableActions v pdir env (legacyAsIfText pre gs nl) := by
  have h : rewrite (legacyText pre gs nl) = rewrite (legacyAsIfText pre gs nl) := by
    rw [rewrite_legacy pre gs nl hpre hgs, rewrite_asIf pre gs nl hpre hgs]
  exact ⟨h, tableActions_congr h⟩

def legacyPre : List Str := [Str.ofString "envSet(A, 1)  # always"]
def legacyGroups : List FGroup :=
  [ ⟨⟨⟨[], []⟩, Str.ofString "Flavor", [32], [32], Str.ofString "Linux", []⟩,
     [⟨⟨[32], Str.ofString "# too"⟩, Str.ofString "FLAVOR", [], [], Str.ofString "Linux64", [32]⟩],
     Str.ofString "  envSet(B, 2)", [Str.ofString "# c", Str.ofString "  envSet(C, 3)"]⟩,
    ⟨⟨⟨[], []⟩, Str.ofString "flavor", [32], [], Str.ofString "Darwin", []⟩, [], Str.ofString "envSet(B, 4)", []⟩ ]

example : legacyPre.all passesLine = true ∧ legacyGroups.all FGroup.ok = true := by unfold legacyPre legacyGroups; decide_lit
example : legacyText legacyPre legacyGroups true = Str.ofString
    "envSet(A, 1)  # always\nFlavor = Linux\n FLAVOR=Linux64 # too\n  envSet(B, 2)\n# c\n  envSet(C, 3)\nflavor =Darwin\nenvSet(B, 4)\n" := by
  unfold legacyPre legacyGroups; decide_lit
example : legacyAsIfText legacyPre legacyGroups true = Str.ofString
    "envSet(A, 1)  # always\nif (FLAVOR == Linux || FLAVOR == Linux64) {\nenvSet(B, 2)\nenvSet(C, 3)\n}\nif (FLAVOR == Darwin) {\nenvSet(B, 4)\n}\n" := by
  unfold legacyPre legacyGroups; decide_lit

/-- **C11_legacy_groups_old (`Group:` … `End:`).**  For every old-style table text — an optional header
`File = Table` / `Product = …`, lines outside any group, then groups `Group:` / one or more `Flavor = f` (`ANY`
included) / optionally `Qualifiers = "…"` / `Common:` / optionally `Action = setup` / the lines of the group /
`End:`, keywords in any letter case, with blanks, indentation and trailing comments — `_rewrite` produces exactly
the lines of the table with every group written as `if (FLAVOR == f1 || …) {` … `}` (and no header); hence the same
`Table.actions` for both texts. -/
theorem C11_legacy_groups_old (h : Option OHeader) (pre : List Str) (gs : List OGroup) (nl : Bool)
    (hh : ∀ x, h = some x → x.ok = true) (hpre : pre.all passesLine = true) (hgs : gs.all OGroup.ok = true) :
    rewrite (oldLegacyText h pre gs nl) = rewrite (oldLegacyAsIfText pre gs nl) ∧
    ∀ (v : Variant) (pdir : Option Str) (env : Env),
      tableActions v pdir env (oldLegacyText h pre gs nl) = tableActions v pdir env (oldLegacyAsIfText pre gs nl) := by
  have e : rewrite (oldLegacyText h pre gs nl) = rewrite (oldLegacyAsIfText pre gs nl) := by
    rw [rewrite_old_legacy h pre gs nl hh hpre hgs, rewrite_old_asIf pre gs nl hpre hgs]
  exact ⟨e, tableActions_congr e⟩

def oldHeader : OHeader :=
  ⟨⟨⟨[], []⟩, Str.ofString "FILE", [], [], Str.ofString "table", []⟩,
   ⟨⟨[], []⟩, Str.ofString "Product", [32], [32], Str.ofString "foo", []⟩⟩
def oldGroups : List OGroup :=
  [ { group := ⟨⟨[], []⟩, Str.ofString "Group:", []⟩,
      f := ⟨⟨[32, 32], []⟩, Str.ofString "Flavor", [32], [32], Str.ofString "Linux", []⟩,
      more := [⟨⟨[32, 32], []⟩, Str.ofString "FLAVOR", [], [], Str.ofString "ANY", []⟩],
      qual := some ⟨⟨[32, 32], []⟩, Str.ofString "Qualifiers", [32], [32], Str.ofString "\"\"", []⟩,
      common := ⟨⟨[], []⟩, Str.ofString "COMMON:", [32]⟩,
      action := some ⟨⟨[32, 32], []⟩, Str.ofString "Action", [32], [32], Str.ofString "Setup", []⟩,
      body := [Str.ofString "    envSet(B, 2)  # two"],
      end_ := ⟨⟨[], []⟩, Str.ofString "End:", []⟩,
      after := [Str.ofString "print(bye)"] } ]

example : oldHeader.ok = true ∧ oldGroups.all OGroup.ok = true := by unfold oldHeader oldGroups; decide_lit
example : oldLegacyText (some oldHeader) [Str.ofString "envSet(A, 1)"] oldGroups true = Str.ofString
    "FILE=table\nProduct = foo\nenvSet(A, 1)\nGroup:\n  Flavor = Linux\n  FLAVOR=ANY\n  Qualifiers = \"\"\nCOMMON: \n  Action = Setup\n    envSet(B, 2)  # two\nEnd:\nprint(bye)\n" := by
  unfold oldHeader oldGroups; decide_lit
example : oldLegacyAsIfText [Str.ofString "envSet(A, 1)"] oldGroups true = Str.ofString
    "envSet(A, 1)\nif (FLAVOR == Linux || FLAVOR =~ .*) {\nenvSet(B, 2)  \n}\nprint(bye)\n" := by
  unfold oldGroups; decide_lit

/-- **C11_args.**  An argument list as written — unquoted arguments (no blank, comma, quote) and quoted ones
(anything inside: blanks, commas, `\"` for a double quote, nothing at all), separated by any mix of blanks and
commas, padded with blanks or not — is tokenised into exactly the arguments written, in order; except when the
whole list is one quoted string without a quote inside (the classic spelling of a word list, `C11_args_whole_list`).
Outside the theorem: arguments containing a backslash or one of the characters `\x01`–`\x03`, which the
tokeniser uses for protection. -/
theorem C11_args (pad1 pad2 : Str) (first : WArg) (rest : List (Str × WArg)) (h1 : padOK pad1 = true)
    (h2 : padOK pad2 = true) (hf : first.ok = true) (hr : ∀ p ∈ rest, sepOK p.1 = true ∧ p.2.ok = true)
    (hw : wholeQuoted pad1 first rest pad2 = false) :
    parseArgs repaired (argsText pad1 first rest pad2) = first.val :: rest.map (·.2.val) :=
  parseArgs_written (padOK_blank h1) (padOK_blank h2) hf hr hw

/-- the classic spelling `setupRequired("foo -j 1.2")`: one pair of quotes around the list denotes its words -/
theorem C11_args_whole_list (v : Str) (hq : quotedVal v = true) (h34 : v.contains 34 = false) :
    parseArgs repaired (argsText [] ⟨v, true⟩ [] []) = splitArgs [] v :=
  parseArgs_whole_list hq h34

/-- a command as written — name in any letter case, blanks before `(`, an optional `;` and blanks after `)` — is
the command its lower-cased name stands for, applied to the tokenised argument text -/
theorem C11_command_line (pdir : Option Str) (name gap argText tl : Str) (cmd : Cmd) (hne : name ≠ [])
    (hn : name.all isWordCh = true) (hg : blank gap = true) (ht : cmdTail tl = true) (h41 : 41 ∉ tl)
    (hc : cmdTable.lookup (Str.lower name) = some cmd) :
    commandLine repaired pdir (name ++ gap ++ [40] ++ argText ++ [41] ++ tl) =
      normalise pdir cmd (parseArgs repaired argText) :=
  commandLine_written pdir hne hn hg ht h41 hc

/-- append / prepend and required / optional are told apart, and `envSet` joins its value -/
theorem C11_command_kinds (pdir : Option Str) (args : List Str) :
    normalise pdir .setupRequired args = .act ⟨Cmd.setupRequired.name, dropF args, .optional false⟩ ∧
    normalise pdir .setupOptional args = .act ⟨Cmd.setupRequired.name, dropF args, .optional true⟩ ∧
    normalise pdir .unsetupRequired args = .act ⟨Cmd.unsetupRequired.name, dropF args, .optional false⟩ ∧
    normalise pdir .unsetupOptional args = .act ⟨Cmd.unsetupRequired.name, dropF args, .optional true⟩ ∧
    ((args.length = 2 ∨ args.length = 3) →
      normalise pdir .envPrepend args = .act ⟨Cmd.envPrepend.name, dropF args, .append false⟩ ∧
      normalise pdir .envAppend args = .act ⟨Cmd.envPrepend.name, dropF args, .append true⟩) ∧
    (∀ a b rest, args = a :: b :: rest →
      normalise pdir .envSet args = .act ⟨Cmd.envSet.name, dropF [a, joinSp (b :: rest)], .none⟩) := by
  refine ⟨rfl, rfl, rfl, rfl, ?_, ?_⟩
  · intro h
    rcases h with h | h <;> simp [normalise, h]
  · intro a b rest h; subst h; rfl

/-- **The remaining commands.**  `addAlias`, `declareOptions`, `print`, `prodDir`, `setupEnv` keep the arguments
written (no arity rule); `sourceRequired` is skipped by design; `envUnset` (= `unsetenv` = `pathRemove`) of the
product's own directory variable — written as `PRODUCT_DIR` or by its name — is kept with the variable's name as
its argument, of any other variable it is skipped; the reader refuses (`BadTableContent`) `envUnset` with other
than one argument, `envSet` with fewer than two, `envAppend`/`envPrepend` with fewer than two or more than three. -/
theorem C11_command_kinds_rest (pdir : Option Str) (args : List Str) :
    normalise pdir .addAlias args = .act ⟨Cmd.addAlias.name, dropF args, .none⟩ ∧
    normalise pdir .declareOptions args = .act ⟨Cmd.declareOptions.name, dropF args, .none⟩ ∧
    normalise pdir .doPrint args = .act ⟨Cmd.doPrint.name, dropF args, .none⟩ ∧
    normalise pdir .prodDir args = .act ⟨Cmd.prodDir.name, dropF args, .none⟩ ∧
    normalise pdir .setupEnv args = .act ⟨Cmd.setupEnv.name, dropF args, .none⟩ ∧
    normalise pdir .sourceRequired args = .skip ∧
    (∀ pv a, pdir = some pv → (a = sProductDir ∨ a = pv) →
      normalise pdir .envUnset [a] = .act ⟨Cmd.envUnset.name, dropF [pv], .none⟩) ∧
    (∀ pv a, pdir = some pv → a ≠ sProductDir → a ≠ pv → normalise pdir .envUnset [a] = .skip) ∧
    (∀ a, pdir = none → a ≠ sProductDir → normalise pdir .envUnset [a] = .skip) ∧
    (args.length ≠ 1 → normalise pdir .envUnset args = .bad) ∧
    (args.length < 2 → normalise pdir .envSet args = .bad) ∧
    ((args.length < 2 ∨ 3 < args.length) →
      normalise pdir .envPrepend args = .bad ∧ normalise pdir .envAppend args = .bad) := by
  refine ⟨rfl, rfl, rfl, rfl, rfl, rfl, ?_, ?_, ?_, ?_, ?_, ?_⟩
  · intro pv a hp h; subst hp
    rcases h with h | h <;> subst h <;> simp [normalise]
  · intro pv a hp h1 h2; subst hp; simp [normalise, h1, h2]
  · intro a hp h1; subst hp; simp [normalise, h1]
  · intro h
    match args, h with
    | [], _ => rfl
    | [_], h => simp at h
    | _ :: _ :: _, _ => rfl
  · intro h
    match args, h with
    | [], _ => rfl
    | [_], _ => rfl
    | _ :: _ :: _, h => simp at h; omega
  · intro h
    have : (decide (args.length < 2) || decide (args.length > 3)) = true := by
      rcases h with h | h <;> simp [h]
    simp [normalise, this]

/-- **The documented command words.**  The reader's dictionary maps the lower-cased command word to the command:
`pathAppend`/`pathPrepend`/`pathSet`/`setenv` are `envAppend`/`envPrepend`/`envSet`/`envSet`,
`unsetenv`/`pathRemove` are `envUnset`; every other word stands for itself; anything else is no command. -/
theorem C11_command_words :
    (∀ c ∈ allCmds, cmdTable.lookup (Str.lower c.name) = some c) ∧
    cmdTable.lookup (Str.ofString "pathappend") = some .envAppend ∧
    cmdTable.lookup (Str.ofString "pathprepend") = some .envPrepend ∧
    cmdTable.lookup (Str.ofString "pathset") = some .envSet ∧
    cmdTable.lookup (Str.ofString "setenv") = some .envSet ∧
    cmdTable.lookup (Str.ofString "unsetenv") = some .envUnset ∧
    cmdTable.lookup (Str.ofString "pathremove") = some .envUnset ∧
    cmdTable.length = 20 := by decide_lit

/-- **C11_written_command.**  A command line as written — indentation, the command word in any letter case, blanks
before `(`, a written argument list (`C11_args`), `)`, an optional `;`, blanks, a trailing comment — whose
arguments hold no `#` and none of the seven old variable names `_rewrite` replaces, is one of the lines
`C11_blocks_text` quantifies over, standing for the action that its command and the arguments written denote
(`normalise`: aliases, append/prepend, required/optional, `envSet` join, `-f` removal), or for nothing when the
reader skips that command by design. -/
theorem C11_written_command (pdir : Option Str) (c : WCmd) (hok : c.ok = true) (hd : (c.denote pdir).isSome = true) :
    (c.line pdir).ok pdir = true :=
  wcmd_line hok hd

def sampleCmd : WCmd :=
  { wrap := ⟨[9], Str.ofString "# c"⟩, name := Str.ofString "ENVAPPEND", cmd := .envAppend, gap := [32],
    args := .some [] ⟨Str.ofString "PATH", false⟩
      [(Str.ofString ", ", ⟨Str.ofString "${PRODUCT_DIR}/my bin", true⟩), (Str.ofString ", ", ⟨[59], false⟩)] [],
    tl := Str.ofString " ;  " }

example : sampleCmd.raw = Str.ofString "\tENVAPPEND (PATH, \"${PRODUCT_DIR}/my bin\", ;) ;  # c" := by unfold sampleCmd; decide_lit
example : sampleCmd.ok = true := by unfold sampleCmd; decide_lit
example : sampleCmd.denote none = some (some ⟨Str.ofString "envPrepend",
    [Str.ofString "PATH", Str.ofString "${PRODUCT_DIR}/my bin", [59]], .append true⟩) := by unfold sampleCmd; decide_lit

example : argsText [32] ⟨Str.ofString "PATH", false⟩
      [(Str.ofString " , ", ⟨Str.ofString "a b, c", true⟩), (Str.ofString " ,", ⟨Str.ofString "say \"hi\"", true⟩),
       ([32], ⟨[], true⟩), ([32], ⟨Str.ofString "x", false⟩)] [32]
    = Str.ofString " PATH , \"a b, c\" ,\"say \\\"hi\\\"\" \"\" x " := by decide_lit
example : (⟨Str.ofString "a b, c", true⟩ : WArg).ok = true ∧ (⟨[], true⟩ : WArg).ok = true ∧
    (⟨Str.ofString "PATH", false⟩ : WArg).ok = true ∧ sepOK (Str.ofString " , ") = true := by decide_lit
example : parseArgs repaired (Str.ofString " PATH , \"a b, c\" ,\"say \\\"hi\\\"\" \"\" x ")
    = [Str.ofString "PATH", Str.ofString "a b, c", Str.ofString "say \"hi\"", [], Str.ofString "x"] := by decide_lit
example : commandLine repaired none (Str.ofString "ENVAPPEND (PATH, \"a b\") ; ")
    = .act ⟨Str.ofString "envPrepend", [Str.ofString "PATH", Str.ofString "a b"], .append true⟩ := by decide_lit

/-- **D20 as pinned.**  `print("1.2", "-j a")`: the pinned tokeniser strips the first and the last quote of the
argument text as if they were one pair; the repaired one keeps the two arguments written. -/
theorem C11_args_quote_pair_witness :
    parseArgs { repaired with d20 := false } (Str.ofString "\"1.2\", \"-j a\"") =
      [Str.ofString "1.2\", \"-j", Str.ofString "a"] ∧
    parseArgs repaired (Str.ofString "\"1.2\", \"-j a\"") = [Str.ofString "1.2", Str.ofString "-j a"] ∧
    parseArgs repaired (Str.ofString "\"foo -j 1.2\"") = [Str.ofString "foo", Str.ofString "-j", Str.ofString "1.2"] := by
  decide_lit

/-- **D32 as pinned.**  The special case `,\s*"(\s)"` fires on the comma *inside* the first argument of
`print("a, " "b")` (it takes the closing quote, the blank and the next opening quote for `" "`). -/
theorem C11_args_comma_blank_witness :
    parseArgs { repaired with d32 := false } (Str.ofString "\"a, \" \"b\"") = [Str.ofString "a \" \"b"] ∧
    parseArgs repaired (Str.ofString "\"a, \" \"b\"") = [Str.ofString "a, ", Str.ofString "b"] := by
  decide_lit

/-- **D33 as pinned.**  `"[^"]+"` cannot match the empty argument of `print("", "a b")`; its closing quote pairs
with the next opening quote and the separator is protected instead of the blank inside `"a b"`. -/
theorem C11_args_empty_quoted_witness :
    parseArgs { repaired with d33 := false } (Str.ofString "\"\", \"a b\"")
      = [Str.ofString "\"\", \"a", Str.ofString "b\""] ∧
    parseArgs repaired (Str.ofString "\"\", \"a b\"") = [[], Str.ofString "a b"] := by
  decide_lit

/-- **C11_table_text (the headline, on a stated grammar of texts, no hypothesis about the reader).**  For every table
of the grammar of `Spec/C11Grammar.lean` — command lines as written, blank or comment lines, and `if` / `else if` / `else`
chains of any length and layout whose branches hold such lines, conditions in any written form — for every product,
flavor (not one of the evaluator's four special tokens) and list of setup types:
`Table(text, product).actions(flavor, types)` is exactly what the table denotes (`gDenote`): the actions of the
commands outside chains, of each chain those of the first branch whose condition is true, else of the else branch,
in the order written, each command with the arguments written (`WCmd.denote`).
The well-formedness conditions are all syntactic (`GItem.ok`: blanks are blanks, words are words, no `#` or old
variable name inside a command, the number of arguments is one the reader accepts). -/
theorem C11_table_text (env : Env) (hfl : flavorOK env.flavor = true) (pdir : Option Str) (t : List GItem)
    (hok : t.all (GItem.ok pdir) = true) (nl : Bool) :
    tableActions repaired pdir env (gText t nl) = .ok (gDenote pdir env t) :=
  tableActions_gText hfl t hok nl

def cmdSetA : WCmd :=
  { wrap := ⟨[9], []⟩, name := Str.ofString "envSet", cmd := .envSet, gap := [],
    args := .some [] ⟨Str.ofString "A", false⟩ [(Str.ofString ", ", ⟨Str.ofString "1", false⟩)] [], tl := [] }
def cmdSetB : WCmd :=
  { wrap := ⟨Str.ofString "      ", Str.ofString "# comment"⟩, name := Str.ofString "SETENV", cmd := .envSet, gap := [32],
    args := .some [] ⟨Str.ofString "B", false⟩ [(Str.ofString ", ", ⟨Str.ofString "x y", true⟩)] [], tl := Str.ofString ";  " }
def cmdUnset : WCmd :=
  { wrap := ⟨[], []⟩, name := Str.ofString "pathRemove", cmd := .envUnset, gap := [],
    args := .some [] ⟨Str.ofString "PATH", false⟩ [] [], tl := [] }

def sampleGTable : List GItem :=
  [ .line (.note (Str.ofString "# a table")),
    .line (.cmd sampleCmd),
    .chain
      ⟨⟨Str.ofString "  ", Str.ofString "# only there"⟩, ⟨Str.ofString "IF", [32], [32], [32, 32, 32]⟩,
        .atom ⟨Str.ofString "FLAVOR", .flavor, false, Str.ofString "Linux", none, [32], [32], [32]⟩, [32],
        [.cmd cmdSetA, .note []]⟩
      [(⟨[32], Str.ofString "Else", [32]⟩, ⟨⟨Str.ofString "  ", []⟩, ⟨Str.ofString "if", [32], [], []⟩, condBuild, [], []⟩)]
      (some ⟨⟨Str.ofString "  ", Str.ofString "# otherwise"⟩, ⟨[], Str.ofString "else", []⟩, [32],
        [.cmd cmdUnset, .cmd cmdSetB]⟩)
      ⟨Str.ofString "  ", []⟩ [] ]

example : gText sampleGTable true = Str.ofString
    "# a table\n\tENVAPPEND (PATH, \"${PRODUCT_DIR}/my bin\", ;) ;  # c\n  IF ( FLAVOR == Linux ) {   # only there\n\tenvSet(A, 1)\n\n  } Else if (TYPE == build){\n  }else{ # otherwise\npathRemove(PATH)\n      SETENV (B, \"x y\");  # comment\n  }\n" := by
  unfold sampleGTable sampleCmd cmdSetA condBuild cmdUnset cmdSetB; decide_lit
example : sampleGTable.all (GItem.ok none) = true := by unfold sampleGTable sampleCmd cmdSetA condBuild cmdUnset cmdSetB; decide_lit
example : gDenote none envLinux sampleGTable = [⟨Str.ofString "envPrepend",
    [Str.ofString "PATH", Str.ofString "${PRODUCT_DIR}/my bin", [59]], .append true⟩, actA] ∧
    gDenote none ⟨Str.ofString "Darwin", []⟩ sampleGTable = [⟨Str.ofString "envPrepend",
    [Str.ofString "PATH", Str.ofString "${PRODUCT_DIR}/my bin", [59]], .append true⟩, actB] := by unfold envLinux sampleGTable sampleCmd cmdSetA condBuild cmdUnset cmdSetB actA actB; decide_lit

/-- **C11_legacy_denotes (legacy `Flavor=` groups mean what the corresponding `if` blocks mean).**  For every legacy
table of the grammar — command / blank / comment lines, then groups, each one or more `Flavor = f` lines (keyword in
any letter case, blanks, indentation, comments; `f` a plain word) followed by a command line and further command /
blank / comment lines up to the next group — for every product, flavor and list of setup types:
`Table(text, product).actions(flavor, types)` is the actions of the lines before the first group followed, for each
group in order, by the actions of its lines when the flavor is one of the group's flavors (and nothing otherwise).
`_rewrite` turns every group into the lines of the chain `if (FLAVOR == f1 || FLAVOR == f2 …) {` … `}`, an item of the
grammar of `C11_table_text`. -/
theorem C11_legacy_denotes (env : Env) (hfl : flavorOK env.flavor = true) (pdir : Option Str) (pre : List GLine)
    (gs : List LGroup) (hpre : pre.all (GLine.ok pdir) = true) (hgs : gs.all (LGroup.ok pdir) = true) (nl : Bool) :
    tableActions repaired pdir env (lText pre gs nl) = .ok (lDenote pdir env pre gs) :=
  legacy_denotes env hfl pdir pre gs hpre hgs nl

def sampleLGroups : List LGroup :=
  [ ⟨⟨⟨[], []⟩, Str.ofString "Flavor", [32], [32], Str.ofString "Linux", []⟩,
     [⟨⟨[32], Str.ofString "# too"⟩, Str.ofString "FLAVOR", [], [], Str.ofString "Linux64", [32]⟩],
     cmdSetA, [.note (Str.ofString "# c"), .cmd cmdSetB]⟩,
    ⟨⟨⟨[], []⟩, Str.ofString "flavor", [32], [], Str.ofString "Darwin", []⟩, [], cmdUnset, []⟩ ]

example : lText [.cmd sampleCmd] sampleLGroups true = Str.ofString
    "\tENVAPPEND (PATH, \"${PRODUCT_DIR}/my bin\", ;) ;  # c\nFlavor = Linux\n FLAVOR=Linux64 # too\n\tenvSet(A, 1)\n# c\n      SETENV (B, \"x y\");  # comment\nflavor =Darwin\npathRemove(PATH)\n" := by
  unfold sampleLGroups sampleCmd cmdSetA cmdSetB cmdUnset; decide_lit
example : [GLine.cmd sampleCmd].all (GLine.ok none) = true ∧ sampleLGroups.all (LGroup.ok none) = true := by unfold sampleLGroups sampleCmd cmdSetA cmdSetB cmdUnset; decide_lit
example : lDenote none ⟨Str.ofString "Linux64", []⟩ [.cmd sampleCmd] sampleLGroups = [⟨Str.ofString "envPrepend",
      [Str.ofString "PATH", Str.ofString "${PRODUCT_DIR}/my bin", [59]], .append true⟩, actA, actB] ∧
    lDenote none ⟨Str.ofString "SunOS", []⟩ [.cmd sampleCmd] sampleLGroups = [⟨Str.ofString "envPrepend",
      [Str.ofString "PATH", Str.ofString "${PRODUCT_DIR}/my bin", [59]], .append true⟩] := by unfold sampleLGroups sampleCmd cmdSetA cmdSetB cmdUnset actA actB; decide_lit

/-- **C11_legacy_denotes_old (`Group:` … `End:`).**  The same for the old-style tables of `C11_legacy_groups_old` whose lines
between `Common:` and `End:`, after `End:` and before the first group are command / blank / comment lines and whose flavors
are plain words other than `ANY`: `Table.actions` gives the lines outside the groups always and a group's lines exactly
when the flavor is one of the group's flavors, in the order written. -/
theorem C11_legacy_denotes_old (env : Env) (hfl : flavorOK env.flavor = true) (pdir : Option Str) (h : Option OHeader)
    (pre : List GLine) (gs : List OLGroup) (hh : ∀ x, h = some x → x.ok = true) (hpre : pre.all (GLine.ok pdir) = true)
    (hgs : gs.all (OLGroup.ok pdir) = true) (nl : Bool) :
    tableActions repaired pdir env (olText h pre gs nl) = .ok (olDenote pdir env pre gs) :=
  old_legacy_denotes env hfl pdir h pre gs hh hpre hgs nl

def sampleOLGroups : List OLGroup :=
  [ { group := ⟨⟨[], []⟩, Str.ofString "Group:", []⟩,
      f := ⟨⟨[32, 32], []⟩, Str.ofString "Flavor", [32], [32], Str.ofString "Linux", []⟩,
      more := [⟨⟨[32, 32], []⟩, Str.ofString "FLAVOR", [], [], Str.ofString "Linux64", []⟩],
      qual := some ⟨⟨[32, 32], []⟩, Str.ofString "Qualifiers", [32], [32], Str.ofString "\"\"", []⟩,
      common := ⟨⟨[], []⟩, Str.ofString "COMMON:", [32]⟩,
      action := some ⟨⟨[32, 32], []⟩, Str.ofString "Action", [32], [32], Str.ofString "Setup", []⟩,
      body := [.cmd cmdSetA, .note (Str.ofString "  # two")],
      end_ := ⟨⟨[], []⟩, Str.ofString "End:", []⟩,
      after := [.cmd cmdSetB] } ]

example : olText (some oldHeader) [.cmd sampleCmd] sampleOLGroups true = Str.ofString
    "FILE=table\nProduct = foo\n\tENVAPPEND (PATH, \"${PRODUCT_DIR}/my bin\", ;) ;  # c\nGroup:\n  Flavor = Linux\n  FLAVOR=Linux64\n  Qualifiers = \"\"\nCOMMON: \n  Action = Setup\n\tenvSet(A, 1)\n  # two\nEnd:\n      SETENV (B, \"x y\");  # comment\n" := by
  unfold oldHeader sampleOLGroups sampleCmd cmdSetA cmdSetB; decide_lit
example : sampleOLGroups.all (OLGroup.ok none) = true := by unfold sampleOLGroups cmdSetA cmdSetB; decide_lit
example : olDenote none ⟨Str.ofString "Linux64", []⟩ [] sampleOLGroups = [actA, actB] ∧
    olDenote none ⟨Str.ofString "Darwin", []⟩ [] sampleOLGroups = [actB] := by unfold sampleOLGroups cmdSetA cmdSetB actA actB; decide_lit

/-- **C11_declare_options_selection.**  `Table.getDeclareOptions(flavor, types)` — a second copy of the branch
selection loop — reads its options off exactly the actions `Table.actions(flavor, types)` returns, for every table
text, reader variant, product and environment (errors included). -/
theorem C11_declare_options_selection (v : Variant) (pdir : Option Str) (env : Env) (text : Str) :
    tableDeclOpts v pdir env text = (tableActions v pdir env text).bind fun as => .ok (blockOpts [] as) :=
  tableDeclOpts_actions v pdir env text

/-- **C11_declare_options_text.**  For every written table (`C11_blocks_text`): the options `eups declare` sees are
those of the `declareOptions` commands among the actions the table denotes — unconditional ones and those of the
one applicable branch of every chain, in order, a later option replacing an earlier one with the same key. -/
theorem C11_declare_options_text (env : Env) (hfl : flavorOK env.flavor = true) (pdir : Option Str) (t : List TItemT)
    (hok : t.all (TItemT.ok pdir) = true) (nl : Bool) :
    tableDeclOpts repaired pdir env (tableText t nl) = .ok (blockOpts [] (denoteTable env (tableAbs t))) := by
  rw [tableDeclOpts_actions, C11_blocks_text env hfl pdir t hok nl]; rfl

/-- the same on the grammar of `C11_table_text`: the options `eups declare` sees are those of the `declareOptions`
commands among the actions the table denotes -/
theorem C11_table_declare_options (env : Env) (hfl : flavorOK env.flavor = true) (pdir : Option Str) (t : List GItem)
    (hok : t.all (GItem.ok pdir) = true) (nl : Bool) :
    tableDeclOpts repaired pdir env (gText t nl) = .ok (blockOpts [] (gDenote pdir env t)) := by
  rw [tableDeclOpts_actions, C11_table_text env hfl pdir t hok nl]; rfl

/-- **C11_declare_option_words.**  `=` separates the words of `declareOptions` like blanks and commas do: for
arguments without white space inside (every unquoted argument) the words are the non-empty pieces between `=`
signs — so `k=v`, `k = v`, `k =v`, `k= v` all give the words `k`, `v`; and one option written `k = v` inside a quoted
argument, with any white space around the `=`, gives `k`, `v` too. -/
theorem C11_declare_option_words :
    (∀ args : List Str, (∀ a ∈ args, noSpace a = true) →
      optWords args = (args.flatMap (splitOn 61 [])).filter (fun w => !w.isEmpty)) ∧
    (∀ k s1 s2 v : Str, 61 ∉ k → 61 ∉ v → blank s1 = true → blank s2 = true →
      (k.getLast?.map Str.isSpace).getD false = false → (v.head?.map Str.isSpace).getD false = false →
      splitEq (k ++ s1 ++ 61 :: (s2 ++ v)) = [k, v]) := by
  refine ⟨?_, fun k s1 s2 v hk hv h1 h2 hkl hvh => splitEq_written hk hv h1 h2 hkl hvh⟩
  intro args h
  rw [optWords, flatMap_congr' fun a ha => splitEq_noSpace (h a ha)]

/-- **C11_declare_options_written.**  The docstring's example in general: a `declareOptions` command whose arguments
are options `k = v`, each written in any of the four unquoted styles (`k=v`, `k = v`, `k =v`, `k= v`; keys and values
non-empty, without `=` and white space), declares exactly the pairs written, in order — `getDeclareOptions` folds
them into its dictionary, a later pair replacing an earlier one with the same key. -/
theorem C11_declare_options_written (os : List (Str × Str × OptStyle))
    (h : ∀ o ∈ os, optWord o.1 = true ∧ optWord o.2.1 = true) (d : Dict) :
    blockOpts d [⟨Cmd.declareOptions.name, os.flatMap fun o => optArgs o.1 o.2.1 o.2.2, .none⟩]
      = (os.map fun o => (o.1, o.2.1)).foldl (fun o p => dictSet o p.1 p.2) d := by
  simp [blockOpts, pairUp_written os h]

example : optArgs (Str.ofString "flavor") (Str.ofString "NULL") .joined ++ optArgs (Str.ofString "name") (Str.ofString "foo") .spaced
    = [Str.ofString "flavor=NULL", Str.ofString "name", [61], Str.ofString "foo"] ∧
    optWord (Str.ofString "flavor") = true ∧ optWord (Str.ofString "1.2") = true := by decide_lit

def optsAction : Action :=
  ⟨Cmd.declareOptions.name, [Str.ofString "flavor=NULL", Str.ofString "name", [61], Str.ofString "foo", Str.ofString "x_y  =1.2",
    Str.ofString "flavor=", Str.ofString "Linux", Str.ofString "version"], .none⟩

example : parseArgs repaired (Str.ofString "flavor=NULL, name = foo, \"x_y  =1.2\", flavor= Linux, version") = optsAction.args := by
  unfold optsAction; decide_lit
example : blockOpts [] [actA, optsAction] =
    [(Str.ofString "flavor", Str.ofString "Linux"), (Str.ofString "name", Str.ofString "foo"),
     (Str.ofString "x_y", Str.ofString "1.2")] := by unfold actA optsAction; decide_lit

/-- an `if` / `else if` chain of eight branches, each declaring a flavor -/
def longChainText : Str := Str.ofString "if (FLAVOR == F0) {\n  declareOptions(flavor=G0)\n} else if (FLAVOR == F1) {\n  declareOptions(flavor=G1)\n} else if (FLAVOR == F2) {\n  declareOptions(flavor=G2)\n} else if (FLAVOR == F3) {\n  declareOptions(flavor=G3)\n} else if (FLAVOR == F4) {\n  declareOptions(flavor=G4)\n} else if (FLAVOR == F5) {\n  declareOptions(flavor=G5)\n} else if (FLAVOR == F6) {\n  declareOptions(flavor=G6)\n} else if (FLAVOR == F7) {\n  declareOptions(flavor=G7)\n}\n"

/-- what the reader makes of it: one entry of `_actions` with 17 elements -/
def longChain : Chain :=
  (List.range 8).flatMap (fun i => [Item.cond (Str.ofString "FLAVOR == F" ++ [48 + i]),
    Item.blk [⟨Cmd.declareOptions.name, [Str.ofString "flavor=G" ++ [48 + i]], .none⟩]]) ++ [Item.blk []]

/-- **D111 as pinned.**  On a chain of more than seven branches the loop of `getDeclareOptions` stops in the debugger
(`pdb.set_trace()`, left in the library) before it evaluates anything — for every flavor and setup type;
`Table.actions` on the same table is fine, and so is the repaired loop. -/
theorem C11_declare_options_debugger_witness :
    parse repaired none longChainText = .ok [longChain] ∧
    (∀ env d, declOptsGoPinned repaired env d [longChain] = .ok none) ∧
    actions repaired ⟨Str.ofString "F7", []⟩ [longChain]
      = .ok [⟨Cmd.declareOptions.name, [Str.ofString "flavor=G7"], .none⟩] ∧
    declOptsGo repaired ⟨Str.ofString "F7", []⟩ [] [longChain] = .ok [(Str.ofString "flavor", Str.ofString "G7")] ∧
    declOptsGo repaired ⟨Str.ofString "SunOS", []⟩ [] [longChain] = .ok [] := by
  refine ⟨by unfold longChainText longChain; decide_lit, fun env d => ?_, by unfold longChain; decide_lit,
    by unfold longChain; decide_lit, by unfold longChain; decide_lit⟩
  have : longChain.length > 15 := by decide
  simp [declOptsGoPinned, this]

open EupsModel.SetupType in
/-- **C11_setup_type_option.**  `setup --type "<words>"` (the option string reaches `Eups(setupType=…)` as it is):
words separated by non-empty runs of blanks and commas, every word a valid setup type, name exactly those words, in
order; `--exact` adds `exact` when it is not among them; `Eups.exact_version` says whether `exact` is among the
types.  These are the types `Eups.setup` hands to `Table.actions(flavor, setupType)`, i.e. the `env.types` of
`C11_cond` / `C11_table_text`: `TYPE == w` holds iff `w` is one of the words (or `exact` under `--exact`).
A word that is not a valid setup type is refused (`EupsException`). -/
theorem C11_setup_type_option (valid : List Str) (first : Str) (rest : List (Str × Str)) (exactOpt : Bool)
    (hf : SetupType.wordOK first = true) (hr : ∀ p ∈ rest, SetupType.sepOK p.1 = true ∧ SetupType.wordOK p.2 = true) :
    normTypes valid (setupArg (first ++ rest.flatMap fun p => p.1 ++ p.2)) exactOpt =
      (let words := first :: rest.map (·.2)
       let ts := if exactOpt && !words.contains sExact then words ++ [sExact] else words
       if words.all (fun t => valid.contains t) then some (ts, ts.contains sExact) else none) := by
  simp only [normTypes, setupArg, argTypes_words first rest hf hr]

open EupsModel.SetupType in
/-- **C11_setup_type_cmd_option.**  `eups <cmd> -T "<words>"` (`cmd.py` passes `str.split()` of the option): words
separated by runs of white space, with or without white space before the first and after the last, name exactly those
words (a comma is part of a word on this path). -/
theorem C11_setup_type_cmd_option (valid : List Str) (pad1 first : Str) (rest : List (Str × Str)) (pad2 : Str)
    (exactOpt : Bool) (h1 : pad1.all Str.isSpace = true) (hf : wsWord first = true)
    (hr : ∀ p ∈ rest, wsSep p.1 = true ∧ wsWord p.2 = true) (h2 : pad2.all Str.isSpace = true) :
    normTypes valid (cmdArg (pad1 ++ first ++ (rest.flatMap fun p => p.1 ++ p.2) ++ pad2)) exactOpt =
      (let words := first :: rest.map (·.2)
       let ts := if exactOpt && !words.contains sExact then words ++ [sExact] else words
       if words.all (fun t => valid.contains t) then some (ts, ts.contains sExact) else none) := by
  simp only [cmdArg_words pad1 first rest pad2 h1 hf hr h2, normTypes, argTypes]

open EupsModel.SetupType in
/-- **C11_setup_type_sequence.**  Evaluations of a table through one live `Eups` object — dependency walks
(`Table.dependencies(Eups, followExact)`, inexact ones included) and evaluations as `Eups.setup` makes them
(`table.actions(flavor, setupType=self.setupType)`), in any order and number — never change `Eups.setupType`: every
step is evaluated for the initial types (an inexact walk reads the table without `exact`, on a list of its own), so a
later `if (type == exact) {A} else {B}` keeps taking the branch the option named. -/
theorem C11_setup_type_sequence (ex : Bool) (pdir : Option Str) (fl text : Str) (ts : List Str) (steps : List Step) :
    runSeq ex pdir fl text ts steps = (steps.map fun st => (stepOut ex pdir fl text ts st).1) ∧
    (∀ o ∈ runSeq ex pdir fl text ts steps, o.state = ts) ∧
    (stepOut ex pdir fl text ts .acts).1.actions = some (tableActions repaired pdir ⟨fl, ts⟩ text) ∧
    (∀ fe, (stepOut ex pdir fl text ts (.deps fe)).1.asked = some (depTypes (fe.getD ex) ts)) := by
  refine ⟨runSeq_stable ex pdir fl text steps ts, ?_, rfl, fun _ => rfl⟩
  intro o ho
  rw [runSeq_stable] at ho
  obtain ⟨st, _, rfl⟩ := List.mem_map.mp ho
  exact (stepOut_state ex pdir fl text ts st).2

open EupsModel.SetupType in
/-- **C11_dependencies_types.**  `Table.dependencies` reads the table for the same types when it follows exact
versions, and for the types other than `exact` (order kept) when it does not. -/
theorem C11_dependencies_types (ts : List Str) :
    depTypes true ts = ts ∧ ∀ w, (depTypes false ts).contains w = (ts.contains w && w != sExact) :=
  ⟨rfl, fun w => by simp only [depTypes, Bool.false_eq_true, if_false]; exact contains_filter_ne ts sExact w⟩

open EupsModel.SetupType in
example : normTypes [sExact, Str.ofString "build"] (setupArg (Str.ofString "build, exact")) false
    = some ([Str.ofString "build", sExact], true) ∧
    normTypes [sExact, Str.ofString "build"] (setupArg (Str.ofString "build")) true
    = some ([Str.ofString "build", sExact], true) ∧
    normTypes [sExact, Str.ofString "build"] (cmdArg (Str.ofString " build  exact ")) false
    = some ([Str.ofString "build", sExact], true) ∧
    normTypes [sExact, Str.ofString "build"] (setupArg (Str.ofString "build bogus")) false = none ∧
    -- not claimed either way: a separator at an end of the option names the empty type, which is refused
    normTypes [sExact, Str.ofString "build"] (setupArg (Str.ofString "build ")) false = none := by decide_lit
open EupsModel.SetupType in
example : SetupType.wordOK (Str.ofString "build") = true ∧ SetupType.sepOK (Str.ofString ", ") = true := by decide_lit

/-- **C11_default_product.**  With a default product configured (`hooks.config.Eups.defaultProduct`, usually
`toolchain`; `addDefaultProduct` not `False`) `Table(text, product).actions(flavor, types)` is what it is without one
followed by one implicit, silent `setupOptional` of the default product (its name, the version and `--tag tag` when
configured) — unconditional, after everything the text denotes, for every text, flavor and list of setup types, errors
included; without one (`none`) nothing is added. -/
theorem C11_default_product (pdir : Option Str) (env : Env) (text : Str) :
    (∀ d, tableActionsD repaired pdir (some d) env text
      = (tableActions repaired pdir env text).bind fun as => .ok (as ++ [implicitAction d])) ∧
    (∀ v, tableActionsD v pdir none env text = tableActions v pdir env text) :=
  ⟨fun d => tableActionsD_some pdir d env text, fun v => tableActionsD_none v pdir env text⟩

example : implicitAction ⟨Str.ofString "toolchain", none, none⟩ = ⟨Str.ofString "setupRequired", [Str.ofString "toolchain"], .implicit⟩ ∧
    implicitAction ⟨Str.ofString "base", some (Str.ofString "1.0"), some (Str.ofString "stable")⟩
      = ⟨Str.ofString "setupRequired", [Str.ofString "base", Str.ofString "1.0", Str.ofString "--tag", Str.ofString "stable"], .implicit⟩ := by
  decide_lit

end EupsModel.C11
