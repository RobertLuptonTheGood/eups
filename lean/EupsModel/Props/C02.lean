import EupsModel.Lemmas.SetupClear
import EupsModel.Lemmas.SetupShell
import EupsModel.Model.SetupEmit
/-! C02 — unsetup is the inverse of setup; a failing request leaves the environment as it found it. -/
namespace EupsModel.C02
open EupsModel.Setup

/-! ## clause 2: a failing request hands nothing to the shell -/

/-- `eups.app.setup`: when `Eups.setup` does not succeed, the command list is `["false"]` or an exception
(or, in the model only, out-of-fuel) leaves the function: no `export`, `unset` or function definition is emitted. -/
theorem C02_failed_request_emits_nothing (db : Db) (fuel : Nat) (fwd : Bool) (r : Request) (e : Setup.Env)
    (hfail : ∀ s, (if fwd then runSetup db fuel r e else runUnsetup db fuel r e) ≠ .ok s) :
    appSetup db fuel fwd r e = .cmds [.false_] ∨ appSetup db fuel fwd r e = .raised ∨
    appSetup db fuel fwd r e = .fuel := by
  unfold appSetup
  cases h : (if fwd then runSetup db fuel r e else runUnsetup db fuel r e) with
  | ok s => exact absurd h (hfail s)
  | notFound s => simp
  | raised s => simp
  | fuel => simp

/-- When `Eups.setup` itself answers "not found" (unknown product or version; unsetup of a product that is not set
up) the in-process environment, aliases included, is exactly the one it was given.  (When a *required dependency* fails the
exception leaves a half-built `os.environ` behind in the process — observation in DESIGN §7 — but nothing is emitted:
`C02_failed_request_emits_nothing`.) -/
theorem C02_notfound_leaves_environment (db : Db) (fuel : Nat) (fwd : Bool) (r : Request) (e : Setup.Env) (s' : St)
    (h : (if fwd then runSetup db fuel r e else runUnsetup db fuel r e) = .notFound s') :
    s'.env = e ∧ s'.aliases = [] ∧ s'.unaliased = [] := by
  cases setup_notFound_unchanged _ ((run_eq db fuel fwd r e).symm.trans h)
  exact ⟨rfl, rfl, rfl⟩

/-- the VRO a dependency line is resolved with (`Action.processArgs`) -/
def lineVro (vro : List VroEnt) (tags : List Str) (keepLine : Bool) : List VroEnt :=
  if VroEnt.keep ∈ vro ∨ keepLine = true then VroEnt.keep :: (tags.map VroEnt.tag ++ vro) else tags.map VroEnt.tag ++ vro

/-- Inside a request: when a dependency fails (`setupOptional`, or any dependency while unwinding), the
remaining actions of the table run from exactly the environment and aliases that were current before the attempt
(`popStack("env")`). -/
theorem C02_failed_dependency_restores_env (rec : Rec) (cfg : Cfg) (fwd : Bool) (depth : Nat) (vro : List VroEnt)
    (d : Decl) (n : Name) (opt just : Bool) (ver : Option VerReq) (vexpr : Option VExpr) (tags : List Str) (kl : Bool)
    (rest : List Act) (s s' : St) (hgo : cfg.maxDepth ≠ some depth) (hopt : fwd = false ∨ opt = true)
    (hfail : rec fwd (depth + 1) just (lineVro vro tags kl) n
        (if fwd then ver else none) (if fwd then vexpr else none) s = .notFound s' ∨
      rec fwd (depth + 1) just (lineVro vro tags kl) n
        (if fwd then ver else none) (if fwd then vexpr else none) s = .raised s') :
    acts rec cfg fwd depth false vro d (.dep n opt just ver vexpr tags kl :: rest) s =
      acts rec cfg fwd depth false vro d rest (⟨s.env, s.aliases, s.unaliased, s'.already, s'.cache⟩ : St) :=
  (acts_dep_failed (noRec := false) (decide_eq_false hgo) hfail).trans (if_neg (by rcases hopt with h | h <;> simp [h]))

/-- a failing *required* dependency aborts the request with the environment it had before the attempt -/
theorem C02_failed_required_dependency_raises (rec : Rec) (cfg : Cfg) (depth : Nat) (vro : List VroEnt)
    (d : Decl) (n : Name) (just : Bool) (ver : Option VerReq) (vexpr : Option VExpr) (tags : List Str) (kl : Bool)
    (rest : List Act) (s s' : St) (hgo : cfg.maxDepth ≠ some depth)
    (hfail : rec true (depth + 1) just (lineVro vro tags kl) n ver vexpr s = .notFound s' ∨
      rec true (depth + 1) just (lineVro vro tags kl) n ver vexpr s = .raised s') :
    acts rec cfg true depth false vro d (.dep n false just ver vexpr tags kl :: rest) s = .raised (⟨s.env, s.aliases, s.unaliased, s'.already, s'.cache⟩ : St) :=
  acts_dep_failed (noRec := false) (decide_eq_false hgo) hfail

/-- the same for the recursion itself, at every depth of the traversal: a dependency that fails — `setupOptional` going
forward, any dependency while unwinding; "not found" or an exception from anywhere below, e.g. a missing *required*
dependency further down — leaves no trace in the environment, the aliases or the marks for `unset -f` -/
theorem C02_failed_optional_no_trace (cfg : Cfg) (fuel : Nat) (fwd : Bool) (depth : Nat) (vro : List VroEnt)
    (d : Decl) (n : Name) (opt just : Bool) (ver : Option VerReq) (vexpr : Option VExpr) (tags : List Str) (kl : Bool)
    (rest : List Act) (s : St) (hgo : cfg.maxDepth ≠ some depth) (hopt : fwd = false ∨ opt = true)
    (hfail : ∀ s1, setup cfg fuel fwd (depth + 1) just (lineVro vro tags kl) n
        (if fwd then ver else none) (if fwd then vexpr else none) s ≠ .ok s1)
    (hfuel : setup cfg fuel fwd (depth + 1) just (lineVro vro tags kl) n
        (if fwd then ver else none) (if fwd then vexpr else none) s ≠ .fuel) :
    ∃ al ca, acts (setup cfg fuel) cfg fwd depth false vro d (.dep n opt just ver vexpr tags kl :: rest) s =
      acts (setup cfg fuel) cfg fwd depth false vro d rest (⟨s.env, s.aliases, s.unaliased, al, ca⟩ : St) := by
  cases hr : setup cfg fuel fwd (depth + 1) just (lineVro vro tags kl) n
      (if fwd then ver else none) (if fwd then vexpr else none) s with
  | ok s1 => exact absurd hr (hfail s1)
  | fuel => exact absurd hr hfuel
  | notFound s1 =>
    exact ⟨s1.already, s1.cache, C02_failed_dependency_restores_env (setup cfg fuel) cfg fwd depth vro d n opt just ver vexpr
      tags kl rest s s1 hgo hopt (Or.inl hr)⟩
  | raised s1 =>
    exact ⟨s1.already, s1.cache, C02_failed_dependency_restores_env (setup cfg fuel) cfg fwd depth vro d n opt just ver vexpr
      tags kl rest s s1 hgo hopt (Or.inr hr)⟩

/-! ## clause 2 at the caller's shell: what `eval $(eups_setup …)` leaves behind (`Lemmas/SetupShell.lean`) -/

/-- **A setup request that fails leaves the environment exactly as it found it**: whatever makes `Eups.setup` not succeed
— unknown product or version, a missing required dependency at any depth, an exception from below, unsetup of a product
that is not set up (in the model also: out of fuel) — the caller's shell, variables and functions, is unchanged. -/
theorem C02_failed_request_leaves_shell (db : Db) (fuel : Nat) (fwd : Bool) (r : Request) (e : Setup.Env)
    (hfail : ∀ s, (if fwd then runSetup db fuel r e else runUnsetup db fuel r e) ≠ .ok s) (sh : Shell) :
    (appSetup db fuel fwd r e).apply sh = sh := by
  rcases C02_failed_request_emits_nothing db fuel fwd r e hfail with h | h | h <;> rw [h] <;> rfl

/-- At the level of the text `eups_setup` prints (`Model/SetupEmit.lean`: `Setup.delta` rendered by C05's emitter): a
request that fails prints exactly `false`, or nothing at all (an exception) — no `export`, `unset` or function text,
whatever the layout of the stacks. -/
theorem C02_failed_request_text (db : Db) (L : SetupEmit.Layout) (fuel : Nat) (fwd : Bool) (r : Request) (e : Setup.Env)
    (hfail : ∀ s, (if fwd then runSetup db fuel r e else runUnsetup db fuel r e) ≠ .ok s) :
    SetupEmit.emitSh db L (appSetup db fuel fwd r e) = some [ShellEmit.sFalse] ∨
    SetupEmit.emitSh db L (appSetup db fuel fwd r e) = none := by
  rcases C02_failed_request_emits_nothing db fuel fwd r e hfail with h | h | h <;> rw [h]
  · left; rfl
  · right; rfl
  · right; rfl

/-- A request that succeeds hands the shell exactly the environment `Eups.setup` computed, from the shell that holds the
environment eups was started in (and any functions `f`); the functions are those of `Eups.aliases`, minus the ones marked
for `unset -f`.  (The glue between `Eups.setup` and the emission loop of `eups.app.setup`; C05 owns the text level.) -/
theorem C02_commands_realise_environment (db : Db) (fuel : Nat) (fwd : Bool) (r : Request) (e : Setup.Env) (s : St)
    (f : Str → Option Str) (h : (if fwd then runSetup db fuel r e else runUnsetup db fuel r e) = .ok s) :
    let sh := (appSetup db fuel fwd r e).apply (Shell.of e f)
    (∀ n, sh.recs n = s.env.rec? n) ∧ (∀ n, sh.dirs n = aget s.env.dirs n) ∧
    (∀ var, sh.paths var = aget s.env.paths var) ∧ (∀ var, sh.vars var = aget s.env.vars var) ∧
    (∀ k, sh.funcs k = match aget s.aliases k with
      | some v => some v
      | none => if k ∈ s.unaliased then none else f k) := by
  rw [appSetup_apply db fuel fwd r e s h]
  exact runCmds_delta e s f (run_aliasND db fuel fwd r e s h)

/-! ## clause 1 is false as stated: two witnesses (design limits of eups, findings D15a / D15b) -/

-- code points: "a", "1", "P", "V"; below "/a" = [47, 97], "/b", "/u" = [47, 117], "old" = [111, 108, 100]
def nA : Name := [97]
def v1 : Ver := ([49], 0)
def PATH : Str := [80]
def V : Str := [86]
def reqA : Request := ⟨nA, none, false, none, false, [], [0]⟩

/-- `a 1`: `envSet(V, ${PRODUCT_DIR})`, `envPrepend(PATH, ${PRODUCT_DIR}/bin)` -/
def dbA : Db :=
  { decls := [⟨nA, v1, [47, 97], [(.always, .set V (.own [])), (.always, .prepend PATH [.own [47, 98]] false)]⟩],
    tags := [(tagCurrent, nA, v1)] }

/-- setup then unsetup, both successful -/
def roundTrip (db : Db) (r : Request) (e0 : Setup.Env) : Option Setup.Env :=
  match runSetup db 10 r e0 with
  | .ok s1 => (match runUnsetup db 10 r s1.env with
    | .ok s2 => some s2.env
    | _ => none)
  | _ => none

/-- D15a: `V` was defined before; `envSet(V, …)` and its unsetup leave it unset -/
def priorA : Setup.Env := { Setup.Env.empty with vars := [(V, .foreign [111, 108, 100])] }
/-- D15b: `PATH` already held the element the table contributes -/
def priorB : Setup.Env := { Setup.Env.empty with paths := [(PATH, [.foreign [47, 117], .own (nA, v1) [47, 98]])] }

theorem C02_inverse_not_full_envSet :
    ∃ e2, roundTrip dbA reqA priorA = some e2 ∧ ¬ e2.approx priorA := by
  refine ⟨⟨[], [], [(PATH, [])], []⟩, by decide +kernel, ?_⟩
  intro h
  have := h.2.2.2 V
  revert this
  decide +kernel

theorem C02_inverse_not_full_contained :
    ∃ e2, roundTrip dbA reqA priorB = some e2 ∧ ¬ e2.approx priorB := by
  refine ⟨⟨[], [], [(PATH, [.foreign [47, 117]])], []⟩, by decide +kernel, ?_⟩
  intro h
  have := h.2.2.1 PATH
  revert this
  decide +kernel

/-! ## clause 1, positive part -/

/-- the closure of the request, over-approximated (`Within`) -/
def Reach (db : Db) (top : Name) (n : Name) : Prop := ∃ k, Within db top k n

/-- nothing of the closure is in the prior environment (D15a / D15b are the negations of `vars` / `paths`) -/
structure Fresh (db : Db) (r : Request) (e0 : Setup.Env) : Prop where
  recs : ∀ n, Reach db r.name n → e0.rec? n = none
  dirs : ∀ n, Reach db r.name n → aget e0.dirs n = none
  paths : ∀ var p rel, Elem.own p rel ∈ e0.pathOf var → ¬ Reach db r.name p.1
  vars : ∀ var, SetVar db (Reach db r.name) var → aget e0.vars var = none

open Classical in
/-- `setup p; unsetup p` restores the environment (the property's `≈`: path variables as duplicate-free lists) — for
own-directory tables over a `NameDag` database, from a residue-free environment that is `Fresh` for the request,
**provided no product of the closure is left set up** (`hrecs`).  That proviso is the whole of what can go wrong: known
finding D33 (a version conflict combined with `-j`) is a run in which it fails.  Bystanders set up before keep everything
they had (order included). -/
theorem C02_inverse_partial (db : Db) (rank : Name → Nat) (hdag : NameDag db rank) (hown : OwnTables db)
    (fuel1 fuel2 : Nat) (r : Request) (e0 : Setup.Env) (s1 s2 : St)
    (hwell : WellOwned (r.cfg db) e0) (hres : NoResidue Empty e0) (hfresh : Fresh db r e0)
    (h1 : runSetup db fuel1 r e0 = .ok s1) (h2 : runUnsetup db fuel2 r s1.env = .ok s2)
    (hrecs : ∀ n, Reach db r.name n → s2.env.rec? n = none) : s2.env.approx e0 := by
  let cfg := r.cfg db
  let S : Name → Prop := Reach db r.name
  have hcl : ClosedAt cfg (fun _ n => S n) := within_closedAt_unbounded cfg r.name
  have hS0 : S r.name := ⟨0, Within.root⟩
  -- an invariant relative to `e0` goes through both runs
  have both : ∀ P : Setup.Env → Prop, SubjInv cfg (fun _ n => S n) P → P e0 → P s2.env :=
    fun P hP hp0 => run_subjInv db fuel2 false r s1.env s2 _ P hcl hP hS0
      (run_subjInv db fuel1 true r e0 s1 _ P hcl hP hS0 hp0 h1) h2
  obtain ⟨hres1, hwell1⟩ := runSetup_spec db rank hdag fuel1 r e0 s1 hwell hres h1
  obtain ⟨hres2, _⟩ := runUnsetup_spec db fuel2 r s1.env s2 Empty hwell1 hres1 h2
  have nores : ∀ p : Prod, S p.1 → ¬ (Empty p ∨ s2.env.rec? p.1 = some p.2) := by
    intro p hp h
    rcases h with h | h
    · exact h
    · rw [hrecs p.1 hp] at h; cases h
  have outside : ∀ m, ¬ S m → SameFor m e0 s2.env :=
    fun m hm => both (SameFor m e0) (sameFor_subjInv cfg _ m (fun _ h => hm h) e0) (SameFor.refl m e0)
  refine ⟨?_, ?_, ?_, ?_⟩
  · intro n
    by_cases hn : S n
    · rw [hrecs n hn, hfresh.recs n hn]
    · exact (outside n hn).record
  · intro n
    by_cases hn : S n
    · have := both (DirClean S) (dirClean_subjInv cfg S) (fun n hn _ => hfresh.dirs n hn)
      rw [this n hn (hrecs n hn), hfresh.dirs n hn]
    · exact (outside n hn).dir
  · intro var
    let f : Elem → Bool := fun x => match x with
      | .own p _ => decide (¬ S p.1)
      | .foreign _ => true
    have hpart := both (fun e => ∀ var, partBy f e var = partBy f e0 var)
      (partBy_subjInvAt cfg _ hown f (fun _ p rel hp => by simp [f, hp]) e0) (fun _ => rfl) var
    -- `f` selects every element of a path none of whose own elements belongs to a subject: both ends are such
    have hall : ∀ l : List Elem, (∀ p rel, Elem.own p rel ∈ l → ¬ S p.1) → ∀ x ∈ l, f x = true := by
      intro l hl x hx
      cases x with
      | foreign s => rfl
      | own p rel => exact decide_eq_true (hl p rel hx)
    rw [partBy_of_all (hall _ fun p rel hx hp => nores p hp (hres2.path var p rel hx)),
      partBy_of_all (hall _ (hfresh.paths var))] at hpart
    exact hpart
  · intro var
    have hv := both (VarsInv db S e0) (varsInv_subjInv cfg S hown e0)
      ⟨fun _ _ => rfl, fun var hvar => Or.inl (hfresh.vars var hvar)⟩
    by_cases hvar : SetVar db S var
    · rcases hv.mine var hvar with h | ⟨p, rel, h, hp⟩
      · rw [h, hfresh.vars var hvar]
      · exact absurd (hres2.vars var p rel h) (nores p hp)
    · exact hv.other var hvar

/-- single product: when no declared version of the requested product has a dependency line, the proviso holds and
the round trip restores the environment -/
theorem C02_inverse_single (db : Db) (rank : Name → Nat) (hdag : NameDag db rank) (hown : OwnTables db)
    (fuel1 fuel2 : Nat) (r : Request) (e0 : Setup.Env) (s1 s2 : St)
    (hnodep : ∀ d ∈ db.decls, d.name = r.name → ∀ g n o j v x t kl, (g, Act.dep n o j v x t kl) ∉ d.table)
    (hwell : WellOwned (r.cfg db) e0) (hres : NoResidue Empty e0) (hfresh : Fresh db r e0)
    (h1 : runSetup db fuel1 r e0 = .ok s1) (h2 : runUnsetup db fuel2 r s1.env = .ok s2) : s2.env.approx e0 := by
  refine C02_inverse_partial db rank hdag hown fuel1 fuel2 r e0 s1 s2 hwell hres hfresh h1 h2 ?_
  have honly : ∀ k n, Within db r.name k n → n = r.name := by
    intro k n hw
    induction hw with
    | root => rfl
    | step _ hd hn hg ih => subst ih; exact absurd hg (hnodep _ hd hn _ _ _ _ _ _ _ _)
  intro n ⟨k, hk⟩
  rw [honly k n hk]
  obtain ⟨hres1, hwell1⟩ := runSetup_spec db rank hdag fuel1 r e0 s1 hwell hres h1
  exact (runUnsetup_spec db fuel2 r s1.env s2 Empty hwell1 hres1 h2).2.2

/-- chains, diamonds **and version conflicts inside the request**: when no dependency line of the closure carries `-j` and
`max_depth` is not set, the proviso of `C02_inverse_partial` holds.  Optional dependencies (failing ones included), shared
dependencies, several declared versions per product and products replaced in the middle of the request are inside the
claim (why: `supp2_rules`, `none_of_cleared`).  (`-j` is what known finding D33 needs.) -/
theorem C02_inverse_nojust_partial (db : Db) (rank : Name → Nat) (hdag : NameDag db rank) (hown : OwnTables db)
    (fuel1 fuel2 : Nat) (r : Request) (e0 : Setup.Env) (s1 s2 : St)
    (hmd : r.maxDepth = none) (hnj : NoJust db (Reach db r.name))
    (hdir : DirOK db e0) (hwell : WellOwned (r.cfg db) e0) (hres : NoResidue Empty e0) (hfresh : Fresh db r e0)
    (h1 : runSetup db fuel1 r e0 = .ok s1) (h2 : runUnsetup db fuel2 r s1.env = .ok s2) : s2.env.approx e0 := by
  refine C02_inverse_partial db rank hdag hown fuel1 fuel2 r e0 s1 s2 hwell hres hfresh h1 h2 ?_
  let cfg := r.cfg db
  let S : Name → Prop := Reach db r.name
  have hcl : Closed cfg.db S := within_closed db r.name
  have hS0 : S r.name := ⟨0, Within.root⟩
  have hsupp0 : Supp cfg S r.name e0 := by
    intro m v hm hr; rw [hfresh.recs m hm] at hr; cases hr
  obtain ⟨hsupp1, hdecl1⟩ := setup_supp2 cfg rank hdag S r.name hmd hcl hnj hS0 (Or.inl rfl) (alreadyOK_init db e0) hwell hres
    (fun n v hr => (hdir n v hr).1) hsupp0 h1
  exact none_of_cleared cfg rank hdag S r.name
    (fun m ⟨k, hk⟩ => by have := within_rank db rank hdag r.name k m hk; omega) hsupp1
    (setup_false_clear cfg S hmd hcl hnj (s := St.init s1.env) hS0 hdecl1 h2)
    (setup_false_sub cfg h2).2 (setup_false_unsets cfg h2)

/-- the special case announced in DESIGN ("chains → diamonds"): closures with one declared version per name -/
theorem C02_inverse_diamond_partial (db : Db) (rank : Name → Nat) (hdag : NameDag db rank) (hown : OwnTables db)
    (fuel1 fuel2 : Nat) (r : Request) (e0 : Setup.Env) (s1 s2 : St)
    (hmd : r.maxDepth = none) (hnj : NoJust db (Reach db r.name)) (_hone : OneVersion db (Reach db r.name))
    (hdir : DirOK db e0) (hwell : WellOwned (r.cfg db) e0) (hres : NoResidue Empty e0) (hfresh : Fresh db r e0)
    (h1 : runSetup db fuel1 r e0 = .ok s1) (h2 : runUnsetup db fuel2 r s1.env = .ok s2) : s2.env.approx e0 :=
  C02_inverse_nojust_partial db rank hdag hown fuel1 fuel2 r e0 s1 s2 hmd hnj hdir hwell hres hfresh h1 h2

/-- the hypotheses are satisfiable and the conclusion is not vacuous: `dbA` with a foreign-only `PATH` -/
example : OwnTables dbA ∧ NameDag dbA (fun _ => 0) ∧
    Fresh dbA reqA { Setup.Env.empty with paths := [(PATH, [.foreign [47, 117]])] } := by
  refine ⟨ownTables_of_check _ (by decide +kernel), nameDag_of_check _ _ (by decide +kernel), ?_⟩
  · refine ⟨fun _ _ => rfl, fun _ _ => rfl, ?_, fun _ _ => rfl⟩
    intro var p rel h
    by_cases hv : var = PATH
    · subst hv; simp [Setup.Env.pathOf, aget] at h
    · simp [Setup.Env.pathOf, aget, Ne.symm hv] at h

/-! non-vacuity of `C02_inverse_diamond_partial`: the diamond `t → a → c`, `t → b → c` (one version each, `c` optional
from `b`) satisfies the hypotheses, the two requests succeed from a `PATH` holding a foreign element, and the
environment comes back -/
def nT : Name := [116]  -- "t"
def nB : Name := [98]   -- "b"
def nC : Name := [99]   -- "c"
def dbDia : Db :=
  { decls := [
      ⟨nT, v1, [1], [(.always, .dep nA false false none none [] false), (.always, .prepend PATH [.own [1]] false),
                     (.always, .dep nB false false none none [] false)]⟩,
      ⟨nA, v1, [2], [(.always, .prepend PATH [.own [1]] false), (.always, .dep nC false false none none [] false)]⟩,
      ⟨nB, v1, [3], [(.always, .dep nC true false none none [] false), (.always, .set V (.own [])), (.always, .prepend PATH [.own [1]] true)]⟩,
      ⟨nC, v1, [4], [(.always, .prepend PATH [.own [1]] false)]⟩ ],
    tags := [(tagCurrent, nT, v1), (tagCurrent, nA, v1), (tagCurrent, nB, v1), (tagCurrent, nC, v1)] }
def reqT : Request := ⟨nT, none, false, none, false, [], [0]⟩
def priorDia : Setup.Env := { Setup.Env.empty with paths := [(PATH, [.foreign [47, 117]])] }

def recsAfterSetup (db : Db) (r : Request) (e : Setup.Env) : Option (List (Name × Ver)) :=
  match runSetup db 10 r e with
  | .ok s => some s.env.recs
  | _ => none

example : OwnTables dbDia ∧ NameDag dbDia (fun n => if n = nT then 3 else if n = nC then 1 else 2) ∧
    NoJust dbDia (Reach dbDia reqT.name) ∧ OneVersion dbDia (Reach dbDia reqT.name) ∧
    recsAfterSetup dbDia reqT priorDia = some [(nB, v1), (nC, v1), (nA, v1), (nT, v1)] ∧
    roundTrip dbDia reqT priorDia = some ⟨[], [], [(PATH, [.foreign [47, 117]])], []⟩ :=
  ⟨ownTables_of_check _ (by decide +kernel), nameDag_of_check _ _ (by decide +kernel),
   noJust_of_check _ _ (by decide +kernel), oneVersion_of_check _ _ (by decide +kernel),
   by decide +kernel, by decide +kernel⟩

/-! non-vacuity of `C02_inverse_nojust_partial` with a version conflict: `t → a → c 1`, `t → b → c 2` (`c 1` is set up,
then replaced by `c 2`, in one request); the round trip restores the prior environment -/
def v2 : Ver := ([50], 0)
def dbConflict : Db :=
  { decls := [
      ⟨nT, v1, [1], [(.always, .dep nA false false none none [] false), (.always, .dep nB false false none none [] false)]⟩,
      ⟨nA, v1, [2], [(.always, .prepend PATH [.own [1]] false), (.always, .dep nC false false (some (.explicit v1.1)) none [] false)]⟩,
      ⟨nB, v1, [3], [(.always, .prepend PATH [.own [1]] false), (.always, .dep nC false false (some (.explicit v2.1)) none [] false)]⟩,
      ⟨nC, v1, [4], [(.always, .prepend PATH [.own [1], .own [2]] false)]⟩,
      ⟨nC, v2, [5], [(.always, .prepend PATH [.own [1]] true)]⟩ ],
    tags := [(tagCurrent, nT, v1), (tagCurrent, nA, v1), (tagCurrent, nB, v1), (tagCurrent, nC, v1)] }

example : OwnTables dbConflict ∧ NameDag dbConflict (fun n => if n = nT then 3 else if n = nC then 1 else 2) ∧
    NoJust dbConflict (Reach dbConflict reqT.name) ∧
    recsAfterSetup dbConflict reqT priorDia = some [(nC, v2), (nB, v1), (nA, v1), (nT, v1)] ∧
    roundTrip dbConflict reqT priorDia = some ⟨[], [], [(PATH, [.foreign [47, 117]])], []⟩ :=
  ⟨ownTables_of_check _ (by decide +kernel), nameDag_of_check _ _ (by decide +kernel),
   noJust_of_check _ _ (by decide +kernel), by decide +kernel, by decide +kernel⟩

/-- non-vacuity: the round trip of `dbA` seen from the shell — after `setup a` the shell holds the record, after the
`unsetup a` that follows it does not -/
example :
    (match runSetup dbA 10 reqA Setup.Env.empty with
     | .ok s1 => (((appSetup dbA 10 true reqA Setup.Env.empty).apply (Shell.of Setup.Env.empty (fun _ => none))).recs nA,
                  ((appSetup dbA 10 false reqA s1.env).apply (Shell.of s1.env (fun _ => none))).recs nA)
     | _ => (none, none)) = (some v1, none) := by decide +kernel

end EupsModel.C02
