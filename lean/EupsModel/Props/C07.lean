import EupsModel.Lemmas.CacheInv
import EupsModel.Lemmas.CacheSync
/-! C07 — answers served from the product cache equal the answers in the database files.  The model is `Model/Cache.lean`
over `Model/Db.lean`; for two stack objects alive in one process (the `CacheSync` theorems at the end), `Model/CacheSync.lean`.

A *history* is any list of `WCmd`: processes of any user (each user has his own cache files) and flavor
running any command, each optionally killed between the database update and the cache update of one of its
`Database` mutations or at the entry of one (`Cache.cutAt`), deletions of cache files, `eups admin buildCache -A`,
and installation directories deleted by hand, in any order.  `viaCache w u f` is what a fresh process of
user `u` and flavor `f` holds in memory after `Eups.__init__` (accepted cache files or rebuilt stacks);
`w.db` is what the files say.

Code points in the test vectors: `[112]` p, `[76]` L, `[49]` 1, `[50]` 2. -/
namespace EupsModel.C07
open EupsModel.Db EupsModel.Cache

/-- **Commutation, per operation.**  If the in-memory stacks agree with the database on a (stack, flavor,
product) slice, then after `addProduct` / `removeProduct` / `assignTag` / `unassignTag` they agree with the
database after `Database.declare` / `undeclare` / `assignTag` / `unassignTag`. -/
theorem C07_commute (e : Eff) (m db : Spec) (hdb : NoDangling db) (s : Nat) (f : Flav) (n : Name)
    (h : AgreeOnN m db s f n) : AgreeOnN (applyMem e m) (applyDb e db) s f n :=
  commute_all e m db hdb s f n h

/-- On the pinned tree the commutation lemma is false for `removeProduct`: the tag of the removed version
stays in the in-memory stack (D1, repaired). -/
theorem C07_commute_fails_pinned :
    let m : Spec := ⟨[⟨0, [112], [49], [76], ⟨0, []⟩, .default⟩, ⟨0, [112], [50], [76], ⟨0, []⟩, .default⟩],
                     [⟨0, current, [112], [76], [49]⟩]⟩
    (applyMemPinned (.undeclare 0 [112] [49] [76]) m).hasTag 0 current [112] [76] = true ∧
    (applyDb (.undeclare 0 [112] [49] [76]) m).hasTag 0 current [112] [76] = false :=
  commute_fails_pinned

/-- **`CacheInv` holds after every history**: in particular every cache file of a stack of the path that is
at least as new as a product directory agrees with the database on that product. -/
theorem C07_cache_inv (nst : Nat) (dirs : List DirEnt) (tfs : List TFile) (h : List WCmd) :
    CacheInv (runHistory (World.init nst dirs tfs) h) := history_inv nst dirs tfs h

/-- **A cache file that the load rule accepts agrees with the files**, after every history, for every user,
stack of the path and flavor (the fallback flavor's file too, when a process of that flavor reads it). -/
theorem C07_accepted_cache_agrees (nst : Nat) (dirs : List DirEnt) (tfs : List TFile) (h : List WCmd) (cf : CacheFile)
    (hc : cf ∈ (runHistory (World.init nst dirs tfs) h).caches) (hs : cf.stack < nst)
    (ha : accepts (runHistory (World.init nst dirs tfs) h) cf = true) :
    AgreeOn cf.c (runHistory (World.init nst dirs tfs) h).db cf.stack cf.flav := by
  have hinv := history_inv nst dirs tfs h
  have hn : (runHistory (World.init nst dirs tfs) h).nst = nst := history_nst _ h
  exact accepts_agree hinv hc (by rw [hn]; exact hs) ha

/-- **C07.**  After every history, what a fresh process of any user `u` and flavor `self` holds in memory after
`Eups.__init__` — accepted cache files or rebuilt stacks — is what the files say, for every flavor the process can
see (its native flavor and the fallback flavor), in every stack of the path; and it shows no declaration that the
files do not hold. -/
theorem C07_agree (nst : Nat) (dirs : List DirEnt) (tfs : List TFile) (h : List WCmd) (u : User) (self : Flav)
    (s : Nat) (hs : s < (runHistory (World.init nst dirs tfs) h).nst) (f : Flav) (hf : f ∈ fallbacks self) :
    AgreeOn (viaCache (runHistory (World.init nst dirs tfs) h) u self) (runHistory (World.init nst dirs tfs) h).db s f ∧
    ∀ d ∈ (viaCache (runHistory (World.init nst dirs tfs) h) u self).decls,
      d ∈ (runHistory (World.init nst dirs tfs) h).db.decls := by
  obtain ⟨_, hv, hfb, hsub⟩ := load_inv (history_inv nst dirs tfs h) u self
  exact ⟨hv s hs f (hfb s hs f hf), hsub⟩

/-- **The four queries of the property**, any user, any stack of the path, any flavor `f` the querying process
can see, after any history: *is (n, v) declared*, *where is it* (the declaration found: directory and table),
*which tags does it carry*, *which version has tag t* — through the cache and through the files. -/
theorem C07_queries_agree (nst : Nat) (dirs : List DirEnt) (tfs : List TFile) (h : List WCmd) (u : User) (self : Flav)
    (s : Nat) (hs : s < (runHistory (World.init nst dirs tfs) h).nst) (f : Flav) (hf : f ∈ fallbacks self)
    (n : Name) (v : Ver) (t : Tag) :
    let w := runHistory (World.init nst dirs tfs) h
    (viaCache w u self).hasDecl s n v f = w.db.hasDecl s n v f ∧
    (viaCache w u self).findDecl s n v f = w.db.findDecl s n v f ∧
    (∀ d : Decl, d.stack = s → d.flav = f → d.name = n →
        ∀ t', t' ∈ (viaCache w u self).tagsOf d ↔ t' ∈ w.db.tagsOf d) ∧
    (viaCache w u self).tagVer s t n f = w.db.tagVer s t n f := by
  intro w
  have hag := (C07_agree nst dirs tfs h u self s hs f hf).1 n
  have hku := (history_inv nst dirs tfs h).dbinv.ku
  refine ⟨hag.hasDecl v, findDecl_agree hag hku v, ?_, tagVer_agree hag hku t⟩
  intro d h1 h2 h3 t'
  rw [mem_tagsOf, mem_tagsOf]
  exact exists_congr fun r => and_congr_left fun ⟨hp, _⟩ =>
    have k := TagRec.pointsAt_iff.mp hp
    hag.2 r (k.1.trans h1) (k.2.2.1.trans h2) (k.2.1.trans h3)

theorem tryCache_missing (w : World) (u : User) (self : Flav) (s : Nat)
    (h : findCaches w u s (needed self) = none) : tryCache w u self s = none := by
  unfold tryCache; simp [h]

theorem tryCache_older (w : World) (u : User) (self : Flav) (s : Nat) (cfs : List CacheFile)
    (h : findCaches w u s (needed self) = some cfs) (cf : CacheFile) (hcf : cf ∈ cfs) (hold : accepts w cf = false) :
    tryCache w u self s = none := by
  unfold tryCache
  have : cfs.all (accepts w) = false := by
    rw [Bool.eq_false_iff]
    intro hall
    have := List.all_eq_true.mp hall cf hcf
    rw [hold] at this; cases this
  simp [h, this]

/-- when neither the user's cache directory nor the one inside `ups_db/` is accepted, the in-memory stack is rebuilt
from the database (`refreshFromDatabase`) -/
theorem C07_not_accepted_rebuilt (w : World) (u : User) (self : Flav) (s : Nat)
    (h1 : tryCache w u self s = none) (h2 : tryCache w sysUser self s = none) :
    (loadStack w u self s).view = snapshot w.db s := by
  unfold loadStack; simp [h1, h2]

/-- a needed cache file of the user is missing, and the cache directory inside `ups_db/` is not accepted either:
rebuilt -/
theorem C07_stale_cache_rebuilt_missing (w : World) (u : User) (self : Flav) (s : Nat)
    (h : findCaches w u s (needed self) = none) (hsys : tryCache w sysUser self s = none) :
    (loadStack w u self s).view = snapshot w.db s :=
  C07_not_accepted_rebuilt w u self s (tryCache_missing w u self s h) hsys

/-- one of the user's cache files is older than a version file, chain file or product directory of the stack, or
names a product the database does not have, and the cache directory inside `ups_db/` is not accepted either:
rebuilt -/
theorem C07_stale_cache_rebuilt_older (w : World) (u : User) (self : Flav) (s : Nat) (cfs : List CacheFile)
    (h : findCaches w u s (needed self) = some cfs) (cf : CacheFile) (hcf : cf ∈ cfs) (hold : accepts w cf = false)
    (hsys : tryCache w sysUser self s = none) :
    (loadStack w u self s).view = snapshot w.db s :=
  C07_not_accepted_rebuilt w u self s (tryCache_older w u self s cfs h cf hcf hold) hsys

/-- **The stack-wide cache.**  After any history, when the user's own cache directory is not accepted and the one
inside `ups_db/` (`eups admin buildCache -A`) is: what is loaded is the content of the files that were validated —
the stack-wide ones —, it agrees with the database files on every flavor the process can see, and nothing is
written (the user's stale files stay as they are). -/
theorem C07_stack_wide_cache_agrees (nst : Nat) (dirs : List DirEnt) (tfs : List TFile) (h : List WCmd) (u : User)
    (self : Flav) (s : Nat) (hs : s < nst) (view : Spec)
    (h1 : tryCache (runHistory (World.init nst dirs tfs) h) u self s = none)
    (h2 : tryCache (runHistory (World.init nst dirs tfs) h) sysUser self s = some view) :
    (loadStack (runHistory (World.init nst dirs tfs) h) u self s).view = view ∧
    (loadStack (runHistory (World.init nst dirs tfs) h) u self s).w = runHistory (World.init nst dirs tfs) h ∧
    ∀ f ∈ fallbacks self, AgreeOn view (runHistory (World.init nst dirs tfs) h).db s f := by
  have hinv := history_inv nst dirs tfs h
  have hn : (runHistory (World.init nst dirs tfs) h).nst = nst := history_nst _ h
  generalize runHistory (World.init nst dirs tfs) h = w at hinv hn h1 h2
  refine ⟨by unfold loadStack; simp [h1, h2], by unfold loadStack; simp [h1, h2], ?_⟩
  intro f hf
  exact (tryCache_inv hinv sysUser self (hn ▸ hs) h2).1 f ((mem_dedup _ f).mpr hf)

/-- a rebuilt stack is the database: every flavor of the stack, exactly -/
theorem C07_rebuilt_is_database (db : Spec) (hdb : NoDangling db) (s : Nat) (f : Flav) :
    AgreeOn (snapshot db s) db s f := snapshot_agree hdb s f

/-- crash-orphaned cache: after the `Database` mutation of an effect (the process dies before its cache
update) no cache file of the stack is accepted as long as the product directory written to exists — whoever
wrote the cache file, whenever -/
theorem C07_crash_orphaned_cache_rejected (w : World) (h : CacheInv w) (e : Eff) (s : Nat) (n : Name)
    (hk : effKey e = some (s, n)) (hw : effWrites w.db e = true)
    (hex : ((applyDb e w.db).decls.any fun d => d.stack == s && d.name == n) = true)
    (cf : CacheFile) (hc : cf ∈ (applyDbW w e).caches) (hs : cf.stack = s) :
    accepts (applyDbW w e) cf = false := by
  have hcaches : (applyDbW w e).caches = w.caches := by simp [applyDbW, hk, hw]
  have htouch : (⟨s, n, w.now⟩ : Touch) ∈ (applyDbW w e).touch := by
    simp only [applyDbW, hk, hw, if_true, hex]
    exact mem_setTouch.mpr (Or.inl ⟨w.now, rfl, rfl⟩)
  have hlt := h.cache_time cf (hcaches ▸ hc)
  cases hacc : accepts (applyDbW w e) cf with
  | false => rfl
  | true =>
    exfalso
    simp only [accepts, Bool.and_eq_true] at hacc
    have := (upToDate_iff _ _ _).mp hacc.1 _ htouch hs.symm
    exact Nat.lt_irrefl _ (Nat.lt_of_le_of_lt this hlt)

def p : Name := [112]
def L : Flav := [76]
def dir (f : Flav) (v : Ver) : Dir := ⟨0, relDir f p v⟩
def dirs : List DirEnt := [⟨dir L [49], p⟩, ⟨dir L [50], p⟩, ⟨dir generic [49], p⟩]
def declareCmd (f : Flav) (v : Ver) : Cmd := .declare ⟨f, p, v, some (dir f v), none, .dflt, none, false, false, []⟩

/-- the history of D1: `declare p 1` (becomes current), `declare p 2`, `undeclare p 1`, `declare p 1`, four
processes of one user -/
def staleTagHistory : List WCmd :=
  [.run 1 (declareCmd L [49]) none, .run 1 (declareCmd L [50]) none,
   .run 1 (.undeclare ⟨L, p, some [49], none, none, false, false, false, none⟩) none, .run 1 (declareCmd L [49]) none]

/-- **D1 (repaired).**  With the pinned `removeVersion` the cache answers "p 1 is current" after that history
while no chain file exists; with the repair the two agree. -/
theorem C07_stale_tag_witness :
    let wp := staleTagHistory.foldl stepPinned (World.init 1 dirs)
    let wf := runHistory (World.init 1 dirs) staleTagHistory
    ((viaCache wp 1 L).tagVer 0 current p L = some [49] ∧ wp.db.tagVer 0 current p L = none) ∧
    ((viaCache wf 1 L).tagVer 0 current p L = none ∧ wf.db.tagVer 0 current p L = none) := by decide +kernel

/-- **D16 (repaired).**  On the pinned tree — fallback flavors installed after the cache was read, `save` of the
native flavor only — `declare p 1` by a Linux process, `declare p 1` by a generic process, one Linux query (it
rebuilds and saves both flavors): the next fresh Linux process accepts the cache, loads the native flavor only and
does not see the `generic` declaration that the files hold.  With the repair it loads both and sees it. -/
theorem C07_fallback_flavor_witness :
    let h : List WCmd := [.run 1 (declareCmd L [49]) none, .run 1 (declareCmd generic [49]) none, .run 1 (.query L) none]
    let wp := h.foldl stepPinnedD16 (World.init 1 dirs)
    let wf := runHistory (World.init 1 dirs) h
    ((viaCachePinnedD16 wp 1 L).hasDecl 0 p [49] generic = false ∧ wp.db.hasDecl 0 p [49] generic = true ∧
      (loadPinned wp 1 L).2.1 = [(0, [L])]) ∧
    ((viaCache wf 1 L).hasDecl 0 p [49] generic = true ∧ wf.db.hasDecl 0 p [49] generic = true ∧
      (load wf 1 L).2.1 = [(0, [L, generic])]) := by decide +kernel

/-- the load rule with the directory argument of `reload` lost (seeded change C07-m3): the cache directory inside
`ups_db/` is validated, the user's own files — just found not acceptable — are what is read -/
def loadStackWrongDir (w : World) (u : User) (self : Flav) (s : Nat) : Spec :=
  match tryCache w u self s with
  | some view => view
  | none =>
    match tryCache w sysUser self s, findCaches w u s (needed self) with
    | some _, some mine => unionAll (mine.map (·.c))
    | some view, none => view
    | none, _ => snapshot w.db s

/-- **The validated files are the ones to load** (negation witness for the rule above).  User 1 declares `p 1`
(current), user 2 declares `p 2`, `eups admin buildCache -A` refreshes the cache inside `ups_db/`: user 1's own cache
is older than the database, the stack-wide one is accepted.  The model's rule answers "p 2 is declared" as the files
do; validating the stack-wide files and reading user 1's does not. -/
theorem C07_validated_directory_is_loaded_witness :
    let w := runHistory (World.init 1 dirs) [.run 1 (declareCmd L [49]) none, .run 2 (declareCmd L [50]) none, .adminBuild 2 L]
    (tryCache w 1 L 0 = none ∧ (tryCache w sysUser L 0).isSome = true) ∧
    ((loadStack w 1 L 0).view.hasDecl 0 p [50] L = true ∧ w.db.hasDecl 0 p [50] L = true) ∧
    (loadStackWrongDir w 1 L 0).hasDecl 0 p [50] L = false := by decide +kernel

/-- the hypotheses of `C07_accepted_cache_agrees` are met by real cache files: after `declare p 1` the user's Linux
and generic caches of stack 0 exist and are accepted -/
example :
    let w := runHistory (World.init 1 dirs) [.run 1 (declareCmd L [49]) none]
    (w.caches.any fun cf => cf.stack == 0 && accepts w cf) = true := by decide +kernel

/-- a crash leaves the orphaned cache rejected: `declare p 1`, then `declare p 2` killed after
`Database.declare`: the cache of stack 0 is not accepted, and the rebuilt view holds both versions -/
example :
    let w := runHistory (World.init 1 dirs) [.run 1 (declareCmd L [49]) none, .run 1 (declareCmd L [50]) (some 1)]
    (w.caches.all fun cf => !(accepts w cf)) = true ∧ (viaCache w 1 L).hasDecl 0 p [50] L = true := by decide +kernel

/-- **The staleness test between live instances keeps the cache complete.**  From any world as single-process
histories leave it (`Start`: a cache file that is not older than the database is complete — `C07_cache_inv`), whichever
way each of the two instances is filled (the user's file, the stack-wide cache inside ups_db/, the database), and for
EVERY interleaving of their write-throughs (`Database` mutation, `ensureInSync`, write-through, `save`), their
`ensureInSync` calls and the commands of other well-behaved processes of the user — as long as nobody deletes the cache
file under them —: a cache file that is not older than the database holds the whole database.  So whatever a later
process accepts is complete.  With the rule of the tree before c9cb3dd this is false (`C07_live_instances_pinned_witness`). -/
theorem C07_live_instances_safe (s : CacheSync.St) (h : CacheSync.Start s) (sysOk : Bool) (evs : List CacheSync.Ev)
    (hnd : ∀ e ∈ evs, e ≠ .delete) :
    CacheSync.Safe (CacheSync.run true (CacheSync.load true sysOk (CacheSync.load true sysOk s false) true) evs) :=
  ((CacheSync.load2_inv h sysOk).run evs hnd).safe

/-- non-vacuity: the scenarios the check enumerates start from such a world -/
example : CacheSync.Start ⟨4, List.range 2, 2, none, ⟨none, []⟩, ⟨none, []⟩⟩ :=
  ⟨(by intro f hf; cases hf), (by decide), (by intro f hf; cases hf)⟩
example : CacheSync.Start ⟨4, List.range 2, 2, some ⟨1, List.range 1⟩, ⟨none, []⟩, ⟨none, []⟩⟩ :=
  ⟨(by intro f hf hfr; cases hf; exact absurd hfr (by decide)), (by decide), (by intro f hf; cases hf; decide)⟩

/-- **D60 (fixed c9cb3dd), the rule before the repair.**  Both instances read the stack-wide cache (no file of the
user yet); instance 1 writes, instance 0 writes: with the old rule instance 0 does not know the file instance 1 created
(`if file not in self.modtimes: return True`), saves its stale stack over it, and the file — newer than the database —
lacks the change of instance 1.  With the repaired rule the same schedule ends with the complete file. -/
theorem C07_live_instances_pinned_witness :
    let old := CacheSync.run false (CacheSync.init false 2 0 true) [.write true, .write false]
    let new := CacheSync.run true (CacheSync.init true 2 0 true) [.write true, .write false]
    (CacheSync.fresh old = true ∧ old.db = [0, 1, 2, 3] ∧ old.file.map (·.content) = some [0, 1, 3]) ∧
    (CacheSync.fresh new = true ∧ new.file.map (·.content) = some [0, 1, 2, 3]) := by decide +kernel

/-- **D61 (open): the hypothesis "nobody deletes the cache file under a live instance" is needed**, also with the
repaired rule: instance 1 writes, the file is deleted (`eups admin clearCache` elsewhere), instance 0 writes:
`FileNotFoundError` counts as "in sync", the stale stack is written through and saved as a fresh cache file that lacks
the change of instance 1. -/
theorem C07_live_instances_delete_witness :
    let s := CacheSync.run true (CacheSync.init true 2 2 false) [.write true, .delete, .write false]
    CacheSync.fresh s = true ∧ s.db = [0, 1, 2, 3] ∧ s.file.map (·.content) = some [0, 1, 3] := by decide +kernel

/-- **Two unserialised writers: another writer's whole command inside `ProductStack.reload`.**  Instance 1 reads the
user's up-to-date cache file while another process of the user changes the database and saves the file — before or
after instance 1's read (`readLate`), in any case after instance 1 has noted the file's time, which is the order of the
code.  Whatever follows (every interleaving of write-throughs, `ensureInSync` calls and other processes' commands, no
deletion): a cache file that is not older than the database is complete. -/
theorem C07_writer_inside_reload_safe (s : CacheSync.St) (h : CacheSync.Start s) (sysOk readLate : Bool)
    (f : CacheSync.File) (hf : s.file = some f) (hfr : s.dbTime ≤ f.mtime) (evs : List CacheSync.Ev)
    (hnd : ∀ e ∈ evs, e ≠ .delete) :
    CacheSync.Safe (CacheSync.run true (CacheSync.loadGate true readLate (CacheSync.load true sysOk s false)) evs) :=
  ((CacheSync.loadGate_inv h sysOk readLate f hf hfr).run evs hnd).safe

/-- the order matters: a `reload` that notes the time AFTER unpickling holds the old content under the other writer's
time; its next write-through is judged in sync and saved over the other writer's change (what `corpus/C07/
race_writer_inside_reload.json` exhibits on such a tree) -/
theorem C07_time_noted_after_read_witness :
    let s0 : CacheSync.St := ⟨4, List.range 2, 2, some ⟨3, List.range 2⟩, ⟨none, []⟩, ⟨none, []⟩⟩
    let bad := CacheSync.run true (CacheSync.loadGate false false (CacheSync.load true false s0 false)) [.write true]
    let good := CacheSync.run true (CacheSync.loadGate true false (CacheSync.load true false s0 false)) [.write true]
    (CacheSync.fresh bad = true ∧ bad.db = [0, 1, 2, 3] ∧ bad.file.map (·.content) = some [0, 1, 3]) ∧
    (CacheSync.fresh good = true ∧ good.file.map (·.content) = some [0, 1, 2, 3]) := by decide +kernel

/-- **Another writer inside a constructor that rebuilds.**  Instance 0 finds no usable cache (the user's file is missing
or older than the database, no stack-wide cache), scans the database, another process of the user declares and saves its
cache file, then instance 0 gets to its `save()` — which leaves the file alone, because its time was noted before the
scan (repair 03a1e94).  Instance 1 is constructed next.  Whatever follows (no deletion): a cache file that is not older
than the database is complete. -/
theorem C07_writer_inside_rebuild_safe (s : CacheSync.St) (h : CacheSync.Start s)
    (hstale : ∀ f, s.file = some f → f.mtime < s.dbTime) (evs : List CacheSync.Ev) (hnd : ∀ e ∈ evs, e ≠ .delete) :
    CacheSync.Safe (CacheSync.run true (CacheSync.load true false (CacheSync.rebuildGate true s) true) evs) :=
  ((CacheSync.rebuildGate_inv h).run evs hnd).safe

/-- **D62 (fixed 03a1e94), the constructor before the repair**: the files `save()` replaces are unknown to a stack that
was just created, so the scan of before the other writer's change goes over the other writer's file — newer than the
database, incomplete — and instance 1, constructed next, accepts it.  With the repair the same schedule keeps the
complete file. -/
theorem C07_writer_inside_rebuild_witness :
    let old := CacheSync.initRebuildGate false 2 0
    let new := CacheSync.initRebuildGate true 2 0
    (CacheSync.fresh old = true ∧ old.db = [0, 1, 2] ∧ old.file.map (·.content) = some [0, 1] ∧ old.i1.mem = [0, 1]) ∧
    (CacheSync.fresh new = true ∧ new.file.map (·.content) = some [0, 1, 2] ∧ new.i1.mem = [0, 1, 2]) := by decide +kernel

end EupsModel.C07
