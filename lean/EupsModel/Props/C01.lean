import EupsModel.Lemmas.SetupClear
import EupsModel.Lemmas.SetupPresent
import EupsModel.Lemmas.SetupLines
/-! C01 — setup yields a consistent environment with no residue of superseded versions (`EnvOK`).  Own `envSet` values are
covered by clause (c) but not by (b): two lines of one table, or two products, may set the same variable, and the last one
wins (oracle (ii) checks them under the generator's one-variable-per-product discipline). -/
namespace EupsModel.C01
open EupsModel.Setup

/-! ## clause (a): every record names a declared version, and `<P>_DIR` is that version's directory -/

theorem C01_dir_preserved (db : Db) (fuel : Nat) (fwd : Bool) (r : Request) (e : Setup.Env) (s' : St)
    (hok : DirOK db e)
    (h : (if fwd then runSetup db fuel r e else runUnsetup db fuel r e) = .ok s') : DirOK db s'.env :=
  run_subjInv db fuel fwd r e s' (fun _ _ => True) (DirOK db) (closedAt_true _)
    (dirOK_subjInv (r.cfg db)) trivial hok h

/-! ## clause (c): no residue -/

/-- unsetup direction: full (name cycles included) -/
theorem C01_unsetup_no_residue (db : Db) (fuel : Nat) (r : Request) (e : Setup.Env) (s' : St)
    (hown : WellOwned (r.cfg db) e) (hres : NoResidue Empty e) (h : runUnsetup db fuel r e = .ok s') :
    NoResidue Empty s'.env ∧ WellOwned (r.cfg db) s'.env ∧ s'.env.rec? r.name = none :=
  (runUnsetup_spec db fuel r e s' Empty hown hres h).imp_right (.imp_left hown.of_sub)

/-- forward direction under `NameDag` (D17 is the excluded class): from every residue-free environment eups produced
— populated ones, other versions of the same products set up, included — a successful request ends residue-free.  Diamonds,
version conflicts between siblings and failing optional dependencies are inside the claim. -/
theorem C01_no_residue_partial (db : Db) (rank : Name → Nat) (hdag : NameDag db rank) (fuel : Nat) (r : Request)
    (e : Setup.Env) (s' : St) (hown : WellOwned (r.cfg db) e) (hres : NoResidue Empty e)
    (h : runSetup db fuel r e = .ok s') : NoResidue Empty s'.env ∧ WellOwned (r.cfg db) s'.env :=
  runSetup_spec db rank hdag fuel r e s' hown hres h

/-! ## clause (b): the own path contributions of every set-up product are in place -/

/-- every set-up product has each own `envPrepend`/`envAppend` contribution of its table in place -/
def ContribsPresent (cfg : Cfg) (e : Setup.Env) : Prop := Present cfg (fun _ => False) e

theorem C01_contributions_present_partial (db : Db) (rank : Name → Nat) (hdag : NameDag db rank) (fuel : Nat)
    (fwd : Bool) (r : Request) (e : Setup.Env) (s' : St) (hown : WellOwned (r.cfg db) e) (hres : NoResidue Empty e)
    (hpres : ContribsPresent (r.cfg db) e)
    (h : (if fwd then runSetup db fuel r e else runUnsetup db fuel r e) = .ok s') :
    ContribsPresent (r.cfg db) s'.env :=
  setup_presSpec (r.cfg db) rank hdag (fun _ => False) (fun _ h => h.elim) (alreadyOK_init db e) hown hres hpres
    ((run_eq db fuel fwd r e).symm.trans h)

/-- clauses (a), (b), (c), and the environment is one eups produced under the request's setup type -/
structure EnvOK (cfg : Cfg) (e : Setup.Env) : Prop where
  dir : DirOK cfg.db e
  present : ContribsPresent cfg e
  noResidue : NoResidue Empty e
  wellOwned : WellOwned cfg e

/-- clauses 1–3 of C01, under `NameDag` -/
theorem C01_envOK_preserved_partial (db : Db) (rank : Name → Nat) (hdag : NameDag db rank) (fuel : Nat) (r : Request)
    (e : Setup.Env) (s' : St) (hok : EnvOK (r.cfg db) e) (h : runSetup db fuel r e = .ok s') :
    EnvOK (r.cfg db) s'.env := by
  obtain ⟨h1, h2⟩ := C01_no_residue_partial db rank hdag fuel r e s' hok.wellOwned hok.noResidue h
  exact ⟨C01_dir_preserved db fuel true r e s' hok.dir h,
         C01_contributions_present_partial db rank hdag fuel true r e s' hok.wellOwned hok.noResidue hok.present h, h1, h2⟩

/-! ## clause 4: an explicitly named version is the one set up -/

/-- the requested product is set up in the version the resolution order designates for the request (resolution run on
an empty `alreadySetupProducts`, as the top-level call does) — provided the requested name is not reachable from itself
(`NoSelfReach`: the weakest static form of "not requested in two versions along the traversal" for the requested
product; the rest of the database is arbitrary) -/
theorem C01_requested_version_partial (db : Db) (fuel : Nat) (r : Request) (hself : NoSelfReach db r.name)
    (e : Setup.Env) (s' : St) (h : runSetup db fuel r e = .ok s') :
    ∃ d reason, resolve db r.path r.keep [] r.name r.version none 0 r.vro.length r.vro = .found d reason ∧
      s'.env.rec? r.name = some d.ver := by
  obtain ⟨f, d, reason, s0, hch, hinst⟩ := runSetup_ok db fuel r e s' h
  -- the product cache is empty, so `pickDecl … d0` reduces to `d0`: the `rfl` pattern identifies it with `d`
  obtain ⟨_, hres, rfl⟩ := hch.found
  refine ⟨d, reason, hres, ?_⟩
  rw [← hch.name]
  exact install_top_record_noSelf (r.cfg db) f false r.vro _ reason hch.canon (by rw [hch.name]; exact hself) s0 s' hch.already
    hinst

/-- Clause 4 under `NoSelfReach` (`NameDag` implies it for every name: `noSelfReach_of_nameDag`).  Without it the statement
is false: `C01_explicit_version_self_witness`. -/
theorem C01_explicit_version_partial (db : Db) (fuel : Nat) (r : Request) (hself : NoSelfReach db r.name)
    (v : VStr) (hv : r.version = some (.explicit v)) (e : Setup.Env) (s' : St)
    (h : runSetup db fuel r e = .ok s') : ∃ k, s'.env.rec? r.name = some (v, k) := by
  obtain ⟨d, reason, hres, hrec⟩ := C01_requested_version_partial db fuel r hself e s' h
  rw [hv] at hres
  exact ⟨d.ver.2, by rw [hrec, ← resolve_explicit _ _ _ _ _ _ _ _ _ _ _ hres]⟩

theorem C01_explicit_version_nameDag (db : Db) (rank : Name → Nat) (hdag : NameDag db rank) (fuel : Nat)
    (r : Request) (v : VStr) (hv : r.version = some (.explicit v)) (e : Setup.Env) (s' : St)
    (h : runSetup db fuel r e = .ok s') : ∃ k, s'.env.rec? r.name = some (v, k) :=
  C01_explicit_version_partial db fuel r (noSelfReach_of_nameDag db rank hdag r.name) v hv e s' h

/-! ## D17: the full statement is false when a product name is reachable from one of its own versions -/

-- code points: products "t", "a", "b", "c"; versions "1", "2"; variables "P", "L"
def nTop : Name := [116]
def nA : Name := [97]
def nB : Name := [98]
def nC : Name := [99]
def v1 : Ver := ([49], 0)
def v2 : Ver := ([50], 0)
def PATH : Str := [80]
def ALATE : Str := [76]

/-- `top → a` (current `a 1`) `→ b → a 2`: the product-version graph is a DAG, the name graph has a cycle.
`a 1`: `envPrepend(PATH, $DIR/1); setupRequired(b); envPrepend(PATH, $DIR/2); envSet(L, $DIR)` -/
def dbD17 : Db :=
  { decls := [
      ⟨nTop, v1, [1], [(.always, .dep nA false false none none [] false)]⟩,
      ⟨nA, v1, [2], [(.always, .prepend PATH [.own [1]] false), (.always, .dep nB false false none none [] false),
                     (.always, .prepend PATH [.own [2]] false), (.always, .set ALATE (.own []))]⟩,
      ⟨nB, v1, [3], [(.always, .dep nA false false (some (.explicit v2.1)) none [] false)]⟩,
      ⟨nA, v2, [4], [(.always, .prepend PATH [.own [1]] false)]⟩ ],
    tags := [(tagCurrent, nTop, v1), (tagCurrent, nA, v1), (tagCurrent, nB, v1)] }

def reqTop : Request := ⟨nTop, none, false, none, false, [], [0]⟩

def envOf : Res → Option Setup.Env
  | .ok s => some s.env
  | _ => none

/-- From the empty environment `setup top` succeeds and ends with `SETUP_A = a 2`, while `PATH` still holds
`dir(a 1)/2`, `L = dir(a 1)`, and `b` — required by the set-up `a`… of version 1 — is not set up. -/
theorem C01_nested_switch_witness :
    envOf (runSetup dbD17 20 reqTop Setup.Env.empty) =
      some ⟨[(nA, v2), (nTop, v1)], [(nA, .own (nA, v2) []), (nTop, .own (nTop, v1) [])],
            [(PATH, [.own (nA, v1) [2], .own (nA, v2) [1]])], [(ALATE, .own (nA, v1) [])]⟩ := by
  decide +kernel

def tagBeta : Str := [98]  -- "b"

/-- `a 1`: `setupRequired(b)`; `b 1`: `setupRequired(a -t beta)`; `beta` names `a 2` (a line's own `-t` tag outranks the
version given on the command line) -/
def dbSelf : Db :=
  { decls := [⟨nA, v1, [2], [(.always, .dep nB false false none none [] false)]⟩,
              ⟨nB, v1, [3], [(.always, .dep nA false false none none [tagBeta] false)]⟩,
              ⟨nA, v2, [4], []⟩],
    tags := [(tagCurrent, nA, v1), (tagCurrent, nB, v1), (tagBeta, nA, v2)] }

/-- `NoSelfReach` cannot be dropped from clause 4: in `dbSelf` the name `a` reaches itself (`a 1 → b → a`); from the empty
environment `setup a 1` succeeds and ends with `SETUP_A = a 2` and nothing else set up (D17's class seen from clause 4). -/
theorem C01_explicit_version_self_witness :
    Within dbSelf nA 2 nA ∧
    (envOf (runSetup dbSelf 20 ⟨nA, some (.explicit v1.1), false, none, false, [], [0]⟩ Setup.Env.empty)).map
      (fun e => e.recs) = some [(nA, v2)] := by
  refine ⟨?_, by decide +kernel⟩
  have h1 : Within dbSelf nA 1 nB :=
    Within.step (d := ⟨nA, v1, [2], [(.always, .dep nB false false none none [] false)]⟩) (g := .always)
      (o := false) (j := false) (v := none) (x := none) (t := []) (kl := false) Within.root (by simp [dbSelf]) rfl (by simp)
  exact Within.step (d := ⟨nB, v1, [3], [(.always, .dep nA false false none none [tagBeta] false)]⟩) (g := .always)
    (o := false) (j := false) (v := none) (x := none) (t := [tagBeta]) (kl := false) h1 (by simp [dbSelf]) rfl (by simp)

/-! ## D34: an environment produced under one setup type is not `WellOwned` for a request of the other type -/

def AX : Str := [88]  -- "X"

/-- `a 1`: `envPrepend(PATH, $DIR/1); if (type == exact) { envPrepend(PATH, $DIR/2); envSet(X, $DIR) } else { envPrepend(PATH, $DIR/3) }` -/
def dbD34 : Db :=
  { decls := [
      ⟨nA, v1, [2], [(.always, .prepend PATH [.own [1]] false), (.exact, .prepend PATH [.own [2]] false),
                     (.exact, .set AX (.own [])), (.inexact, .prepend PATH [.own [3]] false)]⟩,
      ⟨nA, v2, [4], [(.always, .prepend PATH [.own [1]] false)]⟩ ],
    tags := [(tagCurrent, nA, v1)] }

/-- `setup a` (exact), then `setup --inexact a 2`: `a 1` is unwound under the inexact reading of its table; `dir(a 1)/2`
and `X = dir(a 1)` stay behind although `SETUP_A = a 2`.  The theorems' hypothesis `WellOwned (r.cfg db) e` (the prior
environment was produced under the request's setup type) is what excludes this history. -/
theorem C01_mixed_type_witness :
    ∃ e1, envOf (runSetup dbD34 10 ⟨nA, none, false, none, false, [], [0]⟩ Setup.Env.empty) = some e1 ∧
      envOf (runSetup dbD34 10 ⟨nA, some (.explicit v2.1), false, none, true, [], [0]⟩ e1) =
        some ⟨[(nA, v2)], [(nA, .own (nA, v2) [])], [(PATH, [.own (nA, v2) [1], .own (nA, v1) [2]])],
              [(AX, .own (nA, v1) [])]⟩ := by
  refine ⟨⟨[(nA, v1)], [(nA, .own (nA, v1) [])], [(PATH, [.own (nA, v1) [2], .own (nA, v1) [1]])],
           [(AX, .own (nA, v1) [])]⟩, ?_, ?_⟩ <;> decide +kernel

/-! ## D35: a replaced version unwinds a dependency the same request has just set up -/

/-- `top 1`: `setupRequired(c 2); setupRequired(a 2)`; `a 1`: `setupRequired(c)`; `a 2`, `c 1`, `c 2`: empty tables -/
def dbD35 : Db :=
  { decls := [
      ⟨nTop, v1, [1], [(.always, .dep nC false false (some (.explicit v2.1)) none [] false),
                       (.always, .dep nA false false (some (.explicit v2.1)) none [] false)]⟩,
      ⟨nA, v1, [2], [(.always, .dep nC false false none none [] false)]⟩,
      ⟨nA, v2, [3], []⟩,
      ⟨nC, v1, [4], []⟩,
      ⟨nC, v2, [5], []⟩ ],
    tags := [(tagCurrent, nTop, v1), (tagCurrent, nA, v1), (tagCurrent, nC, v1)] }

/-- With `a 1` and `c 1` set up, `setup top` switches `c` to 2 (first line), then replaces `a 1` by `a 2` (second line):
unwinding `a 1` unsets `c` — the `c 2` the first line has just set up — and the request succeeds without any `c`, although
`top`'s table requires it.  `C01_required_closure_partial` excludes this by `OneVersion` (no name of the closure has two
declared versions, so nothing is ever replaced). -/
theorem C01_replaced_version_witness :
    envOf (runSetup dbD35 20 reqTop
        ⟨[(nA, v1), (nC, v1)], [(nA, .own (nA, v1) []), (nC, .own (nC, v1) [])], [], []⟩) =
      some ⟨[(nA, v2), (nTop, v1)], [(nA, .own (nA, v2) []), (nTop, .own (nTop, v1) [])], [], []⟩ := by
  decide +kernel

/-! ## non-vacuity: a diamond that switches `c 1 → c 2` inside one request -/

/-- `top → a → c 1`, `top → b → c 2` -/
def dbDiamond : Db :=
  { decls := [
      ⟨nTop, v1, [1], [(.always, .dep nA false false none none [] false), (.always, .dep nB false false none none [] false)]⟩,
      ⟨nA, v1, [2], [(.always, .prepend PATH [.own [1]] false), (.always, .dep nC false false (some (.explicit v1.1)) none [] false)]⟩,
      ⟨nB, v1, [3], [(.always, .prepend PATH [.own [1]] false), (.always, .dep nC false false (some (.explicit v2.1)) none [] false)]⟩,
      ⟨nC, v1, [4], [(.always, .prepend PATH [.own [1]] false)]⟩,
      ⟨nC, v2, [5], [(.always, .prepend PATH [.own [1]] false)]⟩ ],
    tags := [(tagCurrent, nTop, v1), (tagCurrent, nA, v1), (tagCurrent, nB, v1), (tagCurrent, nC, v1)] }

/-- the request succeeds, `c` ends at version 2 and no element of `c 1` is left -/
theorem C01_nonvacuous :
    envOf (runSetup dbDiamond 20 reqTop Setup.Env.empty) =
      some ⟨[(nC, v2), (nB, v1), (nA, v1), (nTop, v1)],
            [(nC, .own (nC, v2) []), (nB, .own (nB, v1) []), (nA, .own (nA, v1) []), (nTop, .own (nTop, v1) [])],
            [(PATH, [.own (nC, v2) [1], .own (nB, v1) [1], .own (nA, v1) [1]])], []⟩ := by
  decide +kernel

/-! ## clause 5 (closure): the two halves that are theorems

The full clause (the set of products set up is *exactly* the dependency closure, each at its designated version, when no
product is requested in two versions) is evaluated on the implementation by oracle (ii). -/

/-- the "exact closure" half for every prior environment: a product that is set up after a successful request either was
set up before in that very version, or is reachable from the requested product through dependency lines — nothing outside
the closure is *newly* set up or switched. -/
theorem C01_closure_sound_populated (db : Db) (fuel : Nat) (r : Request) (e : Setup.Env) (s' : St)
    (h : runSetup db fuel r e = .ok s') :
    ∀ m v, s'.env.rec? m = some v → e.rec? m = some v ∨ ∃ k, Within db r.name k m := by
  intro m v hm
  by_cases hno : ∃ k, Within db r.name k m
  · exact Or.inr hno
  · left
    rw [← (run_subjInv db fuel true r e s' (fun _ n => ∃ k, Within db r.name k n) (SameFor m e)
      (within_closedAt_unbounded (r.cfg db) r.name) (sameFor_subjInv (r.cfg db) _ m (fun _ h => hno h) e)
      ⟨0, Within.root⟩ (SameFor.refl m e) h).record]
    exact hm

theorem C01_closure_sound (db : Db) (fuel : Nat) (r : Request) (e : Setup.Env) (s' : St)
    (hclean : ∀ n, e.rec? n = none) (h : runSetup db fuel r e = .ok s') :
    ∀ m v, s'.env.rec? m = some v → ∃ k, Within db r.name k m := by
  intro m v hm
  rcases C01_closure_sound_populated db fuel r e s' h m v hm with h0 | h0
  · rw [hclean m] at h0; cases h0
  · exact h0

/-- the required half of the closure, for closures without `-j`, version conflicts (`OneVersion`) and `max_depth`: after a
successful request for a product that was not set up, every `setupRequired` line of the table of every set-up product of the
closure has its target set up (from an environment where this held), and the requested product is set up.  With
`C01_closure_sound`: the products set up lie between the required closure and the reach of the request; which *optional*
dependencies are in is decided by whether they can be resolved (oracle (ii)). -/
theorem C01_required_closure_partial (db : Db) (fuel : Nat) (r : Request) (e : Setup.Env) (s' : St)
    (hmd : r.maxDepth = none) (hnj : NoJust db (fun n => ∃ k, Within db r.name k n))
    (hone : OneVersion db (fun n => ∃ k, Within db r.name k n))
    (hdecl : RecsDeclared db e) (hnot : setupProd db e r.name = none)
    (hsat : ReqSat (r.cfg db) (fun n => ∃ k, Within db r.name k n) (fun _ => False) e)
    (h : runSetup db fuel r e = .ok s') :
    ReqSat (r.cfg db) (fun n => ∃ k, Within db r.name k n) (fun _ => False) s'.env ∧ ∃ w, s'.env.rec? r.name = some w := by
  obtain ⟨h1, _, _, h4⟩ := setup_req (r.cfg db) _ hmd (within_closed db r.name) hnj hone (fun _ => False) (s := St.init e)
    ⟨0, Within.root⟩ (Or.inr hnot) (alreadyOK_init db e) hdecl hsat h
  exact ⟨h1, h4⟩

/-! ## the hypotheses are satisfiable: the diamond database is a `NameDag`, the empty environment is `EnvOK` -/

def rankDiamond (n : Name) : Nat := if n = nTop then 3 else if n = nA ∨ n = nB then 2 else if n = nC then 1 else 0

example : NameDag dbDiamond rankDiamond := nameDag_of_check _ _ (by decide +kernel)

example (cfg : Cfg) : EnvOK cfg Setup.Env.empty :=
  ⟨by intro n v h; simp [Setup.Env.empty, Setup.Env.rec?, aget] at h,
   by intro n v _ h; simp [Setup.Env.empty, Setup.Env.rec?, aget] at h,
   ⟨by intro v p r h; simp [Setup.Env.empty, Setup.Env.pathOf, aget] at h,
    by intro v p r h; simp [Setup.Env.empty, aget] at h, by intro n p r h; simp [Setup.Env.empty, aget] at h⟩,
   ⟨by intro v p r h; simp [Setup.Env.empty, Setup.Env.pathOf, aget] at h,
    by intro v p r h; simp [Setup.Env.empty, aget] at h, by intro n p r h; simp [Setup.Env.empty, aget] at h⟩⟩

end EupsModel.C01
