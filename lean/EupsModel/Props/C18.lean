import EupsModel.Lemmas.Manifest
import EupsModel.Lemmas.ManifestMapping
import EupsModel.Lemmas.ManifestServer
import EupsModel.Lemmas.Str
/-! C18 — distribution manifests and tag lists round-trip and keep install order; remap.  Property theorems, and six
predicates their statements are read with, each defined above the first theorem that mentions it (`WFList`, `DummyTrigger`,
`OneToOne`, `Explicit`, `NoAny`, `freshFile`); model: `Model/Manifest.lean`, helper lemmas: `Lemmas/Manifest.lean`,
`Lemmas/ManifestMapping.lean`, `Lemmas/ManifestServer.lean`, all three over `Lemmas/ManifestText.lean`.

Reading.  A *word* (`Tok`) is a non-empty string without white space in Python's sense; the round trip is claimed for
`DepOk` entries: words where the format has a column, the distribution id not one of the reserved `None`, `search`.
A missing table file or directory is written and read back as the text `none`; a missing flavor is written as
`flavor=` or the native flavor (`roundDep`).  Code points: 10, 13 = LF, CR; `[97]`… = `a`…, `[49]`… = `1`… -/
namespace EupsModel.C18
open EupsModel.Manifest

/-- **C18, manifests (core).**  For every dependency list — any length and order, mixed flavors, optional entries,
missing table files, directories and distribution ids — whose written entries are `DepOk`, every `flavor=` argument,
both values of `noOptional` and any comment block: the manifest that `Manifest.write` produces is read back by
`Manifest.read` as the written entries, in the same order, each with the same product, version, table file,
directory and distribution id, and with the flavor it was written with. -/
theorem C18_manifest_roundtrip (o : WriteOpts) (comments : List Str) (m : Manifest) (recurse : Bool)
    (hn : Tok o.native) (ho : OptTok o.flavor)
    (hprod : ∀ s, m.product = some s → Tok s) (hver : ∀ s, m.version = some s → Tok s)
    (hc : ∀ l ∈ comments, isBlankOrComment l = true ∧ ∀ c ∈ l, c ≠ 10 ∧ c ≠ 13)
    (hd : ∀ p ∈ written o m, DepOk p) :
    read false recurse (write o comments m) =
      .ok { product := some (m.product.getD sUNKNOWN), version := some (m.version.getD sGeneric),
            deps := (written o m).map (roundDep o recurse) } :=
  manifest_read_write false o comments m recurse hn ho hprod hver hc hd

/-- the products come back in install order -/
theorem C18_manifest_same_order (o : WriteOpts) (comments : List Str) (m : Manifest) (recurse : Bool)
    (hn : Tok o.native) (ho : OptTok o.flavor)
    (hprod : ∀ s, m.product = some s → Tok s) (hver : ∀ s, m.version = some s → Tok s)
    (hc : ∀ l ∈ comments, isBlankOrComment l = true ∧ ∀ c ∈ l, c ≠ 10 ∧ c ≠ 13)
    (hd : ∀ p ∈ written o m, DepOk p) :
    ∃ m', read false recurse (write o comments m) = .ok m' ∧
      m'.deps.map (fun p => (p.product, p.version, p.distId)) =
        (written o m).map (fun p => (p.product, p.version, p.distId)) := by
  refine ⟨_, C18_manifest_roundtrip o comments m recurse hn ho hprod hver hc hd, ?_⟩
  simp [List.map_map, Function.comp_def, roundDep]

/-- with `noOptional=False` (as `Distrib.writeManifest` calls it) every entry is written -/
theorem C18_manifest_all_written (o : WriteOpts) (m : Manifest) (h : o.noOptional = false) : written o m = m.deps := by
  simp [written, h]

/-- an entry with a flavor of its own keeps it when no `flavor=` is given (the repaired D13) -/
theorem C18_manifest_keeps_flavor (o : WriteOpts) (p : Dep) (f : Str) (ho : falsy o.flavor = true)
    (hf : p.flavor = some f) (hne : f ≠ []) : flavorCol o p = f := by
  simp [flavorCol, ho, hf, falsy_some hne]

/-- Non-vacuity, under a comment line. -/
example :
    let d1 : Dep := { product := Str.ofString "python", version := Str.ofString "2.6.2", flavor := some (Str.ofString "DarwinX86"),
                      tablefile := some (Str.ofString "python.table"), instDir := some (Str.ofString "DarwinX86/python/2.6.2"),
                      distId := some (Str.ofString "python-2.6.2.tar.gz") }
    let d2 : Dep := { product := Str.ofString "afw", version := Str.ofString "1.0", flavor := none, tablefile := none, instDir := none,
                      distId := none, isOpt := true }
    let m : Manifest := { product := some (Str.ofString "top"), version := none, deps := [d1, d2] }
    let o : WriteOpts := { noOptional := false, native := Str.ofString "Linux" }
    (read false false (write o [Str.ofString "# pkg flavor"] m)).toOption =
      some { product := some (Str.ofString "top"), version := some (Str.ofString "generic"),
             deps := [{ d1 with }, { product := Str.ofString "afw", version := Str.ofString "1.0", flavor := some (Str.ofString "Linux"),
                                     tablefile := some (Str.ofString "none"), instDir := some (Str.ofString "none"), distId := none }] } := by
  repeat rw [Str.ofString_ofList]
  intro d1 d2 m o
  rw [C18_manifest_roundtrip o _ m false (by decide +kernel) (by decide +kernel) (by decide +kernel) (by decide +kernel)
    (by decide +kernel) (by decide +kernel)]
  decide +kernel

/-- **D13, pinned tree (negation witnesses).**  The pinned writer (`if not flavor: p.flavor = flavor`) writes the
native flavor for an entry that has its own ... -/
theorem C18_flavor_pinned_witness :
    let d : Dep := { product := [112], version := [49], flavor := some (Str.ofString "DarwinX86"), tablefile := none,
                     instDir := none, distId := some [120] }
    let o : WriteOpts := { native := Str.ofString "Linux" }
    flavorColPinned o d = Str.ofString "Linux" ∧ flavorCol o d = Str.ofString "DarwinX86" ∧
      flavorColPinned { o with flavor := some (Str.ofString "Linux64") } d = Str.ofString "DarwinX86" ∧
      flavorCol { o with flavor := some (Str.ofString "Linux64") } d = Str.ofString "Linux64" := by
  decide_lit

/-- ... and the pinned `Dependency.__init__` (`distId == None`) keeps the text `None` as a distribution id. -/
theorem C18_distid_pinned_witness :
    let d : Dep := { product := [112], version := [49], flavor := none, tablefile := none, instDir := none, distId := none }
    let m : Manifest := { product := some [116], version := some [49], deps := [d] }
    let o : WriteOpts := { native := Str.ofString "Linux" }
    (read true false (write o [] m)).toOption.map (fun m' => m'.deps.map (·.distId)) = some [some (Str.ofString "None")] ∧
      (read false false (write o [] m)).toOption.map (fun m' => m'.deps.map (·.distId)) = some [none] := by
  repeat rw [Str.ofString_ofList]
  intro d m o
  have h := fun pinned => manifest_read_write pinned o [] m false (by decide +kernel) (by decide +kernel)
    (by decide +kernel) (by decide +kernel) (by decide +kernel) (by decide +kernel)
  rw [h true, h false]
  decide +kernel

/-- **C18, tag lists: same entries, in sorted order.**  A tagged-release list written by `TaggedProductList.write`
(with or without `flavor=`) and read by a reader of flavor `F` yields, for the products in *sorted* order, exactly
the entries whose flavor is `F` or `generic` (which stands for `F`), each with its version and extra words. -/
theorem C18_taglist_roundtrip (t : TagList) (fa : Option Str) (F : Str) (comments : List Str)
    (htag : ∀ c ∈ t.tag, c ≠ 10 ∧ c ≠ 13)
    (hc : ∀ l ∈ comments, isBlankOrComment l = true ∧ ∀ c ∈ l, c ≠ 10 ∧ c ≠ 13)
    (hnd : t.products.Nodup)
    (hok : ∀ p ∈ t.products, TagEntryOk fa p ((assocGet t.info p).getD [])) :
    ∃ r, (TagList.empty t.tag (some F)).read (t.write fa comments) = .ok r ∧
      r.getProducts = (sortStrs t.products).filterMap (fun p => keepEntry fa F p ((assocGet t.info p).getD [])) := by
  obtain ⟨r, hr, hg⟩ := TagList.read_write t fa F comments (TagList.empty t.tag (some F)) rfl
    ⟨rfl, rfl, List.nodup_nil⟩ (fun _ _ h => nomatch h) htag hc hnd hok
  exact ⟨r, hr, by simpa [TagList.getProducts, TagList.empty] using hg⟩

/-- the same *set* of entries as the list held for that reader (in some order) -/
theorem C18_taglist_same_entries (t : TagList) (fa : Option Str) (F : Str) (comments : List Str)
    (htag : ∀ c ∈ t.tag, c ≠ 10 ∧ c ≠ 13)
    (hc : ∀ l ∈ comments, isBlankOrComment l = true ∧ ∀ c ∈ l, c ≠ 10 ∧ c ≠ 13)
    (hnd : t.products.Nodup)
    (hok : ∀ p ∈ t.products, TagEntryOk fa p ((assocGet t.info p).getD [])) :
    ∃ r, (TagList.empty t.tag (some F)).read (t.write fa comments) = .ok r ∧
      r.getProducts.Perm (t.products.filterMap (fun p => keepEntry fa F p ((assocGet t.info p).getD []))) := by
  obtain ⟨r, hr, hg⟩ := C18_taglist_roundtrip t fa F comments htag hc hnd hok
  exact ⟨r, hr, hg ▸ (sortStrs_perm t.products).filterMap _⟩

/-- **"same order", partial** — hypothesis: the products were added in sorted order. -/
theorem C18_taglist_order_partial (t : TagList) (fa : Option Str) (F : Str) (comments : List Str)
    (htag : ∀ c ∈ t.tag, c ≠ 10 ∧ c ≠ 13)
    (hc : ∀ l ∈ comments, isBlankOrComment l = true ∧ ∀ c ∈ l, c ≠ 10 ∧ c ≠ 13)
    (hnd : t.products.Nodup)
    (hok : ∀ p ∈ t.products, TagEntryOk fa p ((assocGet t.info p).getD []))
    (hsorted : SortedAdj t.products) :
    ∃ r, (TagList.empty t.tag (some F)).read (t.write fa comments) = .ok r ∧
      r.getProducts = t.products.filterMap (fun p => keepEntry fa F p ((assocGet t.info p).getD [])) := by
  obtain ⟨r, hr, hg⟩ := C18_taglist_roundtrip t fa F comments htag hc hnd hok
  exact ⟨r, hr, by rw [hg, sortStrs_sorted_id _ hsorted]⟩

/-- Non-vacuity; the reader drops the entry of another flavor. -/
example :
    let t := (((TagList.empty (Str.ofString "current") (some (Str.ofString "Linux"))).addProduct (Str.ofString "afw")
      (Str.ofString "1.0") none []).addProduct (Str.ofString "boost") (Str.ofString "2") (some (Str.ofString "generic"))
      [Str.ofString "x"]).addProduct (Str.ofString "cfitsio") (Str.ofString "3") (some (Str.ofString "DarwinX86")) []
    ((TagList.empty (Str.ofString "current") (some (Str.ofString "Linux"))).read (t.write none [])).toOption.map
        TagList.getProducts =
      some [[Str.ofString "afw", Str.ofString "Linux", Str.ofString "1.0"],
            [Str.ofString "boost", Str.ofString "Linux", Str.ofString "2", Str.ofString "x"]] := by
  repeat rw [Str.ofString_ofList]
  intro t
  obtain ⟨r, hr, hg⟩ := C18_taglist_roundtrip t none _ [] (by decide +kernel) (by decide +kernel) (by decide +kernel)
    (by decide +kernel)
  -- `t.tag` is the tag of the reader only after unfolding `t`
  erw [hr]
  simp only [Except.toOption, Option.map_some, hg]
  decide +kernel

/-- **D14 (negation witness): the unrestricted "same order" clause is false** — `python` added before `afw` comes
back after it. -/
theorem C18_taglist_order_witness :
    let t := ((TagList.empty (Str.ofString "current") (some (Str.ofString "Linux"))).addProduct (Str.ofString "python")
      (Str.ofString "2.6") none []).addProduct (Str.ofString "afw") (Str.ofString "1.0") none []
    t.getProducts.map (·.head?) = [some (Str.ofString "python"), some (Str.ofString "afw")] ∧
      ((TagList.empty (Str.ofString "current") (some (Str.ofString "Linux"))).read (t.write none [])).toOption.map
        (fun r => r.getProducts.map (·.head?)) = some [some (Str.ofString "afw"), some (Str.ofString "python")] := by
  repeat rw [Str.ofString_ofList]
  intro t
  obtain ⟨r, hr, hg⟩ := C18_taglist_roundtrip t none _ [] (by decide +kernel) (by decide +kernel) (by decide +kernel)
    (by decide +kernel)
  erw [hr]
  simp only [Except.toOption, Option.map_some, hg]
  decide +kernel

/-- **C18, remap touches exactly the entries it names (frame part).**  Whatever the rules (any number, any order,
any flavors, overwriting or not): entries of products that no rule mentions come through `remapEntries`' loop
untouched and in place — the result is the list filtered and rewritten by a function that is the identity on them. -/
theorem C18_remap_exact (rules : List Rule) (fl : Str) (deps : List Dep) :
    ∃ g : Dep → Option Dep, remapDeps (buildMapping false rules) fl deps = deps.filterMap g ∧
      ∀ p, (∀ r ∈ rules, r.inP ≠ p.product) → g p = some p := by
  refine ⟨_, rfl, ?_⟩
  intro p hp
  simp [apply_unmentioned false rules p.product p.version fl hp]

/-- in particular a list none of whose products is mentioned is returned as it is -/
theorem C18_remap_unmentioned_list (rules : List Rule) (fl : Str) (deps : List Dep)
    (h : ∀ p ∈ deps, ∀ r ∈ rules, r.inP ≠ p.product) : remapDeps (buildMapping false rules) fl deps = deps := by
  obtain ⟨g, hg, hid⟩ := C18_remap_exact rules fl deps
  rw [hg]
  exact filterMap_id_on g deps (fun p hp => hid p (h p hp))

/-- **replace / rename.**  The rule `P:V  [Q:]W` maps `P V` to `Q W` (to `P W` without `Q`) for every flavor ... -/
theorem C18_remap_rule_names (P V : Str) (outP : Option Str) (W fl : Str) (hW : W ≠ []) (hnr : lowerAscii W ≠ sNoreinstall) :
    (buildMapping false [{ inP := P, inV := V, outP := outP, outV := some W, flavor := sGeneric }]).apply P V fl =
      (if falsy outP then P else outP.getD [], some W) := by
  rw [single_rule_apply P V outP (some W) V fl (by rintro _ ⟨⟩; exact ⟨hW, hnr⟩), if_pos (Or.inl rfl)]

/-- ... and leaves every other version of `P` alone (`V` an explicit version). -/
theorem C18_remap_rule_other_version (P V V' : Str) (outP : Option Str) (W fl : Str) (hW : W ≠ [])
    (hnr : lowerAscii W ≠ sNoreinstall) (hV : V' ≠ V) (hany : V ≠ sAny) :
    (buildMapping false [{ inP := P, inV := V, outP := outP, outV := some W, flavor := sGeneric }]).apply P V' fl =
      (P, some V') := by
  rw [single_rule_apply P V outP (some W) V' fl (by rintro _ ⟨⟩; exact ⟨hW, hnr⟩),
    if_neg (not_or.mpr ⟨Ne.symm hV, hany⟩)]

/-- **delete (repaired D25).**  The rule `P:V None` removes `P V` ... -/
theorem C18_remap_rule_deletes (P V fl : Str) :
    (buildMapping false [{ inP := P, inV := V, outP := none, outV := none, flavor := sGeneric }]).apply P V fl =
      (P, none) := by
  rw [single_rule_apply P V none none V fl (by simp), if_pos (Or.inl rfl)]
  rfl

/-- ... and no other version of `P`. -/
theorem C18_remap_rule_deletes_only (P V V' fl : Str) (hV : V' ≠ V) (hany : V ≠ sAny) :
    (buildMapping false [{ inP := P, inV := V, outP := none, outV := none, flavor := sGeneric }]).apply P V' fl =
      (P, some V') := by
  rw [single_rule_apply P V none none V' fl (by simp), if_neg (not_or.mpr ⟨Ne.symm hV, hany⟩)]

/-- **D25, pinned tree (negation witness):** `eigen:1.0 None` also removed `eigen 2.0`. -/
theorem C18_delete_pinned_witness :
    let r : Rule := { inP := Str.ofString "eigen", inV := Str.ofString "1.0", outP := none, outV := none, flavor := sGeneric }
    (buildMapping true [r]).apply (Str.ofString "eigen") (Str.ofString "2.0") (Str.ofString "Linux") =
        (Str.ofString "eigen", none) ∧
      (buildMapping false [r]).apply (Str.ofString "eigen") (Str.ofString "2.0") (Str.ofString "Linux") =
        (Str.ofString "eigen", some (Str.ofString "2.0")) := by
  decide_lit

/-- **D24/D26, pinned tree (negation witness):** `[create]afwdata None` in manifest.remap removed afwdata from a
manifest remapped with `mode=None`; the repaired reader applies the line only in mode `create`. -/
theorem C18_mode_pinned_witness :
    let d1 : Dep := { product := Str.ofString "afwdata", version := Str.ofString "1.0", flavor := none, tablefile := none,
                      instDir := none, distId := none }
    let d2 : Dep := { product := Str.ofString "python", version := Str.ofString "2.6", flavor := none, tablefile := none,
                      instDir := none, distId := none }
    let files := [[Str.ofString "[create]afwdata              None"]]
    remapEntriesPinned {} none files (Str.ofString "Linux") [d1, d2] = some [d2] ∧
      remapEntries {} none files (Str.ofString "Linux") [d1, d2] = some [d1, d2] ∧
      remapEntries {} (some (Str.ofString "create")) files (Str.ofString "Linux") [d1, d2] = some [d2] := by
  decide_lit

/-- **D59, pinned tree (negation witness):** `remapEntries()` without a mapping argument merged the rules of
`manifest.remap` into its shared default argument.  After a first call that read `afw:1.0 5.0`, a second call on
another manifest, whose `manifest.remap` names nothing, still replaced `afw 1.0` by `afw 5.0`; the repaired call
(fresh default per call) leaves the manifest alone. -/
theorem C18_default_mapping_pinned_witness :
    let d1 : Dep := { product := Str.ofString "afw", version := Str.ofString "1.0", flavor := none, tablefile := none,
                      instDir := none, distId := none }
    let d2 : Dep := { product := Str.ofString "python", version := Str.ofString "2.6", flavor := none, tablefile := none,
                      instDir := none, distId := none }
    let fl := Str.ofString "Linux"
    let first := remapEntriesDefaultPinned {} none [[Str.ofString "afw:1.0   5.0"]] fl [d1]
    (first.bind fun r => (remapEntriesDefaultPinned r.2 none [[Str.ofString "# nothing to remap"]] fl [d1, d2]).map
        fun x => x.1.map fun d => (d.product, d.version)) =
        some [(Str.ofString "afw", Str.ofString "5.0"), (Str.ofString "python", Str.ofString "2.6")] ∧
      remapEntries {} none [[Str.ofString "# nothing to remap"]] fl [d1, d2] = some [d1, d2] := by
  decide_lit

/-! ## a manifest as a live object: install order under `reverse`, `roll`, `getDependency` -/

/-- **`reverse` twice restores the install order.** -/
theorem C18_manifest_reverse_involutive (m : Manifest) : m.reverse.reverse = m := by
  simp [Manifest.reverse]

/-- **`roll(n)` followed by `roll(-n)` restores the install order** (every `n ≥ 0`, every manifest). -/
theorem C18_manifest_roll_back (m : Manifest) (n : Nat) : (m.roll (n : Int)).roll (-(n : Int)) = m := by
  cases n with
  | zero => simp [Manifest.roll, rollList, iter]
  | succ k =>
    have h1 : ¬ (((k + 1 : Nat) : Int) < 0) := by omega
    have h2 : (-((k + 1 : Nat) : Int)) < 0 := by omega
    simp only [Manifest.roll, rollList, h1, h2, if_false, if_true, Int.natAbs_neg, Int.natAbs_natCast]
    rw [iter_cancel rollRight1_rollLeft1]

/-- `roll` keeps every entry and adds none: the rolled list has the same members -/
theorem C18_manifest_roll_keeps_entries (m : Manifest) (n : Int) (d : Dep) :
    d ∈ (m.roll n).deps ↔ d ∈ m.deps := by
  simp only [Manifest.roll, rollList]
  split
  · exact mem_iter _ (fun l => mem_rollRight1 d l) _ _
  · exact mem_iter _ (fun l => mem_rollLeft1 d l) _ _

/-- `getDependency(product)` with the default `which = -1` is the *last* entry of that product (install order) -/
theorem C18_manifest_getDependency_last (m : Manifest) (p : Str) :
    m.getDependency p none none (-1) = (m.deps.filter fun d => d.product == p).getLast? := by
  unfold Manifest.getDependency
  simp only [Option.isNone_none, Bool.true_or, Bool.and_true]
  generalize m.deps.filter (fun d => d.product == p) = out
  cases out with
  | nil => rfl
  | cons x r =>
    -- `-1` is a legal Python index of a non-empty list, and `len + -1` its last position
    have hn : ¬ ((-1 : Int) ≥ ((x :: r).length : Int)) := by omega
    have hn2 : ¬ ((-1 : Int) < -((x :: r).length : Int)) := by simp only [List.length_cons]; omega
    have e : (((x :: r).length : Int) + -1).toNat = (x :: r).length - 1 := by omega
    simp only [List.isEmpty_cons, hn, hn2, e, List.getLast?_eq_getElem?, decide_false, Bool.or_false, Bool.false_eq_true,
      if_false, show ¬ ((-1 : Int) ≥ 0) by omega]

/-- Non-vacuity: rolled by 1 and by -1; two entries of `b`. -/
example :
    let dep := fun (p v : String) => mkDep (Str.ofString p) (Str.ofString v) none none none none false false []
    let m : Manifest := { product := none, version := none, deps := [dep "a" "1", dep "b" "1", dep "c" "1", dep "b" "2"] }
    (m.roll 1).deps.map (·.product) = ["b", "c", "b", "a"].map Str.ofString ∧
      (m.roll (-1)).deps.map (·.product) = ["b", "a", "b", "c"].map Str.ofString ∧
      (m.getDependency (Str.ofString "b") none none (-1)).map (·.version) = some (Str.ofString "2") ∧
      (m.getDependency (Str.ofString "b") none none 0).map (·.version) = some (Str.ofString "1") ∧
      m.getDependency (Str.ofString "b") none none 2 = none := by
  decide_lit

/-! ## the writers of the distrib types (`Repository.create` always passes `flavor=self.flavor`) -/

/-- **Through the tarball writer every entry keeps its own flavor, whatever `flavor=` it is called with.**  The
tarball type forces `flavor=None` before it calls `Manifest.write`: the text it deploys is the text written without
a `flavor=` argument, and the flavor column of every entry that has a flavor of its own is that flavor — a `generic`
dependency among `Linux` binaries stays `generic`. -/
theorem C18_tarball_writer_keeps_flavors (o : WriteOpts) (m : Manifest) :
    distribWriteManifest .tarball o m = distribWriteManifest .tarball { o with flavor := none } m ∧
      ∀ p f, p.flavor = some f → f ≠ [] → flavorCol (writerOpts .tarball o) (distribTable p) = f := by
  refine ⟨rfl, ?_⟩
  intro p f hf hne
  exact C18_manifest_keeps_flavor (writerOpts .tarball o) (distribTable p) f rfl (by simp [distribTable, hf]) hne

/-- the tarball writer's manifest is read back entry by entry with the flavors written (instance of the round trip) -/
theorem C18_tarball_writer_roundtrip (o : WriteOpts) (m : Manifest) (recurse : Bool)
    (hn : Tok o.native)
    (hprod : ∀ s, m.product = some s → Tok s) (hver : ∀ s, m.version = some s → Tok s)
    (hd : ∀ p ∈ written (writerOpts .tarball o) { m with deps := m.deps.map distribTable }, DepOk p) :
    read false recurse (distribWriteManifest .tarball o m) =
      .ok { product := some (m.product.getD sUNKNOWN), version := some (m.version.getD sGeneric),
            deps := (written (writerOpts .tarball o) { m with deps := m.deps.map distribTable }).map
              (roundDep (writerOpts .tarball o) recurse) } :=
  C18_manifest_roundtrip (writerOpts .tarball o) [] { m with deps := m.deps.map distribTable } recurse
    hn (Or.inl rfl) hprod hver (fun _ hl => nomatch hl) hd

/-- **The other writers forward the keyword (witness of the difference):** the same mixed-flavor manifest written with
`flavor=Linux` — through the tarball writer `scons` stays `generic`, through `DefaultDistrib.writeManifest` (builder,
pacman, eupspkg) `Manifest.write(flavor="Linux")` sets it to `Linux`. -/
theorem C18_default_writer_forwards_flavor_witness :
    let d1 : Dep := { product := Str.ofString "scons", version := Str.ofString "2.0", flavor := some sGeneric,
                      tablefile := none, instDir := none, distId := some (Str.ofString "scons-2.0.tar.gz") }
    let d2 : Dep := { product := Str.ofString "afw", version := Str.ofString "1.0", flavor := some (Str.ofString "Linux"),
                      tablefile := some (Str.ofString "afw.table"), instDir := some (Str.ofString "Linux/afw/1.0"),
                      distId := some (Str.ofString "afw-1.0.tar.gz") }
    let m : Manifest := { product := some (Str.ofString "top"), version := some (Str.ofString "1.0"), deps := [d1, d2] }
    let o : WriteOpts := { flavor := some (Str.ofString "Linux"), native := Str.ofString "Linux" }
    let t1 : Dep := { d1 with tablefile := some (Str.ofString "none"), instDir := some (Str.ofString "none") }
    let t2 : Dep := { d2 with tablefile := some (Str.ofString "afw-1.0.table") }
    (read false false (distribWriteManifest .tarball o m)).toOption =
        some { product := some (Str.ofString "top"), version := some (Str.ofString "1.0"), deps := [t1, t2] } ∧
      (read false false (distribWriteManifest .default o m)).toOption =
        some { product := some (Str.ofString "top"), version := some (Str.ofString "1.0"),
               deps := [{ t1 with flavor := some (Str.ofString "Linux") }, t2] } := by
  repeat rw [Str.ofString_ofList]
  intro d1 d2 m o t1 t2
  unfold distribWriteManifest
  rw [C18_manifest_roundtrip _ [] _ false (by decide +kernel) (by decide +kernel) (by decide +kernel) (by decide +kernel)
      (by decide +kernel) (by decide +kernel),
    C18_manifest_roundtrip _ [] _ false (by decide +kernel) (by decide +kernel) (by decide +kernel) (by decide +kernel)
      (by decide +kernel) (by decide +kernel)]
  decide +kernel

/-! ## `Distrib._createDeps`: the dependency manifest is in install order -/

/-- **The product being packaged comes last.**  Whatever the dependency list: when `_createDeps` succeeds, the last
entry of the manifest is the top product itself (it is added first and `roll()` takes it to the end), and the entries
before it are exactly the listed dependencies, deepest first. -/
theorem C18_createdeps_top_last (top : Str × Str) (deps : List DepReq) (l : List (Str × Str × Bool))
    (h : createDepsOrder top deps = some l) :
    ∃ ds, listDeps (sortByDepth deps) = some ds ∧ l = ds ++ [(top.1, top.2, false)] := by
  unfold createDepsOrder at h
  cases hd : listDeps (sortByDepth deps) with
  | none => simp [hd] at h
  | some ds =>
    simp only [hd, Option.map_some, Option.some.injEq] at h
    refine ⟨ds, rfl, ?_⟩
    rw [← h]
    simp [rollList, iter, rollLeft1]

/-- the sort by depth is stable and deepest first (a diamond with an optional leaf); a missing required dependency fails -/
example :
    let d := fun (n : String) (depth : Nat) (opt : Bool) (found : Option String) =>
      ({ name := Str.ofString n, version := Str.ofString "1", optional := opt, depth := depth, found := found.map Str.ofString } : DepReq)
    createDepsOrder (Str.ofString "top", Str.ofString "1")
        [d "a" 2 false (some "1"), d "b" 2 false (some "1"), d "c" 3 false (some "1.1"), d "ghost" 3 true none, d "d" 3 true (some "1")] =
      some [(Str.ofString "c", Str.ofString "1.1", false), (Str.ofString "d", Str.ofString "1", true),
            (Str.ofString "a", Str.ofString "1", false), (Str.ofString "b", Str.ofString "1", false),
            (Str.ofString "top", Str.ofString "1", false)] ∧
      createDepsOrder (Str.ofString "top", Str.ofString "1") [d "a" 2 false none] = none := by
  decide_lit

/-! ## tag lists as live objects: `mergeProductList` -/

/-- every listed product has its `[flavor, version, …]` record (what `addProduct` maintains) -/
def WFList (t : TagList) : Prop := ∀ p ∈ t.products, ∃ fl ver ex, assocGet t.info p = some (fl :: ver :: ex)

/-- **`mergeProductList` takes the other list's entries and keeps the rest.**  For every list `t` and every
well-formed list `o`: after `t.mergeProductList(o)` each product of `o` has, in `t`, exactly the record it has in `o`
(flavor, version, extra words), and what `t` says about any other product is unchanged. -/
theorem C18_taglist_merge (t o : TagList) (hwf : WFList o) (q : Str) :
    (t.mergeProductList o).getProductInfo q =
      if q ∈ o.products then o.getProductInfo q else t.getProductInfo q := by
  unfold TagList.mergeProductList TagList.getProducts
  exact foldl_addProduct_info o.info q o.products t hwf

/-- `addProduct` keeps a list well formed, so every list built by the API is -/
theorem C18_taglist_wf_add (t : TagList) (h : WFList t) (p v : Str) (fl : Option Str) (ex : List Str) :
    WFList (t.addProduct p v fl ex) := by
  intro q hq
  by_cases hqp : q = p
  · subst hqp
    exact ⟨fl.getD t.flavor, v, ex, addProduct_info_same t q v fl ex⟩
  · have hq' : q ∈ t.products := (mem_addProduct_products hq).resolve_right hqp
    obtain ⟨a, b, c, hi⟩ := h q hq'
    exact ⟨a, b, c, (addProduct_info_other hqp).trans hi⟩

/-- Non-vacuity. -/
example :
    let t := ((TagList.empty (Str.ofString "current") (some (Str.ofString "Linux"))).addProduct (Str.ofString "afw")
      (Str.ofString "1.0") none []).addProduct (Str.ofString "boost") (Str.ofString "1.4") none []
    let o := ((TagList.empty (Str.ofString "current") none).addProduct (Str.ofString "python")
      (Str.ofString "2.6") (some (Str.ofString "Linux64")) [Str.ofString "x"]).addProduct (Str.ofString "afw") (Str.ofString "2.0") none []
    (t.mergeProductList o).getProducts =
      [[Str.ofString "afw", sGeneric, Str.ofString "2.0"], [Str.ofString "boost", Str.ofString "Linux", Str.ofString "1.4"],
       [Str.ofString "python", Str.ofString "Linux64", Str.ofString "2.6", Str.ofString "x"]] := by
  decide_lit

/-- an entry that makes `remapEntries` look for (and, if it is missing, declare) the product `pn` in version `dummy`:
the mapping changes the entry, and the new version is the word `dummy` -/
def DummyTrigger (m : Mapping) (fl : Str) (d : Dep) (pn : Str) : Prop :=
  m.apply d.product d.version fl = (pn, some sDummy) ∧ (pn, sDummy) ≠ (d.product, d.version)

/-- **`remapEntries` declares exactly the missing `dummy` products its table names.**  For every mapping, flavor,
set of already declared `dummy` products and manifest: a product is declared iff it was not declared before and
some entry of the manifest is changed by the mapping into that product at version `dummy`; entries deleted, left
alone, changed into another version, or already at that `product dummy` declare nothing, and neither does a name
that `Eups.declare` refuses (`legalName`). -/
theorem C18_dummy_declares_exact (m : Mapping) (fl : Str) (deps : List Dep) : ∀ (known : List Str) (pn : Str),
    pn ∈ dummyDeclares m fl known deps ↔ pn ∉ known ∧ legalName pn = true ∧ ∃ d ∈ deps, DummyTrigger m fl d pn := by
  intro known pn
  fun_induction dummyDeclares m fl known deps with
  | case1 => simp
  | case2 known d rest qn vn ha hc ih =>
    -- `d` fires: its one image is `qn dummy`, new and legal
    simp only [Bool.and_eq_true, bne_iff_ne, ne_eq, beq_iff_eq, Bool.not_eq_true', List.contains_eq_mem,
      decide_eq_false_iff_not] at hc
    obtain ⟨⟨⟨hne, rfl⟩, hk⟩, hl⟩ := hc
    have huniq : DummyTrigger m fl d pn → pn = qn := fun h => (Prod.mk.inj (h.1.symm.trans ha)).1
    simp only [List.mem_cons, exists_eq_or_imp, ih, List.mem_append, List.not_mem_nil, or_false, not_or]
    constructor
    · rintro (rfl | ⟨⟨h1, _⟩, h2, h3⟩)
      · exact ⟨hk, hl, Or.inl ⟨ha, hne⟩⟩
      · exact ⟨h1, h2, Or.inr h3⟩
    · rintro ⟨h1, h2, h3 | h3⟩
      · exact Or.inl (huniq h3)
      · exact (Classical.em (pn = qn)).imp_right fun he => ⟨⟨h1, he⟩, h2, h3⟩
  | case3 known d rest qn vn ha hc ih =>
    -- `d` does not fire: a product it triggers is known or refused
    simp only [List.mem_cons, exists_eq_or_imp, ih]
    refine ⟨fun ⟨h1, h2, h3⟩ => ⟨h1, h2, Or.inr h3⟩, fun ⟨h1, h2, h3⟩ => ⟨h1, h2, h3.resolve_left fun ht => hc ?_⟩⟩
    obtain ⟨rfl, hv⟩ := Prod.mk.inj (ha.symm.trans ht.1)
    cases hv
    simp [ht.2, h1, h2]
  | case4 known d rest qn ha ih =>
    -- `d` is removed: it triggers nothing
    simp only [List.mem_cons, exists_eq_or_imp, ih]
    exact ⟨fun ⟨h1, h2, h3⟩ => ⟨h1, h2, Or.inr h3⟩, fun ⟨h1, h2, h3⟩ => ⟨h1, h2, h3.resolve_left fun ht =>
      nomatch (Prod.mk.inj (ha.symm.trans ht.1)).2⟩⟩

/-- no product is declared twice in one call -/
theorem C18_dummy_declares_nodup (m : Mapping) (fl : Str) (deps : List Dep) : ∀ known : List Str,
    (dummyDeclares m fl known deps).Nodup := by
  intro known
  fun_induction dummyDeclares m fl known deps with
  | case1 => exact List.nodup_nil
  | case2 known d rest qn vn ha hc ih =>
    exact List.nodup_cons.mpr ⟨fun hmem => ((C18_dummy_declares_exact m fl rest _ qn).mp hmem).1 (by simp), ih⟩
  | case3 _ _ _ _ _ _ _ ih => exact ih
  | case4 _ _ _ _ _ ih => exact ih

/-- Non-vacuity (the example of the code's own documentation): `stub` is declared once although two entries name it, a
product already declared not again, and `tk:any -> dummy:1.0` does not trigger the branch. -/
example :
    let m := buildMapping false [
      { inP := Str.ofString "tcltk", inV := sAny, outP := none, outV := some sDummy, flavor := sGeneric },
      { inP := Str.ofString "afw", inV := Str.ofString "1.0", outP := some (Str.ofString "stub"), outV := some sDummy, flavor := sGeneric },
      { inP := Str.ofString "utils", inV := sAny, outP := some (Str.ofString "stub"), outV := some sDummy, flavor := sGeneric },
      { inP := Str.ofString "tk", inV := sAny, outP := some sDummy, outV := some (Str.ofString "1.0"), flavor := sGeneric }]
    let dep := fun (p v : String) => mkDep (Str.ofString p) (Str.ofString v) none none none none false false []
    let deps := [dep "tcltk" "8.5", dep "afw" "1.0", dep "utils" "2.0", dep "tk" "8.5", dep "python" "2.6"]
    dummyDeclares m (Str.ofString "Linux") [] deps = [Str.ofString "tcltk", Str.ofString "stub"] ∧
      dummyDeclares m (Str.ofString "Linux") [Str.ofString "stub"] deps = [Str.ofString "tcltk"] := by
  decide_lit

/-- one-to-one: no two entries of the table (of one flavor) have the same image -/
def OneToOne (m : Mapping) : Prop := (entries m.map).Pairwise (fun a b => outKey a ≠ outKey b)

/-- explicit: no entry is a removal, products are named, in-versions are genuine versions -/
def Explicit (m : Mapping) : Prop := ∀ e ∈ entries m.map, EntryOk e

/-- **C18, inverse.**  For a one-to-one mapping of explicit versions `inverse()` succeeds, and for every entry
`p:v -> q:w` of the table of a flavor `f` the inverse's table of that flavor takes `q:w` back to `p:v`
(`apply1` is `Mapping._apply`, the look-up in one flavor's table). -/
theorem C18_inverse (m : Mapping) (h1 : OneToOne m) (h2 : Explicit m) :
    ∃ inv, m.inverse = some inv ∧
      ∀ f p v q w, lk m.map f p v = some (q, some w) →
        m.apply1 p v f = (q, some w) ∧ inv.apply1 q w f = (p, some v) := by
  obtain ⟨inv, hfold, himg, _⟩ := fold_stepInv (entries m.map) {} h1 h2
    (fun _ _ _ _ _ _ => by simp [lk, prodTable, assocGet])
  refine ⟨inv, by rw [inverse_eq_fold]; exact hfold, ?_⟩
  intro f p v q w hlk
  refine ⟨apply1_of_lk m p v f _ hlk, ?_⟩
  have hmem := mem_entries_of_lk m.map f p v q (some w) hlk
  exact apply1_of_lk inv q w f _ (himg f p v q w hmem)

/-- for the `generic` table `apply` is that look-up: the inverse undoes the mapping -/
theorem C18_inverse_generic (m : Mapping) (h1 : OneToOne m) (h2 : Explicit m) :
    ∃ inv, m.inverse = some inv ∧
      ∀ p v q w, lk m.map sGeneric p v = some (q, some w) →
        m.apply p v sGeneric = (q, some w) ∧ inv.apply q w sGeneric = (p, some v) := by
  obtain ⟨inv, hinv, h⟩ := C18_inverse m h1 h2
  refine ⟨inv, hinv, ?_⟩
  intro p v q w hlk
  have := h sGeneric p v q w hlk
  simpa [Mapping.apply] using this

/-- Non-vacuity: a chain `a:1 -> b:2`, `b:2 -> c:3` and a version bump `x:1.0 -> x:2.0` is one-to-one and explicit;
`a:1 -> c:1` together with `b:1 -> c:1` is not, and `inverse()` raises. -/
example :
    let m := buildMapping false [
      { inP := [97], inV := [49], outP := some [98], outV := some [50], flavor := sGeneric },
      { inP := [98], inV := [50], outP := some [99], outV := some [51], flavor := sGeneric },
      { inP := [120], inV := Str.ofString "1.0", outP := none, outV := some (Str.ofString "2.0"), flavor := sGeneric }]
    OneToOne m ∧ Explicit m ∧ lk m.map sGeneric [97] [49] = some ([98], some [50]) := by
  unfold OneToOne Explicit
  decide_lit

example :
    (buildMapping false [
      { inP := [97], inV := [49], outP := some [99], outV := some [49], flavor := sGeneric },
      { inP := [98], inV := [49], outP := some [99], outV := some [49], flavor := sGeneric }]).inverse.isNone = true := by
  decide_lit

/-- **C18, inverse, at the level of `Mapping.apply` (with the `generic` fallback in both directions).**  For a
one-to-one mapping of explicit versions and *every* flavor `f`: each entry `p:v -> q:w` of the table of `f` that is
not an identity is applied by `apply` — not only by the per-flavor look-up — and `inverse().apply` takes `q:w` back
to `p:v`.  (An identity entry `p:v -> p:v` of a flavor table makes `apply` consult the `generic` table, in the
mapping and in its inverse: `C18_inverse_identity_witness`.) -/
theorem C18_inverse_apply (m : Mapping) (h1 : OneToOne m) (h2 : Explicit m) :
    ∃ inv, m.inverse = some inv ∧
      ∀ f p v q w, lk m.map f p v = some (q, some w) → (p, v) ≠ (q, w) →
        m.apply p v f = (q, some w) ∧ inv.apply q w f = (p, some v) := by
  obtain ⟨inv, hinv, h⟩ := C18_inverse m h1 h2
  refine ⟨inv, hinv, fun f p v q w hlk hne => ?_⟩
  obtain ⟨ha, hb⟩ := h f p v q w hlk
  exact ⟨apply_of_apply1 m p v f q w ha hne.symm, apply_of_apply1 inv q w f p v hb hne⟩

/-- **C18, inverse, on a live mapping.**  `inverse()` is a function of the mapping as it is when it is called: after
*any* sequence of `add` and `merge` operations on a mapping object — in particular after the rules of
`manifest.remap` have been merged into a mapping whose inverse had been taken before (`Repository.create`) — the
inverse taken *now* undoes the mapping as it is *now*, whenever that is one-to-one on explicit versions. -/
theorem C18_inverse_live (ops : List MapOp) (m0 : Mapping)
    (h1 : OneToOne (runOps ops m0)) (h2 : Explicit (runOps ops m0)) :
    ∃ inv, (runOps ops m0).inverse = some inv ∧
      ∀ f p v q w, lk (runOps ops m0).map f p v = some (q, some w) → (p, v) ≠ (q, w) →
        (runOps ops m0).apply p v f = (q, some w) ∧ inv.apply q w f = (p, some v) :=
  C18_inverse_apply (runOps ops m0) h1 h2

/-- Non-vacuity: `a:1 -> b:4`, inverse taken, then `c:2 -> d:5` merged in: the second inverse knows both entries, the
first one only the first. -/
example :
    let r1 : Rule := { inP := [97], inV := [49], outP := some [98], outV := some [52], flavor := sGeneric }
    let r2 : Rule := { inP := [99], inV := [50], outP := some [100], outV := some [53], flavor := sGeneric }
    let m1 := runOps [.add r1 true] {}
    let m2 := runOps [.add r1 true, .merge (buildMapping false [r2]) false] {}
    OneToOne m2 ∧ Explicit m2 ∧
      (m1.inverse.map fun i => i.apply [100] [53] sGeneric) = some ([100], some [53]) ∧
      (m2.inverse.map fun i => (i.apply [100] [53] sGeneric, i.apply [98] [52] sGeneric)) =
        some (([99], some [50]), ([97], some [49])) := by
  unfold OneToOne Explicit
  decide_lit

/-- **The hypothesis "not an identity" is needed at the level of `apply` (negation witness).**  The `Linux` table
holds the identity `a:1 -> a:1`, the `generic` table `c:3 -> a:1`: the mapping is one-to-one (per flavor, as
`inverse()` tests it) and explicit, `inverse()` succeeds, `apply` leaves `a:1` alone under `Linux` — and the
inverse's `apply` takes `a:1` to `c:3`, because the identity makes it fall through to the `generic` table. -/
theorem C18_inverse_identity_witness :
    let m := buildMapping false [
      { inP := [97], inV := [49], outP := some [97], outV := some [49], flavor := Str.ofString "Linux" },
      { inP := [99], inV := [51], outP := some [97], outV := some [49], flavor := sGeneric }]
    OneToOne m ∧ Explicit m ∧ m.apply [97] [49] (Str.ofString "Linux") = ([97], some [49]) ∧
      (m.inverse.map fun inv => inv.apply [97] [49] (Str.ofString "Linux")) = some ([99], some [51]) := by
  unfold OneToOne Explicit
  decide_lit

/-- **"One-to-one" is needed (negation witness):** two entries of one flavor with the same image — `inverse()`
raises (`none`); with the second entry under another flavor the mapping is one-to-one per flavor and the inverse
exists. -/
theorem C18_inverse_needs_one_to_one :
    let r1 : Rule := { inP := [97], inV := [49], outP := some [99], outV := some [49], flavor := sGeneric }
    let r2 : Rule := { inP := [98], inV := [49], outP := some [99], outV := some [49], flavor := sGeneric }
    ¬ OneToOne (buildMapping false [r1, r2]) ∧ Explicit (buildMapping false [r1, r2]) ∧
      (buildMapping false [r1, r2]).inverse.isNone = true ∧
      OneToOne (buildMapping false [r1, { r2 with flavor := Str.ofString "Linux" }]) ∧
      (buildMapping false [r1, { r2 with flavor := Str.ofString "Linux" }]).inverse.isSome = true := by
  unfold OneToOne Explicit
  decide_lit

/-- no entry is a wildcard: every in-version is a version, not the word `any` -/
def NoAny (m : Mapping) : Prop := ∀ e ∈ entries m.map, e.2.2.1 ≠ sAny

/-- **C18, inverse, for every product and version (not only for the table's own keys).**  For a one-to-one mapping
of explicit versions without wildcards, every flavor `f`, every product `p` and *every* version `v`: if the table of
`f` changes `p:v` into `q:w`, the inverse's table of `f` changes `q:w` back into `p:v`. -/
theorem C18_inverse_undoes_changes (m : Mapping) (h1 : OneToOne m) (h2 : Explicit m) (h3 : NoAny m) :
    ∃ inv, m.inverse = some inv ∧
      ∀ f p v q w, m.apply1 p v f = (q, some w) → (q, w) ≠ (p, v) → inv.apply1 q w f = (p, some v) := by
  obtain ⟨inv, hinv, h⟩ := C18_inverse m h1 h2
  refine ⟨inv, hinv, ?_⟩
  intro f p v q w ha hne
  rcases apply1_changes m p v f q w ha hne with hlk | ⟨r, hlk⟩
  · exact (h f p v q w hlk).2
  · exact (h3 _ (mem_entries_of_lk m.map f p sAny r.1 r.2 hlk) rfl).elim

/-- **"No wildcard" is needed (negation witness):** `a:any -> b:2` is one-to-one and explicit, `inverse()` succeeds,
`apply` takes `a:1` to `b:2` — and the inverse takes `b:2` to `a:any`, not back to `a:1`. -/
theorem C18_inverse_needs_no_any :
    let m := buildMapping false [{ inP := [97], inV := sAny, outP := some [98], outV := some [50], flavor := sGeneric }]
    OneToOne m ∧ Explicit m ∧ ¬ NoAny m ∧ m.apply [97] [49] sGeneric = ([98], some [50]) ∧
      (m.inverse.map fun inv => inv.apply [98] [50] sGeneric) = some ([97], some sAny) := by
  unfold OneToOne Explicit NoAny
  decide_lit

/-- Non-vacuity of `C18_inverse_undoes_changes`. -/
example :
    let m := buildMapping false [
      { inP := [97], inV := [49], outP := some [98], outV := some [50], flavor := sGeneric },
      { inP := [98], inV := [50], outP := some [99], outV := some [51], flavor := sGeneric },
      { inP := [120], inV := Str.ofString "1.0", outP := none, outV := some (Str.ofString "2.0"), flavor := sGeneric }]
    OneToOne m ∧ Explicit m ∧ NoAny m ∧ m.apply1 [97] [49] sGeneric = ([98], some [50]) := by
  unfold OneToOne Explicit NoAny
  decide_lit

/-! ## the server side: `DistribServer.getTaggedProductList` / `getTaggedProductInfo` and their cache -/

/-- **The answers of a server object do not depend on what it was asked before.**  Whatever the files on the server
and whatever the history of requests (any tags, any flavors, in any order, with repetitions), every answer is the
answer a fresh server object gives: the cache, keyed by (tag, flavor), only saves work. -/
theorem C18_server_history_independent (files : List (Str × Str)) (history : List Req) (r : Req) :
    (serve1 false files (cacheAfter false files [] history) r).1 = (serve1 false files [] r).1 := by
  rw [(serve1_spec files _ r (cacheAfter_ok files [] history (cacheOk_nil files))).1, serve1_fresh]

/-- the whole sequence of answers is the request-by-request sequence of fresh answers -/
theorem C18_server_answers (files : List (Str × Str)) (reqs : List Req) :
    serve false files [] reqs = reqs.map fun r => (serve1 false files [] r).1 := by
  rw [serve_eq_fresh files [] reqs (cacheOk_nil files)]
  apply List.map_congr_left
  intro r _
  rw [serve1_fresh]

/-- **A tagged release read back through the server is the per-flavor filter of the written list**, after any
history: the request for flavor `F` is answered with the entries of flavor `F` or `generic` (as `F`), in sorted order. -/
theorem C18_server_flavor_filter (t : TagList) (fa : Option Str) (F : Str) (comments : List Str) (history : List Req)
    (htag : ∀ c ∈ t.tag, c ≠ 10 ∧ c ≠ 13)
    (hc : ∀ l ∈ comments, isBlankOrComment l = true ∧ ∀ c ∈ l, c ≠ 10 ∧ c ≠ 13)
    (hnd : t.products.Nodup)
    (hok : ∀ p ∈ t.products, TagEntryOk fa p ((assocGet t.info p).getD [])) :
    (serve1 false [(t.tag, t.write fa comments)] (cacheAfter false [(t.tag, t.write fa comments)] [] history)
        (Req.list t.tag (some F))).1 =
      Ans.products ((sortStrs t.products).filterMap fun p => keepEntry fa F p ((assocGet t.info p).getD [])) := by
  rw [C18_server_history_independent, serve1_fresh]
  obtain ⟨r, hr, hg⟩ := C18_taglist_roundtrip t fa F comments htag hc hnd hok
  simp only [freshAnswer, Req.tag, Req.flavor, parseList, assocGet, if_true, hr, answerFrom, hg]

/-- **The flavor in the cache key is necessary (negation witness for a cache keyed by the tag alone):** a release with
a Linux and a Linux64 entry; asked first for Linux64 and then for Linux, the tag-keyed server answers the second
request with the Linux64 list, while the (tag, flavor)-keyed one answers it like a fresh server. -/
theorem C18_server_tag_only_witness :
    let t := ((TagList.empty (Str.ofString "current") (some (Str.ofString "Linux"))).addProduct (Str.ofString "afw")
      (Str.ofString "1.0") none []).addProduct (Str.ofString "boost") (Str.ofString "2.0") (some (Str.ofString "Linux64")) []
    let files := [(Str.ofString "current", t.write none [])]
    let reqs := [Req.list (Str.ofString "current") (some (Str.ofString "Linux64")),
                 Req.list (Str.ofString "current") (some (Str.ofString "Linux"))]
    serve false files [] reqs =
        [Ans.products [[Str.ofString "boost", Str.ofString "Linux64", Str.ofString "2.0"]],
         Ans.products [[Str.ofString "afw", Str.ofString "Linux", Str.ofString "1.0"]]] ∧
      serve true files [] reqs =
        [Ans.products [[Str.ofString "boost", Str.ofString "Linux64", Str.ofString "2.0"]],
         Ans.products [[Str.ofString "boost", Str.ofString "Linux64", Str.ofString "2.0"]]] := by
  decide_lit

/-! ## the server side: files handed out by `DistribServer.getFile` / `cacheFile` -/

/-- what a fresh server object answers for a path -/
def freshFile (server : List (Str × Str)) (path : Str) : FileAns :=
  match assocGet server path with
  | some c => .content c
  | none => .notFound

/-- **The file a server object hands out for a path holds what the server holds under that path — whatever was
requested before and wherever the copies were put** (repaired `cacheFile`, D60): every answer of a history of
`getFile(path, filename=dest)` requests, with destinations reused at will, is the answer of a fresh server object. -/
theorem C18_server_file_history_independent (server : List (Str × Str)) (reqs : List (Str × Str)) :
    getFiles false server {} reqs = reqs.map fun r => freshFile server r.1 := by
  rw [getFiles_sound server {} reqs fun _ hx => nomatch hx]
  refine List.map_congr_left fun r _ => ?_
  unfold freshFile
  cases assocGet server r.1 <;> rfl

/-- **D60, pinned tree (negation witness):** `afw.table` fetched into a scratch file, `boost.table` fetched into the
same scratch file, `afw.table` asked for again: the pinned cache hands out `boost.table`'s text; the same file asked
for twice into one destination raises `SameFileError`. -/
theorem C18_server_file_pinned_witness :
    let server := [(Str.ofString "tables/afw.table", Str.ofString "A"), (Str.ofString "tables/boost.table", Str.ofString "B")]
    let a := Str.ofString "tables/afw.table"
    let b := Str.ofString "tables/boost.table"
    getFiles true server {} [(a, Str.ofString "scratch"), (b, Str.ofString "scratch"), (a, Str.ofString "other")] =
        [.content (Str.ofString "A"), .content (Str.ofString "B"), .content (Str.ofString "B")] ∧
      getFiles true server {} [(a, Str.ofString "scratch"), (a, Str.ofString "scratch")] =
        [.content (Str.ofString "A"), .sameFile] ∧
      getFiles false server {} [(a, Str.ofString "scratch"), (b, Str.ofString "scratch"), (a, Str.ofString "other"),
                                (a, Str.ofString "other")] =
        [.content (Str.ofString "A"), .content (Str.ofString "B"), .content (Str.ofString "A"), .content (Str.ofString "A")] := by
  decide_lit

end EupsModel.C18
