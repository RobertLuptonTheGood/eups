import EupsModel.Lemmas.SetupShell
import EupsModel.Lemmas.SetupLines
/-! C04 — setup changes only what it was asked to (keep, just, max-depth, bystanders).  The frame and depth clauses are
instances of `run_subjInv` / `run_stInv` (`Lemmas/SetupInv.lean`); the keep clauses go through `install_keep_top_of`
(`Lemmas/SetupLines.lean`).  "Reachable" is `Within db top k m` (`Lemmas/SetupFrame.lean`), through
the lines of any declared version under any guard: reading ii of DESIGN §6 C04, over-approximated (the tables of the versions a
request selects *and of those it replaces* are among them). -/
namespace EupsModel.C04
open EupsModel.Setup

/-! ## frame -/

/-- A product `m` that is not reachable from the requested product is untouched by a successful `setup` / `unsetup`. -/
theorem C04_frame (db : Db) (fuel : Nat) (fwd : Bool) (r : Request) (e : Setup.Env) (s' : St) (m : Name)
    (hm : ∀ k, ¬ Within db r.name k m)
    (h : (if fwd then runSetup db fuel r e else runUnsetup db fuel r e) = .ok s') : SameFor m e s'.env :=
  run_subjInv db fuel fwd r e s' (fun _ n => ∃ k, Within db r.name k n) (SameFor m e)
    (within_closedAt_unbounded (r.cfg db) r.name) (sameFor_subjInv (r.cfg db) _ m (fun _ ⟨k, hk⟩ => hm k hk) e)
    ⟨0, Within.root⟩ (SameFor.refl m e) h

/-- An `envSet` variable that no table of a reachable product sets keeps its value (own `envSet` variables of
bystanders included, whatever the tables look like). -/
theorem C04_frame_vars (db : Db) (fuel : Nat) (fwd : Bool) (r : Request) (e : Setup.Env) (s' : St) (var : Str)
    (hvar : ¬ SetVar db (fun n => ∃ k, Within db r.name k n) var)
    (h : (if fwd then runSetup db fuel r e else runUnsetup db fuel r e) = .ok s') :
    aget s'.env.vars var = aget e.vars var := by
  refine run_subjInv db fuel fwd r e s' (fun _ n => ∃ k, Within db r.name k n) _
    (within_closedAt_unbounded (r.cfg db) r.name) (varsOther_subjInv (r.cfg db) _ e) ⟨0, Within.root⟩ (fun _ _ => rfl) h var ?_
  intro ⟨d, hd, ⟨_, hk⟩, g, val, hg⟩
  exact hvar ⟨d, hd, hk, g, val, hg⟩

/-! ## depth: with `--max-depth N` no product deeper than `N` is set up or altered -/

/-- A product `m` deeper than `N` (`hm`: every path from the requested product to it has more than `N` edges) is
untouched. -/
theorem C04_depth (db : Db) (fuel : Nat) (fwd : Bool) (r : Request) (N : Nat) (hN : r.maxDepth = some N)
    (e : Setup.Env) (s' : St) (m : Name) (hm : ∀ k, k ≤ N → ¬ Within db r.name k m)
    (h : (if fwd then runSetup db fuel r e else runUnsetup db fuel r e) = .ok s') : SameFor m e s'.env :=
  run_subjInv db fuel fwd r e s' (fun k n => Within db r.name k n ∧ k ≤ N) (SameFor m e)
    (within_closedAt (r.cfg db) r.name N hN) (sameFor_subjInv (r.cfg db) _ m (fun k ⟨hk, hle⟩ => hm k hle hk) e)
    ⟨Within.root, Nat.zero_le _⟩ (SameFor.refl m e) h

/-- An `envSet` variable that no table of a product within `N` edges sets keeps its value. -/
theorem C04_depth_vars (db : Db) (fuel : Nat) (fwd : Bool) (r : Request) (N : Nat) (hN : r.maxDepth = some N)
    (e : Setup.Env) (s' : St) (var : Str)
    (hvar : ¬ SetVar db (fun n => ∃ k, Within db r.name k n ∧ k ≤ N) var)
    (h : (if fwd then runSetup db fuel r e else runUnsetup db fuel r e) = .ok s') :
    aget s'.env.vars var = aget e.vars var :=
  run_subjInv db fuel fwd r e s' (fun k n => Within db r.name k n ∧ k ≤ N) _
    (within_closedAt (r.cfg db) r.name N hN) (varsOther_subjInv (r.cfg db) _ e) ⟨Within.root, Nat.zero_le _⟩
    (fun _ _ => rfl) h var hvar

/-- `--just` (`max_depth = 0`): only the requested product changes -/
theorem C04_just (db : Db) (fuel : Nat) (fwd : Bool) (r : Request) (hN : r.maxDepth = some 0)
    (e : Setup.Env) (s' : St) (m : Name) (hm : m ≠ r.name)
    (h : (if fwd then runSetup db fuel r e else runUnsetup db fuel r e) = .ok s') : SameFor m e s'.env := by
  refine C04_depth db fuel fwd r 0 hN e s' m ?_ h
  intro k hk hw
  have : k = 0 := by omega
  subst this
  cases hw
  exact hm rfl

/-! ## frame, the rest of the environment: foreign elements, bystanders' elements, shell functions -/

open Classical in
/-- the elements of a path variable that do not belong to a name in `S`: foreign strings and own elements of other products -/
noncomputable def outsideOf (S : Name → Prop) : Elem → Bool
  | .own p _ => decide (¬ S p.1)
  | .foreign _ => true

/-- In every path variable the sub-list (duplicates removed, order kept) of the elements that are foreign or belong to a
product not reachable from the requested one is the same before and after, for tables that contribute through their own
`${PRODUCT_DIR}` (`OwnTables`: a literal contributed by a table of the closure is, of course, added / removed). -/
theorem C04_frame_paths_partial (db : Db) (hown : OwnTables db) (fuel : Nat) (fwd : Bool) (r : Request) (e : Setup.Env)
    (s' : St) (h : (if fwd then runSetup db fuel r e else runUnsetup db fuel r e) = .ok s') (var : Str) :
    partBy (outsideOf (fun n => ∃ k, Within db r.name k n)) s'.env var =
      partBy (outsideOf (fun n => ∃ k, Within db r.name k n)) e var :=
  run_subjInv db fuel fwd r e s' (fun _ n => ∃ k, Within db r.name k n) _
    (within_closedAt_unbounded (r.cfg db) r.name)
    (partBy_subjInvAt (r.cfg db) _ hown (outsideOf (fun n => ∃ k, Within db r.name k n))
      (fun _ p rel hp => by simp [outsideOf, hp]) e) ⟨0, Within.root⟩ (fun _ => rfl) h var

/-- With `--max-depth N` / `--just` the statement of `C04_frame_paths_partial` holds for everything that does not belong
to a product within `N` edges of the requested one. -/
theorem C04_depth_paths_partial (db : Db) (hown : OwnTables db) (fuel : Nat) (fwd : Bool) (r : Request) (N : Nat)
    (hN : r.maxDepth = some N) (e : Setup.Env) (s' : St)
    (h : (if fwd then runSetup db fuel r e else runUnsetup db fuel r e) = .ok s') (var : Str) :
    partBy (outsideOf (fun n => ∃ k, Within db r.name k n ∧ k ≤ N)) s'.env var =
      partBy (outsideOf (fun n => ∃ k, Within db r.name k n ∧ k ≤ N)) e var :=
  run_subjInv db fuel fwd r e s' (fun k n => Within db r.name k n ∧ k ≤ N) _
    (within_closedAt (r.cfg db) r.name N hN)
    (partBy_subjInvAt (r.cfg db) _ hown (outsideOf (fun n => ∃ k, Within db r.name k n ∧ k ≤ N))
      (fun k p rel hp => by
        have : ∃ k, Within db r.name k p.1 ∧ k ≤ N := ⟨k, hp⟩
        simp [outsideOf, this]) e) ⟨Within.root, Nat.zero_le _⟩ (fun _ => rfl) h var

/-- Shell functions (aliases): a function that no table of a reachable product defines with `addAlias` is neither
defined, redefined nor removed by the commands a successful request emits — whatever the caller's functions `f` were. -/
theorem C04_frame_aliases (db : Db) (fuel : Nat) (fwd : Bool) (r : Request) (e : Setup.Env) (s' : St) (key : Str)
    (hkey : ¬ AliasOf db (fun _ n => ∃ k, Within db r.name k n) key) (f : Str → Option Str)
    (h : (if fwd then runSetup db fuel r e else runUnsetup db fuel r e) = .ok s') :
    ((appSetup db fuel fwd r e).apply (Shell.of e f)).funcs key = f key := by
  have hfree : AliasFree key s' :=
    run_stInv db fuel fwd r e s' (fun _ n => ∃ k, Within db r.name k n) (AliasFree key)
      (within_closedAt_unbounded (r.cfg db) r.name) (aliasFree_stInv (r.cfg db) _ key hkey) ⟨0, Within.root⟩
      ⟨rfl, List.not_mem_nil⟩ h
  rw [appSetup_apply db fuel fwd r e s' h,
    (runCmds_delta e s' f (run_aliasND db fuel fwd r e s' h)).2.2.2.2 key, hfree.1]
  simp [hfree.2]

/-- `setup --type t…` (`Db.withTypes`: the tables read under the setup types of the command line): the frame clause with
reachability taken in the database as declared — whatever the `if (type == t)` blocks select, a product that no
dependency line of any block leads to is untouched.  (Every theorem of this file holds of `db.withTypes types` as it
stands, being for every database, with its hypotheses read in `db.withTypes types` as well; this one alone relates its
hypothesis to the declared tables, by `within_withTypes`.) -/
theorem C04_frame_types (db : Db) (types : List Str) (fuel : Nat) (fwd : Bool) (r : Request) (e : Setup.Env) (s' : St)
    (m : Name) (hm : ∀ k, ¬ Within db r.name k m)
    (h : (if fwd then runSetup (db.withTypes types) fuel r e else runUnsetup (db.withTypes types) fuel r e) = .ok s') :
    SameFor m e s'.env :=
  C04_frame (db.withTypes types) fuel fwd r e s' m (fun k hw => hm k (within_withTypes db types r.name k m hw)) h

/-! ## `--keep` -/

def AllDeclared (db : Db) (e : Setup.Env) : Prop := ∀ n v, (n, v) ∈ e.recs → ∃ d, db.lookup (n, v) = some d

private theorem aget_alreadyOfEnv (db : Db) (l : List (Name × Ver)) (hl : ∀ n v, (n, v) ∈ l → ∃ d, db.lookup (n, v) = some d)
    (m : Name) (v : Ver) (h : aget l m = some v) :
    ∃ d, aget (l.filterMap (fun (nv : Name × Ver) => (db.lookup (nv.1, nv.2)).map (fun d => (nv.1, ((d, none) : Decl × Option VroEnt))))) m
      = some (d, none) ∧ d.ver = v :=
  aget_alreadyOfEnvD db l m v h (hl m v (aget_mem l m v h))

/-- With `--keep`, every product `m` other than the requested one that is set up — its record names a *declared* version;
a record `findSetupProduct` cannot find is not a set-up product — keeps its version, unless the requested product is
itself set up beforehand (in a declared version `sd`, the same one included) **and** a dependency line of `sd`'s own table
leads to `m` (`ReachFrom db sd m`): exactly D21's class (`sd` is unwound together with what its table names before
`keep` is consulted; witness `C04_keep_drop_witness`).  Name cycles and prior records of undeclared versions are inside the
claim. -/
theorem C04_keep_partial (db : Db) (fuel : Nat) (r : Request) (hkeep : r.keep = true) (e : Setup.Env) (s' : St)
    (h : runSetup db fuel r e = .ok s') :
    ∀ m v, e.rec? m = some v → (∃ d, db.lookup (m, v) = some d) → m ≠ r.name →
      (∀ sd, setupProd db e r.name = some sd → ¬ ReachFrom db sd m) → s'.env.rec? m = some v := by
  obtain ⟨f, d, reason, s0, hch, hinst⟩ := runSetup_ok db fuel r e s' h
  have hvro : VroEnt.keep ∈ r.vro := by
    unfold Request.vro; rw [hkeep]; exact selectVRO_keep _ _
  -- at depth 0 `alreadySetupProducts` is rebuilt from the environment around `d`
  cases hch.entered
  intro m v hmv hdv hne hreach
  refine install_keep_top_of (Decd db) (r.cfg db) (fun _ _ h => h) f false r.vro hvro d reason hch.canon _ s' hch.already ?_ hinst m v
    (by rw [hch.name]; exact hne) hmv hdv (by rw [hch.name]; exact hreach)
  intro m' v' hmv' ⟨hne', hd'⟩
  obtain ⟨d', hg, hv⟩ := aget_alreadyOfEnvD db e.recs m' v' hmv' hd'
  exact ⟨d', none, (aget_aset_other (alreadyOfEnv db e) d.name m' (d, reason) hne').trans hg, hv⟩

/-- when the requested product is not set up beforehand and the records name declared versions, every set-up product
keeps its version -/
theorem C04_keep_fresh (db : Db) (fuel : Nat) (r : Request) (hkeep : r.keep = true) (e : Setup.Env) (s' : St)
    (hdecl : AllDeclared db e) (hnot : e.rec? r.name = none)
    (h : runSetup db fuel r e = .ok s') : ∀ m v, e.rec? m = some v → s'.env.rec? m = some v := by
  intro m v hmv
  refine C04_keep_partial db fuel r hkeep e s' h m v hmv (hdecl m v (aget_mem _ _ _ hmv)) ?_ ?_
  · intro e'; rw [e', hnot] at hmv; cases hmv
  · intro sd hsp
    obtain ⟨_, _, hr⟩ := setupProd_some _ _ _ _ hsp
    rw [hnot] at hr; cases hr

/-! ## D21: `--keep` does not protect the dependencies of the requested product's previously set-up version -/

def nA : Name := [97]      -- "a"
def nC : Name := [99]      -- "c"
def v1 : Ver := ([49], 0)  -- "1"
def v3 : Ver := ([51], 0)  -- "3"

/-- `a 1 → c`, `a 3` has no dependencies -/
def dbKeep : Db :=
  { decls := [⟨nA, v1, [1], [(.always, .dep nC false false none none [] false)]⟩, ⟨nA, v3, [2], []⟩, ⟨nC, v1, [3], []⟩],
    tags := [(tagCurrent, nA, v1), (tagCurrent, nC, v1)] }

def envOf : Res → Option Setup.Env
  | .ok s => some s.env
  | _ => none

/-- after `setup a` (→ `a 1`, `c 1`), `setup --keep a 3` ends with `c` not set up -/
theorem C04_keep_drop_witness :
    ∃ e1 e2, envOf (runSetup dbKeep 10 ⟨nA, none, false, none, false, [], [0]⟩ Setup.Env.empty) = some e1 ∧
      envOf (runSetup dbKeep 10 ⟨nA, some (.explicit v3.1), true, none, false, [], [0]⟩ e1) = some e2 ∧
      e1.rec? nC = some v1 ∧ e2.rec? nC = none := by
  refine ⟨⟨[(nC, v1), (nA, v1)], [(nC, .own (nC, v1) []), (nA, .own (nA, v1) [])], [], []⟩,
          ⟨[(nA, v3)], [(nA, .own (nA, v3) [])], [], []⟩, ?_, ?_, ?_, ?_⟩ <;> decide +kernel

/-! ## why "reachable" counts the tables of the replaced versions -/

def nP : Name := [112]     -- "p"
def nX : Name := [120]     -- "x"
def nZ : Name := [122]     -- "z"
def v2 : Ver := ([50], 0)  -- "2"

/-- `p 1 → z`, `p 2` has no dependencies, the bystander `x 1 → z` -/
def dbNarrow : Db :=
  { decls := [⟨nP, v1, [1], [(.always, .dep nZ false false none none [] false)]⟩, ⟨nP, v2, [2], []⟩,
              ⟨nX, v1, [3], [(.always, .dep nZ false false none none [] false)]⟩, ⟨nZ, v1, [4], []⟩],
    tags := [(tagCurrent, nP, v1), (tagCurrent, nX, v1), (tagCurrent, nZ, v1)] }

/-- Under the reading "reachable through the tables of the newly selected versions only", `z` is not reachable from
the request `setup p 2` (`p 2` has no dependencies) — yet it loses its record, although the bystander `x` needs it:
replacing `p 1` unwinds `p 1`'s dependencies.  `C04_frame` is therefore stated for reachability through the tables of
the selected *and the replaced* versions. -/
theorem C04_narrow_frame_fails :
    ∃ e1 e2 e3, envOf (runSetup dbNarrow 10 ⟨nX, none, false, none, false, [], [0]⟩ Setup.Env.empty) = some e1 ∧
      envOf (runSetup dbNarrow 10 ⟨nP, none, false, none, false, [], [0]⟩ e1) = some e2 ∧
      envOf (runSetup dbNarrow 10 ⟨nP, some (.explicit v2.1), false, none, false, [], [0]⟩ e2) = some e3 ∧
      e2.rec? nZ = some v1 ∧ e3.rec? nZ = none ∧ e3.rec? nX = some v1 := by
  refine ⟨⟨[(nZ, v1), (nX, v1)], [(nZ, .own (nZ, v1) []), (nX, .own (nX, v1) [])], [], []⟩,
          ⟨[(nP, v1), (nZ, v1), (nX, v1)], [(nP, .own (nP, v1) []), (nZ, .own (nZ, v1) []), (nX, .own (nX, v1) [])], [], []⟩,
          ⟨[(nP, v2), (nX, v1)], [(nP, .own (nP, v2) []), (nX, .own (nX, v1) [])], [], []⟩, ?_, ?_, ?_, ?_, ?_, ?_⟩ <;>
    decide +kernel

/-- the hypotheses of `C04_keep_fresh` are satisfiable with something to keep: `c 1` is set up, `a` is not -/
example : AllDeclared dbKeep ⟨[(nC, v1)], [(nC, .own (nC, v1) [])], [], []⟩ ∧
    (⟨[(nC, v1)], [(nC, .own (nC, v1) [])], [], []⟩ : Setup.Env).rec? nA = none := by
  constructor
  · intro n v h
    simp at h; obtain ⟨rfl, rfl⟩ := h
    exact ⟨⟨nC, v1, [3], []⟩, by decide +kernel⟩
  · decide +kernel

private theorem within_nC : ∀ k n, Within dbKeep nC k n → n = nC := by
  intro k n hw
  induction hw with
  | root => rfl
  | step _ hd hn hg ih =>
    subst ih
    simp [dbKeep] at hd
    rcases hd with rfl | rfl | rfl <;> simp at hg <;> simp [nA, nC] at hn

/-- in D21's own history (`a 1`, `c 1` set up; `setup --keep a 3`) a bystander `x` that `a 1`'s table does not name
satisfies the last hypothesis of `C04_keep_partial`, `c` does not -/
example : (∀ sd, setupProd dbKeep ⟨[(nC, v1), (nA, v1)], [], [], []⟩ nA = some sd → ¬ ReachFrom dbKeep sd [120]) ∧
    (∃ sd, setupProd dbKeep ⟨[(nC, v1), (nA, v1)], [], [], []⟩ nA = some sd ∧ ReachFrom dbKeep sd nC) := by
  have hsp : setupProd dbKeep ⟨[(nC, v1), (nA, v1)], [], [], []⟩ nA =
      some ⟨nA, v1, [1], [(.always, .dep nC false false none none [] false)]⟩ := by decide +kernel
  constructor
  · intro sd h
    rw [hsp] at h; cases h
    intro ⟨g, n, o, j, v, x, t, kl, k, hg, hw⟩
    simp at hg
    obtain ⟨_, rfl, _⟩ := hg
    have := within_nC k _ hw
    simp [nC] at this
  · exact ⟨_, hsp, .always, nC, false, false, none, none, [], false, 0, by simp, Within.root⟩

/-- a product outside the reach of the request exists in `dbKeep`: nothing leads from `c` to `a` -/
example : ∀ k, ¬ Within dbKeep nC k nA := by
  intro k h
  have := within_nC k nA h
  simp [nA, nC] at this

/-- `OwnTables` (`C04_frame_paths_partial`, `C04_depth_paths_partial`) and `¬ AliasOf` (`C04_frame_aliases`) are
satisfiable: `dbKeep` has own-directory tables only and defines no alias -/
example : OwnTables dbKeep ∧ ∀ key, ¬ AliasOf dbKeep (fun _ n => ∃ k, Within dbKeep nA k n) key := by
  refine ⟨ownTables_of_check _ (by decide +kernel), ?_⟩
  intro key ⟨d, hd, _, g, val, hg⟩
  simp [dbKeep] at hd
  rcases hd with rfl | rfl | rfl <;> simp at hg

def nB9 : Name := [98]     -- "b"
def v9 : Ver := ([57], 0)  -- "9"

/-- the hypotheses of `C04_keep_partial` tolerate a record of an undeclared version (`b 9`): it is not a set-up product,
`c 1` beside it is kept -/
example : (⟨[(nB9, v9), (nC, v1)], [], [], []⟩ : Setup.Env).rec? nC = some v1 ∧ (∃ d, dbKeep.lookup (nC, v1) = some d) ∧
    dbKeep.lookup (nB9, v9) = none := by
  refine ⟨by decide +kernel, ⟨⟨nC, v1, [3], []⟩, by decide +kernel⟩, by decide +kernel⟩

end EupsModel.C04
