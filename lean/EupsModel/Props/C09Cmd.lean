import EupsModel.Lemmas.LockCmd
import EupsModel.Lemmas.LockPathR
/-! C09 — the lock bracket of the command line (property theorems): every command that writes into a stack takes an exclusive
lock (`C09_updaters_*`), readers a shared one; the stacks locked are the stacks the command line works on, each once
(`C09_locked_stacks`), so the theorems of the several-stacks protocol hold of command lines (`C09_cmdline_*`). -/
namespace EupsModel.C09
open EupsModel.Lock (Pid Kind Err)
open EupsModel.LockCmd

/-- Every command that updates a stack (database, stack-wide cache, installed products) is registered with an
exclusive lock. -/
theorem C09_updaters_lock_exclusively (c : Cmd) (h : updates c = true) : lockType c = some .ex := by
  revert c; exact Cmd.forall (by decide)

/-- … and its command line does take that lock unless the user switches locking off (`--nolocks`, or
`lockDirectoryBase = None`) or only asks for help. -/
theorem C09_updaters_bracket (c : Cmd) (o : Opts) (h : updates c = true) (hn : o.nolocks = false)
    (he : o.enabled = true) (hh : o.help = false) : bracket c o = some .ex := by
  simp [bracket, hn, he, hh, C09_updaters_lock_exclusively c h]

/-- The bracket takes no lock only for the commands registered without one, or at the user's request. -/
theorem C09_bracket_none (c : Cmd) (o : Opts) (h : bracket c o = none) :
    lockType c = none ∨ o.nolocks = true ∨ o.enabled = false ∨ o.help = true := by
  unfold bracket at h
  cases hn : o.nolocks <;> cases he : o.enabled <;> cases hh : o.help <;> simp_all

/-- readers share: every command registered with a lock that is not an updater takes a shared one, except
`distrib path` / `distrib tags`, which keep the default (exclusive) though they only read — conservative. -/
theorem C09_readers_lock_shared (c : Cmd) (h : updates c = false) (hl : lockType c ≠ none)
    (h1 : c ≠ .distribPath) (h2 : c ≠ .distribTags) : lockType c = some .sh := by
  revert c; exact Cmd.forall (by decide)

/-- The stacks a command line locks are exactly the stacks it works on (`-Z` replaces `$EUPS_PATH`, `-z` selects),
each once. -/
theorem C09_locked_stacks (envPath : List Nat) (optZ : Option (List Nat)) (optz : Option Nat) (d : Nat) :
    (lockedStacks envPath optZ optz).Nodup ∧
    (d ∈ lockedStacks envPath optZ optz ↔
      d ∈ (match optZ with | some l => l | none => envPath) ∧ (match optz with | some z => d = z | none => True)) := by
  refine ⟨nodup_dedup _, ?_⟩
  unfold lockedStacks
  rw [mem_dedup]
  cases optz <;> cases optZ <;> simp

/-- **Mutual exclusion for command lines, no hypothesis left**: commands whose paths are what `setEupsPath` makes of
`$EUPS_PATH`, `-Z` and `-z` are never in their bodies together, unrelated, one of them holding an exclusive lock on a stack
both work on. -/
theorem C09_cmdline_mutex (kind : Pid → Kind) (lp : Pid → Option Pid) (tries : Pid → Nat)
    (envPath : Pid → List Nat) (optZ : Pid → Option (List Nat)) (optz : Pid → Option Nat)
    (explicit : Pid → Bool) (sched : List Pid) :
    LockPathR.MutexM (LockPathR.mrun (LockPathR.minit kind lp tries
      (fun p => lockedStacks (envPath p) (optZ p) (optz p)) explicit) sched) :=
  LockPathR.mutexM_mrun kind lp tries _ explicit (fun _ => nodup_dedup _) sched

/-- … the same with signals delivered to command bodies. -/
theorem C09_cmdline_mutex_with_signals (kind : Pid → Kind) (lp : Pid → Option Pid) (tries : Pid → Nat)
    (envPath : Pid → List Nat) (optZ : Pid → Option (List Nat)) (optz : Pid → Option Nat)
    (explicit : Pid → Bool) (evs : List LockPathR.MEv) :
    LockPathR.MutexM (LockPathR.mrunE (LockPathR.minit kind lp tries
      (fun p => lockedStacks (envPath p) (optZ p) (optz p)) explicit) evs) :=
  LockPathR.mutexM_mrunE kind lp tries _ explicit (fun _ => nodup_dedup _) evs

/-- **A command in its body holds every stack it works on**: for command lines (paths as `setEupsPath` makes them),
in every reachable state — signals included — a command whose `takeLocks` has returned holds its lock on every stack
of its path: an updater an exclusive one on every stack it may write to. -/
theorem C09_cmdline_body_holds_every_stack (kind : Pid → Kind) (lp : Pid → Option Pid) (tries : Pid → Nat)
    (envPath : Pid → List Nat) (optZ : Pid → Option (List Nat)) (optz : Pid → Option Nat)
    (explicit : Pid → Bool) (evs : List LockPathR.MEv) (p : Pid) (d : Nat)
    (hb : LockPathR.inBodyM ((LockPathR.mrunE (LockPathR.minit kind lp tries
      (fun p => lockedStacks (envPath p) (optZ p) (optz p)) explicit) evs).ctl p) = true)
    (hd : d ∈ lockedStacks (envPath p) (optZ p) (optz p)) :
    ((LockPathR.mrunE (LockPathR.minit kind lp tries
      (fun p => lockedStacks (envPath p) (optZ p) (optz p)) explicit) evs).comp d).pc p = .hold ∧
    (kind p, p) ∈ ((LockPathR.mrunE (LockPathR.minit kind lp tries
      (fun p => lockedStacks (envPath p) (optZ p) (optz p)) explicit) evs).comp d).files :=
  LockPathR.body_holds kind lp tries _ explicit (fun _ => nodup_dedup _) evs p d hb hd

/-- non-vacuity: `-Z 2:0:2 -z …` style selections -/
example : lockedStacks [0, 1] (some [2, 0, 2]) none = [2, 0] ∧ lockedStacks [0, 1, 1] none (some 1) = [1] ∧
    bracket .declare {} = some .ex ∧ bracket .declare { help := true } = none ∧
    bracket .adminBuildCache { help := true } = some .ex ∧ bracket .list { nolocks := true } = none := by decide +kernel

end EupsModel.C09
