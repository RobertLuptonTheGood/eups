import EupsModel.Lemmas.LockRGrant
import EupsModel.Lemmas.LockRHomog
/-! C09 — what the repaired lock protocol GRANTS (property theorems; the exclusion theorems are in `Props/C09.lean`).

The grants are stated for a request made in ANY reachable state (whatever interleaving led to it) in which the other
processes are at rest, i.e. not in the middle of a `takeLocks` / `giveLocks` while the requester makes its calls. -/
namespace EupsModel.C09
open EupsModel.Lock (Pid Kind Err exFiles parentHolds)
open EupsModel.LockR

/-- "released locks leave no residue that blocks later commands": a request of either kind, made while nobody holds
and the others are at rest, is granted — in three calls (mkdir, create, look). -/
theorem C09_free_lock_granted (kind : Pid → Kind) (lp : Pid → Option Pid) (tries : Pid → Nat) (sched : List Pid)
    (i : Pid) (l : Nat)
    (hpc : (run (init kind lp tries) sched).pc i = .mkdir l)
    (hrest : ∀ j, j ≠ i → quiet ((run (init kind lp tries) sched).pc j) = true)
    (hfree : ∀ j, (run (init kind lp tries) sched).pc j ≠ .hold) :
    (run (run (init kind lp tries) sched) [i, i, i]).pc i = .hold := by
  have h := atRest_of_inv (inv_reach kind lp tries sched) (nodup_run _ sched List.nodup_nil) hrest hpc
  simpa [grantCalls, (h.free hfree).1] using attempt_grants h hpc (fun j hj => absurd hj (hfree j))

/-- "any number of readers may share": a shared request made while every holder is shared and the others are at rest
is granted — in three calls. -/
theorem C09_readers_share (kind : Pid → Kind) (lp : Pid → Option Pid) (tries : Pid → Nat) (sched : List Pid)
    (i : Pid) (l : Nat) (hk : kind i = .sh)
    (hpc : (run (init kind lp tries) sched).pc i = .mkdir l)
    (hrest : ∀ j, j ≠ i → quiet ((run (init kind lp tries) sched).pc j) = true)
    (hsh : ∀ j, (run (init kind lp tries) sched).pc j = .hold → kind j = .sh) :
    (run (run (init kind lp tries) sched) [i, i, i]).pc i = .hold := by
  have h := atRest_of_inv (inv_reach kind lp tries sched) (nodup_run _ sched List.nodup_nil) hrest hpc
  simpa [grantCalls, init, hk] using attempt_grants h hpc (fun j hj hor => by simp [init, hk, hsh j hj] at hor)

/-- "a child of the lock holder may re-enter its parent's lock": a request of either kind by a process that started
with `EUPS_LOCK_PID = p`, made while `p` is the only holder (of either kind) and the others are at rest, is granted —
an exclusive one in four calls (mkdir, the parent test, create, look), a shared one in three. -/
theorem C09_child_reenters (kind : Pid → Kind) (lp : Pid → Option Pid) (tries : Pid → Nat) (sched : List Pid)
    (c p : Pid) (l : Nat) (hlp : lp c = some p)
    (hpc : (run (init kind lp tries) sched).pc c = .mkdir l)
    (hrest : ∀ j, j ≠ c → quiet ((run (init kind lp tries) sched).pc j) = true)
    (hp : (run (init kind lp tries) sched).pc p = .hold)
    (honly : ∀ j, (run (init kind lp tries) sched).pc j = .hold → j = p) :
    (run (run (init kind lp tries) sched) (match kind c with | .ex => [c, c, c, c] | .sh => [c, c, c])).pc c = .hold := by
  have h := atRest_of_inv (inv_reach kind lp tries sched) (nodup_run _ sched List.nodup_nil) hrest hpc
  have hd : (run (init kind lp tries) sched).dir = true := h.dirIff.mpr (List.ne_nil_of_mem ((h.mem _ p).2 ⟨hp, rfl⟩))
  have := attempt_grants h hpc (fun j hj _ => by rw [honly j hj]; simpa [init] using hlp)
  rw [grantCalls, hd, run_kind] at this
  cases hk : kind c <;> simpa [init, hk] using this

/-- … and an incompatible request is refused: while an unrelated process `q` is in its command body and one of the two
locks would be exclusive, no continuation — of the requester alone or of any interleaving — ends with the requester
in its body too, as long as `q` is still in its body. -/
theorem C09_incompatible_refused (kind : Pid → Kind) (lp : Pid → Option Pid) (tries : Pid → Nat) (sched : List Pid)
    (i q : Pid) (hne : q ≠ i) (hunrel : lp i ≠ some q ∧ lp q ≠ some i) (hex : kind i = .ex ∨ kind q = .ex)
    (hq : (run (init kind lp tries) sched).pc q = .hold) :
    (run (init kind lp tries) sched).pc i ≠ .hold := by
  have h := inv_reach kind lp tries sched
  intro hi
  exact h.excl i q (fun e => hne e.symm) hi hq (not_related_run hunrel sched) (by simpa [init] using hex)

/-- **A refused request leaves no trace**: in any reachable state, whatever the others are in the middle of, a request
that meets an unrelated holder it is incompatible with ends — after 8 calls (shared: announced, seen, withdrawn) or 3
(exclusive: turned away at the gate) — refused or waiting for its next attempt, with the lock directory, the lock files
and every other process exactly as they were. -/
theorem C09_refused_request_leaves_no_trace (kind : Pid → Kind) (lp : Pid → Option Pid) (tries : Pid → Nat)
    (sched : List Pid) (i q : Pid) (l : Nat) (hne : q ≠ i) (hlpq : lp i ≠ some q)
    (hex : kind i = .ex ∨ kind q = .ex)
    (hpc : (run (init kind lp tries) sched).pc i = .mkdir l)
    (hq : (run (init kind lp tries) sched).pc q = .hold) :
    ∃ n, n ≤ 8 ∧
      run (run (init kind lp tries) sched) (List.replicate n i) =
        setPC (run (init kind lp tries) sched) i (refusedPC (kind i) l) := by
  have h := inv_reach kind lp tries sched
  have hqf := h.acct.own_of hq rfl
  refine ⟨refuseCalls (kind i), by cases kind i <;> decide, ?_⟩
  simpa [init] using refuse_of_file hpc (h.inDir (List.ne_nil_of_mem hqf)) hqf hne (by simpa [init] using hlpq)
    (by simpa [init] using hex) (h.acct.noFile hpc rfl)

/-- **No livelock, no unbounded retrying**: whatever the schedule — the others may remove the lock directory under
the requester again and again — a command with `ntry = tries + 1` attempts makes at most `10·tries + 9` lock-directory
calls between the start of its `takeLocks` and the end of its `giveLocks`. -/
theorem C09_calls_bounded (kind : Pid → Kind) (lp : Pid → Option Pid) (tries : Pid → Nat) (sched : List Pid)
    (p : Pid) : callsOf p (init kind lp tries) sched ≤ 10 * tries p + 9 := by
  have := calls_bounded p (init kind lp tries) sched
  simp only [init, LockR.measure] at this
  simp only [init]
  omega

/-- A requester that has not (yet) put its lock file down — in particular an updater waiting at the gate for readers
to finish — is invisible to the others: no lock file of its is in the directory, so it turns nobody away. -/
theorem C09_waiting_requester_has_no_file (kind : Pid → Kind) (lp : Pid → Option Pid) (tries : Pid → Nat)
    (sched : List Pid) (i : Pid) (hw : hasFile ((run (init kind lp tries) sched).pc i) = false) (k : Kind) :
    (k, i) ∉ (run (init kind lp tries) sched).files :=
  (inv_reach kind lp tries sched).acct.noFile rfl hw

/-- non-vacuity of the grants: S₁ and S₂ acquire interleaved and share; E₀ is refused at the gate and sleeps; after both
have released, E₀'s second attempt is granted, and its child 3 (EUPS_LOCK_PID = 0) re-enters exclusively in four calls. -/
example :
    let kind : Pid → Kind := fun i => if i = 0 ∨ i = 3 then .ex else .sh
    let lp : Pid → Option Pid := fun i => if i = 3 then some 0 else none
    let s := run (init kind lp (fun _ => 1))
      ([1, 2, 1, 2, 1, 2] ++ [0, 0, 0] ++ [1, 1, 1, 1, 1, 2, 2, 2, 2, 2] ++ [0, 0, 0] ++ [3, 3, 3, 3])
    s.pc 0 = .hold ∧ s.pc 3 = .hold ∧ s.pc 1 = .done ∧ s.pc 2 = .done ∧
    (run (init kind lp (fun _ => 1)) ([1, 2, 1, 2, 1, 2] ++ [0, 0, 0])).pc 0 = .mkdir 0 ∧
    (run (init kind lp (fun _ => 1)) [1, 2, 1, 2, 1, 2]).pc 2 = .hold := by decide +kernel

/-- **"Any number of readers may share", under every schedule**: if every request is shared, no request is ever
refused and none is withdrawn — whatever the interleaving of acquisitions and releases.  (The one way a reader can fail:
the lock directory is removed under it by a releasing reader when it has no attempt left, `failedAcq .enoent`; with the
CLI's ten attempts that takes ten lost races in a row.) -/
theorem C09_readers_never_refused (kind : Pid → Kind) (lp : Pid → Option Pid) (tries : Pid → Nat)
    (hk : ∀ i, kind i = .sh) (sched : List Pid) (i : Pid) :
    (∀ e, (run (init kind lp tries) sched).pc i = .failedAcq e → e = .enoent) ∧
    (∀ l, (run (init kind lp tries) sched).pc i ≠ .lookMsg l) ∧
    (∀ a, (run (init kind lp tries) sched).pc i = .isdir a → a = .fin) := by
  have h := (sinv_run _ sched (sinv_init kind lp tries hk)).allSmooth i
  refine ⟨?_, ?_, ?_⟩
  · intro e he; rw [he] at h; cases e <;> simp [smooth] at h; rfl
  · intro l he; rw [he] at h; simp [smooth] at h
  · intro a he; rw [he] at h; cases a <;> simp [smooth] at h; rfl

/-- **Updaters among themselves** (every request exclusive, no re-entry), under every schedule: at most one of them is
engaged with the lock directory at any time (the first `mkdir` wins, the others are turned away at the gate and wait),
and nobody ever withdraws a lock file or is refused after having put one down. -/
theorem C09_updaters_serialised_by_the_gate (kind : Pid → Kind) (lp : Pid → Option Pid) (tries : Pid → Nat)
    (hk : ∀ i, kind i = .ex) (hl : ∀ i, lp i = none) (sched : List Pid) :
    (∀ i j, engaged ((run (init kind lp tries) sched).pc i) = true →
            engaged ((run (init kind lp tries) sched).pc j) = true → i = j) ∧
    (∀ i l, (run (init kind lp tries) sched).pc i ≠ .lookMsg l) ∧
    (∀ i a, (run (init kind lp tries) sched).pc i = .isdir a → a = .fin) := by
  have h := xinv_run _ sched (xinv_init kind lp tries hk hl)
  refine ⟨h.gate.uniq, ?_, ?_⟩
  · intro i l he; have := h.allGated i; rw [he] at this; simp [gated] at this
  · intro i a he; have := h.allGated i; rw [he] at this; simpa [gated] using this

/-- non-vacuity: three updaters with three attempts each, interleaved call by call: one holds, the others wait at
the gate (and none has withdrawn anything) -/
example :
    let s := run (init (fun _ => .ex) (fun _ => none) (fun _ => 2)) [0, 1, 2, 0, 1, 2, 0, 1, 2]
    s.pc 0 = .hold ∧ s.pc 1 = .mkdir 1 ∧ s.pc 2 = .mkdir 1 := by decide +kernel

/-- the hypotheses are needed: an updater and a reader may both withdraw (deliberately conservative) -/
example :
    let kind : Pid → Kind := fun i => if i = 0 then .ex else .sh
    let s := run (init kind (fun _ => none) (fun _ => 0)) [0, 1, 0, 1, 0, 1]
    s.pc 0 = .lookMsg 0 ∧ s.pc 1 = .lookMsg 0 := by decide +kernel

end EupsModel.C09
