import EupsModel.Lemmas.LockEx
import EupsModel.Lemmas.LockRes
import EupsModel.Lemmas.LockAtomic
import EupsModel.Lemmas.LockPath
import EupsModel.Lemmas.LockRace
/-! C09 — the PINNED lock protocol (`Model/Lock.lean`: `lock.py` before the repair of D12a/b/c, with the repairs of
D12d/e; one transition = one file-system call of one process).  `Mutex` in every reachable state is FALSE of it
(`C09_mutex_false_Pinned`, from the three races D12a/b/c); the theorems here say exactly what was wrong — the race
witnesses, the classification of every violation by a race — and what held all the same, each with its hypothesis named. -/
namespace EupsModel.C09
open EupsModel.Lock

/-- The property's first sentence, as stated: in every reachable state of every configuration. -/
def MutexAlwaysPinned : Prop :=
  ∀ (kind : Pid → Kind) (lp : Pid → Option Pid) (tries : Pid → Nat) (sched : List Pid),
    Mutex (run (init kind lp tries) sched)

/-- Exclusive requesters only, none re-entering a parent's lock: any number of updaters, any `ntry`, every interleaving of
their file-system calls: never two of them between the return of `takeLocks` and the call of `giveLocks`, and `Mutex`
holds. -/
theorem C09_mutex_exclusive_only_Pinned (kind : Pid → Kind) (lp : Pid → Option Pid) (tries : Pid → Nat)
    (hk : ∀ i, kind i = .ex) (hl : ∀ i, lp i = none) (sched : List Pid) :
    (∀ i j, (run (init kind lp tries) sched).pc i = .hold → (run (init kind lp tries) sched).pc j = .hold → i = j)
    ∧ Mutex (run (init kind lp tries) sched) := by
  have h := exInv_run _ sched (exInv_init kind lp tries hk hl)
  exact ⟨fun i j hi hj => h.gate.uniq i j (by rw [hi]; rfl) (by rw [hj]; rfl), h.mutex⟩

/-- non-vacuity: three updaters with two attempts each; one of them holds, one has been refused for good -/
example :
    let s := run (init (fun _ => .ex) (fun _ => none) (fun _ => 1)) [0, 0, 0, 1, 1, 1, 1, 1, 1, 2]
    s.pc 0 = .hold ∧ s.pc 1 = .failedAcq .runtime ∧ s.pc 2 = .scanAll 1 := by decide +kernel

def kinds (l : List Kind) : Pid → Kind := fun i => l.getD i .sh
def noParent : Pid → Option Pid := fun _ => none
def once : Pid → Nat := fun _ => 0

/-- D12a, scan before create (two processes): E `mkdir`; S `mkdir` (EEXIST), `exists`, scan — no exclusive file
yet; E scan; S create; E create: an exclusive and a shared holder together. -/
theorem C09_scan_before_create_witness_Pinned :
    let s := run (init (kinds [.ex, .sh]) noParent once) [0, 1, 1, 1, 0, 1, 0]
    s.pc 0 = .hold ∧ s.pc 1 = .hold ∧ s.kind 0 = .ex ∧ ¬ related s 0 1 := by decide +kernel

/-- D12b, stale `rmdir` (three processes): E₁ `mkdir`; S acquires and releases completely while E₁ has not yet
created its file, counts 0 files and removes E₁'s directory; E₀'s `mkdir` succeeds; both scan, both create:
two exclusive holders. -/
theorem C09_stale_rmdir_witness_Pinned :
    let s := run (init (kinds [.ex, .ex, .sh]) noParent once) [1, 2, 2, 2, 2, 2, 2, 2, 2, 2, 2, 0, 1, 0, 0, 1]
    s.pc 0 = .hold ∧ s.pc 1 = .hold ∧ s.kind 0 = .ex ∧ s.kind 1 = .ex ∧ ¬ related s 0 1 := by decide +kernel

/-- D12c, "proceeding with trepidation": S₀ `mkdir` (EEXIST) while S₁ holds; S₁ releases and removes the directory;
S₀'s `exists` answers False and S₀ runs its command without a lock while E₂ acquires an exclusive one. -/
theorem C09_trepidation_witness_Pinned :
    let s := run (init (kinds [.sh, .sh, .ex]) noParent once) [1, 1, 1, 1, 0, 1, 1, 1, 1, 1, 0, 2, 2, 2]
    s.pc 2 = .hold ∧ s.kind 2 = .ex ∧ s.pc 0 = .unlocked ∧ ¬ related s 2 0 := by decide +kernel

/-- With re-entry even exclusive requesters alone race: C (child of P) passes the parent test while P holds; P
releases and removes the directory; X's `mkdir` succeeds; C and X scan before either creates.  So the hypothesis
"nobody re-enters" of `C09_mutex_exclusive_only_Pinned` cannot be dropped. -/
theorem C09_exclusive_reentry_race_witness_Pinned :
    let s := run (init (fun _ => .ex) (fun i => if i = 1 then some 0 else none) once)
      [0, 0, 0, 1, 1, 0, 0, 0, 0, 0, 0, 2, 1, 2, 1, 2]
    s.pc 1 = .hold ∧ s.pc 2 = .hold ∧ s.kind 1 = .ex ∧ ¬ related s 1 2 := by decide +kernel

/-- Last sentence of C09, at full strength (the racy schedules included): once no process is engaged with the lock
directory — each one is still before its `mkdir`, has been refused, runs unlocked, or has finished or failed its
`giveLocks` — the lock directory and every lock file are gone. -/
theorem C09_no_residue_Pinned (kind : Pid → Kind) (lp : Pid → Option Pid) (tries : Pid → Nat) (sched : List Pid)
    (hq : ∀ i, engaged ((run (init kind lp tries) sched).pc i) = false) :
    (run (init kind lp tries) sched).dir = false ∧ (run (init kind lp tries) sched).files = [] :=
  (resInv_run _ sched (resInv_init kind lp tries)).clean hq

/-- non-vacuity: after the stale-`rmdir` race has run its course (two exclusive holders in between, a failed
release at the end) nobody is engaged, and indeed nothing is left -/
example :
    let s := run (init (kinds [.ex, .ex, .sh]) noParent once)
      [1, 2, 2, 2, 2, 2, 2, 2, 2, 2, 2, 0, 1, 0, 0, 1, 0, 0, 0, 0, 0, 1, 1, 1, 1, 1, 1]
    (∀ i, i < 3 → engaged (s.pc i) = false) ∧ s.pc 0 = .done ∧ s.pc 1 = .done ∧ s.dir = false := by decide +kernel

/-- A phase-atomic order is an ordinary schedule of the step model: phases are runs of `Lock.step`, not a second
model. -/
theorem C09_phases_are_runs_Pinned (s : St) (ps : List Pid) : ∃ sched, ps.foldl phase s = run s sched :=
  phases_is_run s ps

/-- On any order of complete phases (an acquisition attempt, or a release): `Mutex` holds — an exclusive holder shares
the lock only with processes related to it —, every process is at a resting point (so six calls per phase suffice),
and when nobody holds, nothing is left. -/
theorem C09_mutex_phase_atomic_Pinned (kind : Pid → Kind) (lp : Pid → Option Pid) (tries : Pid → Nat) (ps : List Pid) :
    Mutex (ps.foldl phase (init kind lp tries))
    ∧ (∀ i, quiet ((ps.foldl phase (init kind lp tries)).pc i) = true)
    ∧ ((∀ i, (ps.foldl phase (init kind lp tries)).pc i ≠ .hold) →
        (ps.foldl phase (init kind lp tries)).dir = false ∧ (ps.foldl phase (init kind lp tries)).files = []) := by
  have h := ainv_phases _ ps (ainv_init kind lp tries)
  exact ⟨h.toMutex, fun i => quiet_of_resting (h.rest i), h.atRest.free⟩

/-- "any number of readers may share": on a phase-atomic order, a shared request made while every holder is shared
is granted. -/
theorem C09_readers_share_Pinned (kind : Pid → Kind) (lp : Pid → Option Pid) (tries : Pid → Nat) (ps : List Pid)
    (i : Pid) (l : Nat) (hk : kind i = .sh)
    (hpc : (ps.foldl phase (init kind lp tries)).pc i = .mkdir l)
    (hsh : ∀ j, (ps.foldl phase (init kind lp tries)).pc j = .hold → kind j = .sh) :
    (phase (ps.foldl phase (init kind lp tries)) i).pc i = .hold := by
  have hkind : ∀ j, (ps.foldl phase (init kind lp tries)).kind j = kind j := fun j => by rw [phases_kind]; rfl
  refine (phase_grants (ainv_phases _ ps (ainv_init kind lp tries)) hpc).mpr (fun j hj hor => ?_)
  rw [hkind, hkind, hk, hsh j hj] at hor
  exact nomatch hor

/-- "released locks leave no residue that blocks later commands": on a phase-atomic order, a request of either
kind made while nobody holds is granted. -/
theorem C09_free_lock_granted_Pinned (kind : Pid → Kind) (lp : Pid → Option Pid) (tries : Pid → Nat) (ps : List Pid)
    (i : Pid) (l : Nat)
    (hpc : (ps.foldl phase (init kind lp tries)).pc i = .mkdir l)
    (hfree : ∀ j, (ps.foldl phase (init kind lp tries)).pc j ≠ .hold) :
    (phase (ps.foldl phase (init kind lp tries)) i).pc i = .hold :=
  (phase_grants (ainv_phases _ ps (ainv_init kind lp tries)) hpc).mpr (fun j hj _ => absurd hj (hfree j))

/-- "a child of the lock holder may re-enter its parent's lock": on a phase-atomic order, a request of either kind
by a process that started with `EUPS_LOCK_PID = p`, made while `p` is the only holder (of either kind), is
granted. -/
theorem C09_child_reenters_Pinned (kind : Pid → Kind) (lp : Pid → Option Pid) (tries : Pid → Nat) (ps : List Pid)
    (c p : Pid) (l : Nat) (hlp : lp c = some p)
    (hpc : (ps.foldl phase (init kind lp tries)).pc c = .mkdir l)
    (hp : (ps.foldl phase (init kind lp tries)).pc p = .hold)
    (honly : ∀ j, (ps.foldl phase (init kind lp tries)).pc j = .hold → j = p) :
    (phase (ps.foldl phase (init kind lp tries)) c).pc c = .hold := by
  refine (phase_grants (ainv_phases _ ps (ainv_init kind lp tries)) hpc).mpr (fun j hj _ => ?_)
  rw [phases_lp, honly j hj]; exact hlp

/-- ... and an incompatible request is refused: on a phase-atomic order, while an unrelated process `q` holds and one of
the two locks would be exclusive, the request of `i` does not end in a lock (it is refused, or will be retried). -/
theorem C09_incompatible_refused_Pinned (kind : Pid → Kind) (lp : Pid → Option Pid) (tries : Pid → Nat) (ps : List Pid)
    (i q : Pid) (hne : q ≠ i)
    (hq : (ps.foldl phase (init kind lp tries)).pc q = .hold)
    (hunrel : ¬ related (ps.foldl phase (init kind lp tries)) i q)
    (hex : kind i = .ex ∨ kind q = .ex) :
    (phase (ps.foldl phase (init kind lp tries)) i).pc i ≠ .hold := by
  exact phase_refuses (ainv_phases _ ps (ainv_init kind lp tries)) hne hq hunrel (by simpa [phases_kind, init] using hex)

/-- non-vacuity of the three grants: S₁ and S₂ share; E₀ is refused beside them; after both release E₀'s second
attempt succeeds, and its child 3 (EUPS_LOCK_PID = 0) re-enters with an exclusive request of its own. -/
example :
    let kind : Pid → Kind := fun i => if i = 0 ∨ i = 3 then .ex else .sh
    let lp : Pid → Option Pid := fun i => if i = 3 then some 0 else none
    let s := [1, 2, 0, 1, 2, 0, 3].foldl phase (init kind lp (fun _ => 1))
    s.pc 0 = .hold ∧ s.pc 3 = .hold ∧ s.pc 1 = .done ∧ s.pc 2 = .done ∧
    ([1, 2, 0].foldl phase (init kind lp (fun _ => 1))).pc 0 = .mkdir 0 ∧
    ([1, 2].foldl phase (init kind lp (fun _ => 1))).pc 2 = .hold := by decide +kernel

section path
open EupsModel.LockPath

/-- Projection: in a run of the path model — `takeLocks(path)`, body, `giveLocks(locks)`, with the giving-up of
earlier locks when a later stack is refused — the lock state of every stack is the result of a schedule of the
single-directory model from its initial state, so the single-directory theorems above apply to each stack. -/
theorem C09_path_projection_Pinned (kind : Pid → Kind) (lp : Pid → Option Pid) (tries : Pid → Nat)
    (path : Pid → List Dir) (explicit : Pid → Bool) (sched : List Pid) (d : Dir) :
    ∃ sd, ((mrun (minit kind lp tries path explicit) sched).comp d) = run (init kind lp tries) sd :=
  mrun_comp_is_run _ sched d

/-- No residue, per stack: a stack with which no process is engaged any more holds neither lock directory nor lock
files. -/
theorem C09_path_no_residue_per_stack_Pinned (kind : Pid → Kind) (lp : Pid → Option Pid) (tries : Pid → Nat)
    (path : Pid → List Dir) (explicit : Pid → Bool) (sched : List Pid) (d : Dir)
    (hq : ∀ p, engaged (((mrun (minit kind lp tries path explicit) sched).comp d).pc p) = false) :
    ((mrun (minit kind lp tries path explicit) sched).comp d).dir = false ∧
    ((mrun (minit kind lp tries path explicit) sched).comp d).files = [] := by
  obtain ⟨sd, hsd⟩ := C09_path_projection_Pinned kind lp tries path explicit sched d
  rw [hsd] at hq ⊢
  exact C09_no_residue_Pinned kind lp tries sd hq

/-- Exclusive requesters only, distinct stacks per command: `MutexM` — no two commands whose paths share a stack are in
their bodies together. -/
theorem C09_path_mutex_exclusive_only_Pinned (kind : Pid → Kind) (lp : Pid → Option Pid) (tries : Pid → Nat)
    (path : Pid → List Dir) (explicit : Pid → Bool)
    (hk : ∀ i, kind i = .ex) (hl : ∀ i, lp i = none) (hn : ∀ p, (path p).Nodup) (sched : List Pid) :
    MutexM (mrun (minit kind lp tries path explicit) sched) :=
  (pinv_mrun _ sched (pinv_minit kind lp tries path explicit hk hl hn)).mutexM

/-- Exclusive requesters only, several stacks: when every command has finished — whether it got all its locks, or
was refused on a later stack after locking earlier ones (the situation of defect D12e) — no stack holds a lock
directory or a lock file. -/
theorem C09_path_no_residue_exclusive_only_Pinned (kind : Pid → Kind) (lp : Pid → Option Pid) (tries : Pid → Nat)
    (path : Pid → List Dir) (explicit : Pid → Bool)
    (hk : ∀ i, kind i = .ex) (hl : ∀ i, lp i = none) (hn : ∀ p, (path p).Nodup) (sched : List Pid)
    (hfin : ∀ p, finished ((mrun (minit kind lp tries path explicit) sched).ctl p) = true) (d : Dir) :
    ((mrun (minit kind lp tries path explicit) sched).comp d).dir = false ∧
    ((mrun (minit kind lp tries path explicit) sched).comp d).files = [] := by
  have h := pinv_mrun _ sched (pinv_minit kind lp tries path explicit hk hl hn)
  exact (h.ex d).clean (fun p => h.finished_clear (hfin p) d)

/-- non-vacuity, and the D12e scenario itself: X (path [1]) holds stack 1; Y (path [0, 1]) locks stack 0, is refused
on stack 1, gives stack 0 up again and has failed; X finishes; nothing is left on either stack. -/
example :
    let path : Pid → List Dir := fun i => if i = 0 then [1] else [0, 1]
    let S := mrun (minit (fun _ => .ex) (fun _ => none) (fun _ => 0) path (fun _ => true))
      [0, 0, 0, 1, 1, 1, 1, 1, 1, 1, 1, 1, 1, 1, 0, 0, 0, 0, 0, 0]
    S.ctl 1 = .fin (.failedAcq .runtime) ∧ S.ctl 0 = .fin .done ∧
    (S.comp 0).dir = false ∧ (S.comp 1).dir = false ∧
    ((mrun (minit (fun _ => .ex) (fun _ => none) (fun _ => 0) path (fun _ => true))
      [0, 0, 0, 1, 1, 1]).comp 0).files = [(.ex, 1)] := by decide +kernel

end path

/-- On a schedule none of whose steps is a scan-before-create (`RaceA`), a stale `rmdir` (`RaceB`) or a trepidation
exit (`RaceC`), `Mutex` holds.  Hypothesis on the configuration: `EUPS_LOCK_PID` maps are flat (the named process
itself started without the variable — what `takeLocks` guarantees by never overwriting it). -/
theorem C09_classification_Pinned (kind : Pid → Kind) (lp : Pid → Option Pid) (tries : Pid → Nat) (hflat : Flat lp)
    (sched : List Pid) (hrf : RaceFree (init kind lp tries) sched) :
    Mutex (run (init kind lp tries) sched) :=
  (rfInv_run _ sched (rfInv_init kind lp tries hflat) hrf).mutex

/-- The same, read the other way: every reachable state that violates `Mutex` has one of the three races in its
history. -/
theorem C09_violation_has_race_Pinned (kind : Pid → Kind) (lp : Pid → Option Pid) (tries : Pid → Nat) (hflat : Flat lp)
    (sched : List Pid) (hv : ¬ Mutex (run (init kind lp tries) sched)) :
    ∃ pre p post, sched = pre ++ p :: post ∧
      (RaceA (run (init kind lp tries) pre) p ∨ RaceB (run (init kind lp tries) pre) p ∨
       RaceC (run (init kind lp tries) pre) p) := by
  rcases raceFree_or_racy (init kind lp tries) sched with h | h
  · exact absurd (C09_classification_Pinned kind lp tries hflat sched h) hv
  · exact h

/-- The flatness hypothesis cannot be dropped: with a chain `lp 2 = 1`, `lp 1 = 0` the two listings of 2's admission test
are split by 1's `create`; no step is a race, yet 0 (exclusive) and 2 hold together and are not related. -/
theorem C09_classification_needs_flat_Pinned :
    let lp : Pid → Option Pid := fun i => if i = 1 then some 0 else if i = 2 then some 1 else none
    let sched := [0, 0, 0, 1, 1, 1, 1, 2, 2, 2, 1, 2, 2]
    raceFreeUpTo 3 (init (kinds [.ex, .ex, .sh]) lp once) sched = true ∧
    (run (init (kinds [.ex, .ex, .sh]) lp once) sched).pc 0 = .hold ∧
    (run (init (kinds [.ex, .ex, .sh]) lp once) sched).pc 2 = .hold ∧
    ¬ related (run (init (kinds [.ex, .ex, .sh]) lp once) sched) 0 2 := by decide +kernel

/-- non-vacuity: a race-free schedule that is far from phase-atomic — the reader's acquisition is interleaved call by
call with the re-entry of the updater's child — and `Mutex` indeed holds at its end. -/
example :
    let lp : Pid → Option Pid := fun i => if i = 2 then some 0 else none
    let s0 := init (kinds [.ex, .sh, .ex]) lp once
    let sched := [0, 0, 0, 1, 2, 2, 1, 2, 1, 1, 2, 2, 0, 0, 0, 0, 0]
    RaceFree s0 sched ∧ Flat lp ∧ (run s0 sched).pc 2 = .hold ∧ (run s0 sched).pc 1 = .failedAcq .runtime ∧
    (run s0 sched).pc 0 = .done := by
  refine ⟨raceFree_of_upTo 3 _ _ (by decide) (fun q hq => by simp [init, inflight]) (by decide), ?_, by decide,
    by decide, by decide⟩
  intro p r h
  by_cases hp : p = 2
  · subst hp; simp at h; subst h; simp
  · simp [hp] at h

/-- Several stacks: when two unrelated commands hold the lock of stack `d` in their bodies, one of them exclusively,
the history of that stack — a schedule of the single-directory model, by projection — contains one of the three races.
(The other way to break `MutexM`, a command in its body *without* a lock on `d`, is the trepidation exit itself.) -/
theorem C09_path_violation_has_race_Pinned (kind : Pid → Kind) (lp : Pid → Option Pid) (tries : Pid → Nat)
    (path : Pid → List LockPath.Dir) (explicit : Pid → Bool) (hflat : Flat lp) (sched : List Pid)
    (d : LockPath.Dir) (p q : Pid) (hpq : p ≠ q)
    (hnrel : ¬ related ((LockPath.mrun (LockPath.minit kind lp tries path explicit) sched).comp d) p q)
    (hp : ((LockPath.mrun (LockPath.minit kind lp tries path explicit) sched).comp d).pc p = .hold)
    (hq : ((LockPath.mrun (LockPath.minit kind lp tries path explicit) sched).comp d).pc q = .hold)
    (hk : kind p = .ex) :
    ∃ sd pre x post, ((LockPath.mrun (LockPath.minit kind lp tries path explicit) sched).comp d) =
        run (init kind lp tries) sd ∧ sd = pre ++ x :: post ∧
      (RaceA (run (init kind lp tries) pre) x ∨ RaceB (run (init kind lp tries) pre) x ∨
       RaceC (run (init kind lp tries) pre) x) := by
  obtain ⟨sd, hsd⟩ := C09_path_projection_Pinned kind lp tries path explicit sched d
  rw [hsd] at hnrel hp hq
  have hv : ¬ Mutex (run (init kind lp tries) sd) := by
    intro hm
    have := hm p q hpq hnrel hp (by simp [init, hk])
    rw [hq] at this; simp [inBody] at this
  obtain ⟨pre, x, post, he, hr⟩ := C09_violation_has_race_Pinned kind lp tries hflat sd hv
  exact ⟨sd, pre, x, post, hsd, he, hr⟩

/-- The property as stated is false of the protocol. -/
theorem C09_mutex_false_Pinned : ¬ MutexAlwaysPinned := by
  intro h
  have hm := h (kinds [.ex, .sh]) noParent once [0, 1, 1, 1, 0, 1, 0]
  have w := C09_scan_before_create_witness_Pinned
  exact absurd (hm 0 1 (by decide) w.2.2.2 w.1 w.2.2.1) (by rw [w.2.1]; decide)

end EupsModel.C09
