import EupsModel.Lemmas.RecordEndToEnd
import EupsModel.Lemmas.RecordDir
/-! C16 — database records round-trip and stacks are relocatable. -/
namespace EupsModel.C16
open EupsModel.Record

/-! ## Relocation

A *placement* says where the product directory and the table file are relative to the stack `root`.
`declarePaths ex (declaredProd root … d t)` is what `Eups.declare` + `Database.declare` store for it, `resolveInfo` what
`VersionFile.makeProduct` gives a reader whose stack is at `root'`, `readBack` the two composed.  `d.at root'` and
`t.at root' …` are the locations the property demands: paths inside the stack re-rooted, paths outside unchanged. -/

/-- Products are recorded relative to the stack: for every listed placement the stored block is `canonInfo`,
which does not mention `root` at all unless the path is outside the stack. -/
theorem C16_recorded_relative (ex : Path → Bool) (root : List Str) (name version flavor : Str) (d : DirPl) (t : TabPl)
    (hp : PlaceOK root name version flavor d t) (hx : DeclEx ex root name version flavor d t) :
    (declarePaths ex (declaredProd root name version flavor d t) none).map (·.2)
      = .ok (canonInfo name version flavor d t) :=
  canon_spec ex root name version flavor d t hp hx

/-- **Relocation** (core theorem).  Declare with the stack at `root`; move or copy the stack to `root'`; a reader
there reports the directory and the table file at `root'` if they were inside the stack and where they were if
they were outside — for each placement: directory inside / outside / none × table file in `dir/ups` /
absolute inside the stack / absolute outside / interned in `ups_db` / none. -/
theorem C16_relocate (ex ex' : Path → Bool) (root root' : List Str) (name version flavor : Str) (d : DirPl) (t : TabPl)
    (hp : PlaceOK root name version flavor d t) (hroot' : SegsOK root')
    (hd : DeclEx ex root name version flavor d t) (hr : ReadEx ex' root' name version flavor d t) :
    readBack ex ex' root root' name version flavor d t
      = .ok (d.at root', t.at root' name version flavor d) :=
  relocate ex ex' root root' name version flavor d t hp hroot' hd hr

/-- Without moving anything (`root' = root`) the reader reports exactly the declared locations. -/
theorem C16_declared_locations (ex : Path → Bool) (root : List Str) (name version flavor : Str) (d : DirPl) (t : TabPl)
    (hp : PlaceOK root name version flavor d t)
    (hd : DeclEx ex root name version flavor d t) (hr : ReadEx ex root name version flavor d t) :
    readBack ex ex root root name version flavor d t = .ok (d.at root, t.at root name version flavor d) :=
  C16_relocate ex ex root root name version flavor d t hp hp.root_ok hd hr

/-! Non-vacuity: a concrete stack `/s`, product `a 1` for flavor `L`, installed in `/s/L/a/1`, with the table
file interned; everything exists.  The hypotheses hold and the reader at `/m/n` finds `/m/n/L/a/1` and
`/m/n/ups_db/L/a/1/ups/a.table`. -/
example : PlaceOK [[115]] [97] [49] [76] (.inside [[76], [97], [49]]) .interned :=
  ⟨by decide +kernel, by decide +kernel, by decide +kernel, by decide +kernel, by decide +kernel, by decide +kernel, trivial⟩
example : PlaceOK [[115]] [97] [49] [76] (.outside [[111], [97]]) (.absInside [[116], [97, 46, 116]]) :=
  ⟨by decide +kernel, by decide +kernel, by decide +kernel, by decide +kernel, by decide +kernel, by decide +kernel, by decide +kernel⟩
example : DeclEx (fun _ => true) [[115]] [97] [49] [76] (.inside [[76], [97], [49]]) .interned := by simp [DeclEx]
example : ReadEx (fun _ => true) [[109], [110]] [97] [49] [76] (.inside [[76], [97], [49]]) .interned := by simp [ReadEx]
example : readBack (fun _ => true) (fun _ => true) [[115]] [[109], [110]] [97] [49] [76] (.inside [[76], [97], [49]]) .interned
    = .ok (.path ⟨true, [[109], [110], [76], [97], [49]]⟩,
           .path ⟨true, [[109], [110], sUpsDb, [76], [97], [49], sUps, [97] ++ sDotTable]⟩) :=
  eq_ok_of_toOption (by decide +kernel)

/-! ## Text round trip

`Clean`, `GoodVRec`, `GoodCRec`: every value written is non-empty text without `#`, newline, carriage return, quote or a
blank at either end; flavor names are distinct and unqualified; PROD_DIR and TABLE_FILE are present, UPS_DIR too unless
the table file is `none`. -/

/-- **Version files round-trip** (string level): `VersionFile.write` followed by `VersionFile._read` — with the
product name and version taken from the file or preset to the record's own — yields the same name, version,
flavors (in order) and per-flavor fields. -/
theorem C16_text_roundtrip_version (r : VRec) (h : GoodVRec r) (nm vs : Option Str)
    (hnm : nm = none ∨ nm = r.name) (hvs : vs = none ∨ vs = r.version) :
    ∃ text, printVersion r = .ok (some text) ∧ parseVersion nm vs text = .ok r :=
  text_roundtrip_version r h nm vs hnm hvs

/-- **Chain files round-trip** (string level): `ChainFile.write` followed by `ChainFile._read` yields the same
product name, tag, flavors (in order), tagged versions and stamps. -/
theorem C16_text_roundtrip_chain (r : CRec) (h : GoodCRec r) (nm tg : Option Str)
    (hnm : nm = none ∨ nm = r.name) (htg : tg = none ∨ tg = r.tag) :
    ∃ text, printChain r = .ok (some text) ∧ parseChain nm tg text = .ok r :=
  text_roundtrip_chain r h nm tg hnm htg

/-- **Other flavors untouched**: `Database.declare` for one flavor of a version file leaves the block of every
other flavor exactly as it was — hypothesis `TrimStable`: that block holds no existing absolute path below the
stack root (what the trimming loop of `VersionFile.write` rewrites; blocks eups wrote itself for the listed
placements hold relative paths for everything inside the stack). -/
theorem C16_other_flavors_untouched (ex : Path → Bool) (who now : Str) (vr vr' : VRec) (p : Record.Prod)
    (h : declareRec ex who now vr p = .ok vr') (f' : Str) (hf : f' ≠ p.flavor) (i : Info)
    (hi : dget vr.flavors f' = some i) (hs : TrimStable ex (stackRoot p.db) i) :
    dget vr'.flavors f' = some i :=
  other_flavors_untouched ex who now vr vr' p h f' hf i hi hs

/-- **Other flavors untouched, database layer** (version *and* chain records): `Database.undeclare` of one flavor
(its tags first, then its block of the version file), `Database.unassignTag` for one flavor and
`Database.assignTag` for one flavor (a new tag, or a tag re-pointed) leave the block of every other flavor in every
chain record and in every version record of the product exactly as it was (so a record that holds a block of another
flavor stays). -/
theorem C16_other_flavors_untouched_db (d : PDir) (name tag version flavor who now f' : Str) (hf : f' ≠ flavor) :
    ((∀ t, (d.undeclare version flavor).blockC t f' = d.blockC t f') ∧
     (∀ v, (d.undeclare version flavor).blockV v f' = d.blockV v f')) ∧
    ((∀ t, (d.unassignTag tag flavor).blockC t f' = d.blockC t f') ∧
     (d.unassignTag tag flavor).versions = d.versions) ∧
    ((∀ t, (d.assignTag name tag version flavor who now).blockC t f' = d.blockC t f') ∧
     (∀ v, (d.assignTag name tag version flavor who now).blockV v f' = d.blockV v f')) :=
  ⟨PDir.blocks_eq.mp (undeclare_blocks d version flavor f' hf),
   ⟨(PDir.blocks_eq.mp (unassignTag_blocks d tag flavor f' hf)).1, unassignTag_versions d tag flavor⟩,
   PDir.blocks_eq.mp (assignTag_blocks d name tag version flavor who now f' hf)⟩

/-- Non-vacuity: version `1` declared for flavors `L` and `G`, `current` on both; undeclaring flavor `G` removes
`G`'s blocks and keeps `L`'s block of the chain record (and of the version record). -/
example :
    let ci : CInfo := { version := Fld.val [49], declarer := Fld.val [114] }
    let vi : Info := { declarer := Fld.val [114], productDir := Fld.val [100] }
    let d : PDir := { versions := [([49], { name := some [97], version := some [49], flavors := [([76], vi), ([71], vi)] })],
                      chains := [([99], { name := some [97], tag := some [99], flavors := [([76], ci), ([71], ci)] })] }
    (d.undeclare [49] [71]).blockC [99] [76] = some ci ∧ (d.undeclare [49] [71]).blockC [99] [71] = none ∧
    (d.undeclare [49] [71]).blockV [49] [76] = some vi ∧ (d.undeclare [49] [71]).blockV [49] [71] = none := by decide +kernel

/-! Non-vacuity: a concrete good version record with two flavors. -/
def exampleInfo1 : Info :=
  { declarer := Fld.val [114], declared := Fld.val [84, 49], productDir := Fld.val [76, 47, 97],
    upsDir := Fld.val [117, 112, 115], tableFile := Fld.val [97, 46, 116] }
def exampleInfo2 : Info :=
  { declarer := Fld.val [114], declared := Fld.val [84, 50], modifier := Fld.val [114],
    modified := Fld.val [84, 32, 51], productDir := Fld.val [110, 111, 110, 101],
    tableFile := Fld.val [110, 111, 110, 101] }
def exampleVRec : VRec :=
  { name := some [97], version := some [49, 46, 48], flavors := [([76], exampleInfo1), ([71], exampleInfo2)] }

example : GoodVRec exampleVRec :=
  ⟨⟨_, rfl, by decide +kernel⟩, ⟨_, rfl, by decide +kernel⟩, by decide +kernel, by decide +kernel, by decide +kernel⟩

def clashInfo (n : Nat) : Info :=
  { declarer := Fld.val [114], declared := Fld.val [84, n], productDir := Fld.val [100, n],
    upsDir := Fld.val [117, 112, 115], tableFile := Fld.val [97, 46, 116] }
def clashRec : VRec :=
  { name := some [97], version := some [49], flavors := [([76], clashInfo 49), ([76, 58, 98], clashInfo 50)] }

/-- Outside the alphabet of the round-trip theorem: a version file that holds the flavor `L` *and then* the
qualified flavor `L:b` does not read back — on meeting `QUALIFIERS = "b"` the reader renames the block it already
has for `L`, so the unqualified declaration is lost and its fields are overwritten. -/
theorem C16_qualifier_clash_witness :
    ∃ text, printVersion clashRec = .ok (some text) ∧
      parseVersion none none text =
        .ok { name := some [97], version := some [49], flavors := [([76, 58, 98], clashInfo 50)] } :=
  witness_of_eval (by decide +kernel)

/-! ### Inside the alphabet after all: qualified flavors in the right order

`QualOrder`: the keys are distinct and **no unqualified flavor precedes a qualified flavor of the same base**.
`C16_qualifier_clash_witness` above shows that the order cannot be dropped, `C16_double_colon_witness` below that the form
of the key cannot. -/

/-- **Version files round-trip, qualified flavors admitted** (string level). -/
theorem C16_text_roundtrip_version_qual (r : VRec) (h : GoodVRecQ r) (nm vs : Option Str)
    (hnm : nm = none ∨ nm = r.name) (hvs : vs = none ∨ vs = r.version) :
    ∃ text, printVersion r = .ok (some text) ∧ parseVersion nm vs text = .ok r :=
  text_roundtrip_version_qual r h nm vs hnm hvs

/-- **Chain files round-trip, qualified flavors admitted** (string level). -/
theorem C16_text_roundtrip_chain_qual (r : CRec) (h : GoodCRecQ r) (nm tg : Option Str)
    (hnm : nm = none ∨ nm = r.name) (htg : tg = none ∨ tg = r.tag) :
    ∃ text, printChain r = .ok (some text) ∧ parseChain nm tg text = .ok r :=
  text_roundtrip_chain_qual r h nm tg hnm htg

/-- `C16_text_roundtrip_version` and `C16_text_roundtrip_chain` are the special case without qualifiers. -/
example (r : VRec) (h : GoodVRec r) : GoodVRecQ r := goodVRecQ_of_good r h
example (r : CRec) (h : GoodCRec r) : GoodCRecQ r := goodCRecQ_of_good r h

/-- Non-vacuity: the clash record with its two blocks swapped (`L:b` first, then `L`) satisfies the order hypothesis … -/
def swappedRec : VRec :=
  { name := some [97], version := some [49], flavors := [([76, 58, 98], clashInfo 50), ([76], clashInfo 49)] }
example : QualOrder (swappedRec.flavors.map (·.1)) := by decide +kernel
example : ¬ QualOrder (clashRec.flavors.map (·.1)) := by decide +kernel
/-- … and reads back. -/
example : ∃ text, printVersion swappedRec = .ok (some text) ∧ parseVersion none none text = .ok swappedRec :=
  witness_of_eval (by decide +kernel)

def dcolonRec : VRec :=
  { name := some [97], version := some [49], flavors := [([76, 58, 58, 98], clashInfo 49)] }

/-- The form of a qualified key matters too: the writer's pattern `^([^:]+)(:?:(.*)$)?` swallows a second colon, so
the flavor `L::b` is written as `FLAVOR = L`, `QUALIFIERS = "b"` and reads back as `L:b`. -/
theorem C16_double_colon_witness :
    ∃ text, printVersion dcolonRec = .ok (some text) ∧
      parseVersion none none text =
        .ok { name := some [97], version := some [49], flavors := [([76, 58, 98], clashInfo 49)] } :=
  witness_of_eval (by decide +kernel)

/-- The same clash in a chain file: `L` then `L:b` reads back as the single block `L:b` (the `FLAVOR = L` line of the
second block resets the first). -/
def clashChain : CRec :=
  { name := some [97], tag := some [99], flavors :=
      [([76], { version := Fld.val [49], declarer := Fld.val [114] }),
       ([76, 58, 98], { version := Fld.val [50], declarer := Fld.val [114] })] }
theorem C16_qualifier_clash_chain_witness :
    ∃ text, printChain clashChain = .ok (some text) ∧
      parseChain none none text =
        .ok { name := some [97], tag := some [99],
              flavors := [([76, 58, 98], { version := Fld.val [50], declarer := Fld.val [114] })] } :=
  witness_of_eval (by decide +kernel)

/-! ### Histories of operations on the records of one product

`DbOp` = `Database.undeclare` / `unassignTag` / `assignTag` / `declare` (as far as the record goes: the block of one flavor
is set); `PDir.run d ops` applies a history in order — what one long-lived `Database` object does in one process. -/

/-- **A history leaves the flavors it does not operate on alone**: whatever the operations and their order, every
block of a flavor `g` that none of them is about — in every chain and every version record — is after the history what
it was before. -/
theorem C16_history_other_flavors (d : PDir) (ops : List DbOp) (g : Str) (h : ∀ op ∈ ops, op.flavor ≠ g) :
    (∀ t, (d.run ops).blockC t g = d.blockC t g) ∧ (∀ v, (d.run ops).blockV v g = d.blockV v g) :=
  PDir.blocks_eq.mp (run_blocks ops g h d)

/-- **An undeclared flavor stays gone**: a version is declared for several flavors, one flavor is undeclared, then any
history follows that does not declare that flavor again — further declarations of the same version for other flavors,
tag assignments, other undeclarations: the record of that version has no block for the undeclared flavor. -/
theorem C16_undeclared_stays_gone (d : PDir) (version flavor : Str) (ops : List DbOp)
    (h : ∀ op ∈ ops, op.flavor ≠ flavor) :
    ((d.undeclare version flavor).run ops).blockV version flavor = none := by
  rw [(PDir.blocks_eq.mp (run_blocks ops flavor h (d.undeclare version flavor))).2 version]
  exact undeclare_gone d version flavor

/-- Non-vacuity: version `1` for flavors `L` and `G`; `G` is undeclared, then `1` is declared for a third flavor `M` and
redeclared for `L`: `G` is gone, `M` is there. -/
example :
    let vi : Info := { declarer := Fld.val [114], productDir := Fld.val [100] }
    let d : PDir := { versions := [([49], { name := some [97], version := some [49], flavors := [([76], vi), ([71], vi)] })],
                      chains := [] }
    let d' := (d.undeclare [49] [71]).run [.declare [97] [49] [77] vi, .declare [97] [49] [76] vi]
    d'.blockV [49] [71] = none ∧ d'.blockV [49] [77] = some vi ∧ d'.blockV [49] [76] = some vi := by decide +kernel

/-! ## Hand-written records that use macros

A person (or an older eups / UPS) may write `PROD_DIR`, `UPS_DIR` and `TABLE_FILE` with the macros `$PROD_ROOT` (the
stack), `$UPS_DB` (its database directory), `$PROD_DIR`, `$UPS_DIR` (the product's resolved directories) and `$FLAVOR`.
`MDir`, `MUps`, `MTab` (`Lemmas/RecordMacro.lean`) are the forms an entry can take, `toRec` is its text in the record and
`denote R f …` **what it means** for a reader of flavor `f` whose stack is at `R`: relative and macro-headed entries lie
below `R` (resp. the product / ups directory), absolute ones stay, a relative table-file name is looked for in the ups
directory, then in the stack.  `MacroWF`: the combinations in which `resolvePaths` defines every macro that is used. -/

/-- **Macro records are relocatable**: for every well-formed combination of hand-written entries, a reader whose stack
is at `R` — any `R` — reports the directory and the table file the macros denote relative to `R`. -/
theorem C16_macro_records (ex : Path → Bool) (R : List Str) (name version f : Str) (md : MDir) (mu : MUps) (mt : MTab)
    (hR : SegsOK R) (hf : SegOK f) (hwf : MacroWF md mu mt) :
    (resolveInfo ex name version f (absP (R ++ [sUpsDb]))
        { productDir := some md.toRec, tableFile := some mt.toRec, upsDir := some mu.toRec }).map
        (fun p => (p.dir, p.table))
      = .ok (md.denote R f, mt.denote ex R f (md.denote R f) (mu.denote R f (md.denote R f))) :=
  resolve_macro_spec ex R name version f md mu mt hR hf hwf

/-- Non-vacuity: `PROD_DIR = $PROD_ROOT/pkgs/$FLAVOR/hp`, `UPS_DIR = $PROD_DIR/ups`, `TABLE_FILE = $UPS_DIR/hp.table`
is well-formed, and a reader of flavor `L` at `/m/n` finds `/m/n/pkgs/L/hp` and `/m/n/pkgs/L/hp/ups/hp.table`. -/
example : MacroWF (.prodRoot [[112], mFLAVOR, [104]]) (.prodDir [sUps]) (.upsDir [[104, 46, 116]]) :=
  ⟨(by decide +kernel : MSegs _), (by decide +kernel : MSegs _), (by decide +kernel : MSegs _), by simp, fun _ _ => rfl, fun _ _ => rfl, by simp⟩
example : (resolveInfo (fun _ => false) [104] [49] [76] (absP ([[109], [110]] ++ [sUpsDb]))
      { productDir := some (MDir.prodRoot [[112], mFLAVOR, [104]]).toRec, tableFile := some (MTab.upsDir [[104, 46, 116]]).toRec,
        upsDir := some (MUps.prodDir [sUps]).toRec }).map (fun p => (p.dir, p.table))
    = .ok (.path ⟨true, [[109], [110], [112], [76], [104]]⟩,
           .path ⟨true, [[109], [110], [112], [76], [104], sUps, [104, 46, 116]]⟩) :=
  eq_ok_of_toOption (by decide +kernel)

/-- `MacroWF` is needed: with an *absolute* `PROD_DIR` the reader never defines `$PROD_DIR`, and
`TABLE_FILE = $PROD_DIR/ups/hp.table` is reported unresolved. -/
theorem C16_macro_proddir_abs_witness :
    (resolveInfo (fun _ => true) [104] [49] [76] (absP ([[109]] ++ [sUpsDb]))
      { productDir := some (MDir.abs [[111], [104]]).toRec, tableFile := some (MTab.prodDir [sUps, [104, 46, 116]]).toRec,
        upsDir := some (MUps.none).toRec }).map (fun p => (p.dir, p.table))
    = .ok (.path ⟨true, [[111], [104]]⟩, .path ⟨false, [mPROD_DIR, sUps, [104, 46, 116]]⟩) :=
  eq_ok_of_toOption (by decide +kernel)

/-- **Macro records through the text of the version file**: the record a person writes (`macroRec`: one block with
the three entries as written, `MacroTextOK`: everything in it is clean text and a `UPS_DIR` line is present) is what
`VersionFile.write` prints and `VersionFile._read` reads back, and `makeProduct` for a reader whose stack is at `R`
reports what the macros denote. -/
theorem C16_macro_records_via_text (ex : Path → Bool) (R : List Str) (name version f who now : Str) (md : MDir)
    (mu : MUps) (mt : MTab) (hR : SegsOK R) (hf : SegOK f) (hwf : MacroWF md mu mt)
    (ht : MacroTextOK name version f who now md mu mt) :
    ∃ text,
      printVersion (macroRec name version f who now md mu mt) = .ok (some text) ∧
      parseVersion (some name) (some version) text = .ok (macroRec name version f who now md mu mt) ∧
      (makeProduct ex (macroRec name version f who now md mu mt) f (absP (R ++ [sUpsDb]))).map
          (fun p => (p.dir, p.table))
        = .ok (md.denote R f, mt.denote ex R f (md.denote R f) (mu.denote R f (md.denote R f))) :=
  macro_via_text ex R name version f who now md mu mt hR hf hwf ht

/-- Non-vacuity of `MacroTextOK`: the instance above, declared by `r` at `T1`. -/
example : MacroTextOK [104] [49] [76] [114] [84, 49] (.prodRoot [[112], mFLAVOR, [104]]) (.prodDir [sUps])
    (.upsDir [[104, 46, 116]]) :=
  ⟨by decide +kernel, by decide +kernel, by decide +kernel, by decide +kernel, by decide +kernel, by decide +kernel, by decide +kernel, by decide +kernel, by decide +kernel⟩

/-! ## Stacks reached through a symbolic link

`declareRecR real` / `trimKeyR real` are the model with `real` = `os.path.realpath` as a parameter; the correspondence runs
it with the link of the EUPS_PATH entry, for arguments typed through the link and for arguments typed by their real paths. -/

/-- Without symbolic links the link-aware model is the model of all the theorems above. -/
theorem C16_links_none (ex : Path → Bool) (who now : Str) (vr : VRec) (p : Record.Prod) :
    declareRecR id ex who now vr p = declareRec ex who now vr p :=
  declareRecR_id ex who now vr p

/-- **One spelling suffices**: the stack is reached through the symbolic link `l → t`.  For a value `l/a` and a
directory `l/b` both spelled through the link, the test that `VersionFile.write` makes on the *resolved* paths
(`t/a` below `t/b`, and what remains) is the test on the spellings: the one place where `trimKeyR real` and `trimKey`
differ gives the same answer, wherever the link points.  (The fact is about `Path.under`; it is not carried through
`declareRecR` here.) -/
theorem C16_link_spelling (l t a b : List Str) :
    (realOf [(absP l, absP t)] (absP (l ++ a))).under (realOf [(absP l, absP t)] (absP (l ++ b)))
      = (absP (l ++ a)).under (absP (l ++ b)) :=
  realOf_under l t a b

/-- Non-vacuity / what resolving does: `/sw/stack/Linux/p` with `/sw/stack → /disk3/stack` is `/disk3/stack/Linux/p`. -/
example : realOf [(absP [[115, 119], [115]], absP [[100, 51], [115]])] (absP [[115, 119], [115], [76], [112]])
    = absP [[100, 51], [115], [76], [112]] := by decide +kernel

/-! ## End to end -/

/-- **Relocation through the text of the record**: `Database.declare` into an empty version file with the stack at
`root` yields a record `vr`; `VersionFile.write` prints it; `VersionFile._read` of that text (names preset as
`Database.findProduct` does) gives `vr` back; `makeProduct` for a reader whose stack is at `root'` reports the
relocated directory and table file.  `TextOK`: everything written into the record is clean text (name, version, flavor,
the stamps, every path segment), the version is not a `LOCAL:` one, a relative path is not literally `none`/`???`/`(none)`. -/
theorem C16_relocate_via_text (ex ex' : Path → Bool) (root root' : List Str) (name version flavor who now : Str)
    (d : DirPl) (t : TabPl) (hp : PlaceOK root name version flavor d t) (hroot' : SegsOK root')
    (ht : TextOK name version flavor who now d t)
    (hd : DeclEx ex root name version flavor d t) (hr : ReadEx ex' root' name version flavor d t) :
    ∃ vr text,
      declareRec ex who now { name := some name, version := some version, flavors := [] }
        (declaredProd root name version flavor d t) = .ok vr ∧
      printVersion vr = .ok (some text) ∧
      parseVersion (some name) (some version) text = .ok vr ∧
      (makeProduct ex' vr flavor (absP (root' ++ [sUpsDb]))).map (fun p => (p.dir, p.table))
        = .ok (d.at root', t.at root' name version flavor d) :=
  relocate_via_text ex ex' root root' name version flavor who now d t hp hroot' ht hd hr

/-- Non-vacuity of `TextOK`: product `a`, version `1`, flavor `L`, declared by `r` at `T1`, installed in `L/a/1`
inside the stack, table file interned. -/
example : TextOK [97] [49] [76] [114] [84, 49] (.inside [[76], [97], [49]]) .interned :=
  ⟨by decide +kernel, by decide +kernel, by decide +kernel, by decide +kernel, by decide +kernel, by decide +kernel, by decide +kernel, trivial⟩

end EupsModel.C16
