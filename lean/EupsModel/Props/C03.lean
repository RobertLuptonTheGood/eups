import EupsModel.Lemmas.Vro
import EupsModel.Lemmas.VroSelect
import EupsModel.Lemmas.VroSelectGen
import EupsModel.Lemmas.VroCmd
import EupsModel.Lemmas.VroApiSem
import EupsModel.Lemmas.VroTagFile
import EupsModel.Lemmas.VroPath
import EupsModel.Lemmas.VroOrder
import EupsModel.Lemmas.VroSort
/-! C03 — the version chosen is the one the Version Resolution Order designates.  The model is `Model/Vro.lean` (walk,
`selectVRO`), `Model/VroApi.lean` (older entry points, tag files), `Model/VroPath.lean`, `Model/VroSort.lean`. -/
namespace EupsModel.C03
open EupsModel EupsModel.Vro

/-! ## a small database for the non-vacuity examples

stack 0: `p 1.0` (Linux), tagged `stable`; stack 1: `p 1.0`, `p 2.0` (Linux), `p 3.0` (generic),
`current -> 2.0` (Linux), `current -> 3.0` (generic). -/
def sP : Str := [112]
def sLinux : Str := [76, 105, 110, 117, 120]
def sGeneric : Str := [103, 101, 110, 101, 114, 105, 99]
def sCurrent : Str := [99, 117, 114, 114, 101, 110, 116]
def sStable : Str := [115, 116, 97, 98, 108, 101]
def sBeta : Str := [98, 101, 116, 97]
def v10 : Str := [49, 46, 48]
def v20 : Str := [50, 46, 48]
def v30 : Str := [51, 46, 48]
def v99 : Str := [57, 46, 57]
def exDb : Db :=
  [ { decls := [⟨sP, v10, sLinux⟩], tags := [⟨sStable, sP, sLinux, v10⟩] },
    { decls := [⟨sP, v10, sLinux⟩, ⟨sP, v20, sLinux⟩, ⟨sP, v30, sGeneric⟩],
      tags := [⟨sCurrent, sP, sLinux, v20⟩, ⟨sCurrent, sP, sGeneric, v30⟩] } ]
def exCtx : Ctx := mkCtx simpleOrd [sCurrent, sStable, sBeta] exDb .files [sLinux, sGeneric] []
def exReq (version : Option Str) (depth : Nat) : Req :=
  { name := sP, version := version, vexpr := none, depth := depth, flavor := sLinux,
    ignoreVersions := false, already := none }
/-- `type:exact commandLine version versionExpr current` -/
def defaultVro : List Str := [kTypeExact, kCommandLine, kVersion, kVersionExpr, sCurrent]

/-! ## first match -/

/-- `findProductFromVRO` returns a product exactly when some entry of the VRO yields one and every
entry before it said "continue" (none yielded a product, none of the version entries gave the
request up, none raised); the product and reason are that entry's, up to the "an earlier reason
outranks a later one" rule for a product this command has already set up. -/
theorem C03_first_match (C : Ctx) (r : Req) (vro : List Str) (h : Hit) :
    find C r vro = .ok (some h) ↔
      ∃ (h0 : Hit) (pre post : List Str),
        vro = pre ++ h0.entry :: post ∧
        lookupEntry C r h0.entry post = .ok (.hit h0.prod h0.reason) ∧
        (∀ a x b, pre = a ++ x :: b → lookupEntry C r x (b ++ h0.entry :: post) = .ok .skip) ∧
        h = applyAlready r vro h0 := by
  simp only [find_some_iff, walk_hit_iff, AllSkip]
  constructor
  · rintro ⟨h0, ⟨pre, post, h1, h2, h3⟩, rfl⟩; exact ⟨h0, pre, post, h1, h2, h3, rfl⟩
  · rintro ⟨h0, pre, post, h1, h2, h3, rfl⟩; exact ⟨h0, ⟨pre, post, h1, h2, h3⟩, rfl⟩

/-- With nothing set up beforehand the answer is the first matching entry's, as it stands. -/
theorem C03_first_match_fresh (C : Ctx) (r : Req) (vro : List Str) (h : Hit) (hr : r.already = none) :
    find C r vro = .ok (some h) ↔
      ∃ (pre post : List Str),
        vro = pre ++ h.entry :: post ∧
        lookupEntry C r h.entry post = .ok (.hit h.prod h.reason) ∧
        (∀ a x b, pre = a ++ x :: b → lookupEntry C r x (b ++ h.entry :: post) = .ok .skip) := by
  rw [find_eq_walk vro hr]
  exact walk_hit_iff

/-- Nothing is returned exactly when every entry said "continue", or the first entry that did not
is a version entry giving the request up. -/
theorem C03_no_match (C : Ctx) (r : Req) (vro : List Str) :
    find C r vro = .ok none ↔
      (∀ a x b, vro = a ++ x :: b → lookupEntry C r x b = .ok .skip) ∨
      ∃ pre e post, vro = pre ++ e :: post ∧ lookupEntry C r e post = .ok .abort ∧
        (∀ a x b, pre = a ++ x :: b → lookupEntry C r x (b ++ e :: post) = .ok .skip) := by
  simpa only [AllSkip, List.append_nil] using find_none_iff.trans walk_none_iff

/-- non-vacuity: on the default VRO, no version named, `current` (the fifth entry) answers with the
version tagged in stack 1 — stack 0 has no `current` — after four entries that said "continue" -/
example : find exCtx (exReq none 0) defaultVro = .ok (some ⟨⟨v20, sLinux, 1⟩, sCurrent, sCurrent⟩) := by
  decide +kernel

/-! ## a request that names a version does not fall through -/

/-- Once a request names a version or an expression, whatever stands behind the last version-type
entry of the VRO is never consulted: looking the product up with the whole VRO gives the answer of
the VRO cut after that entry — whatever tags follow, and whatever they are assigned to. -/
theorem C03_named_request_never_falls_through (C : Ctx) (r : Req) (pre : List Str) (e : Str)
    (post : List Str) (hn : r.named.isSome = true) (he : isVT e = true)
    (hpost : ∀ x ∈ post, isVT x = false) :
    find C r (pre ++ e :: post) = find C r (pre ++ [e]) :=
  find_cut C r pre e post hn he hpost

/-- In particular: when the version entries find nothing, the request fails, whatever tags follow. -/
theorem C03_named_request_fails (C : Ctx) (r : Req) (pre : List Str) (e : Str) (post : List Str)
    (hn : r.named.isSome = true) (he : isVT e = true) (hpost : ∀ x ∈ post, isVT x = false)
    (hnone : find C r (pre ++ [e]) = .ok none) : find C r (pre ++ e :: post) = .ok none := by
  rw [C03_named_request_never_falls_through C r pre e post hn he hpost, hnone]

/-- non-vacuity: `p 9.9` is not declared; `current` stands behind `versionExpr` on the default VRO
and would answer `2.0` — the request fails instead (and `p` without a version does get `2.0`). -/
example : (exReq (some v99) 1).named.isSome = true ∧ isVT kVersionExpr = true ∧
    (∀ x ∈ [sCurrent], isVT x = false) ∧
    find exCtx (exReq (some v99) 1) ([kTypeExact, kCommandLine, kVersion] ++ kVersionExpr :: [sCurrent]) = .ok none := by
  decide +kernel

/-! ## what each kind of entry yields -/

/-- A tag entry spelled in any way `Tags.getTag` accepts — a user tag `mine` or `user:mine` (chain records kept under
`user:mine`), a global tag `t`, `global:t` or `:t` (kept under `t`) — yields the version carrying the tag `key` in the
first stack on the path that has it — "has it" meaning: the stack's chain file assigns the tag, for the flavor asked, to a
version the stack declares for that flavor.  The reason reported is the entry as written. -/
theorem C03_tag_entry_any_spelling (C : Ctx) (r : Req) (e key : Str) (post : List Str) (p : Prod) (reason : Str)
    (ht : IsTagEntry C e key) :
    lookupEntry C r e post = .ok (.hit p reason) ↔
      reason = e ∧ p.flavor = r.flavor ∧
      (∃ st, C.db[p.stack]? = some st ∧ tagVersion st key r.name r.flavor = some p.version ∧
          declared st r.name p.version r.flavor = true) ∧
      ∀ (j : Nat) (st' : Stack), j < p.stack → C.db[j]? = some st' →
        ∀ v, ¬ (tagVersion st' key r.name r.flavor = some v ∧ declared st' r.name v r.flavor = true) := by
  rw [lookupEntry_tagKey post ht, Except.ok.injEq, hitOrSkip_eq_hit, lookupTag_some_iff, and_comm]
  simp only [tagHere_some_iff, tagHere_none_iff]

/-- ... and it says "continue" exactly when no stack has the tag; it never gives the request up. -/
theorem C03_tag_entry_any_spelling_absent (C : Ctx) (r : Req) (e key : Str) (post : List Str)
    (ht : IsTagEntry C e key) :
    (lookupEntry C r e post = .ok .skip ↔
      ∀ st ∈ C.db, ∀ v, ¬ (tagVersion st key r.name r.flavor = some v ∧ declared st r.name v r.flavor = true)) ∧
    lookupEntry C r e post ≠ .ok .abort := by
  rw [lookupEntry_tagKey post ht]
  refine ⟨?_, hitOrSkip_ne_abort⟩
  rw [Except.ok.injEq, hitOrSkip_eq_skip, lookupTag_none_iff]
  simp only [tagHere_none_iff]

/-- The ordinary case, a registered global tag written as it is: its own key. -/
theorem C03_tag_entry (C : Ctx) (r : Req) (e : Str) (post : List Str) (p : Prod) (reason : Str)
    (ht : isPlainTag C e = true) :
    lookupEntry C r e post = .ok (.hit p reason) ↔
      reason = e ∧ p.flavor = r.flavor ∧
      (∃ st, C.db[p.stack]? = some st ∧ tagVersion st e r.name r.flavor = some p.version ∧
          declared st r.name p.version r.flavor = true) ∧
      ∀ (j : Nat) (st' : Stack), j < p.stack → C.db[j]? = some st' →
        ∀ v, ¬ (tagVersion st' e r.name r.flavor = some v ∧ declared st' r.name v r.flavor = true) :=
  C03_tag_entry_any_spelling C r e e post p reason (isTagEntry_of_plain ht)

theorem C03_tag_entry_absent (C : Ctx) (r : Req) (e : Str) (post : List Str) (ht : isPlainTag C e = true) :
    (lookupEntry C r e post = .ok .skip ↔
      ∀ st ∈ C.db, ∀ v, ¬ (tagVersion st e r.name r.flavor = some v ∧ declared st r.name v r.flavor = true)) ∧
    lookupEntry C r e post ≠ .ok .abort :=
  C03_tag_entry_any_spelling_absent C r e e post (isTagEntry_of_plain ht)

example : isPlainTag exCtx sCurrent = true := by decide +kernel

/-- non-vacuity: with the user tag `mine` registered, both `mine` and `user:mine` are tag entries whose chain
records are kept under `user:mine`; `global:stable` and `:stable` are kept under `stable`; a plain tag is
its own key. -/
def sMine : Str := [109, 105, 110, 101]
def exCtxU : Ctx := exCtx.withExtras [sMine] []
example : IsTagEntry exCtxU sMine (kUserColon ++ sMine) ∧ IsTagEntry exCtxU (kUserColon ++ sMine) (kUserColon ++ sMine) ∧
    IsTagEntry exCtxU (kGlobalColon ++ sStable) sStable ∧ IsTagEntry exCtxU (58 :: sStable) sStable ∧
    IsTagEntry exCtxU sCurrent sCurrent := by
  refine ⟨?_, ?_, ?_, ?_, isTagEntry_of_plain (by decide +kernel)⟩ <;> unfold IsTagEntry <;> decide +kernel

/-- The `setup` pseudo-tag yields the version that is set up (`SETUP_<NAME>`): it must be recorded for the
flavor asked, and — unless it is a `LOCAL:` version, which is taken as it stands — be declared for that
flavor in the stack its `-Z` names (looked up through the cache when the instance has one: `dbLatest`).
Otherwise the entry says "continue"; it never gives the request up.  (Without `--ignore-versions`: with it the
lookup inside `findSetupProduct` becomes the older `findPreferredProduct`, which the model leaves out.) -/
theorem C03_setup_entry (C : Ctx) (r : Req) (post : List Str) (p : Prod) (reason : Str)
    (hi : r.ignoreVersions = false) :
    (lookupEntry C r kSetup post = .ok (.hit p reason) ↔
      reason = kSetup ∧ ∃ s, r.setupEnv = some s ∧ s.flavor = r.flavor ∧ p.version = s.version ∧ p.flavor = r.flavor ∧
        ((kLocal.isPrefixOf s.version = true ∧ p.stack = s.stack.getD C.db.length) ∨
         (kLocal.isPrefixOf s.version = false ∧ ∃ i st, s.stack = some i ∧ p.stack = i ∧ C.dbLatest[i]? = some st ∧
            declared st r.name s.version r.flavor = true))) ∧
    lookupEntry C r kSetup post ≠ .ok .abort := by
  rw [lookupEntry_setup post hi]
  refine ⟨?_, hitOrSkip_ne_abort⟩
  rw [Except.ok.injEq, hitOrSkip_eq_hit, lookupSetup_some_iff, and_comm]

/-- non-vacuity: `p 2.0 -f Linux -Z <stack 1>` is set up; the `setup` entry yields it -/
example : lookupEntry exCtx { exReq none 1 with setupEnv := some ⟨v20, sLinux, some 1⟩ } kSetup [] =
    .ok (.hit ⟨v20, sLinux, 1⟩ kSetup) := by decide +kernel

/-- A version entry yields the explicitly named version from the first stack declaring it for the
flavor; the reason reported is `commandLine` at the top level and `version` below it.  Only when no
stack declares it can a `LOCAL:<dir>` version naming an existing directory answer (second disjunct):
the product is the directory itself — no flavor, no stack — for the reason `commandLine` / `path from version`. -/
theorem C03_version_entry (C : Ctx) (r : Req) (e v : Str) (post : List Str) (p : Prod) (reason : Str)
    (he : isVT e = true) (hv : r.named = some v) (hex : isExpr v = .ok false)
    (hx : e = kVersionExpr → r.vexpr = none) :
    lookupEntry C r e post = .ok (.hit p reason) ↔
      (reason = (if r.depth == 0 then kCommandLine else kVersion) ∧
       p.version = v ∧ p.flavor = r.flavor ∧
       (∃ st, C.db[p.stack]? = some st ∧ declared st r.name v r.flavor = true) ∧
       ∀ (j : Nat) (st' : Stack), j < p.stack → C.db[j]? = some st' → declared st' r.name v r.flavor = false) ∨
      ((∀ st ∈ C.db, declared st r.name v r.flavor = false) ∧ localProd C v = some p ∧
       reason = (if r.depth == 0 then kCommandLine else kPathFromVersion)) := by
  rw [lookupEntry_named post he hv, lookupVT_explicit post hex hx, ← lookupVersion_some_iff, ← lookupVersion_none_iff]
  cases lookupVersion C.db r.name v r.flavor with
  | some q =>
    simp only [Except.ok.injEq, Outcome.hit.injEq, Option.some.injEq, reduceCtorEq, false_and, or_false]
    exact ⟨fun ⟨a, b⟩ => ⟨b.symm, a⟩, fun ⟨a, b⟩ => ⟨b, a.symm⟩⟩
  | none =>
    cases localProd C v with
    | some q =>
      simp only [Except.ok.injEq, Outcome.hit.injEq, Option.some.injEq, reduceCtorEq, and_false, false_or, true_and]
      exact ⟨fun ⟨a, b⟩ => ⟨a, b.symm⟩, fun ⟨a, b⟩ => ⟨a, b.symm⟩⟩
    | none =>
      simp only [reduceCtorEq, and_false, false_and, or_false, iff_false]
      split <;> nofun

/-- When no stack declares the named version (and it is not a `LOCAL:` directory that exists), the entry
hands over to a later version-type entry if there is one and gives the request up otherwise — it never
lets the walk go on to the tags. -/
theorem C03_version_entry_absent (C : Ctx) (r : Req) (e v : Str) (post : List Str)
    (he : isVT e = true) (hv : r.named = some v) (hex : isExpr v = .ok false)
    (hx : e = kVersionExpr → r.vexpr = none)
    (habs : ∀ st ∈ C.db, declared st r.name v r.flavor = false) (hloc : localProd C v = none) :
    lookupEntry C r e post = .ok (if post.any isVT then .skip else .abort) := by
  rw [lookupEntry_named post he hv, lookupVT_explicit post hex hx, (lookupVersion_none_iff ..).mpr habs, hloc]

/-- non-vacuity: `p 1.0` at depth 1 on the example database: stack 0 declares it -/
example : isVT kVersion = true ∧ (exReq (some v10) 1).named = some v10 ∧ isExpr v10 = .ok false ∧
    lookupEntry exCtx (exReq (some v10) 1) kVersion [kVersionExpr, sCurrent] = .ok (.hit ⟨v10, sLinux, 0⟩ kVersion) := by
  decide +kernel

/-- An expression entry yields the highest declared version satisfying the expression: when some
stack declares, for the flavor, a version that satisfies it, the `versionExpr` entry answers with a
satisfying version, taken from the first stack in which it satisfies, such that no satisfying
version anywhere on the path is newer.  (`GoodOrdOn P`: the order properties of `version_cmp` on a class
`P` of names containing every declared version name; `C03_expr_entry_is_max_conv` instantiates it
with C10's comparator on conventional names.) -/
theorem C03_expr_entry_is_max (C : Ctx) (P : Str → Prop) (g : GoodOrdOn P C.ord.cmp) (hP : DeclIn P C.db)
    (r : Req) (v : Str) (post : List Str) (hv : r.named = some v) (hex : isExpr v = .ok true)
    (hsat : ∃ st ∈ C.db, ∃ w, declared st r.name w r.flavor = true ∧ C.ord.vmatch w v = true) :
    ∃ p, lookupEntry C r kVersionExpr post = .ok (.hit p kVersionExpr) ∧
      p.flavor = r.flavor ∧
      (∃ st, C.db[p.stack]? = some st ∧ declared st r.name p.version r.flavor = true ∧
          C.ord.vmatch p.version v = true ∧
          ∀ (j : Nat) (st' : Stack), j < p.stack → C.db[j]? = some st' →
            ¬ (declared st' r.name p.version r.flavor = true ∧ C.ord.vmatch p.version v = true)) ∧
      ∀ (j : Nat) (st : Stack) (w : Str), C.db[j]? = some st → declared st r.name w r.flavor = true →
        C.ord.vmatch w v = true → C.ord.cmp w p.version ≤ 0 := by
  rw [lookupEntry_named post isVT_versionExpr hv, lookupVT_expr post hex (named_nonempty hv)]
  cases hl : lookupExpr C.ord C.db r.name r.flavor v with
  | none =>
    obtain ⟨st, hst, w, h1, h2⟩ := hsat
    exact absurd ⟨h1, h2⟩ (lookupExpr_none hl st hst w)
  | some p =>
    obtain ⟨h1, ⟨st, h2, h3, h4⟩, h5⟩ := lookupExpr_some g hP hl
    refine ⟨p, rfl, h1, ⟨st, h2, h3.1, h3.2, h4⟩, ?_⟩
    intro j st' w hj hd hm
    exact h5 j st' w hj ⟨hd, hm⟩

/-- When no declared version satisfies the expression (and none is literally named like it), the
entry hands over to a later version-type entry or gives the request up. -/
theorem C03_expr_entry_absent (C : Ctx) (r : Req) (v : Str) (post : List Str)
    (hv : r.named = some v) (hex : isExpr v = .ok true)
    (hnone : ∀ st ∈ C.db, ∀ w, ¬ (declared st r.name w r.flavor = true ∧ C.ord.vmatch w v = true))
    (hlit : ∀ st ∈ C.db, declared st r.name v r.flavor = false) (hloc : localProd C v = none) :
    lookupEntry C r kVersionExpr post = .ok (if post.any isVT then .skip else .abort) := by
  rw [lookupEntry_named post isVT_versionExpr hv, lookupVT_expr post hex (named_nonempty hv)]
  cases hl : lookupExpr C.ord C.db r.name r.flavor v with
  | none =>
    simp only
    rw [(lookupVersion_none_iff ..).mpr hlit, hloc]
  | some p =>
    obtain ⟨_, st, h2, h3, _⟩ := lookupExpr_cand hl
    exact absurd h3 (hnone st (List.mem_of_getElem? h2) p.version)

/-- An expression at a `version` / `version!` entry is left for the `versionExpr` entry if one
follows; otherwise the request is given up there and then. -/
theorem C03_expr_at_version_entry (C : Ctx) (r : Req) (e v : Str) (post : List Str)
    (he : e = kVersion ∨ e = kVersionBang) (hv : r.named = some v) (hex : isExpr v = .ok true) :
    lookupEntry C r e post = .ok (if post.contains kVersionExpr then .skip else .abort) := by
  have hvt : isVT e = true := by rcases he with rfl | rfl <;> decide
  have hne : e ≠ kVersionExpr := by rcases he with rfl | rfl <;> decide
  rw [lookupEntry_named post hvt hv, lookupVT_expr_early post hne hex]

/-- the order hypotheses are satisfiable: any comparison by a numeric key is a `GoodOrd`
(here: the decimal value of the name) -/
example : GoodOrd (fun a b => (Str.toNat a : Int) - Str.toNat b) :=
  ⟨fun a _ => by simp, fun a b _ _ h => by omega, fun a b c _ _ _ h1 h2 => by omega⟩

/-- ... and so is the dotted-decimal order the correspondence runs and the examples use -/
example : GoodOrd exCtx.ord.cmp := simpleCmp_good

/-- non-vacuity: `p >= 2.0` on the example database (flavor Linux) is answered by `versionExpr`
with 2.0 from stack 1; `3.0` exists for the other flavor only -/
example : lookupEntry exCtx (exReq (some [62, 61, 32, 50, 46, 48]) 1) kVersionExpr [sCurrent]
    = .ok (.hit ⟨v20, sLinux, 1⟩ kVersionExpr) := by decide +kernel

/-- `latest` is not "the first stack that has the tag": it yields a declared version such that no
version declared anywhere on the path (for the flavor) is newer; it says "continue" only when
nothing is declared.  (`latest` reads `Ctx.dbLatest`: `_findLatestProduct` ignores `noCache`.) -/
theorem C03_latest_entry_is_max (C : Ctx) (P : Str → Prop) (g : GoodOrdOn P C.ord.cmp) (hP : DeclIn P C.dbLatest)
    (r : Req) (post : List Str) :
    (∀ p reason, lookupEntry C r kLatest post = .ok (.hit p reason) →
      reason = kLatest ∧ p.flavor = r.flavor ∧
      (∃ st, C.dbLatest[p.stack]? = some st ∧ declared st r.name p.version r.flavor = true) ∧
      ∀ (j : Nat) (st : Stack) (w : Str), C.dbLatest[j]? = some st → declared st r.name w r.flavor = true →
        C.ord.cmp w p.version ≤ 0) ∧
    (lookupEntry C r kLatest post = .ok .skip →
      ∀ st ∈ C.dbLatest, ∀ w, declared st r.name w r.flavor = false) ∧
    lookupEntry C r kLatest post ≠ .ok .abort := by
  rw [lookupEntry_latest post]
  refine ⟨?_, ?_, hitOrSkip_ne_abort⟩
  · intro p reason h
    obtain ⟨hll, rfl⟩ := hitOrSkip_eq_hit.mp (Except.ok.inj h)
    exact ⟨rfl, lookupLatest_some g hP hll⟩
  · intro h
    exact lookupLatest_none g hP (hitOrSkip_eq_skip.mp (Except.ok.inj h))

/-- non-vacuity: in the example database the newest Linux version, 2.0, is in the second stack -/
example : lookupEntry exCtx (exReq none 0) kLatest [] = .ok (.hit ⟨v20, sLinux, 1⟩ kLatest) := by decide +kernel

/-! ## with C10's comparator: unconditional on conventional version names -/

/-- `C03_expr_entry_is_max` with the model of `version_cmp` / `version_match` that C10 verifies
(`c10Ord`), for databases whose version names are conventional (`convName`): no hypothesis on the
order is left. -/
theorem C03_expr_entry_is_max_conv (C : Ctx) (hord : C.ord = c10Ord) (hconv : DeclIn ConvName C.db)
    (r : Req) (v : Str) (post : List Str) (hv : r.named = some v) (hex : isExpr v = .ok true)
    (hsat : ∃ st ∈ C.db, ∃ w, declared st r.name w r.flavor = true ∧ c10Match w v = true) :
    ∃ p, lookupEntry C r kVersionExpr post = .ok (.hit p kVersionExpr) ∧
      p.flavor = r.flavor ∧
      (∃ st, C.db[p.stack]? = some st ∧ declared st r.name p.version r.flavor = true ∧
          c10Match p.version v = true ∧
          ∀ (j : Nat) (st' : Stack), j < p.stack → C.db[j]? = some st' →
            ¬ (declared st' r.name p.version r.flavor = true ∧ c10Match p.version v = true)) ∧
      ∀ (j : Nat) (st : Stack) (w : Str), C.db[j]? = some st → declared st r.name w r.flavor = true →
        c10Match w v = true → c10Cmp w p.version ≤ 0 := by
  have g : GoodOrdOn ConvName C.ord.cmp := by rw [hord]; exact c10Cmp_good
  have := C03_expr_entry_is_max C ConvName g hconv r v post hv hex (by rw [hord]; exact hsat)
  rw [hord] at this
  exact this

/-- ... and `latest` likewise -/
theorem C03_latest_entry_is_max_conv (C : Ctx) (hord : C.ord = c10Ord) (hconv : DeclIn ConvName C.dbLatest)
    (r : Req) (post : List Str) :
    (∀ p reason, lookupEntry C r kLatest post = .ok (.hit p reason) →
      reason = kLatest ∧ p.flavor = r.flavor ∧
      (∃ st, C.dbLatest[p.stack]? = some st ∧ declared st r.name p.version r.flavor = true) ∧
      ∀ (j : Nat) (st : Stack) (w : Str), C.dbLatest[j]? = some st → declared st r.name w r.flavor = true →
        c10Cmp w p.version ≤ 0) ∧
    (lookupEntry C r kLatest post = .ok .skip →
      ∀ st ∈ C.dbLatest, ∀ w, declared st r.name w r.flavor = false) ∧
    lookupEntry C r kLatest post ≠ .ok .abort := by
  have g : GoodOrdOn ConvName C.ord.cmp := by rw [hord]; exact c10Cmp_good
  have := C03_latest_entry_is_max C ConvName g hconv r post
  rw [hord] at this
  exact this

/-- non-vacuity: the example database has conventional version names, and with C10's comparator
`p >= 2.0` is answered by 2.0 from stack 1 -/
def exCtxC10 : Ctx := mkCtx c10Ord [sCurrent, sStable, sBeta] exDb .files [sLinux, sGeneric] []
example : DeclIn ConvName exCtxC10.db := by
  intro st hst d hd
  simp only [exCtxC10, mkCtx, exDb, List.mem_cons, List.not_mem_nil, or_false] at hst
  rcases hst with rfl | rfl
  · simp only [List.mem_cons, List.not_mem_nil, or_false] at hd
    subst hd; show VersionCmp.convName _ = true; decide
  · simp only [List.mem_cons, List.not_mem_nil, or_false] at hd
    rcases hd with rfl | rfl | rfl <;> (show VersionCmp.convName _ = true; decide)
example : lookupEntry exCtxC10 (exReq (some [62, 61, 32, 50, 46, 48]) 1) kVersionExpr [sCurrent]
    = .ok (.hit ⟨v20, sLinux, 1⟩ kVersionExpr) := by decide +kernel

/-! ## the flavor loop -/

/-- The flavor loop answers with a native-flavor declaration when one resolves: if the VRO walk for
the native flavor yields a product (one that the top level accepts: no other version than an
explicitly named one), that product is the answer, and it is of the native flavor — the fallback
flavors are not consulted.  (`NoLocal`: a `LOCAL:<dir>` version naming an existing directory is answered by the
directory itself, a product without flavor.) -/
theorem C03_native_flavor_first (C : Ctx) (r : Req) (keep : Bool) (vro : List Str) (native : Str)
    (rest : List Str) (h : Hit) (hr : r.already = none)
    (hf : find C { r with flavor := native } vro = .ok (some h))
    (hacc : acceptableB r h = .ok true) :
    resolve C r keep vro (native :: rest) = .ok (some h) ∧ (NoLocal C r → h.prod.flavor = native) := by
  have hr' : ({ r with flavor := native } : Req).already = none := hr
  constructor
  · rw [resolve_cons, resolveFlavor_of_find_some hf hacc]
  · intro hloc
    rw [find_eq_walk vro hr'] at hf
    exact walk_flavor hr' hloc hf

/-- ... and with the fallback declaration otherwise: when nothing resolves for the native flavor the
answer is that of the remaining flavors, in their order. -/
theorem C03_fallback_when_native_absent (C : Ctx) (r : Req) (keep : Bool) (vro : List Str) (native : Str)
    (rest : List Str) (hr : r.already = none)
    (hf : find C { r with flavor := native } vro = .ok none) :
    resolve C r keep vro (native :: rest) = resolve C r keep vro rest := by
  rw [resolve_cons, resolveFlavor_of_find_none (r := { r with flavor := native }) hr hf]

/-- the recursion of the flavor loop never runs out of the fuel `resolve` gives it (so `outOfFuel`
is never the model's answer) -/
theorem C03_resolve_fuel_enough (C : Ctx) (r : Req) (keep : Bool) (vro : List Str) (flavors : List Str) :
    resolve C r keep vro flavors ≠ .error .outOfFuel := by
  intro h
  obtain ⟨_, fl, _, _, hfl, _⟩ := (firstAnswer_eq_iff (r := .error Err.outOfFuel) nofun).mp (resolve_eq .. ▸ h)
  exact resolveFlavor_fuel C _ keep _ vro (Nat.lt_succ_self _) hfl

/-- non-vacuity: `p >= 2.0`: 2.0 (Linux, stack 1) wins over 3.0 (generic);
`p >= 3.0`: nothing for Linux, the generic 3.0 is used -/
example : resolve exCtx (exReq (some [62, 61, 32, 50, 46, 48]) 0) false defaultVro [sLinux, sGeneric]
    = .ok (some ⟨⟨v20, sLinux, 1⟩, kVersionExpr, kVersionExpr⟩) := by decide +kernel
example : resolve exCtx (exReq (some [62, 61, 32, 51, 46, 48]) 0) false defaultVro [sLinux, sGeneric]
    = .ok (some ⟨⟨v30, sGeneric, 1⟩, kVersionExpr, kVersionExpr⟩) := by decide +kernel

/-! ## through the cache (D16, repaired by 9143b09) -/

/-- Through the cache — whatever was accepted or rebuilt, `noCache=True` on a cached instance
(`Mode.mixed`) included — `findProductFromVRO` gives, for every flavor the process loads (the native
flavor and its fallbacks), the answer it gives through the files. -/
theorem C03_cache_view_agrees (o : Ord) (tags : List Str) (db : Db) (loaded : List Str)
    (accepted : List Bool) (r : Req) (vro : List Str) (m : Mode) (userTags dirs : List Str)
    (hyp : (∀ b ∈ accepted, b = false) ∨ r.flavor ∈ loaded) :
    find ((mkCtx o tags db m loaded accepted).withExtras userTags dirs) r vro =
      find ((mkCtx o tags db .files loaded accepted).withExtras userTags dirs) r vro := by
  rcases hyp with h | h
  · have := cacheView_all_rebuilt loaded accepted db h
    cases m <;> simp [mkCtx, this]
  · rw [← find_viewAt, mkCtx_viewAt h, find_viewAt]

/-- The flavor loop through the cache is the flavor loop through the files: the process loads the
native flavor and its fallbacks, which are the flavors the loop visits, so whatever stacks had their
cache accepted or rebuilt the answer is the same — no hypothesis on the load outcome is left.  User
tags, the `setup` pseudo-tag (which reads the cache too) and `LOCAL:` versions included. -/
theorem C03_fallback_via_cache (o : Ord) (tags : List Str) (db : Db) (native : Str) (fallbacks : List Str)
    (accepted : List Bool) (r : Req) (keep : Bool) (vro : List Str) (m : Mode) (userTags dirs : List Str) :
    resolve ((mkCtx o tags db m (native :: fallbacks) accepted).withExtras userTags dirs) r keep vro (native :: fallbacks) =
      resolve ((mkCtx o tags db .files (native :: fallbacks) accepted).withExtras userTags dirs) r keep vro
        (native :: fallbacks) := by
  exact resolve_congr r keep vro _ fun f hf => mkCtx_viewAt hf ..

/-- so a native-flavor declaration is preferred, and the fallback used otherwise, through the cache as
through the files: `C03_native_flavor_first` read through any cache view -/
theorem C03_native_flavor_first_via_cache (o : Ord) (tags : List Str) (db : Db) (native : Str)
    (fallbacks : List Str) (accepted : List Bool) (m : Mode) (r : Req) (keep : Bool) (vro : List Str) (h : Hit)
    (userTags dirs : List Str) (hr : r.already = none)
    (hf : find ((mkCtx o tags db .files (native :: fallbacks) accepted).withExtras userTags dirs)
            { r with flavor := native } vro = .ok (some h))
    (hacc : acceptableB r h = .ok true) :
    resolve ((mkCtx o tags db m (native :: fallbacks) accepted).withExtras userTags dirs) r keep vro
        (native :: fallbacks) = .ok (some h) ∧
      (NoLocal ((mkCtx o tags db .files (native :: fallbacks) accepted).withExtras userTags dirs) r →
        h.prod.flavor = native) := by
  rw [C03_fallback_via_cache]
  exact C03_native_flavor_first _ r keep vro native fallbacks h hr hf hacc

/-- On the pinned tree (before 9143b09) the clause was false (D16): `p 3.0` is declared for the fallback
flavor only; a fresh process that accepts the cache of the stack reads it for the native flavor alone
(`mkCtxPinned`) and does not see the declaration, the files do. -/
theorem C03_fallback_via_cache_witness :
    let db : Db := [{ decls := [⟨sP, v20, sLinux⟩, ⟨sP, v30, sGeneric⟩], tags := [⟨sCurrent, sP, sGeneric, v30⟩] }]
    let r : Req := { exReq none 0 with flavor := sGeneric }
    find (mkCtxPinned simpleOrd [sCurrent] db .cache sLinux [true]) r defaultVro = .ok none ∧
    find (mkCtxPinned simpleOrd [sCurrent] db .files sLinux [true]) r defaultVro
      = .ok (some ⟨⟨v30, sGeneric, 0⟩, sCurrent, sCurrent⟩) ∧
    resolve (mkCtxPinned simpleOrd [sCurrent] db .cache sLinux [true]) { exReq (some v30) 0 with } false defaultVro
      [sLinux, sGeneric] = .ok none ∧
    resolve (mkCtxPinned simpleOrd [sCurrent] db .files sLinux [true]) { exReq (some v30) 0 with } false defaultVro
      [sLinux, sGeneric] = .ok (some ⟨⟨v30, sGeneric, 0⟩, kCommandLine, kVersion⟩) ∧
    -- the repaired rule on the same input sees it
    resolve (mkCtx simpleOrd [sCurrent] db .cache [sLinux, sGeneric] [true]) { exReq (some v30) 0 with } false
      defaultVro [sLinux, sGeneric] = .ok (some ⟨⟨v30, sGeneric, 0⟩, kCommandLine, kVersion⟩) := by
  decide +kernel

/-! ## where `selectVRO` puts the -t and -T tags (default configuration) -/

/-- example configuration: hooks.py as shipped, global tags `current stable beta`, a fresh instance -/
def exCfg (keep exact : Bool) : VroCfg :=
  { vroDict := [(kDefault, .flat defaultBase)], userVRO := false, keep := keep, exact := exact,
    globalTags := [kCurrent, sStable, sBeta], cmdTags := [],
    prevPreferred := [kVersion, kVersionExpr, kCurrent, sStable, kLatest] }
def exArgs (tags postTags : List Str) (version : Bool) : VroArgs :=
  { tags := tags, productDir := false, versionName := version, dbz := none, inexact := false, postTags := postTags }

/-- Under the default configuration, with any -t and -T tags (registered global tags), keep / exact /
inexact / version / -r in any combination, `selectVRO` succeeds and every -t tag stands on the
resulting VRO behind nothing but `keep`, `type:exact`, `commandLine` and other -t tags — in
particular in front of every version-type entry. -/
theorem C03_pretag_before_version (c : VroCfg) (a : VroArgs) (d : DefaultCfg c)
    (ht : ∀ t ∈ a.tags, GoodTag c t) (hp : ∀ t ∈ a.postTags, GoodTag c t) :
    ∃ out, selectVRO c a = .ok out ∧
      ∀ t ∈ a.tags, ∃ pre post, out.vro = pre ++ t :: post ∧
        ∀ x ∈ pre, (x ∈ [kKeep, kTypeExact, kCommandLine] ∨ x ∈ a.tags) ∧ isVT x = false := by
  refine ⟨_, selectVRO_default_eq c d a ht hp, ?_⟩
  intro t htm
  obtain ⟨ta, tb, hsplit⟩ := List.append_of_mem htm
  obtain ⟨pre, post, h1, h2⟩ := beforeP_selected (post := a.postTags) c.keep a.inexact hsplit ht
  refine ⟨pre, post, h1, ?_⟩
  intro x hx
  rcases h2 x hx with h | h
  · refine ⟨.inl h, ?_⟩
    simp only [List.mem_cons, List.not_mem_nil, or_false] at h
    rcases h with rfl | rfl | rfl <;> decide
  · have hxt : x ∈ a.tags := by rw [hsplit]; simp [h]
    exact ⟨.inr hxt, (ht x hxt).isVT⟩

/-- ... and no version-type entry stands behind a -T tag (one that is not also given with -t); the
tag is on the VRO, and so are `version` and `versionExpr`. -/
theorem C03_posttag_after_version (c : VroCfg) (a : VroArgs) (d : DefaultCfg c)
    (ht : ∀ t ∈ a.tags, GoodTag c t) (hp : ∀ t ∈ a.postTags, GoodTag c t) :
    ∃ out, selectVRO c a = .ok out ∧ kVersion ∈ out.vro ∧ kVersionExpr ∈ out.vro ∧
      ∀ y ∈ a.postTags, y ∉ a.tags →
        y ∈ out.vro ∧ ∀ pre post, out.vro = pre ++ y :: post → ∀ x ∈ post, isVT x = false :=
  selectVRO_default_posttag_of_shaped c a d ht hp

/-- non-vacuity: the example configuration is a default configuration, `beta` and `stable` are good
tags, and `setup --keep -t beta -T stable p 1.0` gives
`keep type:exact commandLine beta version versionExpr stable current` -/
example : DefaultCfg (exCfg true false) :=
  ⟨rfl, rfl, rfl, by decide, disjoint_of_forall (by decide)⟩
example : GoodTag (exCfg true false) sBeta ∧ GoodTag (exCfg true false) sStable :=
  ⟨⟨by decide, by decide, by decide, by decide⟩, ⟨by decide, by decide, by decide, by decide⟩⟩
example : (selectVRO (exCfg true false) (exArgs [sBeta] [sStable] true)).map (·.vro)
    = .ok [kKeep, kTypeExact, kCommandLine, sBeta, kVersion, kVersionExpr, sStable, kCurrent] := by decide +kernel
/-- with `--exact`, tags not given with -t go to the end, behind `warn:1` -/
example : (selectVRO (exCfg false true) (exArgs [sBeta] [sStable] false)).map (·.vro)
    = .ok [kTypeExact, kCommandLine, sBeta, kVersion, kVersionExpr, sStable, kCurrent] := by decide +kernel

/-- Pre-tags override table versions: below the top level, with nothing set up beforehand, if `x` is
the only -t tag that designates a version of the product, that version is the answer on the VRO
`selectVRO` built — whatever version (or expression) the table names. -/
theorem C03_pretag_overrides_table_version (c : VroCfg) (a : VroArgs) (d : DefaultCfg c)
    (ht : ∀ t ∈ a.tags, GoodTag c t) (hp : ∀ t ∈ a.postTags, GoodTag c t)
    (out : VroOut) (hsel : selectVRO c a = .ok out)
    (C : Ctx) (r : Req) (hr : r.already = none) (hdepth : 0 < r.depth)
    (hplain : ∀ t ∈ a.tags, isPlainTag C t = true)
    (x : Str) (hx : x ∈ a.tags) (p : Prod) (hxp : lookupTag C.db x r.name r.flavor = some p)
    (hothers : ∀ t ∈ a.tags, t ≠ x → lookupTag C.db t r.name r.flavor = none) :
    find C r out.vro = .ok (some ⟨p, x, x⟩) :=
  pretag_overrides_any_tag c a d ht hp out hsel C r hr hdepth id (fun t h => isTagEntry_of_plain (hplain t h))
    x hx p hxp hothers

/-- **Precedence among pre-tags is left to right**, for tags of any kind and with or without `--exact`: below the top level,
with nothing set up beforehand, the answer on the VRO `selectVRO` built is the version designated by the FIRST -t tag on
the command line that designates one — whatever later -t tags designate and whatever version (or expression) the table
names.  `key t` is the name the chain records of tag `t` are kept under (`user:mine` for the user tag `mine`, spelled
`mine` on the command line); `C03_pretag_overrides_table_version` is the special case of global tags of which only one
designates. -/
theorem C03_pretag_first_designating (c : VroCfg) (a : VroArgs) (d : DefaultCfg c)
    (ht : ∀ t ∈ a.tags, GoodTag c t) (hp : ∀ t ∈ a.postTags, GoodTag c t)
    (out : VroOut) (hsel : selectVRO c a = .ok out)
    (C : Ctx) (r : Req) (hr : r.already = none) (hdepth : 0 < r.depth)
    (key : Str → Str) (htag : ∀ t ∈ a.tags, IsTagEntry C t (key t))
    (ta tb : List Str) (x : Str) (hsplit : a.tags = ta ++ x :: tb)
    (p : Prod) (hxp : lookupTag C.db (key x) r.name r.flavor = some p)
    (hbefore : ∀ t ∈ ta, lookupTag C.db (key t) r.name r.flavor = none) :
    find C r out.vro = .ok (some ⟨p, x, x⟩) :=
  pretag_first_designating c a d ht hp out hsel C r hr hdepth key htag ta tb x hsplit p hxp hbefore

/-- ... and the flavor loop of `Eups.setup` settles on it: when that tag designates a version for the native flavor the
fallback flavors are not consulted, whatever they declare and whatever their names are. -/
theorem C03_pretag_first_designating_through_setup (c : VroCfg) (a : VroArgs) (d : DefaultCfg c)
    (ht : ∀ t ∈ a.tags, GoodTag c t) (hp : ∀ t ∈ a.postTags, GoodTag c t)
    (out : VroOut) (hsel : selectVRO c a = .ok out)
    (C : Ctx) (r : Req) (keep : Bool) (native : Str) (rest : List Str) (hr : r.already = none) (hdepth : 0 < r.depth)
    (key : Str → Str) (htag : ∀ t ∈ a.tags, IsTagEntry C t (key t))
    (ta tb : List Str) (x : Str) (hsplit : a.tags = ta ++ x :: tb)
    (p : Prod) (hxp : lookupTag C.db (key x) r.name native = some p)
    (hbefore : ∀ t ∈ ta, lookupTag C.db (key t) r.name native = none) :
    resolve C r keep out.vro (native :: rest) = .ok (some ⟨p, x, x⟩) :=
  (C03_native_flavor_first C r keep out.vro native rest _ hr
    (pretag_first_designating c a d ht hp out hsel C { r with flavor := native } hr hdepth key htag ta tb x hsplit p hxp hbefore)
    (acceptableB_of_depth_pos _ hdepth)).1

/-- non-vacuity: `--exact -t mine -t stable` with the user tag `mine` (kept as `user:mine`) on `p 3.0` (generic) and a table
naming `p 1.0`: on the VRO `type:exact commandLine mine stable version versionExpr current` the lookup for `generic` at
depth 1 answers 3.0 through `mine` -/
def exCfgU : VroCfg := { exCfg false true with globalTags := [kCurrent, sStable, sBeta, sMine] }
def exDbU : Db := [{ decls := [⟨sP, v10, sGeneric⟩, ⟨sP, v30, sGeneric⟩],
                     tags := [⟨kUserColon ++ sMine, sP, sGeneric, v30⟩, ⟨sStable, sP, sGeneric, v10⟩] }]
def exCtxU2 : Ctx := (mkCtx simpleOrd [sCurrent, sStable, sBeta] exDbU .files [sLinux, sGeneric] []).withExtras [sMine] []
example : (selectVRO exCfgU (exArgs [sMine, sStable] [] false)).map (·.vro)
    = .ok [kTypeExact, kCommandLine, sMine, sStable, kVersion, kVersionExpr, kCurrent] := by decide +kernel
example : find exCtxU2 { exReq (some v10) 1 with flavor := sGeneric }
    [kTypeExact, kCommandLine, sMine, sStable, kVersion, kVersionExpr, kCurrent]
    = .ok (some ⟨⟨v30, sGeneric, 0⟩, sMine, sMine⟩) := by decide +kernel
example : IsTagEntry exCtxU2 sMine (kUserColon ++ sMine) ∧ IsTagEntry exCtxU2 sStable sStable ∧
    GoodTag exCfgU sMine ∧ GoodTag exCfgU sStable := by
  refine ⟨by unfold IsTagEntry; decide +kernel, by unfold IsTagEntry; decide +kernel,
    ⟨by decide, by decide, by decide, by decide⟩, ⟨by decide, by decide, by decide, by decide⟩⟩

/-- **The complete reading of the VRO for a request that names no version** (default configuration; keep / exact /
inexact / -r / -z in any combination; tags of any kind): the answer is that of the FIRST of — the -t tags in command-line
order, then the -T tags in command-line order, then `current` — that designates a version of the product
(`firstDesignating`); nothing else on the VRO `selectVRO` built can answer.  (`hkeep`: with `--keep` at the top level the
`keep` entry is looked up as a tag named `keep`; excluded.) -/
theorem C03_unversioned_request_reads_tags_in_order (c : VroCfg) (a : VroArgs) (d : DefaultCfg c)
    (ht : ∀ t ∈ a.tags, GoodTag c t) (hp : ∀ t ∈ a.postTags, GoodTag c t)
    (out : VroOut) (hsel : selectVRO c a = .ok out)
    (C : Ctx) (r : Req) (hr : r.already = none) (hn : r.named = none)
    (hkeep : c.keep = false ∨ 0 < r.depth)
    (key : Str → Str) (htag : ∀ t ∈ a.tags ++ a.postTags ++ [kCurrent], IsTagEntry C t (key t)) :
    find C r out.vro = .ok (firstDesignating C r key (a.tags ++ a.postTags ++ [kCurrent])) := by
  have hv : ∀ e, isVT e = true → Skips C r e := fun e he post => by rw [lookupEntry_vt post he, hn]
  rw [find_selected c a d ht hp out hsel C r hr hkeep key htag, List.append_assoc, firstDesignating_append]
  cases firstDesignating C r key a.tags with
  | some hit => rfl
  | none =>
    simp only [List.cons_append, List.nil_append]
    rw [walk_cons_skip (hv kVersion (by decide) _), walk_cons_skip (hv kVersionExpr (by decide) _)]
    exact walk_tags C r key _ (fun t h => htag t (by
      rcases List.mem_append.mp h with h | h <;> simp [h]))

/-- **The complete reading of the VRO for a request that names a version or an expression** (default configuration; keep /
exact / inexact / -r / -z in any combination; tags of any kind; nothing set up beforehand): the answer is that of the first
-t tag, in command-line order, that designates a version; when none does, that of the two version entries `version`
`versionExpr` alone (whose answers `C03_version_entry`, `C03_expr_entry_is_max` and their `_absent` companions describe) —
the -T tags and `current` behind them are never consulted: pre-tags override the named version, post-tags do not, and the
request fails rather than fall through. -/
theorem C03_versioned_request_reading (c : VroCfg) (a : VroArgs) (d : DefaultCfg c)
    (ht : ∀ t ∈ a.tags, GoodTag c t) (hp : ∀ t ∈ a.postTags, GoodTag c t)
    (out : VroOut) (hsel : selectVRO c a = .ok out)
    (C : Ctx) (r : Req) (hr : r.already = none) (hn : r.named.isSome = true)
    (hkeep : c.keep = false ∨ 0 < r.depth)
    (key : Str → Str) (htag : ∀ t ∈ a.tags ++ a.postTags ++ [kCurrent], IsTagEntry C t (key t)) :
    find C r out.vro =
      match firstDesignating C r key a.tags with
      | some hit => .ok (some hit)
      | none => walk C r [kVersion, kVersionExpr] := by
  rw [find_selected c a d ht hp out hsel C r hr hkeep key htag]
  cases firstDesignating C r key a.tags with
  | some hit => rfl
  | none =>
    refine walk_cut C r [kVersion] kVersionExpr (a.postTags ++ [kCurrent]) hn (by decide) ?_
    intro x hx
    rcases List.mem_append.mp hx with h | h
    · exact (hp x h).isVT
    · rw [List.mem_singleton.mp h]; decide

/-- non-vacuity: `-T stable p 9.9` (9.9 declared nowhere; `stable -> 1.0`): the request fails, `stable` is not consulted -/
example : find exCtx (exReq (some v99) 1) [kTypeExact, kCommandLine, kVersion, kVersionExpr, sStable, sCurrent] = .ok none ∧
    walk exCtx (exReq (some v99) 1) [kVersion, kVersionExpr] = .ok none := by decide +kernel

/-- "Post-tags apply only when no usable version is named", the positive half: for a request that names no version, when no
-t tag designates a version, the first -T tag in command-line order that designates one answers; when none does, `current`. -/
theorem C03_posttags_apply_in_order (c : VroCfg) (a : VroArgs) (d : DefaultCfg c)
    (ht : ∀ t ∈ a.tags, GoodTag c t) (hp : ∀ t ∈ a.postTags, GoodTag c t)
    (out : VroOut) (hsel : selectVRO c a = .ok out)
    (C : Ctx) (r : Req) (hr : r.already = none) (hn : r.named = none)
    (hkeep : c.keep = false ∨ 0 < r.depth)
    (key : Str → Str) (htag : ∀ t ∈ a.tags ++ a.postTags ++ [kCurrent], IsTagEntry C t (key t))
    (hpre : ∀ t ∈ a.tags, lookupTag C.db (key t) r.name r.flavor = none) :
    find C r out.vro = .ok (firstDesignating C r key (a.postTags ++ [kCurrent])) := by
  rw [C03_unversioned_request_reads_tags_in_order c a d ht hp out hsel C r hr hn hkeep key htag,
    List.append_assoc, firstDesignating_append, firstDesignating_none_of hpre, Option.none_or]

/-- non-vacuity: `-t beta -T stable p` on the example database (no `beta` anywhere; `stable -> 1.0` in stack 0):
answered by `stable`, not by `current` -/
example : find exCtx (exReq none 0) [kTypeExact, kCommandLine, sBeta, kVersion, kVersionExpr, sStable, sCurrent]
    = .ok (some ⟨⟨v10, sLinux, 0⟩, sStable, sStable⟩) := by decide +kernel
example : firstDesignating exCtx (exReq none 0) id [sBeta, sStable, sCurrent] = some ⟨⟨v10, sLinux, 0⟩, sStable, sStable⟩ := by
  decide +kernel

/-- Post-tags apply only when no usable version is named: for a request that names a version or an
expression the answer on the VRO `selectVRO` built is the answer of an initial piece of that VRO which
does not contain the -T tag — so it does not depend on what the tag is assigned to. -/
theorem C03_posttag_only_without_version (c : VroCfg) (a : VroArgs) (d : DefaultCfg c)
    (ht : ∀ t ∈ a.tags, GoodTag c t) (hp : ∀ t ∈ a.postTags, GoodTag c t)
    (out : VroOut) (hsel : selectVRO c a = .ok out)
    (C : Ctx) (r : Req) (hn : r.named.isSome = true) (y : Str) (hy : y ∈ a.postTags) (hyt : y ∉ a.tags) :
    ∃ pre e post, out.vro = pre ++ e :: post ∧ y ∉ pre ++ [e] ∧
      find C r out.vro = find C r (pre ++ [e]) := by
  obtain ⟨out', hsel', hv, _, hpos⟩ := C03_posttag_after_version c a d ht hp
  rw [hsel] at hsel'
  cases hsel'
  obtain ⟨pre, e, post, hsplit, he, hpost⟩ := last_split (p := isVT) ⟨kVersion, hv, by decide⟩
  refine ⟨pre, e, post, hsplit, ?_, ?_⟩
  · exact NoVTBehind.not_mem_of_vt (fun p1 p2 h => (hpos y hy hyt).2 p1 p2 (hsplit.trans h)) he (hp y hy).isVT
  · rw [hsplit]
    exact C03_named_request_never_falls_through C r pre e post hn he hpost

/-! ## any VRO dictionary (site configurations, `-z` dictionaries, a `-t` tag that is a dictionary key)

The property quantifies over the default configuration; the placement clauses hold for every dictionary
whose selected list has the shape `ShapedBaseW`: every entry recognised (`warn` / `warn:N` entries included) and no
version-type entry in front of the last `commandLine` / `type:*` entry (the second half is for the -t clause only:
`selectVRO_posttag`).  `C03_pretag_shape_needed_witness` and `C03_posttag_in_dict_witness` show that the shape and the side
condition on the -T tag cannot be dropped. -/

/-- Every -t tag stands on the resulting VRO in front of every version-type entry, whatever the
dictionary, for any list `chooseBase` selects that has the shape `ShapedBaseW` (`hpost`: a -T tag needs a
-t tag or a version-type entry to be placed at all — otherwise the code raises `UnboundLocalError`). -/
theorem C03_pretag_before_version_any_dict (c : VroCfg) (a : VroArgs) (hu : c.userVRO = false) (base : List Str)
    (store : List Str → List (Str × VroVal))
    (hcb : chooseBase c a a.tags = .ok (base, store)) (hs : ShapedBaseW c base)
    (ht : ∀ t ∈ a.tags, GoodTag c t) (hp : ∀ t ∈ a.postTags, GoodTag c t)
    (hpost : a.postTags = [] ∨ a.tags ≠ [] ∨ ∃ x ∈ base, isVT x = true) :
    ∃ out, selectVRO c a = .ok out ∧
      ∀ t ∈ a.tags, ∃ pre post, out.vro = pre ++ t :: post ∧ ∀ x ∈ pre, isVT x = false :=
  selectVRO_pretag c a hu base store hcb hs ht hp hpost

/-- On a shaped list with a version-type entry `selectVRO` succeeds, the version-type entries of the list are
on the resulting VRO, and no version-type entry stands behind a -T tag `y` (not also given with -t) unless one
already stood behind `y` in the dictionary's own list. -/
theorem C03_posttag_after_version_any_dict (c : VroCfg) (a : VroArgs) (g : GenCfg c) (base : List Str)
    (store : List Str → List (Str × VroVal))
    (hcb : chooseBase c a a.tags = .ok (base, store)) (hs : ShapedBaseW c base)
    (ht : ∀ t ∈ a.tags, GoodTag c t) (hp : ∀ t ∈ a.postTags, GoodTag c t)
    (hvt : ∃ x ∈ base, isVT x = true) :
    ∃ out, selectVRO c a = .ok out ∧ (∀ x ∈ base, isVT x = true → x ∈ out.vro) ∧
      ∀ y ∈ a.postTags, y ∉ a.tags → NoVTBehind y base →
        y ∈ out.vro ∧ ∀ pre post, out.vro = pre ++ y :: post → ∀ x ∈ post, isVT x = false :=
  selectVRO_posttag c a g base store hcb hs.kindly ht hp hvt

/-- non-vacuity: a site dictionary with warnings, `default: commandLine warn:2 warn version warn:3 warn:1 versionExpr
current current latest` -/
example (keep exact : Bool) : ShapedBaseW (wCfg keep exact) wBase := wShaped keep exact

/-- the default configuration is an instance -/
example (c : VroCfg) (d : DefaultCfg c) : GenCfg c ∧ ShapedBaseW c defaultBase :=
  ⟨genCfg_of_default d, (shapedBase_default d).toW⟩

/-- negation: on `default: version commandLine current` (a version entry in front of `commandLine`; every other
hypothesis holds) `-t beta` gives `version commandLine beta current`: the tag stands behind `version`. -/
theorem C03_pretag_shape_needed_witness :
    (selectVRO w1Cfg w1Args).map (·.vro) = .ok [kVersion, kCommandLine, gBeta, kCurrent] ∧
    (¬ ∃ H T, w1Base = H ++ T ∧ (∀ x ∈ H, isVT x = false) ∧
        (∀ x ∈ T, (x == kCommandLine || isType x) = false)) ∧
    ¬ ∃ out, selectVRO w1Cfg w1Args = .ok out ∧
        ∀ t ∈ w1Args.tags, ∃ pre post, out.vro = pre ++ t :: post ∧ ∀ x ∈ pre, isVT x = false :=
  W1_split_needed

/-- negation: on the shaped list `default: commandLine stable version versionExpr current`, `-T stable` leaves
`stable` where the dictionary put it, in front of `version`. -/
theorem C03_posttag_in_dict_witness :
    ShapedBaseW w2Cfg w2Base ∧
    (selectVRO w2Cfg w2Args).map (·.vro) = .ok [kCommandLine, gStable, kVersion, kVersionExpr, kCurrent] ∧
    ¬ ∃ out, selectVRO w2Cfg w2Args = .ok out ∧
        ∀ y ∈ w2Args.postTags, y ∉ w2Args.tags →
          y ∈ out.vro ∧ ∀ pre post, out.vro = pre ++ y :: post → ∀ x ∈ post, isVT x = false :=
  ⟨W2_posttag_in_base.1.toW, W2_posttag_in_base.2⟩

/-! ## the command line: `eups vro ARGS` prints the VRO `setup ARGS` resolves with -/

/-- Under the default configuration, for every command line of `-t`, `-T`, `-c`, `-e`, `-z` options, a version or
none, and any configured default tags (the tags in force being registered global tags): `eups vro` reports exactly the
VRO `setup` uses.  In particular the second `selectVRO` on the state the first one left changes nothing. -/
theorem C03_vro_cmd_reports_setup_vro (c : VroCfg) (dc : DefaultCfg c) (d : DefaultTags) (k : CliCmd)
    (hg : GoodCli c d k) :
    (vroCmd c d k).map (·.vro) = (setupCmdVro c d k).map (·.vro) :=
  vroCmd_eq_setupCmdVro c dc d k hg

/-- the underlying fact, for every combination of keep / exact / inexact / version / -r / -z: calling `selectVRO` a
second time with the same tags on the instance the first call left gives the VRO of a single call -/
theorem C03_select_vro_twice (c : VroCfg) (dc : DefaultCfg c) (a : VroArgs)
    (ht : ∀ t ∈ a.tags, GoodTag c t) (hp : ∀ t ∈ a.postTags, GoodTag c t) :
    (selectVROTwice c a).map (·.vro) = (selectVRO c a).map (·.vro) :=
  selectVROTwice_vro_eq c dc a ht hp

/-- non-vacuity: `-t beta -c -T stable p 1.0` (with and without `-e`), and `-t None` with default tags configured -/
example (e : Bool) : GoodCli cmdCfg noDefaultTags (cmdBetaCurrentStable e) := goodCli_betaCurrentStable e
example : GoodCli cmdCfg betaDefault cmdNone := goodCli_none

/-- negation, for the command as it was before fixes D90 and D91 (`vroCmdPinned`): `eups vro -t None p` printed a VRO
without `type:exact`, and `eups vro -c -T beta p 1.0` put `beta` before `current`; `setup` with the same arguments
resolves with `type:exact …` and `… current beta`.  The repaired command agrees with `setup` on both. -/
theorem C03_vro_cmd_pinned_witness :
    ((vroCmdPinned cmdCfg noDefaultTags cmdNone).map (·.vro)
        = .ok [kCommandLine, kVersion, kVersionExpr, kCurrent] ∧
     (setupCmdVro cmdCfg noDefaultTags cmdNone).map (·.vro)
        = .ok [kTypeExact, kCommandLine, kVersion, kVersionExpr, kCurrent] ∧
     (vroCmd cmdCfg noDefaultTags cmdNone).map (·.vro) = (setupCmdVro cmdCfg noDefaultTags cmdNone).map (·.vro)) ∧
    ((vroCmdPinned cmdCfg noDefaultTags cmdCurrentBeta).map (·.vro)
        = .ok [kTypeExact, kCommandLine, kVersion, kVersionExpr, gBeta, kCurrent] ∧
     (setupCmdVro cmdCfg noDefaultTags cmdCurrentBeta).map (·.vro)
        = .ok [kTypeExact, kCommandLine, kVersion, kVersionExpr, kCurrent, gBeta] ∧
     (vroCmd cmdCfg noDefaultTags cmdCurrentBeta).map (·.vro)
        = (setupCmdVro cmdCfg noDefaultTags cmdCurrentBeta).map (·.vro)) := by
  decide +kernel

/-! ## the older entry points: `Eups.findProduct`, `findPreferredProduct`, a tag file (`Model/VroApi.lean`) -/

/-- `findProduct(name, "<explicit version>")`: the named version from the first stack declaring it for the flavor —
the explicit-version lookup of the VRO walk. -/
theorem C03_find_product_explicit (C : Ctx) (q : ApiReq) (v : Str) (p : Prod) (hv : v.isEmpty = false)
    (hi : q.ignoreVersions = false) (hex : isExpr v = .ok false) :
    findProductApi C q (some v) = .ok (some p) ↔
      p.version = v ∧ p.flavor = q.flavor ∧
      (∃ st, C.db[p.stack]? = some st ∧ declared st q.name v q.flavor = true) ∧
      ∀ (j : Nat) (st' : Stack), j < p.stack → C.db[j]? = some st' → declared st' q.name v q.flavor = false := by
  rw [findProductApi_explicit C q v hv hi hex]
  simp only [Except.ok.injEq]
  exact lookupVersion_some_iff ..

/-- `findProduct(name)` / `findPreferredProduct`: the first preferred tag that designates a version answers; what stands
in front of it is passed over (`:`, digits, `type:…`) or is a tag that designates nothing. -/
theorem C03_find_preferred_first_match (C : Ctx) (q : ApiReq) (p : Prod) :
    findProductApi C q none = .ok (some p) ↔
      ∃ pre e post key, q.preferred = pre ++ e :: post ∧ passedOver e = false ∧ C.tagKey e = some key ∧
        findTagged C q key = .ok (some p) ∧
        ∀ x ∈ pre, passedOver x = true ∨ ∃ k, C.tagKey x = some k ∧ findTagged C q k = .ok none :=
  findPreferred_hit_iff C q q.preferred p

/-- A tag file designates, for a product, the version of the first line naming it (`tagFileVersion`), and the lookup
answers with that version from the first stack declaring it; a version no stack declares is a `LOCAL:` directory that
exists, or a loud failure (`notFound`; nothing with `--force`) — never a silent fall-through.  A file that does not list
the product designates nothing; an ill-formed line in front of the product's line is an error. -/
theorem C03_tag_file_entry (C : Ctx) (q : ApiReq) (content : Str) :
    (∀ v, tagFileVersion content q.name = .ok (some v) → v.isEmpty = false → q.ignoreVersions = false →
      isExpr v = .ok false →
      findTaggedFromFile C q content =
        match lookupVersion C.db q.name v q.flavor with
        | some p => .ok (some p)
        | none =>
          match localProd C v with
          | some p => .ok (some p)
          | none => if q.force then .ok none else .error .notFound) ∧
    (tagFileVersion content q.name = .ok none → findTaggedFromFile C q content = .ok none) ∧
    (∀ e, tagFileVersion content q.name = .error e → findTaggedFromFile C q content = .error (.file e)) :=
  ⟨fun v h hv hi hex => findTaggedFromFile_explicit C q content v h hv hi hex,
   findTaggedFromFile_not_listed C q content, fun e h => findTaggedFromFile_bad_line C q content e h⟩

/-- non-vacuity: `p 2.0` on the second line of a file, against the example database (stack 1 declares `p 2.0`) -/
example : findTaggedFromFile exCtx { name := sP, flavor := sLinux, ignoreVersions := false, preferred := [] }
    ([35, 32, 120, 10] ++ sP ++ [32] ++ v20 ++ [10]) = .ok (some ⟨v20, sLinux, 1⟩) := by decide +kernel

/-- **A VRO entry that names a tag file** (`os.path.isfile(vroTag)`; the walk `findF` of `Model/VroApi.lean`): an entry
that is not a directive (`path`, `keep` below the top level, `commandLine`, a version entry, `warn`) and names an existing
file answers as the file says — the version it lists for the product, from the first stack declaring it
(`C03_tag_file_entry`), reason: the entry as written; "not listed" is "continue"; an ill-formed line or a version declared
nowhere leaves the walk with an error.  With no such files the extended walk is `findProductFromVRO` itself. -/
theorem C03_tag_file_on_vro (C : Ctx) (files : List (Str × Str)) (q : ApiReq) (r : Req) :
    (∀ e post content, isDirective r e = false → lookupKey e files = some content →
      lookupEntryF C files q r e post =
        match findTaggedFromFile C q content with
        | .error err => .error err
        | .ok (some p) => .ok (.hit p e)
        | .ok none => .ok .skip) ∧
    (∀ vro, findF C [] q r vro = (match find C r vro with | .error e => .error (.walk e) | .ok o => .ok o)) :=
  ⟨fun e post content hd hf => lookupEntryF_file C files q r e post content hd hf, fun vro => findF_nil C q r vro⟩

/-- non-vacuity: the VRO `[<file>, current]` with the file listing `p 2.0`: answered by the file (2.0 from stack 1), not by
`current`; the reason is the file's name -/
example : findF exCtx [([47, 116], sP ++ [32] ++ v20 ++ [10])]
    { name := sP, flavor := sLinux, ignoreVersions := false, preferred := [] } (exReq none 0) [[47, 116], sCurrent]
    = .ok (some ⟨⟨v20, sLinux, 1⟩, [47, 116], [47, 116]⟩) := by decide +kernel

/-- The tag-file reader reads back what a writer wrote: a file of plain `product version` lines, `setupRequired(…)`
lines — with option words in front of the product, with or without a `[relative expression]` behind the version — comment
lines and blank lines (`Entry`, each with the side conditions `Entry.Ok`: names without blanks that do not start like a
comment, a bar or an option; no `)` / `[` inside words) designates, for a product, the version of the first line naming it.
The version may contain a hyphen (`2.0-rc1`): that is the statement defect D92 violated. -/
theorem C03_tag_file_reads_back (es : List Entry) (n : Str) (h : ∀ e ∈ es, e.Ok) :
    tagFileVersion (es.flatMap (fun e => e.text ++ [10])) n
      = .ok (((es.filterMap Entry.pair).find? (·.1 == n)).map (·.2)) :=
  tagFileVersion_entries es n h

/-- non-vacuity: `setupRequired(-j p 2.0-rc1 [>= 1.0])` is an admissible entry -/
example : (Entry.setupExpr [[45, 106]] sP (Str.ofString "2.0-rc1") (Str.ofString ">= 1.0")).Ok := by
  refine ⟨?_, ⟨⟨by decide, by decide⟩, by decide, by decide, by decide⟩, ⟨⟨by decide, by decide⟩, by decide, by decide, by decide⟩,
    by decide, by decide, by decide, by decide⟩
  intro o ho
  have : o = [45, 106] := by simpa using ho
  subst this
  exact ⟨by decide, by decide, by decide, by decide⟩

/-- negation for the pinned reader (before fix D92): `setupRequired(p  2.0-rc1 [>= 1.0])` designated `2.0`; the
repaired reader reads `2.0-rc1`. -/
theorem C03_tag_file_hyphen_witness :
    tagFileLinePinned (Str.ofString "setupRequired(p  2.0-rc1 [>= 1.0])") = .ok (some (Str.ofString "p", Str.ofString "2.0")) ∧
    tagFileLine (Str.ofString "setupRequired(p  2.0-rc1 [>= 1.0])") = .ok (some (Str.ofString "p", Str.ofString "2.0-rc1")) :=
  ⟨d92_pinned, d92_fixed⟩

/-! ## which stacks are searched, in which order: `Eups.setEupsPath` (-Z path, -z dbz) -/

/-- The stacks a command searches are the pieces of the path that are directories (and, with `-z dbz`, contain the
directory `dbz`), normalised, each listed once; and the order is that of first occurrence on the path: a piece is
listed behind everything listed for the pieces in front of it. -/
theorem C03_search_path (isdir : Str → Bool) (path : Str) (dbz : Option Str) (l : List Str)
    (h : setEupsPath isdir path dbz = .ok l) :
    l.Nodup ∧
    (∀ x, x ∈ l ↔ ∃ p ∈ splitOn colon [] path, isdir p = true ∧ x = normpath p ∧
      (∀ z, dbz = some z → z.isEmpty = false → dbzMatches z p = true)) ∧
    (∀ seen a b, uniqDirs seen (a ++ b) = uniqDirs seen a ++ uniqDirs (a.reverse ++ seen) b) :=
  ⟨(setEupsPath_spec isdir path dbz l h).1, (setEupsPath_spec isdir path dbz l h).2, uniqDirs_append⟩

/-- non-vacuity: `/a//s0:/b/../a/s0/:/nowhere:/a/s1` with `/a//s0`, `/b/../a/s0/`, `/a/s1` existing: two stacks -/
example : setEupsPath (fun p => [[47, 97, 47, 47, 115, 48], [47, 98, 47, 46, 46, 47, 97, 47, 115, 48, 47], [47, 97, 47, 115, 49]].contains p)
    ([47, 97, 47, 47, 115, 48, 58, 47, 98, 47, 46, 46, 47, 97, 47, 115, 48, 47, 58, 47, 110, 111, 58, 47, 97, 47, 115, 49]) none
    = .ok [[47, 97, 47, 115, 48], [47, 97, 47, 115, 49]] := by decide +kernel

/-! ## `vers.sort(version_cmp); vers[-1]` is `lastMax`

The model reads "the latest of a list" as the fold `lastMax`.  Python's `list.sort` is a stable sort that
only asks `cmp a b < 0` (`Model/VroSort.lean`: `stableSort`, `sortLast`); for a comparison that is a total
preorder on the names involved the two agree — for C10's comparator on conventional names in particular. -/

theorem C03_latest_is_last_of_stable_sort (P : Str → Prop) (cmp : Str → Str → Int) (t : TotalOrdOn P cmp)
    (l : List Str) (hl : ∀ x ∈ l, P x) :
    lastMax cmp l = sortLast cmp l ∧ (stableSort cmp l).Perm l ∧
      List.Pairwise (fun a b => cmp a b ≤ 0) (stableSort cmp l) :=
  ⟨lastMax_eq_sortLast t hl, stableSort_perm cmp l, stableSort_sorted t.toGoodOrdOn hl⟩

theorem C03_latest_is_last_of_stable_sort_conv (l : List Str) (hl : ∀ x ∈ l, VersionCmp.convName x = true) :
    lastMax c10Cmp l = sortLast c10Cmp l :=
  lastMax_c10_eq_sortLast hl

/-- negation: the order hypotheses of `C03_expr_entry_is_max` (`GoodOrd`) alone do not make the fold the sort's
last element (sign antisymmetry in the other direction is needed), and neither does antisymmetry without
transitivity. -/
theorem C03_sort_needs_total_order_witness :
    (GoodOrd badCmp ∧ lastMax badCmp [[49], [50], [51]] ≠ sortLast badCmp [[49], [50], [51]]) ∧
    ((∀ a b, rpsCmp b a = - rpsCmp a b) ∧ lastMax rpsCmp [[48], [49], [50]] ≠ sortLast rpsCmp [[48], [49], [50]]) :=
  ⟨⟨badCmp_good, badCmp_lastMax_ne_sortLast⟩, ⟨rpsCmp_neg, rpsCmp_lastMax_ne_sortLast⟩⟩

/-- the tie `1.0` / `1.00`: the last listed of the two is the answer, by the fold and by the sort -/
example : lastMax simpleCmp [v10, [49, 46, 48, 48], [48, 46, 57]] = some [49, 46, 48, 48] ∧
    sortLast simpleCmp [v10, [49, 46, 48, 48], [48, 46, 57]] = some [49, 46, 48, 48] := by decide +kernel

/-! ## one `Eups` object serving several top-level requests: what a request may inherit from the one before it -/

/-- A top-level `setup X` depends on the dictionary the previous requests left behind ONLY through its entry for `X`
itself (the top-level lookup runs before the reset): the product chosen, every dependency of the table, the environment
afterwards and — when the request succeeds — the dictionary it leaves are the same whatever else earlier requests on the
object recorded, for which products and for which reasons.  In particular the dependencies are resolved with
"(what is set up, reason unknown)", so no earlier, finished request's choice outranks what the VRO designates now. -/
theorem C03_request_forgets_earlier_reasons (C : Ctx) (keep : Bool) (flavors vro : List Str) (env : EnvS)
    (d d' : Dict) (c : HistCmd) (hx : assocGet c.name d = assocGet c.name d') :
    (histStep C keep flavors vro ⟨env, d⟩ c).2 = (histStep C keep flavors vro ⟨env, d'⟩ c).2 ∧
    (histStep C keep flavors vro ⟨env, d⟩ c).1.env = (histStep C keep flavors vro ⟨env, d'⟩ c).1.env ∧
    ((histStep C keep flavors vro ⟨env, d⟩ c).2 ≠ .failed → c.unsetup = false →
      (histStep C keep flavors vro ⟨env, d⟩ c).1 = (histStep C keep flavors vro ⟨env, d'⟩ c).1) := by
  unfold histStep
  cases hu : c.unsetup
  · simp only [Bool.false_eq_true, if_false, hx]
    cases resolve C { name := c.name, version := c.version, vexpr := none, depth := 0, flavor := [], ignoreVersions := false,
                      already := assocGet c.name d' } keep vro flavors with
    | error e => exact ⟨rfl, rfl, fun h => absurd rfl h⟩
    | ok o =>
      cases o with
      | none => exact ⟨rfl, rfl, fun h => absurd rfl h⟩
      | some h => exact ⟨rfl, rfl, fun _ _ => rfl⟩
  · simp only [if_true]
    cases assocGet c.name env with
    | none => exact ⟨rfl, rfl, fun h => absurd rfl h⟩
    | some p => exact ⟨rfl, rfl, fun _ h => by cases h⟩

/-- non-vacuity, two top-level requests on one object: `t1` (`[116, 49]`) requires `p 1.0`, `t2` (`[116, 50]`) requires `p`
(no version); on the example database `current` is `p 2.0`.  After `setup t1` the object remembers (p 1.0, reason
`version`); `setup t2` on the same object sets up `p 2.0` all the same. -/
def exTops : Db :=
  [{ decls := [⟨sP, v10, sLinux⟩, ⟨sP, v20, sLinux⟩, ⟨[116, 49], v10, sLinux⟩, ⟨[116, 50], v10, sLinux⟩],
     tags := [⟨sCurrent, sP, sLinux, v20⟩, ⟨sCurrent, [116, 49], sLinux, v10⟩, ⟨sCurrent, [116, 50], sLinux, v10⟩] }]
def exLineP (v : Option Str) : LineSpec :=
  { name := sP, version := v, vexpr := none, lineVro := none, lineTags := [], lineKeep := false, optional := false }
example :
    let C := mkCtx simpleOrd [sCurrent, sStable, sBeta] exTops .files [sLinux, sGeneric] []
    let r := runHistory C false [sLinux, sGeneric] defaultVro ⟨[], []⟩
      [⟨[116, 49], none, [exLineP (some v10)], false⟩, ⟨[116, 50], none, [exLineP none], false⟩]
    r.1 = [.ok ⟨v10, sLinux, 0⟩ false, .ok ⟨v10, sLinux, 0⟩ false] ∧ assocGet sP r.2.env = some ⟨v20, sLinux, 0⟩ := by
  decide +kernel

/-! ## the VRO in force for a table line is the command's VRO as modified by that line only -/

/-- Whatever the lines of a table ask for (`-k`, `-t tag`, `--vro`), (1) the command's VRO is the
same after the table as before it, and (2) every line that is reached is resolved with the
command's VRO as modified by *that* line — the earlier lines leave no trace. -/
theorem C03_table_line_isolated (C : Ctx) (keep : Bool) (flavors vro : List Str) (lines : List TableLine) :
    (runTable C keep flavors vro lines).vro = vro ∧
    ∀ (i : Nat) (out : LineOut), (runTable C keep flavors vro lines).outs[i]? = some out →
      ∃ l, lines[i]? = some l ∧ out = lineOutcome C keep flavors vro l := by
  refine ⟨runTable_vro .., fun i out h => ?_⟩
  obtain ⟨hi, rfl⟩ := List.getElem?_eq_some_iff.mp h
  have := List.prefix_iff_getElem?.mp (runTable_outs C keep flavors vro lines) i hi
  rw [List.getElem?_map] at this
  obtain ⟨l, hl, e⟩ := Option.map_eq_some_iff.mp this
  exact ⟨l, hl, e.symm⟩

/-- non-vacuity: `setupRequired(-k p)` then `setupRequired(p)` again in the example database, with
`p 1.0` already set up: the first line keeps 1.0, the second is answered by `current` (2.0), and
the command's VRO has no `keep` afterwards -/
def exLineKeep : TableLine :=
  { name := sP, version := none, vexpr := none, lineVro := none, lineTags := [], lineKeep := true,
    optional := false, already := some (⟨v10, sLinux, 0⟩, none) }
def exLinePlain : TableLine := { exLineKeep with lineKeep := false }
example :
    (runTable exCtx false [sLinux, sGeneric] defaultVro [exLineKeep, exLinePlain]).outs
      = [.setUp ⟨⟨v10, sLinux, 0⟩, kKeep, kKeep⟩, .setUp ⟨⟨v20, sLinux, 1⟩, sCurrent, sCurrent⟩] ∧
    (runTable exCtx false [sLinux, sGeneric] defaultVro [exLineKeep, exLinePlain]).vro = defaultVro := by
  decide +kernel

end EupsModel.C03
