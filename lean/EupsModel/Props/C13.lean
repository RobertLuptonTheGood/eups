import EupsModel.Lemmas.Uses
import EupsModel.Lemmas.DepsPinned
import EupsModel.Lemmas.DepsUnsetup
/-! C13 — dependency listings are complete and ordered; `uses` is their inverse.
Property theorems only.  Models: `Model/Topo.lean`, `Model/Deps.lean`; lemmas: `Lemmas/Topo*.lean`, `Lemmas/Deps*.lean`,
`Lemmas/Uses.lean`.  The relations the statements speak of are explained where they are defined: `Edge`, `XReach`,
`Listed`, `NoUnsetup` in `Lemmas/Deps.lean`, `SingleVersion` in `Lemmas/DepsTopo.lean`, `DepPath` and the *pinned* graph
(`pins`, `DepPathR`, `PinnedSingle`; the graph the code sorts, on which the statements about several versions, D31, are
exact) in `Lemmas/DepsPinned.lean`.  `NoUnsetup` is a hypothesis of the reachability and order theorems only: totality
holds for every database, and `C13_unsetup_only_removes` says what an unsetup line may do. -/
namespace EupsModel.C13
open EupsModel.Topo EupsModel.Deps

/-! ## the listing: complete, ordered, cycles reported -/

/-- **Complete and exact, and it terminates** — on every database without unsetup lines, cyclic ones included,
with the fuel the driver uses, the plain listing returns, and the products it lists are exactly those
reachable from the root through resolved tables, minus the root. -/
theorem C13_listing_is_reach (db : Db) (hns : NoUnsetup db) (top : Prod) :
    ∃ out, getDependentProducts db db.fuel top false false = .ok out ∧
      ∀ v, v ∈ out.map (·.prod) ↔ (Listed db [] top v ∧ v ≠ top) := by
  obtain ⟨out, h⟩ := getDependentProducts_returns db top false
  exact ⟨out, h, getDependentProducts_listed hns h⟩

/-- In topological mode (with or without `checkCycles`) a returned listing holds the same products, each
exactly once — whatever the versions in the closure. -/
theorem C13_topological_listing (db : Db) (hns : NoUnsetup db) (fuel : Nat) (top : Prod) (cc : Bool)
    (out : List Entry) (h : getDependentProducts db fuel top true cc = .ok out) :
    (out.map (·.prod)).Nodup ∧ ∀ v, v ∈ out.map (·.prod) ↔ (Listed db [] top v ∧ v ≠ top) := by
  obtain ⟨_, _, _, _, hnd⟩ := getDependentProducts_source (tableMissing_false hns top) h
  exact ⟨hnd rfl, getDependentProducts_listed hns h⟩

/-- **Topological order** (partial: hypothesis `SingleVersion`, because the code assigns depth per product
*name* from a second pass that pins every name to one version — known finding D31).
For every edge `u → v` of the closure (a line of the opened table of `u` denotes `v`) whose ends are in
different components (`u` is not reachable back from `v`), the dependency `v` is listed strictly deeper. -/
theorem C13_topological_partial (db : Db) (hns : NoUnsetup db) (fuel : Nat) (top : Prod)
    (hsv : SingleVersion db top) (cc : Bool) (out : List Entry)
    (h : getDependentProducts db fuel top true cc = .ok out)
    (eu ev : Entry) (hu : eu ∈ out) (hv : ev ∈ out)
    (hopen : XReach db [] top eu.prod) (hedge : Edge db [] eu.prod ev.prod)
    (hcomp : ¬ DepPath db top ev.prod eu.prod) :
    ∃ du dv, eu.depth = some du ∧ ev.depth = some dv ∧ du < dv := by
  obtain ⟨out1, st1, h1, hord⟩ := topo_pinned hns h
  have hag := resolve_second_pass hsv (listing_out_listed hns h1)
  exact hord (pinnedSingle_congr hag hsv) eu hu ev hv _ _ rfl rfl ((xreach_congr hag _).mpr hopen)
    ((edge_congr hag hopen).mpr hedge) (fun hp => hcomp ((depPathR_congr hag _ _).mp hp).to_depPath)

/-- **Build order**: in the order the installer uses (decreasing depth), a product never comes before one of
its dependencies from another component. -/
theorem C13_build_order (db : Db) (hns : NoUnsetup db) (fuel : Nat) (top : Prod)
    (hsv : SingleVersion db top) (cc : Bool) (out : List Entry)
    (h : getDependentProducts db fuel top true cc = .ok out)
    (i j : Nat) (hi : i < (buildOrder out).length) (hj : j < (buildOrder out).length)
    (hopen : XReach db [] top (buildOrder out)[i].prod)
    (hedge : Edge db [] (buildOrder out)[i].prod (buildOrder out)[j].prod)
    (hcomp : ¬ DepPath db top (buildOrder out)[j].prod (buildOrder out)[i].prod) : j < i := by
  have hmi : (buildOrder out)[i] ∈ out := (mem_sortStable _ _ _).mp (List.getElem_mem hi)
  have hmj : (buildOrder out)[j] ∈ out := (mem_sortStable _ _ _).mp (List.getElem_mem hj)
  obtain ⟨du, dv, h1, h2, hlt⟩ :=
    C13_topological_partial db hns fuel top hsv cc out h _ _ hmi hmj hopen hedge hcomp
  -- the order is by decreasing depth: were `i ≤ j`, the depth at `j` would be at most that at `i`
  have hsorted : (buildOrder out).Pairwise (fun a b => decide (b.depth.getD 0 ≤ a.depth.getD 0) = true) :=
    pairwise_sortStable _
      (by intro a b hab; simp only [decide_eq_false_iff_not, decide_eq_true_eq] at hab ⊢; omega)
      (by intro a b c hab hbc; simp only [decide_eq_true_eq] at hab hbc ⊢; omega) out
  apply Classical.byContradiction
  intro hnot
  have hle : (buildOrder out)[j].depth.getD 0 ≤ (buildOrder out)[i].depth.getD 0 := by
    rcases Nat.lt_or_eq_of_le (Nat.le_of_not_lt hnot) with hlt' | rfl
    · exact of_decide_eq_true ((List.pairwise_iff_getElem.mp hsorted) i j hi hj hlt')
    · exact Nat.le_refl _
  rw [h1, h2] at hle
  exact absurd hle (Nat.not_le.mpr hlt)

/-- **A cycle is not passed over silently**: when `checkCycles` is set and a listing is returned, the closure
has no non-trivial component — two different products of the closure are never mutually reachable. -/
theorem C13_cycle_reported_partial (db : Db) (hns : NoUnsetup db) (fuel : Nat) (top : Prod)
    (hsv : SingleVersion db top) (out : List Entry)
    (h : getDependentProducts db fuel top true true = .ok out)
    (a b : Prod) (ha : a = top ∨ Listed db [] top a) (hb : b = top ∨ Listed db [] top b)
    (hab : DepPath db top a b) (hba : DepPath db top b a) : a = b :=
  -- a path between different products begins at an opened one: `ha`, `hb` are not needed
  checked_listing_acyclic hns hsv h hab hba

/-- **Cycle reported** (partial: hypothesis `SingleVersion`, D31): a closure in which two different products
are mutually reachable makes `checkCycles` raise the cycle error — with the driver's fuel the outcome is
exactly `cycle` — while without `checkCycles` the listing is still returned. -/
theorem C13_cycle_reported (db : Db) (hns : NoUnsetup db) (top : Prod) (hsv : SingleVersion db top)
    (a b : Prod) (ha : a = top ∨ Listed db [] top a) (hb : b = top ∨ Listed db [] top b) (hne : a ≠ b)
    (hab : DepPath db top a b) (hba : DepPath db top b a) :
    getDependentProducts db db.fuel top true true = .cycle ∧
      ∃ out, getDependentProducts db db.fuel top true false = .ok out := by
  constructor
  · rcases getDependentProducts_total db top true true with ⟨out, h⟩ | ⟨_, h⟩
    · exact absurd (C13_cycle_reported_partial db hns _ top hsv out h a b ha hb hab hba) hne
    · exact h
  · exact getDependentProducts_returns db top true

/-- **An `unsetupRequired` line only takes entries away.**  The property does not say what such a line means for a
listing; what the code guarantees is one-sided: on every database whose declared table files exist — unsetup lines
anywhere, dependency cycles included — every product of a returned listing (plain, or topological with or without
`checkCycles`) is reachable from the root through the *setup* lines of the tables (`Listed` over the database with
the unsetup lines erased), and is not the root.  (The other inclusion is `C13_listing_is_reach`, for databases
without unsetup lines.) -/
theorem C13_unsetup_only_removes (db : Db) (hm : ∀ d ∈ db.decls, d.tableMissing = false) (top : Prod)
    (topological cc : Bool) (hmode : topological = true ∨ (topological = false ∧ cc = false)) (out : List Entry)
    (h : getDependentProducts db db.fuel top topological cc = .ok out) :
    ∀ e ∈ out, Listed db.setupOnly [] top e.prod ∧ e.prod ≠ top :=
  -- the lemma holds in every mode: `hmode` is not needed
  getDependentProducts_sound (tableMissing_false_of hm) h

/-! ## several versions in one closure (D31): what does hold -/

/-- **`--checkCycles`, characterised exactly** — any number of versions, no `SingleVersion`: with the driver's
fuel the outcome is the cycle report if and only if two different products reach one another in the **pinned**
graph: the tables opened when every name is resolved to the version of its last entry in the plain listing
(`pins db top`; that is the graph the code hands to `topologicalSort`).  Under `SingleVersion` the pinned graph is
the closure itself (`C13_cycle_reported`); in general it is neither a sub- nor a supergraph of it
(`C13_cycle_two_versions_witness`). -/
theorem C13_checkCycles_exact (db : Db) (hns : NoUnsetup db) (top : Prod) (topological : Bool) :
    getDependentProducts db db.fuel top topological true = .cycle ↔
      ∃ a b, a ≠ b ∧ DepPathR db (pins db top) top a b ∧ DepPathR db (pins db top) top b a := by
  obtain ⟨out1, st1, h1⟩ := listing_total db [] top
  obtain ⟨o2, st2, h2⟩ := listing_total db (pinsOf out1) top
  rw [pins_eq h1]
  exact pinned_cycle_iff hns h1 h2

/-- **Topological order with several versions** (partial: hypothesis `PinnedSingle` — no two different nodes of the
pinned graph bear one name, the root included; strictly weaker than `SingleVersion`, and it cannot be dropped:
`C13_pinned_single_needed_witness`).  Every listed entry whose *name* has a node in the pinned graph carries the
depth of that node, and these depths respect every edge of the pinned graph between different components: if `pu`
is an opened pinned product, a line of its table denotes `pv` (as pinned), and `pu` is not reachable back from
`pv`, then every entry named like `pv` is listed strictly deeper than every entry named like `pu` — whichever of
their versions the entries are. -/
theorem C13_topological_pinned_order (db : Db) (hns : NoUnsetup db) (top : Prod) (cc : Bool) (out : List Entry)
    (h : getDependentProducts db db.fuel top true cc = .ok out)
    (hps : PinnedSingle db (pins db top) top)
    (eu ev : Entry) (hu : eu ∈ out) (hv : ev ∈ out) (pu pv : Prod)
    (hnu : pu.name = eu.prod.name) (hnv : pv.name = ev.prod.name)
    (hopen : XReach db (pins db top) top pu) (hedge : Edge db (pins db top) pu pv)
    (hcomp : ¬ DepPathR db (pins db top) top pv pu) :
    ∃ du dv, eu.depth = some du ∧ ev.depth = some dv ∧ du < dv := by
  obtain ⟨out1, st1, h1, hord⟩ := topo_pinned hns h
  rw [pins_eq h1] at hps hopen hedge hcomp
  exact hord hps eu hu ev hv pu pv hnu hnv hopen hedge hcomp

/-- **The pinned statements generalise the `SingleVersion` ones**: when the closure holds no product in two versions,
the pinned graph *is* the closure — the same tables are opened, their lines denote the same products, the paths are
the same — and `PinnedSingle` holds.  `C13_topological_pinned_order` and `C13_checkCycles_exact` then say what
`C13_topological_partial` and `C13_cycle_reported` say. -/
theorem C13_pinned_is_closure (db : Db) (hns : NoUnsetup db) (top : Prod) (hsv : SingleVersion db top) :
    PinnedSingle db (pins db top) top ∧
    (∀ w, XReach db (pins db top) top w ↔ XReach db [] top w) ∧
    (∀ u v, XReach db [] top u → (Edge db (pins db top) u v ↔ Edge db [] u v)) ∧
    (∀ a b, DepPathR db (pins db top) top a b ↔ DepPath db top a b) := by
  obtain ⟨out1, st1, h1⟩ := listing_total db [] top
  have hag := resolve_second_pass hsv (listing_out_listed hns h1)
  rw [pins_eq h1]
  exact ⟨pinnedSingle_congr hag hsv, xreach_congr hag, fun u v hu => edge_congr hag hu,
    fun a b => (depPathR_congr hag a b).trans depPath_iff.symm⟩

/-! ## nothing raises -/

/-- **The listing never raises** (repaired tree; D18 was the `TypeError`, D32 the `RecursionError`): on **every**
database — unsetup lines inside dependency cycles and missing table files included — for every root and every mode,
the outcome is a listing — or, only when `checkCycles` is set, the cycle report.  No other error, no
non-termination, also with two versions of a product and unresolved names. -/
theorem C13_topological_total (db : Db) (top : Prod) (topological cc : Bool) :
    (∃ out, getDependentProducts db db.fuel top topological cc = .ok out) ∨
      (cc = true ∧ getDependentProducts db db.fuel top topological cc = .cycle) :=
  getDependentProducts_total db top topological cc

/-- **`Table.dependencies` returns on every database** (tree with the D32 repair): recursive or not, with or
without the required versions of a second pass, whatever the tables say, the walk completes within the driver's
fuel — the measure is (products without an unsetup listing in progress, products not yet opened). -/
theorem C13_dependencies_total (db : Db) (req : Required) (top : Prod) (recursive : Bool) (depth : Nat) :
    ∃ out st, depsOf db db.fuel req top recursive depth St.empty = some (out, st) :=
  depsOf_total db req top recursive depth

/-- **`uses` never raises** (repaired tree; D2 was the `TypeError`, D32 the `RecursionError`): the index is built
for every database, and `users` is a total function of it — "the query answers without error even when a
product depends on two versions of another". -/
theorem C13_uses_total (db : Db) : ∃ sb, usesInfo db db.fuel = .ok sb :=
  usesInfo_total db

/-! ## `uses` is the inverse of the listings -/

/-- **What `eups uses` prints** (`app.printUses`): a row for exactly the users of the query that are required, or —
with `--optional` — for all of them; `--depth` has no influence (the code hands it to `Uses.invert`, which ignores it). -/
theorem C13_printed_users (us : List User) (showOptional : Bool) (depth : Nat) (row : Str × Str × Option Str × Bool) :
    row ∈ printUses us showOptional depth ↔
      ∃ u ∈ us, (showOptional = true ∨ u.optional = false) ∧ row = (u.name, u.ver, u.need, u.optional) := by
  unfold printUses
  simp only [List.mem_map, List.mem_filter, Bool.or_eq_true, Bool.not_eq_true']
  constructor
  · rintro ⟨u, ⟨hu, hf⟩, rfl⟩; exact ⟨u, hu, hf, rfl⟩
  · rintro ⟨u, hu, hf, rfl⟩; exact ⟨u, ⟨hu, hf⟩, rfl⟩

theorem C13_printed_users_depth (us : List User) (showOptional : Bool) (d1 d2 : Nat) :
    printUses us showOptional d1 = printUses us showOptional d2 := rfl

/-- **Inverse.**  `Y w` is reported as a user of `X` (needing version `need`; the query names version `q` or
none) exactly when `Y w` is declared and its dependency listing holds `X need`. -/
theorem C13_uses_inverse (db : Db) (fuel : Nat) (sb : SetupBy) (h : usesInfo db fuel = .ok sb)
    (X : Str) (q : Option Str) (Y w : Str) (need : Option Str) :
    (∃ u ∈ users sb X q, u.name = Y ∧ u.ver = w ∧ u.need = need) ↔
      ((q = none ∨ need = q) ∧ ∃ d ∈ db.decls, d.name = Y ∧ d.ver = w ∧ ∃ l,
        getDependentProducts db fuel ⟨Y, some w, true⟩ true false = .ok l ∧
        ∃ e ∈ l, e.prod.name = X ∧ e.prod.ver = need) :=
  uses_inverse db fuel sb h X q Y w need

/-- The same in terms of reachability: the users of `X` are the declared products from which a product named
`X` is reachable through resolved tables. -/
theorem C13_uses_is_reach (db : Db) (hns : NoUnsetup db) (sb : SetupBy) (h : usesInfo db db.fuel = .ok sb)
    (X : Str) (q : Option Str) (Y w : Str) (need : Option Str) :
    (∃ u ∈ users sb X q, u.name = Y ∧ u.ver = w ∧ u.need = need) ↔
      ((q = none ∨ need = q) ∧ (∃ d ∈ db.decls, d.name = Y ∧ d.ver = w) ∧
        ∃ v, Listed db [] ⟨Y, some w, true⟩ v ∧ v ≠ ⟨Y, some w, true⟩ ∧ v.name = X ∧ v.ver = need) := by
  rw [C13_uses_inverse db db.fuel sb h]
  constructor
  · rintro ⟨hq, d, hd, h1, h2, l, hl, e, he, h3, h4⟩
    refine ⟨hq, ⟨d, hd, h1, h2⟩, e.prod, ?_⟩
    have := ((C13_topological_listing db hns _ _ _ l hl).2 e.prod).mp (List.mem_map.mpr ⟨e, he, rfl⟩)
    exact ⟨this.1, this.2, h3, h4⟩
  · rintro ⟨hq, ⟨d, hd, h1, h2⟩, v, hv, hne, h3, h4⟩
    refine ⟨hq, d, hd, h1, h2, ?_⟩
    obtain ⟨l, hl⟩ := getDependentProducts_returns db ⟨Y, some w, true⟩ true
    refine ⟨l, hl, ?_⟩
    have := ((C13_topological_listing db hns _ _ _ l hl).2 v).mpr ⟨hv, hne⟩
    obtain ⟨e, he, rfl⟩ := List.mem_map.mp this
    exact ⟨e, he, h3, h4⟩

/-! ## decidable sufficient conditions for the hypotheses, concrete instances, negation witnesses for D31 -/

theorem singleVersion_of_listing (db : Db) (hns : NoUnsetup db) (top : Prod) (out : List Entry)
    (h : getDependentProducts db db.fuel top false false = .ok out)
    (hc : ∀ u ∈ top :: out.map (·.prod), ∀ v ∈ top :: out.map (·.prod), u.name = v.name → u = v) :
    SingleVersion db top := by
  refine PinnedSingle.of_mem (List.mem_cons_self ..) (fun u hu => ?_) hc
  by_cases hut : u = top
  · simp [hut]
  · exact List.mem_cons_of_mem _ ((getDependentProducts_listed hns h u).mpr ⟨hu, hut⟩)

section Examples
private def s (x : String) : Str := Str.ofString x
private def req (n : String) (v : Option String := none) : Dep := ⟨false, false, s n, v.map s, false, false⟩

/-- a diamond `r → {a, b} → c`, `c` needing the undeclared `zz` -/
def diamond : Db :=
  { decls := [⟨s "r", s "1", [req "a", req "b"], false⟩, ⟨s "a", s "1", [req "c"], false⟩, ⟨s "b", s "1", [req "c"], false⟩,
              ⟨s "c", s "1", [req "zz"], false⟩]
    current := [(s "r", s "1"), (s "a", s "1"), (s "b", s "1"), (s "c", s "1")] }

def rTop : Prod := ⟨s "r", some (s "1"), true⟩

example : NoUnsetup diamond := by decide +kernel
example : SingleVersion diamond rTop :=
  singleVersion_of_listing diamond (by decide +kernel) rTop _ rfl (by decide +kernel)
/-- the listing of the diamond: depths 2, 2, 3, 4 (the root has depth 1; placeholder `zz` deepest) -/
example : (match getDependentProducts diamond diamond.fuel rTop true true with
    | .ok l => l.map fun e => (e.prod.name, e.depth)
    | _ => []) = [(s "a", some 2), (s "b", some 2), (s "c", some 3), (s "zz", some 4)] := by decide +kernel

/-- D31: `r 1 → b 2, b`; `b 2 → c`; `b 1` current.  Both versions of `b` and `c` end at depth 2 although
`b 2` depends on `c`, which depends on nothing: the order clause is false without `SingleVersion`. -/
def d31 : Db :=
  { decls := [⟨s "c", s "1", [], false⟩, ⟨s "b", s "1", [], false⟩, ⟨s "b", s "2", [req "c"], false⟩,
              ⟨s "r", s "1", [req "b" (some "2"), req "b"], false⟩]
    current := [(s "c", s "1"), (s "b", s "1"), (s "r", s "1")] }

end Examples

/-- **Negation witness for the unrestricted order clause** (known finding D31): a database without unsetup
lines, a root, and two listed entries `b 2 → c 1` joined by a line of an opened table, `c 1` having no
dependency at all, with *equal* depth. -/
theorem C13_topological_two_versions_witness :
    ∃ (db : Db) (top : Prod) (out : List Entry) (eu ev : Entry),
      NoUnsetup db ∧ getDependentProducts db db.fuel top true false = .ok out ∧ eu ∈ out ∧ ev ∈ out ∧
      (∃ d ∈ db.table eu.prod, target db [] d = ev.prod) ∧ db.table ev.prod = [] ∧
      eu.prod ≠ ev.prod ∧ eu.depth = ev.depth :=
  ⟨d31, rTop, [⟨⟨s "b", some (s "2"), true⟩, false, some 2⟩, ⟨⟨s "b", some (s "1"), true⟩, false, some 2⟩,
      ⟨⟨s "c", some (s "1"), true⟩, false, some 2⟩],
    ⟨⟨s "b", some (s "2"), true⟩, false, some 2⟩, ⟨⟨s "c", some (s "1"), true⟩, false, some 2⟩, by decide +kernel⟩

section D31Examples
private def t (x : String) : Str := Str.ofString x
private def ln (n : String) (v : Option String := none) : Dep := ⟨false, false, t n, v.map t, false, false⟩

/-- corpus/C13/d31_cycle_hidden.json: `r → a 2, a`; `a 2 ↔ b` is a cycle of the closure; `a 1` (current, listed
last) has no dependencies.  The second pass resolves every `a` to `a 1`: the pinned graph is `r → a 1`. -/
def d31hidden : Db :=
  { decls := [⟨t "r", t "1", [ln "a" (some "2"), ln "a"], false⟩, ⟨t "a", t "1", [], false⟩,
              ⟨t "a", t "2", [ln "b"], false⟩, ⟨t "b", t "1", [ln "a" (some "2")], false⟩]
    current := [(t "r", t "1"), (t "a", t "1"), (t "b", t "1")] }

/-- corpus/C13/d31_cycle_invented.json: `r → b, a 2`; `b → a 1` (explicit); `a 2 → b`; the closure is acyclic.  The
second pass resolves `b`'s line to `a 2` (listed last): the pinned graph has the cycle `b ↔ a 2`. -/
def d31invented : Db :=
  { decls := [⟨t "r", t "1", [ln "b", ln "a" (some "2")], false⟩, ⟨t "a", t "1", [], false⟩,
              ⟨t "a", t "2", [ln "b"], false⟩, ⟨t "b", t "1", [ln "a" (some "1")], false⟩]
    current := [(t "r", t "1"), (t "a", t "1"), (t "b", t "1")] }

/-- corpus/C13/d31_root_name.json: the root `a 1 → b`, `b → a 2`, `a 2 → c`: the name of the root comes back in
another version, the pinned graph holds `a 1` and `a 2`, and the depth of the name `a` is the root's. -/
def d31root : Db :=
  { decls := [⟨t "a", t "1", [ln "b"], false⟩, ⟨t "b", t "1", [ln "a" (some "2")], false⟩,
              ⟨t "a", t "2", [ln "c"], false⟩, ⟨t "c", t "1", [], false⟩]
    current := [(t "a", t "1"), (t "b", t "1"), (t "c", t "1")] }

/-- two versions of `b` above a chain: `r → b 2, b`; both `b`s need `c`, `c` needs `e`.  `SingleVersion` fails,
`PinnedSingle` holds, and `C13_topological_pinned_order` orders `b 2` before `c` too. -/
def twoB : Db :=
  { decls := [⟨t "r", t "1", [ln "b" (some "2"), ln "b"], false⟩, ⟨t "b", t "1", [ln "c"], false⟩,
              ⟨t "b", t "2", [ln "c"], false⟩, ⟨t "c", t "1", [ln "e"], false⟩, ⟨t "e", t "1", [], false⟩]
    current := [(t "r", t "1"), (t "b", t "1"), (t "c", t "1"), (t "e", t "1")] }

def rT : Prod := ⟨t "r", some (t "1"), true⟩

/-- `PinnedSingle` can be read off the listing of the second pass -/
theorem pinnedSingle_of_listing (db : Db) (hns : NoUnsetup db) (top : Prod) (req : Required) (o : List Entry) (st : St)
    (h : depsOf db db.fuel req top true 1 St.empty = some (o, st))
    (hc : ∀ u ∈ top :: o.map (·.prod), ∀ v ∈ top :: o.map (·.prod), u.name = v.name → u = v) :
    PinnedSingle db req top :=
  PinnedSingle.of_mem (List.mem_cons_self ..) (fun u hu => List.mem_cons_of_mem _ ((depsOf_listed hns h u).mpr hu)) hc

example : NoUnsetup twoB := by decide +kernel
example : PinnedSingle twoB (pins twoB rT) rT :=
  pinnedSingle_of_listing twoB (by decide +kernel) rT _ _ _ rfl (by decide +kernel)
example : ¬ SingleVersion twoB rT := fun h =>
  absurd (h ⟨t "b", some (t "1"), true⟩ ⟨t "b", some (t "2"), true⟩
    (Or.inr ⟨rT, XReach.refl _, ln "b", by decide +kernel, by decide +kernel⟩)
    (Or.inr ⟨rT, XReach.refl _, ln "b" (some "2"), by decide +kernel, by decide +kernel⟩) rfl) (by decide +kernel)
/-- the listing of `twoB`: both versions of `b` at depth 2, `c` at 3, `e` at 4 -/
example : (match getDependentProducts twoB twoB.fuel rT true true with
    | .ok l => l.map fun e => (e.prod.name, e.prod.ver, e.depth)
    | _ => []) = [(t "b", some (t "2"), some 2), (t "b", some (t "1"), some 2), (t "c", some (t "1"), some 3),
                  (t "e", some (t "1"), some 4)] := by decide +kernel
end D31Examples

/-- **Negation witnesses for the cycle clause without `SingleVersion`** (known finding D31), both directions:
on `d31hidden` the graph of the plain closure has a cycle (`a 2 ↔ b`; the same `topologicalSort` reports it) and
`--checkCycles` returns a listing; on `d31invented` the graph of the plain closure is acyclic and `--checkCycles`
reports a cycle.  Both are what `C13_checkCycles_exact` predicts from the pinned graph. -/
theorem C13_cycle_two_versions_witness :
    (NoUnsetup d31hidden ∧
      (∃ out st, listing d31hidden d31hidden.fuel [] rT = some (out, st) ∧
        topologicalSort (graphOf st) true = .cycle) ∧
      ∃ out, getDependentProducts d31hidden d31hidden.fuel rT true true = .ok out) ∧
    (NoUnsetup d31invented ∧
      (∃ out st ls, listing d31invented d31invented.fuel [] rT = some (out, st) ∧
        topologicalSort (graphOf st) true = .ok ls) ∧
      getDependentProducts d31invented d31invented.fuel rT true true = .cycle) := by
  have hid : (listing d31hidden d31hidden.fuel [] rT).any
      (fun r => topologicalSort (graphOf r.2) true = .cycle) = true := by decide +kernel
  have inv : (listing d31invented d31invented.fuel [] rT).any
      (fun r => topologicalSort (graphOf r.2) true matches .ok _) = true := by decide +kernel
  obtain ⟨⟨out, st⟩, h1, h2⟩ := (Option.any_eq_true _ _).mp hid
  obtain ⟨⟨out', st'⟩, h1', h2'⟩ := (Option.any_eq_true _ _).mp inv
  refine ⟨⟨by decide +kernel, ⟨out, st, h1, of_decide_eq_true h2⟩,
      (C13_topological_total d31hidden rT true true).resolve_right (by decide +kernel)⟩,
    by decide +kernel, ⟨out', st', ?_⟩, by decide +kernel⟩
  cases h : topologicalSort (graphOf st') true with
  | ok ls => exact ⟨ls, h1', rfl⟩
  | _ => rw [h] at h2'; cases h2'

/-- **`PinnedSingle` cannot be dropped** (D31, the root's own name): on `d31root` the entries `b 1` and `a 2` are
listed, `b`'s table (opened in the pinned graph) has a line denoting `a 2`, nothing leads back from `a 2` to `b`
(`a 2`'s only dependency `c` has none) — and `a 2` is listed *less* deep than `b`, because the name `a` received the
depth of the root `a 1`. -/
theorem C13_pinned_single_needed_witness :
    ∃ (out : List Entry) (eu ev : Entry),
      NoUnsetup d31root ∧
      getDependentProducts d31root d31root.fuel ⟨Str.ofString "a", some (Str.ofString "1"), true⟩ true false = .ok out ∧
      eu ∈ out ∧ ev ∈ out ∧
      (∃ d ∈ d31root.table eu.prod,
        target d31root (pins d31root ⟨Str.ofString "a", some (Str.ofString "1"), true⟩) d = ev.prod) ∧
      (d31root.table ev.prod).map (·.name) = [Str.ofString "c"] ∧
      d31root.table ⟨Str.ofString "c", some (Str.ofString "1"), true⟩ = [] ∧
      (∃ du dv, eu.depth = some du ∧ ev.depth = some dv ∧ dv < du) :=
  ⟨[⟨⟨t "a", some (t "2"), true⟩, false, some 1⟩, ⟨⟨t "b", some (t "1"), true⟩, false, some 2⟩,
      ⟨⟨t "c", some (t "1"), true⟩, false, some 4⟩],
    ⟨⟨t "b", some (t "1"), true⟩, false, some 2⟩, ⟨⟨t "a", some (t "2"), true⟩, false, some 1⟩,
    by decide +kernel, by decide +kernel, by decide +kernel, by decide +kernel, by decide +kernel, by decide +kernel,
    by decide +kernel, ⟨2, 1, rfl, rfl, by decide⟩⟩

/-! ## the pinned tree: negation witnesses (D18, D2: `TypeError`; D32: `RecursionError`) -/

section PinnedExamples
private def s' (x : String) : Str := Str.ofString x
private def req' (n : String) (v : Option String := none) : Dep := ⟨false, false, s' n, v.map s', false, false⟩
private def opt' (n : String) (v : Option String := none) : Dep := ⟨false, true, s' n, v.map s', false, false⟩

/-- corpus/C13/d18_placeholder_versions.json -/
def d18 : Db :=
  { decls := [⟨s' "e", s' "2", [], false⟩, ⟨s' "c", s' "1", [req' "e"], false⟩,
              ⟨s' "b", s' "1", [req' "c", req' "e" (some "1")], false⟩, ⟨s' "a", s' "1", [req' "b", opt' "zz"], false⟩]
    current := [(s' "e", s' "2"), (s' "c", s' "1"), (s' "b", s' "1"), (s' "a", s' "1")] }

/-- corpus/C13/d2_uses_two_versions.json -/
def d2 : Db :=
  { decls := [⟨s' "e", s' "1", [], false⟩, ⟨s' "e", s' "2", [], false⟩, ⟨s' "c", s' "1", [req' "e"], false⟩,
              ⟨s' "a", s' "1", [req' "e" (some "1"), opt' "c"], false⟩]
    current := [(s' "e", s' "2"), (s' "c", s' "1"), (s' "a", s' "1")] }
end PinnedExamples

/-- corpus/C13/d32_unsetup_in_cycle.json: `a 1 ↔ b 1`, and `b`'s table unsets `a` -/
def d32 : Db :=
  { decls := [⟨s' "a", s' "1", [req' "b"], false⟩,
              ⟨s' "b", s' "1", [req' "a", ⟨true, false, s' "a", none, false, false⟩], false⟩]
    current := [(s' "a", s' "1"), (s' "b", s' "1")] }

/-- **Pinned tree, D32**: `C13_topological_total` / `C13_dependencies_total` were false before the re-entrance
guard — on this two-product database (an unsetup line inside the cycle `a ↔ b`) the pinned walk exhausts the
driver's fuel (the code: `RecursionError`; every pass over `b`'s table starts a fresh listing of `a` that reaches
`b`'s table again), the repaired walk returns `[b]`. -/
theorem C13_unsetup_cycle_pinned_witness :
    depsOfPinned d32 d32.fuel [] ⟨Str.ofString "a", some (Str.ofString "1"), true⟩ true 1 St.empty = none ∧
    depsOfPinned d32 (4 * d32.fuel) [] ⟨Str.ofString "a", some (Str.ofString "1"), true⟩ true 1 St.empty = none ∧
    ∃ out, getDependentProducts d32 d32.fuel ⟨Str.ofString "a", some (Str.ofString "1"), true⟩ true false = .ok out :=
  ⟨by decide +kernel, by decide +kernel, getDependentProducts_returns d32 _ true⟩

/-- non-vacuity of `C13_unsetup_only_removes`: `d32` has an unsetup line (inside a cycle) and all its table files -/
example : (∀ d ∈ d32.decls, d.tableMissing = false) ∧ ¬ NoUnsetup d32 := by decide +kernel

/-- **Pinned tree, D32, for every fuel** (no recursion limit would have been enough): on `w32` — the database of
`d32` written with code points — the unguarded walk from `a 1` returns for no amount of fuel and at no depth, while the
repaired listing returns `[b]`. -/
theorem C13_unsetup_cycle_pinned_all_fuel :
    (∀ fuel depth, depsOfPinned w32 fuel [] pA true depth St.empty = none) ∧
    ∃ out, getDependentProducts w32 w32.fuel pA true false = .ok out :=
  ⟨pinned_none, getDependentProducts_returns w32 pA true⟩

/-- **Pinned tree, D18**: `C13_topological_total` was false before the repair of `Product.__lt__` — on this
database (no unsetup lines) the layer that `topologicalSort` sorts for the root `a 1` holds the placeholders
`(e, None)` and `(e, "1")`, and comparing them raised `TypeError`.  The repaired model lists it. -/
theorem C13_topological_typeerror_witness :
    NoUnsetup d18 ∧ topologicalRaisesPinned d18 d18.fuel ⟨Str.ofString "a", some (Str.ofString "1"), true⟩ = true ∧
    ∃ out, getDependentProducts d18 d18.fuel ⟨Str.ofString "a", some (Str.ofString "1"), true⟩ true false = .ok out :=
  ⟨by decide +kernel, by decide +kernel, getDependentProducts_returns d18 _ true⟩

/-- an `∃ sb, o = .ok sb ∧ P sb` about a closed term `o`, by evaluating `P` on the index `o` returns -/
theorem UsesOutcome.ok_of_eval {o : UsesOutcome} {P : SetupBy → Prop} [DecidablePred P]
    (h : (match o with | .ok sb => decide (P sb) | _ => false) = true) : ∃ sb, o = .ok sb ∧ P sb := by
  cases o with
  | ok sb => exact ⟨sb, rfl, of_decide_eq_true h⟩
  | _ => cases h

/-- **Pinned tree, D2**: `C13_uses_total` was false before the repair of `Uses.users` — `a 1` reaches `e 1`
directly and `e 2` through `c`, the query `uses e` collects two entries for the user `a 1`, and comparing
their `Props` raised `TypeError`.  The repaired model answers with both. -/
theorem C13_uses_typeerror_witness :
    ∃ sb, usesInfo d2 d2.fuel = .ok sb ∧ usersRaisesPinned sb (Str.ofString "e") none = true ∧
      (users sb (Str.ofString "e") none).map (fun u => (u.name, u.ver, u.need)) =
        [(Str.ofString "a", Str.ofString "1", some (Str.ofString "1")),
         (Str.ofString "a", Str.ofString "1", some (Str.ofString "2")),
         (Str.ofString "c", Str.ofString "1", some (Str.ofString "2"))] :=
  UsesOutcome.ok_of_eval (by decide +kernel)

/-! ## the layering loop of `topologicalSort`, on any graph -/

/-- Order clause on the layering loop of `utils.topologicalSort`: for every graph with one entry per node and
every edge `u → v` whose two ends receive a layer, the layer of `v` is emitted strictly before the layer of `u`. -/
theorem C13_layering_edge_order {α : Type} [DecidableEq α] (f : Nat) (g : Graph α) (ls : List (List α)) (rest : Graph α)
    (hk : (keys g).Nodup) (h : layers f g = some (ls, rest))
    (u : α) (du : List α) (v : α) (hu : (u, du) ∈ g) (hv : v ∈ du)
    (i j : Nat) (hi : level ls u = some i) (hj : level ls v = some j) : j < i :=
  edge_order f g ls rest hk h u du v hu hv i j hi hj

/-- The loop stops only when every remaining node still has a dependency (the "cyclic dependency" exit), and
every node is either emitted in a layer or part of that remainder. -/
theorem C13_layering_complete {α : Type} [DecidableEq α] (f : Nat) (g : Graph α) (ls : List (List α)) (rest : Graph α)
    (h : layers f g = some (ls, rest)) :
    ready rest = [] ∧ ∀ u ∈ keys g, (∃ l ∈ ls, u ∈ l) ∨ u ∈ keys rest :=
  ⟨leftover_stuck f g ls rest h, layered_or_left f g ls rest h⟩

/-- The fuel the model gives the loop (number of nodes + 1) always suffices. -/
theorem C13_layering_fuel {α : Type} [DecidableEq α] (g : Graph α) : (layers (g.length + 1) g).isSome :=
  layers_fuel _ g (Nat.lt_succ_self _)

/-- What `topologicalSort` guarantees when it returns layers: every node of the graph sits in exactly one
layer, every edge between different mutual-reachability classes goes to a strictly earlier layer, and with
`checkCycles` no two different nodes are mutually reachable. -/
theorem C13_topologicalSort_spec {α : Type} [DecidableEq α] (g0 : Graph α) (cc : Bool) (ls : List (List α))
    (h : topologicalSort g0 cc = .ok ls) :
    ∃ lvl : α → Nat,
      (∀ a ∈ keys (normalise g0), lvl a < ls.length ∧ ∀ (i : Nat) (hi : i < ls.length), a ∈ ls[i] ↔ i = lvl a) ∧
      (∀ l ∈ ls, ∀ a ∈ l, a ∈ keys (normalise g0)) ∧
      (∀ a ∈ keys (normalise g0), ∀ b ∈ succs (normalise g0) a, ¬ Path (normalise g0) b a → lvl b < lvl a) ∧
      (cc = true → ∀ a ∈ keys (normalise g0), ∀ b ∈ keys (normalise g0),
          Path (normalise g0) a b → Path (normalise g0) b a → a = b) :=
  topologicalSort_ok h

/-- Non-vacuity: a diamond 0 → {1,2} → 3 is layered bottom-up; a 2-cycle below a node is left over. -/
example : layers 5 [(0, [1, 2]), (1, [3]), (2, [3]), (3, [])] = some ([[3], [1, 2], [0]], []) := by decide +kernel
example : layers 5 [(0, [1]), (1, [2]), (2, [1])] = some ([], [(0, [1]), (1, [2]), (2, [1])]) := by decide +kernel
example : topologicalSort [(0, [1]), (1, [2]), (2, [1]), (3, [])] false = .ok [[1, 2, 3], [0]] := by decide +kernel
example : topologicalSort [(0, [1]), (1, [2]), (2, [1])] true = .cycle := by decide +kernel

end EupsModel.C13
