import EupsModel.Props.C09Pinned
import EupsModel.Lemmas.LockPathROwed
import EupsModel.Props.C09Grant
import EupsModel.Props.C09Cmd
import EupsModel.Props.C09Signal
/-! C09 — exclusive database locks exclude every other holder under all interleavings.

Property theorems about the lock protocol of `lock.py` after the repairs D12a–f, the REPAIRED protocol
(`Model/LockR.lean`: one transition = one file-system call of one process; several stacks: `Model/LockPathR.lean`).  A
*configuration* is any number of processes, each with a shared or an exclusive request (`kind`), the `EUPS_LOCK_PID` it
starts with (`lp`: re-entry) and `ntry - 1` (`tries`); a *schedule* is any interleaving of their file-system calls.
`Mutex` in every reachable state is a theorem of this protocol (`C09_mutex`); of the one before those repairs, the PINNED
one, it is false: `Props/C09Pinned.lean` has the theorems and race witnesses of that model, whose schedules are replayed
below. -/
namespace EupsModel.C09
open EupsModel.Lock (Pid Kind Err)
open EupsModel.LockR

/-- The property's first sentence, as stated: in every reachable state of every configuration. -/
def MutexAlways : Prop :=
  ∀ (kind : Pid → Kind) (lp : Pid → Option Pid) (tries : Pid → Nat) (sched : List Pid),
    Mutex (run (init kind lp tries) sched)

/-- **Mutual exclusion, in full.**  Every configuration, every schedule: while a process is between the return of
`takeLocks` and the call of `giveLocks` with an exclusive lock, no process unrelated to it is in its command body. -/
theorem C09_mutex : MutexAlways := fun kind lp tries sched =>
  (inv_reach kind lp tries sched).toMInv.mutex

/-- The same, in the symmetric form the invariant has: two unrelated processes in their command bodies both hold
shared locks. -/
theorem C09_unrelated_holders_are_readers (kind : Pid → Kind) (lp : Pid → Option Pid) (tries : Pid → Nat)
    (sched : List Pid) (i j : Pid) (hij : i ≠ j)
    (hi : (run (init kind lp tries) sched).pc i = .hold) (hj : (run (init kind lp tries) sched).pc j = .hold)
    (hnr : lp i ≠ some j ∧ lp j ≠ some i) : kind i = .sh ∧ kind j = .sh := by
  have := (inv_reach kind lp tries sched).toMInv.holders_shared hij hi hj (not_related_run hnr sched)
  simpa [init] using this

/-- non-vacuity: two readers hold together while an updater that has announced itself sees them, withdraws and will
try again; after both have released, the updater's second attempt succeeds. -/
example :
    let kind : Pid → Kind := fun i => if i = 2 then .ex else .sh
    let s := run (init kind (fun _ => none) (fun _ => 1)) [0, 0, 0, 1, 1, 1, 2, 2]
    s.pc 0 = .hold ∧ s.pc 1 = .hold ∧ s.pc 2 = .scanMsg 1 := by decide +kernel

/-- **The command body never runs unlocked**: while a process is in its body its lock file is in the lock directory
(the repaired `takeLocks` has no exit without the lock on a writable stack; the pinned one had: D12c). -/
theorem C09_body_runs_locked (kind : Pid → Kind) (lp : Pid → Option Pid) (tries : Pid → Nat) (sched : List Pid)
    (i : Pid) (hi : inBody ((run (init kind lp tries) sched).pc i) = true) :
    (run (init kind lp tries) sched).dir = true ∧ (kind i, i) ∈ (run (init kind lp tries) sched).files := by
  have h := inv_reach kind lp tries sched
  have hm := h.own i (inBody_hasFile hi)
  have hk : (run (init kind lp tries) sched).kind i = kind i := by simp [init]
  rw [hk] at hm
  exact ⟨h.inDir (by intro e; rw [e] at hm; simp at hm), hm⟩

/-- When no process is engaged with the lock directory (nobody between its `create` and the end of its `giveLocks`), the
directory and all lock files are gone — refused and withdrawn requests, retries and requests that found the directory
removed under them included. -/
theorem C09_no_residue (kind : Pid → Kind) (lp : Pid → Option Pid) (tries : Pid → Nat) (sched : List Pid)
    (hq : ∀ i, engaged ((run (init kind lp tries) sched).pc i) = false) :
    (run (init kind lp tries) sched).dir = false ∧ (run (init kind lp tries) sched).files = [] :=
  (inv_reach kind lp tries sched).clean hq

/-- **`giveLocks` never raises** (D12f: a release that raised on a benign race abandoned the remaining locks): in no
reachable state has a process left `giveLocks` through an exception. -/
theorem C09_release_never_fails (kind : Pid → Kind) (lp : Pid → Option Pid) (tries : Pid → Nat) (sched : List Pid)
    (i : Pid) (e : Err) : (run (init kind lp tries) sched).pc i ≠ .failedRel e :=
  noRelFail_run _ sched (inv_init kind lp tries) (by intro i e; simp [init]) i e

/-- the schedule of `C09_scan_before_create_witness_Pinned` (D12a) cannot even be followed to two holders: the shared
requester's look comes after both files are there -/
example :
    let s := run (init (kinds [.ex, .sh]) noParent once) [0, 1, 1, 1, 0, 1, 0]
    ¬ (s.pc 0 = .hold ∧ s.pc 1 = .hold) := by decide +kernel

/-- D12a on the repaired protocol, taken to the same point: E and S both past the gate, both files created, then both
look — each sees the other, both withdraw (conservative), nothing is left. -/
example :
    let s := run (init (kinds [.ex, .sh]) noParent once) [0, 1, 0, 1, 0, 1, 0, 0, 0, 0, 0, 1, 1, 1, 1, 1]
    s.pc 0 = .failedAcq .runtime ∧ s.pc 1 = .failedAcq .runtime ∧ s.dir = false ∧ s.files = [] := by decide +kernel

/-- D12b on the repaired protocol: S releases and removes the directory E₁ had made and not yet put its file into; E₁'s
`create` finds no directory and (with a second attempt) starts again; E₀ meanwhile holds, E₁ is refused. -/
example :
    let s := run (init (kinds [.ex, .ex, .sh]) noParent (fun _ => 1))
      [1, 2, 2, 2, 2, 2, 2, 2, 2, 1, 0, 0, 0, 1, 1]
    s.pc 0 = .hold ∧ s.pc 2 = .done ∧ s.pc 1 = .scanMsg 0 := by decide +kernel

open EupsModel.LockPathR

/-- Projection: in every run of `takeLocks(path)` / `giveLocks(list)` over several stacks, the lock state of each
stack is a run of the single-directory model — so the theorems above hold of every stack. -/
theorem C09_path_projection (kind : Pid → Kind) (lp : Pid → Option Pid) (tries : Pid → Nat)
    (path : Pid → List Dir) (explicit : Pid → Bool) (sched : List Pid) (d : Dir) :
    ∃ sd, (mrun (minit kind lp tries path explicit) sched).comp d = run (init kind lp tries) sd :=
  mrun_comp_is_run _ sched d

/-- **Mutual exclusion with several stacks**: no two unrelated commands are in their bodies together when one of them
holds an exclusive lock on a stack that is on the path of both.  Hypothesis: the elements of each path are distinct
(`Eups.setEupsPath` removes duplicates). -/
theorem C09_path_mutex (kind : Pid → Kind) (lp : Pid → Option Pid) (tries : Pid → Nat)
    (path : Pid → List Dir) (explicit : Pid → Bool) (hnd : ∀ p, (path p).Nodup) (sched : List Pid) :
    MutexM (mrun (minit kind lp tries path explicit) sched) :=
  mutexM_mrun kind lp tries path explicit hnd sched

/-- non-vacuity: X locks stacks [0,1] exclusively and is in its body; Y (path [1,0]) announced itself on stack 1,
saw X, withdrew and gave up; nothing of Y is left on either stack. -/
example :
    let S := mrun (minit (fun _ => .ex) (fun _ => none) (fun _ => 0)
        (fun i => if i = 0 then [0, 1] else [1, 0]) (fun _ => true))
      [0, 0, 0, 0, 0, 0, 1, 1, 1, 1, 1, 1, 1, 1, 1]
    inBodyM (S.ctl 0) = true ∧ S.ctl 1 = .fin (.failedAcq .runtime) ∧
    (S.comp 0).files = [(.ex, 0)] ∧ (S.comp 1).files = [(.ex, 0)] := by decide +kernel

/-- A stack no process is engaged with holds no lock directory and no lock file. -/
theorem C09_path_no_residue_per_stack (kind : Pid → Kind) (lp : Pid → Option Pid) (tries : Pid → Nat)
    (path : Pid → List Dir) (explicit : Pid → Bool) (sched : List Pid) (d : Dir)
    (hq : ∀ i, engaged (((mrun (minit kind lp tries path explicit) sched).comp d).pc i) = false) :
    ((mrun (minit kind lp tries path explicit) sched).comp d).dir = false ∧
    ((mrun (minit kind lp tries path explicit) sched).comp d).files = [] := by
  obtain ⟨sd, hsd⟩ := C09_path_projection kind lp tries path explicit sched d
  rw [hsd] at hq ⊢
  exact C09_no_residue kind lp tries sd hq

/-- **No lock is ever abandoned** (D12e/D12f): a process is engaged with a stack (its lock file is there, or about to be
put there, or its `giveLocks` has not finished with it) only while its command still owes that stack a release: the stack
is among those its `takeLocks` has reached, respectively among those its `giveLocks` (or the giving-up inside a failed
`takeLocks`) has not yet passed.  Paths may repeat elements, here and in the next two. -/
theorem C09_path_engaged_is_owed (kind : Pid → Kind) (lp : Pid → Option Pid) (tries : Pid → Nat)
    (path : Pid → List Dir) (explicit : Pid → Bool) (sched : List Pid) (p : Pid) (d : Dir)
    (he : engaged (((mrun (minit kind lp tries path explicit) sched).comp d).pc p) = true) :
    d ∈ owed ((mrun (minit kind lp tries path explicit) sched).ctl p) (path p) := by
  have h := pinv_mrun _ sched (pinv_minit kind lp tries path explicit)
  have := h.owe p d he
  rwa [mrun_path] at this

/-- **When every command has finished, nothing is left on any stack** — commands refused on a later stack after
locking earlier ones (D12e), withdrawn requests, releases that lost a race for the directory (D12f) included. -/
theorem C09_path_no_residue (kind : Pid → Kind) (lp : Pid → Option Pid) (tries : Pid → Nat)
    (path : Pid → List Dir) (explicit : Pid → Bool) (sched : List Pid)
    (hfin : ∀ p, finished ((mrun (minit kind lp tries path explicit) sched).ctl p) = true) (d : Dir) :
    ((mrun (minit kind lp tries path explicit) sched).comp d).dir = false ∧
    ((mrun (minit kind lp tries path explicit) sched).comp d).files = [] := by
  have h := pinv_mrun _ sched (pinv_minit kind lp tries path explicit)
  exact (h.inv d).clean (fun i => h.finished_clear (hfin i) d)

/-- **No release fails**: no command ends — and no `giveLocks` call is left — with an exception, in any reachable
state (the pinned `giveLocks` raised on benign races and abandoned the rest of its list: D12f). -/
theorem C09_path_release_never_fails (kind : Pid → Kind) (lp : Pid → Option Pid) (tries : Pid → Nat)
    (path : Pid → List Dir) (explicit : Pid → Bool) (sched : List Pid) (p : Pid) (e : Err) :
    (mrun (minit kind lp tries path explicit) sched).ctl p ≠ .fin (.failedRel e) ∧
    ∀ d, ((mrun (minit kind lp tries path explicit) sched).comp d).pc p ≠ .failedRel e := by
  have h := pinv_mrun _ sched (pinv_minit kind lp tries path explicit)
  exact ⟨h.not_failedRel p e, fun d => h.norf d p e⟩

/-- non-vacuity: X holds stack 1; Y (path [0,1], two attempts) locks stack 0, is refused on stack 1 twice, gives
stack 0 up again and ends refused; X releases; all have finished, and nothing is left. -/
example :
    let S := mrun (minit (fun _ => .ex) (fun _ => none) (fun _ => 1)
        (fun i => if i = 0 then [1] else [0, 1]) (fun i => i = 0))
      ([0, 0, 0] ++ [1, 1, 1, 1, 1, 1, 1, 1, 1, 1, 1, 1, 1] ++ [0, 0, 0, 0, 0])
    S.ctl 0 = .fin .done ∧ S.ctl 1 = .fin (.failedAcq .runtime) ∧
    (S.comp 0).dir = false ∧ (S.comp 1).dir = false := by decide +kernel

end EupsModel.C09
