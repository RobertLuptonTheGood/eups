import EupsModel.Lemmas.LockRGrant
import EupsModel.Lemmas.LockRKill
import EupsModel.Lemmas.LockPathROwed
/-! C09 — signals, kills and stale locks (property theorems).  `takeLocks` installs a handler for SIGINT / SIGTERM that
gives the locks up.  The pinned handler then RETURNED, so the command carried on in its body without its locks (D12g);
the repaired one lets the process die of the signal. -/
namespace EupsModel.C09
open EupsModel.Lock (Pid Kind Err)

/-- SIGINT / SIGTERM under the pinned handler: in its command body the process runs `giveLocks` (here: to its end —
isdir, exists, remove, count, rmdir) and then RESUMES the body, without a lock -/
def interruptPinned (s : Lock.St) (i : Pid) : Lock.St :=
  match s.pc i with
  | .hold => Lock.setPC (Lock.run (Lock.setPC s i .isdir) [i, i, i, i, i]) i .unlocked
  | _ => s

/-- D12g: E₀ holds; a signal arrives: it gives the lock up and carries on; E₁ takes the lock: two updaters in their
bodies. -/
theorem C09_signal_handler_witness_Pinned :
    let s := Lock.run (interruptPinned (Lock.run (Lock.init (fun _ => .ex) (fun _ => none) (fun _ => 0)) [0, 0, 0]) 0)
      [1, 1, 1]
    s.pc 1 = .hold ∧ s.kind 1 = .ex ∧ Lock.inBody (s.pc 0) = true ∧ ¬ Lock.related s 1 0 ∧ s.files = [(.ex, 1)] := by
  decide +kernel

open EupsModel.LockR

/-- **Mutual exclusion, in full, with signals**: every configuration, every schedule of file-system calls and of
signals delivered to command bodies. -/
theorem C09_mutex_with_signals (kind : Pid → Kind) (lp : Pid → Option Pid) (tries : Pid → Nat) (evs : List Ev) :
    Mutex (runE (init kind lp tries) evs) :=
  (inv_runE _ evs (inv_init kind lp tries)).toMInv.mutex

/-- … and nothing is left when nobody is engaged, with signals. -/
theorem C09_no_residue_with_signals (kind : Pid → Kind) (lp : Pid → Option Pid) (tries : Pid → Nat) (evs : List Ev)
    (hq : ∀ i, engaged ((runE (init kind lp tries) evs).pc i) = false) :
    (runE (init kind lp tries) evs).dir = false ∧ (runE (init kind lp tries) evs).files = [] :=
  (inv_runE _ evs (inv_init kind lp tries)).clean hq

/-- A signal ends the command: delivered in the body (in any reachable state), it takes the process out of its body at
once, and four calls of the handler's `giveLocks` later its lock file is gone and the process is dead — it never
resumes. -/
theorem C09_signal_ends_command (kind : Pid → Kind) (lp : Pid → Option Pid) (tries : Pid → Nat) (evs : List Ev)
    (i : Pid) (hi : (runE (init kind lp tries) evs).pc i = .hold) :
    inBody ((interrupt (runE (init kind lp tries) evs) i).pc i) = false ∧
    (run (interrupt (runE (init kind lp tries) evs) i) [i, i, i, i]).pc i = .killed ∧
    (kind i, i) ∉ (run (interrupt (runE (init kind lp tries) evs) i) [i, i, i, i]).files := by
  have := interrupt_solo (inv_runE _ evs (inv_init kind lp tries)) hi
  rwa [runE_kind] at this

/-- **A stale lock blocks** every request incompatible with it, of every process that is not the dead owner's child,
under every schedule and for ever: that process never gets into its command body. -/
theorem C09_stale_lock_blocks (kind : Pid → Kind) (lp : Pid → Option Pid) (tries : Pid → Nat)
    (k : Kind) (g i : Pid) (hgi : g ≠ i) (hlp : lp i ≠ some g) (hinc : kind i = .ex ∨ k = .ex) (sched : List Pid) :
    (run (initStale kind lp tries [(k, g)]) sched).pc i ≠ .hold ∧
    (k, g) ∈ (run (initStale kind lp tries [(k, g)]) sched).files := by
  have h0 : Blocked (initStale kind lp tries [(k, g)]) (k, g) i := by
    refine ⟨hlp, hinc, by simp [initStale], by simp [initStale], by simp [initStale], ?_⟩
    simp only [initStale]
    split <;> simp
  have := blocked_run _ sched hgi h0
  exact ⟨this.noHold, this.file⟩

/-- **`clearLocks` frees the lock**: whatever state the lock directory is in (stale files, an empty directory), after
`eups admin clearLocks` a request of either kind made while the other processes are at rest is granted in three calls. -/
theorem C09_clearLocks_frees (s : St) (i : Pid) (l : Nat) (hpc : s.pc i = .mkdir l) :
    (run (clearLocks s) [i, i, i]).pc i = .hold :=
  grant_free (s := clearLocks s) (by simpa [clearLocks] using hpc) rfl rfl

/-- … and on a stack where nothing is going on it changes nothing. -/
theorem C09_clearLocks_idle_is_identity (kind : Pid → Kind) (lp : Pid → Option Pid) (tries : Pid → Nat)
    (sched : List Pid) (hq : ∀ i, engaged ((run (init kind lp tries) sched).pc i) = false) :
    clearLocks (run (init kind lp tries) sched) = run (init kind lp tries) sched := by
  obtain ⟨hd, hf⟩ := (inv_reach kind lp tries sched).clean hq
  generalize run (init kind lp tries) sched = s at *
  cases s; simp_all [clearLocks]

/-- `clearLocks` is the administrator's override, not part of the protocol: run while a command holds the lock, it lets
the next requester in beside it (negation witness, by design). -/
theorem C09_clearLocks_overrides_holders_witness :
    let s := run (clearLocks (run (init (fun _ => .ex) (fun _ => none) (fun _ => 0)) [0, 0, 0])) [1, 1, 1]
    s.pc 0 = .hold ∧ s.pc 1 = .hold ∧ ¬ related s 0 1 := by decide +kernel

/-- non-vacuity: the ghost E₉ blocks the reader 0 (refused) and the updater 1 (two attempts, refused); after
`clearLocks` a later reader 2 is granted the lock -/
example :
    let kind : Pid → Kind := fun i => if i = 1 ∨ i = 9 then .ex else .sh
    let s := run (initStale kind (fun _ => none) (fun i => if i = 1 then 1 else 0) [(.ex, 9)])
      [0, 0, 0, 0, 0, 0, 0, 0, 1, 1, 1, 1, 1, 1, 9]
    s.pc 0 = .failedAcq .runtime ∧ s.pc 1 = .failedAcq .runtime ∧ s.files = [(.ex, 9)] ∧
    (run (clearLocks s) [2, 2, 2]).pc 2 = .hold := by decide +kernel

/-- **Exclusion survives kills**: every schedule of file-system calls, of SIGINT/SIGTERM delivered to command bodies, and
of SIGKILLs that stop any process dead at ANY point of its `takeLocks`, body or `giveLocks` (leaving whatever it had put
into the lock directory). -/
theorem C09_mutex_with_kills (kind : Pid → Kind) (lp : Pid → Option Pid) (tries : Pid → Nat) (evs : List KEv) :
    Mutex (runK (init kind lp tries) evs) :=
  (minv_runK _ evs (inv_init kind lp tries).toMInv).mutex

/-- non-vacuity: E₀ is killed between `create` and its look — its file stays; E₁ is turned away at the gate for good -/
example :
    let s := runK (init (fun _ => .ex) (fun _ => none) (fun _ => 1))
      [.call 0, .call 0, .kill 0, .call 1, .call 1, .call 1, .call 1, .call 1, .call 1, .call 0]
    s.pc 0 = .killed ∧ s.pc 1 = .failedAcq .runtime ∧ s.files = [(.ex, 0)] := by decide +kernel

open EupsModel.LockPathR

/-- Mutual exclusion with several stacks and signals.  Hypothesis: the elements of each path are distinct. -/
theorem C09_path_mutex_with_signals (kind : Pid → Kind) (lp : Pid → Option Pid) (tries : Pid → Nat)
    (path : Pid → List Dir) (explicit : Pid → Bool) (hnd : ∀ p, (path p).Nodup) (evs : List MEv) :
    MutexM (mrunE (minit kind lp tries path explicit) evs) :=
  mutexM_mrunE kind lp tries path explicit hnd evs

/-- When every command has finished or died of a signal caught in its body, nothing is left on any stack; and no
release fails. -/
theorem C09_path_no_residue_with_signals (kind : Pid → Kind) (lp : Pid → Option Pid) (tries : Pid → Nat)
    (path : Pid → List Dir) (explicit : Pid → Bool) (evs : List MEv)
    (hfin : ∀ p, finished ((mrunE (minit kind lp tries path explicit) evs).ctl p) = true) (d : Dir) :
    ((mrunE (minit kind lp tries path explicit) evs).comp d).dir = false ∧
    ((mrunE (minit kind lp tries path explicit) evs).comp d).files = [] ∧
    ∀ p e, (mrunE (minit kind lp tries path explicit) evs).ctl p ≠ .fin (.failedRel e) := by
  have h := pinv_mrunE _ evs (pinv_minit kind lp tries path explicit)
  obtain ⟨hd, hf⟩ := (h.inv d).clean (fun i => h.finished_clear (hfin i) d)
  exact ⟨hd, hf, h.not_failedRel⟩

/-- non-vacuity: X (stacks [0,1], exclusive) is in its body when SIGTERM arrives; the handler releases both stacks and
X is dead; Y, refused before, takes both on its second attempt. -/
example :
    let S := mrunE (minit (fun _ => .ex) (fun _ => none) (fun _ => 1) (fun _ => [0, 1]) (fun _ => true))
      ([.call 0, .call 0, .call 0, .call 0, .call 0, .call 0, .call 1, .call 1, .call 1, .intr 0] ++
       [.call 0, .call 0, .call 0, .call 0, .call 0, .call 0, .call 0, .call 0] ++
       [.call 1, .call 1, .call 1, .call 1, .call 1, .call 1])
    S.ctl 0 = .fin .killed ∧ inBodyM (S.ctl 1) = true ∧ (S.comp 0).files = [(.ex, 1)] := by decide +kernel

/-- **No residue with interrupts during acquisition** (D12h): a command that has died of SIGINT / SIGTERM — caught in
its command body, or during `takeLocks` between two stacks or in the retry wait for a contended later stack, with the
locks on the earlier stacks already taken — and whose handler has run to its end is engaged with NO stack: nothing of
it is left anywhere.  More generally this holds of every finished command. -/
theorem C09_path_interrupted_command_leaves_nothing (kind : Pid → Kind) (lp : Pid → Option Pid) (tries : Pid → Nat)
    (path : Pid → List Dir) (explicit : Pid → Bool) (evs : List MEv) (p : Pid)
    (hfin : finished ((mrunE (minit kind lp tries path explicit) evs).ctl p) = true) (d : Dir) :
    engaged (((mrunE (minit kind lp tries path explicit) evs).comp d).pc p) = false ∧
    ∀ k, (k, p) ∉ ((mrunE (minit kind lp tries path explicit) evs).comp d).files := by
  have h := pinv_mrunE _ evs (pinv_minit kind lp tries path explicit)
  have hne := h.finished_clear hfin d
  refine ⟨hne, fun k hm => ?_⟩
  have he := hasFile_engaged ((h.inv d).owner _ hm).2
  rw [hne] at he; cases he

/-- the scenario: X holds stack 1.  Y (path [0,1]) takes stack 0, is turned away at the gate of stack 1 and waits; SIGINT
arrives in the retry wait: the handler gives stack 0 up, Y dies.  The reader Z then gets its lock on stack 0. -/
example :
    let kind : Pid → Kind := fun i => if i = 2 then .sh else .ex
    let S := mrunE (minit kind (fun _ => none) (fun _ => 2)
        (fun i => if i = 0 then [1] else if i = 1 then [0, 1] else [0]) (fun _ => true))
      ([.call 0, .call 0, .call 0] ++ [.call 1, .call 1, .call 1, .call 1, .call 1, .call 1] ++ [.intr 1] ++
       [.call 1, .call 1, .call 1, .call 1] ++ [.call 2, .call 2, .call 2])
    S.ctl 1 = .fin .killed ∧ inBodyM (S.ctl 2) = true ∧ (S.comp 0).files = [(.sh, 2)] ∧
    (S.comp 1).files = [(.ex, 0)] := by decide +kernel

/-- D12i: X (stacks [0,1]) has left its body and its `giveLocks` has released stack 0; SIGTERM arrives as it is about to
start on stack 1: the handler's pass releases stack 1, X dies, nothing is left — Y then takes both stacks. -/
example :
    let S := mrunE (minit (fun _ => .ex) (fun _ => none) (fun _ => 0) (fun _ => [0, 1]) (fun _ => true))
      ([.call 0, .call 0, .call 0, .call 0, .call 0, .call 0] ++ [.call 0, .call 0, .call 0, .call 0, .call 0] ++
       [.intr 0] ++ [.call 0, .call 0, .call 0, .call 0] ++ [.call 1, .call 1, .call 1, .call 1, .call 1, .call 1])
    S.ctl 0 = .fin .killed ∧ inBodyM (S.ctl 1) = true ∧ (S.comp 0).files = [(.ex, 1)] ∧
    (S.comp 1).files = [(.ex, 1)] := by decide +kernel

end EupsModel.C09
