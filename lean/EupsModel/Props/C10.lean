import EupsModel.Lemmas.VersionExpr
import EupsModel.Lemmas.VersionPrint
import EupsModel.Lemmas.VersionList
/-! C10 — version names are ordered consistently: property theorems.

`stdCompare strict a b` is the model of `hooks.version_cmp(a, b, mustReturnInt = !strict)`
(`Model/VersionCmp.lean`); a name is *accepted* when `lex` succeeds on it (the only way it does not is
the `AttributeError` of `_splitVersion` on a name that starts with `-` or `+`). -/
namespace EupsModel.C10
open EupsModel EupsModel.VersionCmp

/-! names used in the examples and witnesses, as code points (`#guard` checks the spelling) -/
def n_1d2mrc1p3 : Str := [49, 46, 50, 45, 114, 99, 49, 43, 51]
#guard Str.toString n_1d2mrc1p3 == "1.2-rc1+3"
def n_1d2 : Str := [49, 46, 50]
#guard Str.toString n_1d2 == "1.2"
def n_rc1 : Str := [114, 99, 49]
#guard Str.toString n_rc1 == "rc1"
def n_3 : Str := [51]
#guard Str.toString n_3 == "3"
def n_1d10 : Str := [49, 46, 49, 48]
#guard Str.toString n_1d10 == "1.10"
def n_1d9 : Str := [49, 46, 57]
#guard Str.toString n_1d9 == "1.9"
def n_v1 : Str := [118, 49]
#guard Str.toString n_v1 == "v1"
def n_w1 : Str := [119, 49]
#guard Str.toString n_w1 == "w1"
def n_m1 : Str := [45, 49]
#guard Str.toString n_m1 == "-1"
def n_1 : Str := [49]
#guard Str.toString n_1 == "1"
def n_v1d0 : Str := [118, 49, 46, 48]
#guard Str.toString n_v1d0 == "v1.0"
def n_v1u0mrc1 : Str := [118, 49, 95, 48, 45, 114, 99, 49]
#guard Str.toString n_v1u0mrc1 == "v1_0-rc1"
def n_v1d0mrc1 : Str := [118, 49, 46, 48, 45, 114, 99, 49]
#guard Str.toString n_v1d0mrc1 == "v1.0-rc1"
def n_01mrc02p1 : Str := [48, 49, 45, 114, 99, 48, 50, 43, 49]
#guard Str.toString n_01mrc02p1 == "01-rc02+1"
def n_1mrc02p1 : Str := [49, 45, 114, 99, 48, 50, 43, 49]
#guard Str.toString n_1mrc02p1 == "1-rc02+1"
def n_2 : Str := [50]
#guard Str.toString n_2 == "2"
def n_10 : Str := [49, 48]
#guard Str.toString n_10 == "10"
def n_1a : Str := [49, 97]
#guard Str.toString n_1a == "1a"
def n_1d2d0 : Str := [49, 46, 50, 46, 48]
#guard Str.toString n_1d2d0 == "1.2.0"
def n_1d2mrc1 : Str := [49, 46, 50, 45, 114, 99, 49]
#guard Str.toString n_1d2mrc1 == "1.2-rc1"
def n_1d2p1 : Str := [49, 46, 50, 43, 49]
#guard Str.toString n_1d2p1 == "1.2+1"
def n_a1db2 : Str := [97, 49, 46, 98, 50]
#guard Str.toString n_a1db2 == "a1.b2"

def n_1d8a : Str := [49, 46, 56, 97]
#guard Str.toString n_1d8a == "1.8a"
def n_1d80 : Str := [49, 46, 56, 48]
#guard Str.toString n_1d80 == "1.80"
def n_0a : Str := [48, 97]
#guard Str.toString n_0a == "0a"
def n_09 : Str := [48, 57]
#guard Str.toString n_09 == "09"

def n_10d0 : Str := [49, 48, 46, 48]
#guard Str.toString n_10d0 == "10.0"
def n_3d0 : Str := [51, 46, 48]
#guard Str.toString n_3d0 == "3.0"
def n_4d0 : Str := [52, 46, 48]
#guard Str.toString n_4d0 == "4.0"

/-- Every name that does not start with `-` or `+` is accepted, and so is every name with at least two
hyphens (`rel-0-8-2`: the whole name is the primary part) and the empty name. -/
theorem C10_accepted (a : Str) (h : a = [] ∨ hyphens a ≥ 2 ∨ ∃ c cs, a = c :: cs ∧ notPM c = true) :
    ∃ la, lex a = .ok la := lex_accepts a h

/-- A comparison ends with an integer, with the rejection of a malformed name, or — strict mode only —
with "cannot be sorted"; in particular the recursion bound of the model's `lex` is never hit. -/
theorem C10_outcomes (strict : Bool) (a b : Str) (e : Err) (h : stdCompare strict a b = .error e) :
    e = .malformed ∨ (strict = true ∧ e = .unsortable) := stdCompare_error h

example : ∃ la, lex n_1d2mrc1p3 = .ok la := C10_accepted _ (Or.inr (Or.inr ⟨49, _, rfl, by decide⟩))

/-- A name the comparator accepts compares equal to itself, in the sorting and in the strict mode. -/
theorem C10_refl (strict : Bool) (a : Str) (la : Lexed) (h : lex a = .ok la) :
    stdCompare strict a a = .ok 0 := by
  rw [stdCompare_of_lex h h]
  cases strict
  · exact congrArg Except.ok (cmpSort_self la)
  · exact cmpStrict_self la

/-- Sorting mode (`mustReturnInt=True`): it answers for every pair of accepted names … -/
theorem C10_sort_total (a b : Str) (la lb : Lexed) (ha : lex a = .ok la) (hb : lex b = .ok lb) :
    ∃ r, stdCompare false a b = .ok r := by
  exact ⟨cmpSort la lb, stdCompare_sort ha hb⟩

/-- … and swapping the arguments negates the answer, for every pair of names whatsoever. -/
theorem C10_antisym (a b : Str) (r : Int) (h : stdCompare false a b = .ok r) :
    stdCompare false b a = .ok (-r) := by
  obtain ⟨la, lb, ha, hb, hc⟩ := stdCompare_ok h
  cases hc
  rw [stdCompare_sort hb ha, cmpSort_antisym lb la]

/-- Strict mode (`mustReturnInt=False`, the mode of relational expressions): an answer is negated by
swapping the arguments … -/
theorem C10_antisym_strict (a b : Str) (r : Int) (h : stdCompare true a b = .ok r) :
    stdCompare true b a = .ok (-r) := by
  obtain ⟨la, lb, ha, hb, _⟩ := stdCompare_ok h
  rw [stdCompare_strict ha hb] at h
  rw [stdCompare_strict hb ha, sortable_symm]
  split at h
  · rw [if_pos ‹_›]; exact C10_antisym a b r h
  · cases h

/-- … and "cannot be sorted" does not depend on the order of the arguments (accepted names). -/
theorem C10_unsortable_symm (a b : Str) (la lb : Lexed) (ha : lex a = .ok la) (hb : lex b = .ok lb) (e : Err)
    (h : stdCompare true a b = .error e) : stdCompare true b a = .error e := by
  rw [stdCompare_strict ha hb, stdCompare_sort ha hb] at h
  rw [stdCompare_strict hb ha, sortable_symm]
  split at h <;> cases h
  rw [if_neg ‹_›]

/-- The two modes never contradict each other: when the strict mode answers, the sorting mode gives
the same answer. -/
theorem C10_strict_agrees_with_sort (a b : Str) (r : Int) (h : stdCompare true a b = .ok r) :
    stdCompare false a b = .ok r := by
  obtain ⟨la, lb, ha, hb, _⟩ := stdCompare_ok h
  rw [stdCompare_strict ha hb] at h
  split at h
  · exact h
  · cases h

example : lex n_1d2mrc1p3 = .ok (.node n_1d2 (.node n_rc1 .absent .absent) (.node n_3 .absent .absent)) := by decide +kernel
example : stdCompare true n_1d10 n_1d9 = .ok 1 := by decide +kernel
example : stdCompare true n_v1 n_w1 = .error .unsortable := by decide +kernel
example : stdCompare false n_m1 n_1 = .error .malformed := by decide +kernel

/-! The order theorems are about `convName` (every component of every part is letters, then digits).  That contains the
grammar of the property (`conventionalName`: `[letters] digits (sep digits)*`, optional `-pre`, optional `+post`); the
harness checks that every name its conventional generator produces satisfies `conventional` in the model. -/

theorem conventionalName_convName {a : Str} (h : conventionalName a = true) : convName a = true := by
  simp only [conventionalName, convName] at h ⊢
  cases hl : lex a with
  | error e => simp [hl] at h
  | ok la => simp only [hl] at h ⊢; exact conventional_conv h

/-- Total: any two conventional names are comparable, one way or the other (sorting mode). -/
theorem C10_conv_total (a b : Str) (ha : convName a = true) (hb : convName b = true) :
    ∃ r, stdCompare false a b = .ok r ∧ stdCompare false b a = .ok (-r) ∧ (r ≤ 0 ∨ -r ≤ 0) := by
  have h := stdCompare_cmpN (.of_conv ha) (.of_conv hb)
  exact ⟨_, h, C10_antisym a b _ h, by omega⟩

/-- Transitive: `a ≤ b` and `b ≤ c` give `a ≤ c`, strictly if one of the steps is strict. -/
theorem C10_conv_trans (a b c : Str) (ha : convName a = true) (hb : convName b = true) (hc : convName c = true)
    (r1 r2 : Int) (h1 : stdCompare false a b = .ok r1) (h2 : stdCompare false b c = .ok r2)
    (hr1 : r1 ≤ 0) (hr2 : r2 ≤ 0) :
    ∃ r3, stdCompare false a c = .ok r3 ∧ r3 ≤ 0 ∧ ((r1 < 0 ∨ r2 < 0) → r3 < 0) := by
  rw [stdCompare_cmpN (.of_conv ha) (.of_conv hb)] at h1
  rw [stdCompare_cmpN (.of_conv hb) (.of_conv hc)] at h2
  cases h1; cases h2
  exact ⟨_, stdCompare_cmpN (.of_conv ha) (.of_conv hc), good_cmpN.trans a b c ha hb hc hr1 hr2,
    fun h => h.elim (good_cmpN.lt_of_lt_le ha hb hc · hr2) (good_cmpN.lt_of_le_lt ha hb hc hr1)⟩

/-- In the strict mode (the one relational expressions use) conventional names of the property's
grammar that carry the same letters in front are always sortable, with the sorting mode's answer. -/
theorem C10_conv_strict_total (a b : Str) (la lb : Lexed) (hla : lex a = .ok la) (hlb : lex b = .ok lb)
    (ha : conventional la = true) (hb : conventional lb = true) (hp : letterPrefix la = letterPrefix lb) :
    stdCompare true a b = stdCompare false a b := by
  rw [stdCompare_strict hla hlb, sortable_conventional ha hb hp, if_pos rfl]

/-- Components compare numerically: the first differing components, with the same letters and
different numbers, decide by the numbers (`1.9 < 1.10`, `v2 < v10`). -/
theorem C10_numeric (a b : Str) (la lb : Lexed) (hla : lex a = .ok la) (hlb : lex b = .ok lb)
    (cs r1 r2 : List Str) (l d1 d2 : Str)
    (hl : ∀ c ∈ l, Str.isAlpha c = true) (hd1 : ∀ c ∈ d1, isDig c = true) (hd2 : ∀ c ∈ d2, isDig c = true)
    (n1 : d1 ≠ []) (n2 : d2 ≠ [])
    (hca : la.comps = cs ++ (l ++ d1) :: r1) (hcb : lb.comps = cs ++ (l ++ d2) :: r2)
    (hne : Str.toNat d1 ≠ Str.toNat d2) :
    stdCompare false a b = .ok (cmpNat (Str.toNat d1) (Str.toNat d2)) := by
  -- the numbers differ, so both lexicographic steps (component loop, then `-pre`/`+post`) stop here
  have hz : cmpNat (Str.toNat d1) (Str.toNat d2) ≠ 0 := by unfold cmpNat; omega
  rw [stdCompare_sort hla hlb, cmpSort_unfold, hca, hcb, cmpComps_common_prefix, cmpC_numeric ⟨hl, hd1⟩ ⟨hl, hd2⟩ n1 n2,
    if_pos hz, if_pos hz]

/-- A longer name follows its prefix: `1.2 < 1.2.0`, whatever the `-pre`/`+post` parts are. -/
theorem C10_longer_follows_prefix (a b : Str) (la lb : Lexed) (hla : lex a = .ok la) (hlb : lex b = .ok lb)
    (e : List Str) (he : e ≠ []) (h : lb.comps = la.comps ++ e) :
    stdCompare false a b = .ok (-1) := by
  rw [stdCompare_sort hla hlb, cmpSort_unfold, h, cmpComps_longer _ _ he]; rfl

/-- A pre-release precedes the release: equal primary parts (as the component loop sees them — `1.0`,
`1_0` and `01.0` are equal), a `-pre` part on the left and none on the right. -/
theorem C10_prerelease_precedes (a b : Str) (la lb : Lexed) (hla : lex a = .ok la) (hlb : lex b = .ok lb)
    (hp : cmpComps la.comps lb.comps = 0) (hs : la.sec.present = true) (hn : lb.sec.present = false) :
    stdCompare false a b = .ok (-1) := by
  rw [stdCompare_sort hla hlb, cmpSort_unfold, hp]
  simp [secTer, hs, hn]

/-- A post-release follows the release: equal primary parts, no `-pre` part on either side, a `+post`
part (with a non-empty primary, i.e. not of the form `m<digits>`) on the left and none on the right. -/
theorem C10_postrelease_follows (a b : Str) (la lb : Lexed) (hla : lex a = .ok la) (hlb : lex b = .ok lb)
    (hp : cmpComps la.comps lb.comps = 0) (hs : la.sec.present = false) (hn : lb.sec.present = false)
    (p : Str) (s' t' : Lexed) (ht : la.ter = .node p s' t') (hpn : p ≠ []) (hb : lb.ter = .absent) :
    stdCompare false a b = .ok 1 := by
  rw [stdCompare_sort hla hlb, cmpSort_of_ter hp (Order.absentTop_absent hs hn), ht, hb, cmpSort_node_absent s' t' hpn]

example : conventionalName n_1d2mrc1p3 = true ∧ convName n_1d2mrc1p3 = true := by decide +kernel
example : conventionalName n_v1u0mrc1 = true ∧ conventionalName n_v1d0 = true := by decide +kernel
example : convName n_a1db2 = true ∧ conventionalName n_a1db2 = false := by decide +kernel    -- `a1.b2`: inside the class of the theorems, outside the property's grammar
example : convName n_1a = false := by decide +kernel                                         -- `1a` (digits before letters) is outside: see the cycle witness
example : stdCompare false n_1d9 n_1d10 = .ok (-1) ∧ stdCompare true n_1d9 n_1d10 = .ok (-1) := by decide +kernel
example : stdCompare false n_1d2 n_1d2d0 = .ok (-1) := by decide +kernel
example : stdCompare false n_1d2mrc1 n_1d2 = .ok (-1) ∧ stdCompare false n_1d2p1 n_1d2 = .ok 1 := by decide +kernel
example : stdCompare false n_1d2mrc1p3 n_1d2p1 = .ok (-1) := by decide +kernel

/-! At the level of strings.  A `Piece` does not end in `m<digits>`/`p<digits>`: `_splitVersion` reads the `VVVm#`/`VVVp#`
spelling as `VVV-#`/`VVV+#`. -/

/-- **print/parse**: the names `p`, `p-e`, `p+f`, `p-e+f` built from pieces split into exactly these pieces
(`lex` is the model of `_splitVersion` applied to the name and again to its parts). -/
theorem C10_lex_print (p e f : Str) (hp : Piece p) (he : Piece e) (hf : Piece f) :
    lex p = .ok (.node p .absent .absent) ∧
    lex (p ++ 45 :: e) = .ok (.node p (.node e .absent .absent) .absent) ∧
    lex (p ++ 43 :: f) = .ok (.node p .absent (.node f .absent .absent)) ∧
    lex (p ++ 45 :: (e ++ 43 :: f)) = .ok (.node p (.node e .absent .absent) (.node f .absent .absent)) :=
  ⟨lex_piece hp, lex_pre ⟨hp.1, hp.2.1⟩ he, lex_post ⟨hp.1, hp.2.1⟩ hf, lex_pre_post ⟨hp.1, hp.2.1⟩ he hf⟩

/-- **A pre-release precedes the release, as strings**: `p-e < p` and `p-e+f < p` for all pieces. -/
theorem C10_prerelease_precedes_str (p e f : Str) (hp : Piece p) (he : Piece e) (hf : Piece f) :
    stdCompare false (p ++ 45 :: e) p = .ok (-1) ∧ stdCompare false (p ++ 45 :: (e ++ 43 :: f)) p = .ok (-1) := by
  obtain ⟨h1, h2, _, h4⟩ := C10_lex_print p e f hp he hf
  exact ⟨C10_prerelease_precedes _ _ _ _ h2 h1 (cmpComps_self _) rfl rfl,
    C10_prerelease_precedes _ _ _ _ h4 h1 (cmpComps_self _) rfl rfl⟩

/-- **A post-release follows the release, as strings**: `p < p+f`, and `p-e < p-e+f`. -/
theorem C10_postrelease_follows_str (p e f : Str) (hp : Piece p) (he : Piece e) (hf : Piece f) :
    stdCompare false (p ++ 43 :: f) p = .ok 1 ∧
    stdCompare false (p ++ 45 :: (e ++ 43 :: f)) (p ++ 45 :: e) = .ok 1 := by
  obtain ⟨h1, h2, h3, h4⟩ := C10_lex_print p e f hp he hf
  refine ⟨C10_postrelease_follows _ _ _ _ h3 h1 (cmpComps_self _) rfl rfl
    f .absent .absent rfl hf.1 rfl, ?_⟩
  rw [stdCompare_sort h4 h2, cmpSort_of_ter]
  · exact congrArg _ (cmpSort_node_absent _ _ hf.1)
  · exact cmpComps_self _
  · exact Order.absentTop_self (cmpSort_self _)

example : Piece n_1d2 ∧ Piece n_rc1 ∧ Piece n_3 := by
  unfold Piece PmFree; decide +kernel

/-- the relation an operator stands for, on the sign of the comparison -/
def relSem (op : Str) (r : Int) : Prop :=
  (op = opLt ∧ r < 0) ∨ (op = opLe ∧ r ≤ 0) ∨ (op = opEq ∧ r = 0) ∨ (op = opGe ∧ r ≥ 0) ∨ (op = opGt ∧ r > 0)

theorem termHolds_iff (cmp : Str → Str → Except Err Int) (x : Str) (t : Term) (hop : isRelop t.1) :
    termHolds cmp x t = true ↔ ∃ r, cmp x t.2 = .ok r ∧ relSem t.1 r := by
  simp only [termHolds]
  cases hc : cmp x t.2 with
  | error e => simp
  | ok r =>
    simp only [Except.ok.injEq, exists_eq_left', beq_iff_eq]
    rcases hop with h | h | h | h | h <;> rw [h] <;> simp [relHolds, relSem, opLt, opLe, opEq, opGe, opGt]

/-- the term holds in the (strict-mode) order -/
def Holds (x : Str) (t : GTerm) : Prop := ∃ r, stdCompare true x t.name = .ok r ∧ relSem (t.op.getD opEq) r

theorem holds_iff (x : Str) (t : GTerm) (ht : t.Wf) : termHolds (stdCompare true) x t.term = true ↔ Holds x t :=
  termHolds_iff (stdCompare true) x t.term (GTerm.term_relop ht)

theorem any_holds_iff (x : Str) (t : GTerm) (os : List Link) (ht : t.Wf) (hls : ∀ l ∈ os, l.Wf) :
    (termHolds (stdCompare true) x t.term || os.any (fun l => termHolds (stdCompare true) x l.term.term)) = true ↔
      ∃ y ∈ t :: os.map Link.term, Holds x y := by
  simp only [Bool.or_eq_true, List.any_eq_true, List.mem_cons, List.mem_map, exists_eq_or_imp, holds_iff x t ht]
  refine or_congr_right ⟨fun ⟨l, hl, h⟩ => ⟨_, ⟨l, hl, rfl⟩, (holds_iff x l.term (hls l hl).term).mp h⟩, ?_⟩
  rintro ⟨_, ⟨l, hl, rfl⟩, h⟩
  exact ⟨l, hl, (holds_iff x l.term (hls l hl).term).mpr h⟩

theorem all_holds_iff (x : Str) (t : GTerm) (as : List Link) (ht : t.Wf) (hls : ∀ l ∈ as, l.Wf) :
    (termHolds (stdCompare true) x t.term && as.all (fun l => termHolds (stdCompare true) x l.term.term)) = true ↔
      ∀ y ∈ t :: as.map Link.term, Holds x y := by
  simp only [Bool.and_eq_true, List.all_eq_true, List.forall_mem_cons, List.forall_mem_map, holds_iff x t ht]
  exact and_congr_right fun _ => forall_congr' fun l => imp_congr_right fun hl => holds_iff x l.term (hls l hl).term

/-- **Alternatives, whatever the spacing and the spelling** (`||` or `or`, operators explicit or implied):
the request accepts exactly the versions that the order puts in the stated relation to one of its terms. -/
theorem C10_match_iff_general (x lead : Str) (t : GTerm) (os : List Link) (trail : Str)
    (hlead : isWs lead) (ht : t.Wf) (hls : ∀ l ∈ os, l.Wf) (htr : isWs trail) (hor : ∀ l ∈ os, l.isOr)
    (hcmp : ∀ y ∈ t :: os.map Link.term, ∃ r, stdCompare true x y.name = .ok r) :
    versionMatch x (renderG lead t os trail) = .ok true ↔ ∃ y ∈ t :: os.map Link.term, Holds x y := by
  rw [versionMatch_renderG hlead ht hls htr hcmp, evalLinks_or os hor, Except.ok.injEq]
  exact any_holds_iff x t os ht hls

/-- **`&&` / `and` chains** (documented as not supported; the code reads them): a conjunction. -/
theorem C10_match_and_chain (x lead : Str) (t : GTerm) (as : List Link) (trail : Str)
    (hlead : isWs lead) (ht : t.Wf) (hls : ∀ l ∈ as, l.Wf) (htr : isWs trail) (hand : ∀ l ∈ as, l.isAnd)
    (hcmp : ∀ y ∈ t :: as.map Link.term, ∃ r, stdCompare true x y.name = .ok r) :
    versionMatch x (renderG lead t as trail) = .ok true ↔ ∀ y ∈ t :: as.map Link.term, Holds x y := by
  rw [versionMatch_renderG hlead ht hls htr hcmp, evalLinks_all_and as hand, Except.ok.injEq]
  exact all_holds_iff x t as ht hls

/-- **Mixed chains, exactly**: `t && a₁ … && aₖ && z || o₁ … || oₘ [&& …]` is read as
`t ∧ a₁ ∧ … ∧ aₖ ∧ (z ∨ o₁ ∨ … ∨ oₘ)`, and whatever follows an `&&` that comes after an `||` is never looked
at — neither the usual precedence nor left-to-right evaluation (see `C10_mixed_logop_witness`). -/
theorem C10_match_mixed (x lead : Str) (t : GTerm) (init : List Link) (z : Link) (os rest : List Link) (trail : Str)
    (hlead : isWs lead) (ht : t.Wf) (hls : ∀ l ∈ init ++ z :: (os ++ rest), l.Wf) (htr : isWs trail)
    (hand : ∀ l ∈ init, l.isAnd) (hz : z.isAnd) (hor : ∀ l ∈ os, l.isOr)
    (hrest : (rest = [] ∨ os ≠ []) ∧ ∀ l ∈ rest.head?, l.isAnd)
    (hcmp : ∀ y ∈ t :: (init ++ z :: (os ++ rest)).map Link.term, ∃ r, stdCompare true x y.name = .ok r) :
    versionMatch x (renderG lead t (init ++ z :: (os ++ rest)) trail) = .ok true ↔
      Holds x t ∧ (∀ l ∈ init, Holds x l.term) ∧ (Holds x z.term ∨ ∃ l ∈ os, Holds x l.term) := by
  rw [versionMatch_renderG hlead ht hls htr hcmp,
    evalLinks_and_then init z (os ++ rest) hand hz, evalLinks_or_then_and os rest hor hrest.1.symm hrest.2,
    Except.ok.injEq, Bool.and_eq_true,
    all_holds_iff x t init ht (fun l hl => hls l (by simp [hl])),
    any_holds_iff x z.term os (hls z (by simp)).term (fun l hl => hls l (by simp [hl]))]
  simp only [List.mem_cons, List.mem_map, forall_eq_or_imp, exists_eq_or_imp, forall_exists_index, and_imp,
    forall_apply_eq_imp_iff₂, and_assoc]
  refine and_congr_right fun _ => and_congr_right fun _ => or_congr_right ⟨?_, ?_⟩
  · rintro ⟨_, ⟨l, hl, rfl⟩, h⟩; exact ⟨l, hl, h⟩
  · rintro ⟨l, hl, h⟩; exact ⟨l.term, ⟨l, hl, rfl⟩, h⟩

/-- … and `t || o₁ … || oₘ && …`: the alternatives up to the first `&&`; the rest is ignored. -/
theorem C10_match_or_then_and (x lead : Str) (t : GTerm) (os rest : List Link) (trail : Str)
    (hlead : isWs lead) (ht : t.Wf) (hls : ∀ l ∈ os ++ rest, l.Wf) (htr : isWs trail)
    (hor : ∀ l ∈ os, l.isOr) (hos : os ≠ []) (hrest : ∀ l ∈ rest.head?, l.isAnd)
    (hcmp : ∀ y ∈ t :: (os ++ rest).map Link.term, ∃ r, stdCompare true x y.name = .ok r) :
    versionMatch x (renderG lead t (os ++ rest) trail) = .ok true ↔ ∃ y ∈ t :: os.map Link.term, Holds x y := by
  rw [versionMatch_renderG hlead ht hls htr hcmp, evalLinks_or_then_and os rest hor (Or.inl hos) hrest, Except.ok.injEq]
  exact any_holds_iff x t os ht fun l hl => hls l (by simp [hl])

/-- The request never fails on such a text (every comparison defined). -/
theorem C10_match_total_general (x lead : Str) (t : GTerm) (ls : List Link) (trail : Str)
    (hlead : isWs lead) (ht : t.Wf) (hls : ∀ l ∈ ls, l.Wf) (htr : isWs trail)
    (hcmp : ∀ y ∈ t :: ls.map Link.term, ∃ r, stdCompare true x y.name = .ok r) :
    ∃ b, versionMatch x (renderG lead t ls trail) = .ok b :=
  ⟨_, versionMatch_renderG hlead ht hls htr hcmp⟩

/-- **Relational requests accept exactly the versions the order puts in the stated relation, and an
`||` chain is the disjunction of its terms** — for every name `x` and every chain whose comparisons
with `x` are defined in the strict mode (no "cannot be sorted", no malformed name). -/
theorem C10_match_iff (x : Str) (t : Term) (ts : List Term)
    (hwf : ∀ y ∈ t :: ts, WfTerm y) (hcmp : ∀ y ∈ t :: ts, ∃ r, stdCompare true x y.2 = .ok r) :
    versionMatch x (render t ts) = .ok true ↔
      ∃ y ∈ t :: ts, ∃ r, stdCompare true x y.2 = .ok r ∧ relSem y.1 r := by
  obtain ⟨ht, hls, hor, hc⟩ := chain_hyps hwf hcmp
  rw [render_eq_renderG, C10_match_iff_general x [] _ _ [] isWs_nil ht hls isWs_nil hor hc, chain_terms]
  constructor
  · rintro ⟨_, hy, h⟩; obtain ⟨y, hy', rfl⟩ := List.mem_map.mp hy; exact ⟨y, hy', h⟩
  · rintro ⟨y, hy, h⟩; exact ⟨gTerm y, List.mem_map_of_mem hy, h⟩

/-- … and never fails on such a chain. -/
theorem C10_match_total (x : Str) (t : Term) (ts : List Term)
    (hwf : ∀ y ∈ t :: ts, WfTerm y) (hcmp : ∀ y ∈ t :: ts, ∃ r, stdCompare true x y.2 = .ok r) :
    ∃ b, versionMatch x (render t ts) = .ok b := by
  obtain ⟨ht, hls, _, hc⟩ := chain_hyps hwf hcmp
  rw [render_eq_renderG]
  exact C10_match_total_general x [] _ _ [] isWs_nil ht hls isWs_nil hc

/-- On conventional names of the property's grammar with the same letters in front the comparisons
are always defined and are the sorting order: the request matches iff some term holds in that order. -/
theorem C10_match_iff_conv (x : Str) (lx : Lexed) (hlx : lex x = .ok lx) (hx : conventional lx = true)
    (t : Term) (ts : List Term) (hwf : ∀ y ∈ t :: ts, WfTerm y)
    (hconv : ∀ y ∈ t :: ts, ∃ ly, lex y.2 = .ok ly ∧ conventional ly = true ∧ letterPrefix lx = letterPrefix ly) :
    versionMatch x (render t ts) = .ok true ↔
      ∃ y ∈ t :: ts, ∃ r, stdCompare false x y.2 = .ok r ∧ relSem y.1 r := by
  have hst : ∀ y ∈ t :: ts, stdCompare true x y.2 = stdCompare false x y.2 := by
    intro y hy
    obtain ⟨ly, hly, hc, hp⟩ := hconv y hy
    exact C10_conv_strict_total x y.2 lx ly hlx hly hx hc hp
  have hcmp : ∀ y ∈ t :: ts, ∃ r, stdCompare true x y.2 = .ok r := by
    intro y hy
    obtain ⟨ly, hly, _, _⟩ := hconv y hy
    rw [hst y hy]
    exact C10_sort_total x y.2 lx ly hlx hly
  rw [C10_match_iff x t ts hwf hcmp]
  exact exists_congr fun y => and_congr_right fun hy => by rw [hst y hy]

/-- A version that cannot be sorted against the request's does not match. -/
theorem C10_match_unsortable (x : Str) (t : Term) (hwf : WfTerm t)
    (h : stdCompare true x t.2 = .error .unsortable) : versionMatch x (render t []) = .ok false := by
  rw [render_eq_renderG, List.map_nil, versionMatch_term (gTerm_wf hwf)]
  simp [evalTerm, matchPrim, gTerm, GTerm.term, h]

/-- A bare version is the request `== version`. -/
theorem C10_match_implicit_eq (x v : Str) (hv : wfName v) (h1 : v ≠ sAnd) (h2 : v ≠ sOr) :
    versionMatch x v = versionMatch x (render (opEq, v) []) := by
  have hb : (⟨none, [], v⟩ : GTerm).Wf := ⟨hv, isWs_nil, fun _ h => (by cases h), fun _ => ⟨h1, h2⟩⟩
  have hg := gTerm_wf (t := (opEq, v)) ⟨isRelop_opEq, hv⟩
  have e : renderG [] ⟨none, [], v⟩ [] [] = v := by simp [renderG, GTerm.render, GTerm.opText, renderLinks]
  -- both texts are read as the one term `== v`
  conv => lhs; rw [← e]
  rw [versionMatch_term hb, render_eq_renderG, List.map_nil, versionMatch_term hg]
  rfl

/-- **A relational operator with nothing after it** (`>= 1.2 || <`): the request matches if there are at least
two terms and one of them holds (the loop returns before it reaches the operator); otherwise `IndexError`. -/
theorem C10_match_dangling_operator (x lead : Str) (t : GTerm) (os : List Link) (trail op trail2 : Str)
    (hlead : isWs lead) (ht : t.Wf) (hls : ∀ l ∈ os, l.Wf) (htr : isWs trail) (hop : isRelop op) (htr2 : isWs trail2)
    (hor : ∀ l ∈ os, l.isOr) (hcmp : ∀ y ∈ t :: os.map Link.term, ∃ r, stdCompare true x y.name = .ok r) :
    ((os ≠ [] ∧ ∃ y ∈ t :: os.map Link.term, Holds x y) →
        versionMatch x (renderG lead t os (trail ++ (op ++ trail2))) = .ok true) ∧
    (¬ (os ≠ [] ∧ ∃ y ∈ t :: os.map Link.term, Holds x y) →
        versionMatch x (renderG lead t os (trail ++ (op ++ trail2))) = .error .indexError) := by
  rw [versionMatch, matchLoop_renderG hlead ht hls (Reads.dangling htr hop htr2) hcmp, evalLinksK_or os hor]
  simp only [matchLoop_dangling hop]
  constructor
  · rintro ⟨hne, hex⟩
    rw [if_neg hne, if_pos ((any_holds_iff x t os ht hls).mpr hex)]
  · intro hn
    by_cases hne : os = []
    · rw [if_pos hne]
    · rw [if_neg hne, if_neg fun h => hn ⟨hne, (any_holds_iff x t os ht hls).mp h⟩]

/-- **A token that is neither a term nor an operator** (`(`, `1.0|2`, `a&&b` …; "Unexpected operator"): the loop
stops there; the request is the chain of alternatives before it, whatever text follows. -/
theorem C10_match_unexpected_token (x lead : Str) (t : GTerm) (os : List Link) (w1 junk w2 more : Str)
    (hlead : isWs lead) (ht : t.Wf) (hls : ∀ l ∈ os, l.Wf) (hor : ∀ l ∈ os, l.isOr)
    (hw1 : isWs w1) (hne1 : w1 ≠ []) (hw2 : isWs w2) (hne2 : w2 ≠ [])
    (hj : ∀ c ∈ junk, wordChar c) (hjne : junk ≠ []) (hjp : plainTok junk = false) (hja : junk ≠ sAmpAmp)
    (hcmp : ∀ y ∈ t :: os.map Link.term, ∃ r, stdCompare true x y.name = .ok r) :
    ∃ b, versionMatch x (renderG lead t os (w1 ++ (junk ++ (w2 ++ more)))) = .ok b ∧
      (b = true ↔ ∃ y ∈ t :: os.map Link.term, Holds x y) := by
  have hrel : hasRelop junk = false := hasRelop_none junk fun c hc => (hj c hc).not_rel
  have hbb : junk ≠ sBarBar := fun e => (hj 124 (by simp [e, sBarBar])).2.2.2.2 rfl
  refine ⟨termHolds (stdCompare true) x t.term || os.any (fun l => termHolds (stdCompare true) x l.term.term), ?_,
    any_holds_iff x t os ht hls⟩
  rw [versionMatch, matchLoop_renderG hlead ht hls (Reads.junk hw1 hne1 hj hjne hw2 hne2 more) hcmp]
  simp only [matchLoop_junk hrel hjp hbb hja]
  rw [evalLinksK_end, evalLinks_or os hor]

/-- **A second term where a logical operator is expected** (`>= 1.2 < 2`; "Expected logical operator"): it is
passed over without being compared; the request is its first term. -/
theorem C10_match_missing_operator (x lead : Str) (t t2 : GTerm) (w1 trail : Str)
    (hlead : isWs lead) (ht : t.Wf) (ht2 : t2.Wf) (hw1 : isWs w1) (hne1 : w1 ≠ []) (htr : isWs trail)
    (hcmp : ∃ r, stdCompare true x t.name = .ok r) :
    ∃ b, versionMatch x (renderG lead t [] (w1 ++ (t2.render ++ trail))) = .ok b ∧ (b = true ↔ Holds x t) := by
  refine ⟨termHolds (stdCompare true) x t.term, ?_, holds_iff x t ht⟩
  rw [versionMatch, matchLoop_renderG (ls := []) hlead ht (by simp) (Reads.juxt hw1 hne1 ht2 htr) (by simpa using hcmp),
    evalLinksK, matchLoop_term_skip ht2]
  cases termHolds (stdCompare true) x t.term <;> rfl

example : versionMatch n_1d9 [62, 61, 32, 49, 46, 50, 32, 60] = .error .indexError := by decide +kernel         -- `>= 1.2 <`
example : versionMatch n_1d9 [62, 61, 32, 49, 46, 50, 32, 40, 32, 60] = .ok true := by decide +kernel           -- `>= 1.2 ( <`
example : versionMatch n_1d9 [62, 61, 32, 49, 46, 50, 32, 60, 32, 49] = .ok true := by decide +kernel           -- `>= 1.2 < 1`

/-- A chain with an explicit operator in any of its terms is taken as a relational request … -/
theorem C10_legal_relational (lead : Str) (t : GTerm) (ls : List Link) (trail : Str)
    (y : GTerm) (hy : y ∈ t :: ls.map Link.term) (o : Str) (ho : y.op = some o) (hr : isRelop o) :
    isLegalRelativeVersion (renderG lead t ls trail) = .relational := legal_renderG lead t ls trail y hy o ho hr

/-- … a well-formed name is a plain version … -/
theorem C10_legal_name_plain (v : Str) (hv : wfName v) : isLegalRelativeVersion v = .plain := legal_name v hv

/-- … and `= version` (a single `=` followed by a blank) is refused with "did you mean '=='?". -/
theorem C10_legal_single_equals (lead gap v : Str) (hl : isWs lead) (hg : isWs gap) (hgne : gap ≠ []) (hv : wfName v) :
    isLegalRelativeVersion (lead ++ 61 :: (gap ++ v)) = .badSyntax := legal_single_equals lead gap v hl hg hgne hv

/-! terms for the examples: `>= v`, `<v`, a bare `v` -/
def t_ge (v : Str) : GTerm := ⟨some opGe, [32], v⟩
def t_lt (v : Str) : GTerm := ⟨some opLt, [], v⟩
def t_bare (v : Str) : GTerm := ⟨none, [], v⟩
#guard Str.toString (renderG [32] (t_ge n_1d9) [⟨[], .barbar, [], t_lt n_1d2⟩, ⟨[32], .orW, [9], t_bare n_1d10⟩] [32]) == " >= 1.9||<1.2 or\t1.10 "
example : versionMatch n_1d10 (renderG [32] (t_lt n_1d9) [⟨[], .barbar, [], t_lt n_1d2⟩, ⟨[32], .orW, [9], t_bare n_1d10⟩] [32]) = .ok true := by decide +kernel
example : versionMatch n_1d9 (renderG [32] (t_lt n_1d9) [⟨[], .barbar, [], t_lt n_1d2⟩, ⟨[32], .orW, [9], t_bare n_1d10⟩] [32]) = .ok false := by decide +kernel
example : (t_ge n_1d9).Wf :=
  ⟨⟨by decide, by decide⟩, by intro c hc; simp [t_ge] at hc; subst hc; decide,
    by intro o h; cases h; exact Or.inr (Or.inr (Or.inr (Or.inl rfl))), by intro h; cases h⟩
example : (t_bare n_1d10).Wf :=
  ⟨⟨by decide, by decide⟩, (by intro c hc; simp [t_bare] at hc), (by intro o h; simp [t_bare] at h), fun _ => by decide⟩
example : isLegalRelativeVersion [49, 46, 50, 32, 124, 124, 32, 49, 46, 51] = .plain := by decide +kernel   -- `1.2 || 1.3`: no operator, a plain version name
example : isLegalRelativeVersion [61, 49, 46, 48] = .plain := by decide +kernel                             -- `=1.0`

/-- `&&` and `||` together have neither the usual precedence nor left-to-right evaluation (`&&` is documented as
"not supported"): `1.10` matches `< 1.2 || >= 1.9 && < 1.9` (the `&&` after the `||` is never reached), and `1.2`
does not match `>= 1.9 && < 1.10 || == 1.2` (a false first conjunct ends the evaluation). -/
theorem C10_mixed_logop_witness :
    versionMatch n_1d10 (renderG [] (t_lt n_1d2) [⟨[32], .barbar, [32], t_ge n_1d9⟩, ⟨[32], .ampamp, [32], t_lt n_1d9⟩] []) = .ok true ∧
    stdCompare true n_1d10 n_1d9 = .ok 1 ∧
    versionMatch n_1d2 (renderG [] (t_ge n_1d9) [⟨[32], .ampamp, [32], t_lt n_1d10⟩, ⟨[32], .barbar, [32], t_bare n_1d2⟩] []) = .ok false ∧
    stdCompare true n_1d2 n_1d2 = .ok 0 := by decide +kernel

/-- **`latest` is the maximum**: from a non-empty list of conventional names the selection returns a
member that no member exceeds, at its first position in the list. -/
theorem C10_latest_is_max (names : List Str) (hne : names ≠ []) (hconv : ∀ v ∈ names, convName v = true) :
    ∃ i v, latest names = .ok (some i) ∧ names[i]? = some v ∧ (∀ j, j < i → names[j]? ≠ some v) ∧
      ∀ w ∈ names, ∃ r, stdCompare false w v = .ok r ∧ r ≤ 0 := by
  obtain ⟨m, hm, hl⟩ := latest_isLastMax hne hconv
  obtain ⟨hget, hfirst⟩ := findIdx_beq_spec names m hm.mem
  refine ⟨_, m, hl, hget, hfirst, fun w hw => ?_⟩
  rw [exists_stdCompare_iff (.of_conv (hconv w hw)) (.of_conv (hconv m hm.mem)) (· ≤ 0)]
  exact hm.le (Int.le_of_eq (good_cmpN.refl m (hconv m hm.mem))) w hw

/-- The same through the stacks (`_findLatestProduct`): from stacks of conventional versions, not all
empty, the version returned is declared in some stack and no declared version exceeds it. -/
theorem C10_latest_across_is_max (stacks : List (List Str))
    (hconv : ∀ st ∈ stacks, ∀ v ∈ st, convName v = true) (hne : stacks.flatten ≠ []) :
    ∃ i v, latestAcross stacks = .ok (some (i, v)) ∧ v ∈ stacks.flatten ∧
      ∀ w ∈ stacks.flatten, ∃ r, stdCompare false w v = .ok r ∧ r ≤ 0 := by
  have hc := List.forall_mem_flatten.mpr hconv
  rcases latestAcrossMin_spec none (fun _ h => nomatch h) stacks hc with ⟨_, h2⟩ | ⟨i, v, h1, hmem, _, hall⟩
  · -- no candidate: every version would be below a minimum that is not there
    obtain ⟨w, hw⟩ := List.exists_mem_of_ne_nil _ hne
    exact absurd (h2 w hw) (by simp [below_none])
  · exact ⟨i, v, h1, hmem,
      fun w hw => (exists_stdCompare_iff (.of_conv (hc w hw)) (.of_conv (hc v hmem)) (· ≤ 0)).mpr (hall w hw)⟩

/-- … and through the database branch (`readCache=False`, what `setup` uses; stacks without a cache),
where every stack's products arrive sorted by their version *strings*: still a maximum of the declared
versions in the version order. -/
theorem C10_latest_db_is_max (stacks : List (List Str))
    (hconv : ∀ st ∈ stacks, ∀ v ∈ st, convName v = true) (hne : stacks.flatten ≠ []) :
    ∃ i v, latestAcross (stacks.map dbOrder) = .ok (some (i, v)) ∧ v ∈ stacks.flatten ∧
      ∀ w ∈ stacks.flatten, ∃ r, stdCompare false w v = .ok r ∧ r ≤ 0 := by
  have hne' : (stacks.map dbOrder).flatten ≠ [] := by
    obtain ⟨a, ha⟩ := List.exists_mem_of_ne_nil _ hne
    exact List.ne_nil_of_mem ((mem_flatten_dbOrder a stacks).mpr ha)
  obtain ⟨i, v, h1, h2, h3⟩ := C10_latest_across_is_max (stacks.map dbOrder) (forall_mem_map_dbOrder hconv) hne'
  exact ⟨i, v, h1, (mem_flatten_dbOrder v stacks).mp h2, fun w hw => h3 w ((mem_flatten_dbOrder w stacks).mpr hw)⟩

/-- **`vers.sort(key=cmp_to_key(version_cmp)); vers[-1]`** (Eups.py, `_selectPreferredProduct` and the cache
branch of `_findLatestProduct`): whatever list `s` the sort returns — a permutation of the names, ordered by
the comparator, names that compare equal in their original relative order (stability) — its last element is
the name the model's one-pass selection returns.  Together with `C10_latest_is_max`: the last element of the
sorted list is a maximum, for every list of conventional names. -/
theorem C10_latest_is_last_of_sort (names s : List Str) (hne : names ≠ []) (hconv : ∀ v ∈ names, convName v = true)
    (hperm : s.Perm names)
    (hsorted : s.Pairwise (fun a b => ∃ r, stdCompare false a b = .ok r ∧ r ≤ 0))
    (hstable : ∀ m ∈ names, s.filter (fun y => decide (stdCompare false y m = .ok 0)) =
      names.filter (fun y => decide (stdCompare false y m = .ok 0))) :
    ∃ i v, latest names = .ok (some i) ∧ s.getLast? = some v ∧ names[i]? = some v ∧ ∀ j, j < i → names[j]? ≠ some v := by
  obtain ⟨m, hm, hl⟩ := latest_isLastMax hne hconv
  obtain ⟨hget, hfirst⟩ := findIdx_beq_spec names m hm.mem
  have hacc : ∀ v ∈ names, Accepted v := fun v h => .of_conv (hconv v h)
  -- the class of `m`, in terms of `cmpN`
  have hfil : ∀ l : List Str, (∀ y ∈ l, y ∈ names) →
      l.filter (fun y => decide (stdCompare false y m = .ok 0)) = l.filter (fun y => cmpN y m == 0) := fun l hl =>
    List.filter_congr fun y hy => by
      rw [stdCompare_cmpN (hacc y (hl y hy)) (hacc m hm.mem)]
      by_cases hz : cmpN y m = 0 <;> simp [hz]
  refine ⟨_, m, hl, ?_, hget, hfirst⟩
  refine hm.getLast_stableSort_of_goodOn good_cmpN hconv hperm (hsorted.imp_of_mem fun {a b} ha hb h => ?_) ?_
  · exact (exists_stdCompare_iff (hacc a (hperm.subset ha)) (hacc b (hperm.subset hb)) (· ≤ 0)).mp h
  · rw [← hfil s fun y hy => hperm.subset hy, ← hfil names fun y hy => hy, hstable m hm.mem]

/-- **`_findLatestProduct(…, minver)`**: from stacks of conventional versions and a conventional minimum,
nothing is returned exactly when every declared version is below the minimum; otherwise the version
returned is declared, reaches the minimum, and no declared version exceeds it. -/
theorem C10_latest_minver (stacks : List (List Str)) (mv : Str)
    (hconv : ∀ st ∈ stacks, ∀ v ∈ st, convName v = true) (hmv : convName mv = true) :
    (latestAcrossMin (some mv) stacks = .ok none ∧
        ∀ w ∈ stacks.flatten, ∃ r, stdCompare false w mv = .ok r ∧ r < 0) ∨
    (∃ i v, latestAcrossMin (some mv) stacks = .ok (some (i, v)) ∧ v ∈ stacks.flatten ∧
        (∃ r, stdCompare false v mv = .ok r ∧ r ≥ 0) ∧
        ∀ w ∈ stacks.flatten, ∃ r, stdCompare false w v = .ok r ∧ r ≤ 0) := by
  have hc := List.forall_mem_flatten.mpr hconv
  have ha : ∀ v ∈ stacks.flatten, Accepted v := fun v hv => .of_conv (hc v hv)
  rcases latestAcrossMin_spec (some mv) (fun _ h => by cases h; exact hmv) stacks hc with
    ⟨h1, h2⟩ | ⟨i, v, h1, hmem, hnb, hall⟩
  · exact Or.inl ⟨h1, fun w hw => (exists_stdCompare_iff (ha w hw) (.of_conv hmv) (· < 0)).mpr (below_some.mp (h2 w hw))⟩
  · refine Or.inr ⟨i, v, h1, hmem, (exists_stdCompare_iff (ha v hmem) (.of_conv hmv) (· ≥ 0)).mpr ?_,
      fun w hw => (exists_stdCompare_iff (ha w hw) (ha v hmem) (· ≤ 0)).mpr (hall w hw)⟩
    exact below_some_false.mp hnb

/-- … the same through the database branch (every stack enumerated in string order). -/
theorem C10_latest_minver_db (stacks : List (List Str)) (mv : Str)
    (hconv : ∀ st ∈ stacks, ∀ v ∈ st, convName v = true) (hmv : convName mv = true) :
    (latestAcrossMin (some mv) (stacks.map dbOrder) = .ok none ∧
        ∀ w ∈ stacks.flatten, ∃ r, stdCompare false w mv = .ok r ∧ r < 0) ∨
    (∃ i v, latestAcrossMin (some mv) (stacks.map dbOrder) = .ok (some (i, v)) ∧ v ∈ stacks.flatten ∧
        (∃ r, stdCompare false v mv = .ok r ∧ r ≥ 0) ∧
        ∀ w ∈ stacks.flatten, ∃ r, stdCompare false w v = .ok r ∧ r ≤ 0) := by
  rcases C10_latest_minver (stacks.map dbOrder) mv (forall_mem_map_dbOrder hconv) hmv with ⟨h1, h2⟩ | ⟨i, v, h1, h2, h3, h4⟩
  · exact Or.inl ⟨h1, fun w hw => h2 w ((mem_flatten_dbOrder w stacks).mpr hw)⟩
  · exact Or.inr ⟨i, v, h1, (mem_flatten_dbOrder v stacks).mp h2, h3,
      fun w hw => h4 w ((mem_flatten_dbOrder w stacks).mpr hw)⟩

/-- **`_findProductsByExpr`**: when the request can be evaluated against every declared version, the
products returned are exactly the declared versions that match it; a version string is reported once, from
the first stack (in path order) that declares it. -/
theorem C10_matches_across (expr : Str) (stacks : List (List Str))
    (hok : ∀ st ∈ stacks, ∀ v ∈ st, ∃ b, versionMatch v expr = .ok b) :
    ∃ ms, matchesAcross expr stacks = .ok ms ∧ (ms.map Prod.snd).Nodup ∧
      (∀ v, v ∈ ms.map Prod.snd ↔ v ∈ stacks.flatten ∧ versionMatch v expr = .ok true) ∧
      ∀ p ∈ ms, ∃ st, stacks[p.1]? = some st ∧ p.2 ∈ st ∧ ∀ j st', j < p.1 → stacks[j]? = some st' → p.2 ∉ st' := by
  refine ⟨_, matchesAcross_eq expr stacks hok, (uniqVers_nodup _ []).1, fun v => ?_, fun p hp => ?_⟩
  · rw [mem_map_uniqVers, List.mem_map, List.mem_flatten]
    constructor
    · rintro ⟨p, hp, rfl⟩
      obtain ⟨k, st, _, hst, hv, hm⟩ := mem_allHits.mp hp
      exact ⟨⟨st, List.mem_of_getElem? hst, hv⟩, hm⟩
    · rintro ⟨⟨st, hst, hv⟩, hm⟩
      obtain ⟨k, hk⟩ := List.getElem?_of_mem hst
      exact ⟨(0 + k, v), mem_allHits.mpr ⟨k, st, rfl, hk, hv, hm⟩, rfl⟩
  · obtain ⟨k, st, hk, hst, hv, hm⟩ := mem_allHits.mp (mem_uniqVers hp)
    rw [Nat.zero_add] at hk
    refine ⟨st, hk ▸ hst, hv, fun j st' hj hst' hmem => ?_⟩
    -- an earlier stack with this version would have an earlier hit, and the first hit is the one kept
    have := uniqVers_first (allHits_sorted expr 0 stacks) hp (j, p.2) (mem_allHits.mpr ⟨j, st', (Nat.zero_add j).symm, hst', hmem, hm⟩) rfl
    exact absurd this (Nat.not_le_of_lt hj)

/-- On an `||` chain whose comparisons are defined for every declared version: the versions returned are
exactly those the order puts in one of the stated relations. -/
theorem C10_matches_across_iff (t : Term) (ts : List Term) (stacks : List (List Str))
    (hwf : ∀ y ∈ t :: ts, WfTerm y)
    (hcmp : ∀ st ∈ stacks, ∀ v ∈ st, ∀ y ∈ t :: ts, ∃ r, stdCompare true v y.2 = .ok r) :
    ∃ ms, matchesAcross (render t ts) stacks = .ok ms ∧
      ∀ v, v ∈ ms.map Prod.snd ↔ v ∈ stacks.flatten ∧ ∃ y ∈ t :: ts, ∃ r, stdCompare true v y.2 = .ok r ∧ relSem y.1 r := by
  obtain ⟨ms, h1, _, h3, _⟩ := C10_matches_across (render t ts) stacks
    (fun st hst v hv => C10_match_total v t ts hwf (hcmp st hst v hv))
  refine ⟨ms, h1, fun v => (h3 v).trans (and_congr_right fun hv => ?_)⟩
  obtain ⟨st, hst, hvst⟩ := List.mem_flatten.mp hv
  exact C10_match_iff v t ts hwf (hcmp st hst v hvst)

/-- **The latest of the matching versions** (`setup prod "expr"`: `_findPreferredProductByExpr` / the VRO entry
`versionExpr`): nothing when no declared version matches; otherwise a declared version that matches and that no
matching declared version exceeds. -/
theorem C10_preferred_by_expr_is_max (expr : Str) (stacks : List (List Str))
    (hconv : ∀ st ∈ stacks, ∀ v ∈ st, convName v = true)
    (hok : ∀ st ∈ stacks, ∀ v ∈ st, ∃ b, versionMatch v expr = .ok b) :
    (preferredByExpr expr stacks = .ok none ∧ ∀ w ∈ stacks.flatten, versionMatch w expr ≠ .ok true) ∨
    (∃ i v, preferredByExpr expr stacks = .ok (some (i, v)) ∧ v ∈ stacks.flatten ∧ versionMatch v expr = .ok true ∧
      ∀ w ∈ stacks.flatten, versionMatch w expr = .ok true → ∃ r, stdCompare false w v = .ok r ∧ r ≤ 0) := by
  obtain ⟨ms, hms, _, hiff, _⟩ := C10_matches_across expr stacks hok
  by_cases hne : ms.map Prod.snd = []
  · left
    refine ⟨by simp [preferredByExpr, hms, hne, latest, lexPairs, lastMax], ?_⟩
    intro w hw hm
    have : w ∈ ms.map Prod.snd := (hiff w).mpr ⟨hw, hm⟩
    rw [hne] at this; simp at this
  · right
    have hc : ∀ v ∈ ms.map Prod.snd, convName v = true := fun v hv =>
      List.forall_mem_flatten.mpr hconv v ((hiff v).mp hv).1
    obtain ⟨i, v, hl, hget, _, hmax⟩ := C10_latest_is_max (ms.map Prod.snd) hne hc
    rw [List.getElem?_map] at hget
    obtain ⟨p, hp, rfl⟩ := Option.map_eq_some_iff.mp hget
    obtain ⟨hvf, hvmatch⟩ := (hiff p.2).mp (List.mem_map_of_mem (List.mem_of_getElem? hp))
    exact ⟨p.1, p.2, by simp only [preferredByExpr, hms, hl, hp], hvf, hvmatch,
      fun w hw hm => hmax w ((hiff w).mpr ⟨hw, hm⟩)⟩

example : latestAcrossMin (some n_1d10) [[n_1d9, n_1d2], [n_1d2d0]] = .ok none := by decide +kernel
example : latestAcrossMin (some n_1d9) [[n_1d9, n_1d2], [n_1d10, n_1d2d0]] = .ok (some (1, n_1d10)) := by decide +kernel
example : matchesAcross (render (opGe, n_1d9) []) [[n_1d9, n_1d2], [n_1d10, n_1d9]] = .ok [(0, n_1d9), (1, n_1d10)] := by decide +kernel
example : [n_1d2, n_1d9, n_1d10].Perm [n_1d9, n_1d10, n_1d2] := by decide +kernel

/-- **Every product listed satisfies the request**, whatever tags are asked for and whichever versions carry
them (the products the tag loop appends are filtered like all others), and no version is listed twice. -/
theorem C10_list_satisfies_request (verArg : Str) (tags : List Str) (stacks : List (List Decl)) (l : List (Nat × Str))
    (hne : verArg ≠ []) (h : listProducts verArg tags stacks = .ok (.products l)) :
    (∀ p ∈ l, verOk verArg p.2 = .ok (some true)) ∧ (l.map Prod.snd).Nodup := by
  obtain ⟨hnd, hs, _⟩ := listProducts_spec h
  exact ⟨fun p hp => (hs p hp).2.resolve_left hne, hnd⟩

/-- … and every product listed is a version declared in the stack it is reported from (whatever the tags and the
version argument): together with `C10_list_satisfies_request`, the listing shows declared versions that satisfy the
request and nothing else. -/
theorem C10_list_declared (verArg : Str) (tags : List Str) (stacks : List (List Decl)) (l : List (Nat × Str))
    (h : listProducts verArg tags stacks = .ok (.products l)) : ∀ p ∈ l, Declared stacks p :=
  fun p hp => ((listProducts_spec h).2.1 p hp).1

/-- For a relational request: every version listed is accepted by `version_match` … -/
theorem C10_list_relational (verArg : Str) (tags : List Str) (stacks : List (List Decl)) (l : List (Nat × Str))
    (hrel : isLegalRelativeVersion verArg = .relational) (h : listProducts verArg tags stacks = .ok (.products l)) :
    ∀ p ∈ l, versionMatch p.2 verArg = .ok true := by
  have hne : verArg ≠ [] := by intro e; subst e; simp [isLegalRelativeVersion, hasRelop, badRelop] at hrel
  intro p hp
  have := (C10_list_satisfies_request verArg tags stacks l hne h).1 p hp
  simp only [verOk, hrel] at this
  cases hm : versionMatch p.2 verArg with
  | error e => simp [hm] at this
  | ok b => simp only [hm, Except.ok.injEq, Option.some.injEq] at this; rw [this]

/-- … hence, for a chain of alternatives (any spacing and spelling, an explicit operator somewhere), in one of the
stated relations of the order. -/
theorem C10_list_accepts_only_the_relation (lead : Str) (t : GTerm) (os : List Link) (trail : Str)
    (tags : List Str) (stacks : List (List Decl)) (l : List (Nat × Str))
    (hlead : isWs lead) (ht : t.Wf) (hls : ∀ k ∈ os, k.Wf) (htr : isWs trail) (hor : ∀ k ∈ os, k.isOr)
    (y0 : GTerm) (hy0 : y0 ∈ t :: os.map Link.term) (o : Str) (ho : y0.op = some o) (hr : isRelop o)
    (h : listProducts (renderG lead t os trail) tags stacks = .ok (.products l))
    (hcmp : ∀ p ∈ l, ∀ y ∈ t :: os.map Link.term, ∃ r, stdCompare true p.2 y.name = .ok r) :
    ∀ p ∈ l, ∃ y ∈ t :: os.map Link.term, Holds p.2 y := by
  intro p hp
  have hm := C10_list_relational _ tags stacks l (C10_legal_relational lead t os trail y0 hy0 o ho hr) h p hp
  exact (C10_match_iff_general p.2 lead t os trail hlead ht hls htr hor (hcmp p hp)).mp hm

/-- **No tag asked for: the listing is exactly the declared versions that pass the version argument**
(a relational request: that `version_match` accepts; a pattern: that it matches; none: all), each version once. -/
theorem C10_list_exact (verArg : Str) (stacks : List (List Decl)) (l : List (Nat × Str))
    (h : listProducts verArg [] stacks = .ok (.products l)) :
    (∀ v, v ∈ l.map Prod.snd ↔ (∃ st ∈ stacks, ∃ d ∈ st, d.ver = v) ∧ Passes verArg v) ∧ (l.map Prod.snd).Nodup := by
  obtain ⟨hnd, hs, complete⟩ := listProducts_spec h
  refine ⟨fun v => ⟨fun hv => ?_, ?_⟩, hnd⟩
  · obtain ⟨p, hp, rfl⟩ := List.mem_map.mp hv
    obtain ⟨⟨st, hj, hd⟩, hpass⟩ := hs p hp
    exact ⟨⟨st, List.mem_of_getElem? hj, hd⟩, hpass⟩
  · rintro ⟨⟨st, hst, hd⟩, hpass⟩
    obtain ⟨j, hj⟩ := List.getElem?_of_mem hst
    exact complete j st hj v hd hpass (Or.inl rfl)

/-- **With tags: nothing that qualifies is left out** — a declared version that carries one of the requested tags in
its stack and passes the version argument is listed (versions are declared once per stack). -/
theorem C10_list_tagged_complete (verArg : Str) (tags : List Str) (stacks : List (List Decl)) (l : List (Nat × Str))
    (h : listProducts verArg tags stacks = .ok (.products l)) (htags : tags ≠ [])
    (i : Nat) (st : List Decl) (hget : stacks[i]? = some st) (d : Decl) (hd : d ∈ st)
    (huniq : ∀ d' ∈ st, d'.ver = d.ver → d' = d) (hpass : Passes verArg d.ver) (hcar : d.tags.any tags.contains = true) :
    d.ver ∈ l.map Prod.snd := by
  have _ := htags   -- not needed: it follows from `hcar`
  have hfind : st.find? (·.ver == d.ver) = some d :=
    find?_eq_some_of_unique (fun d' hd' hv => huniq d' hd' (eq_of_beq hv)) hd (beq_self_eq_true _)
  exact (listProducts_spec h).2.2 i st hget d.ver ⟨d, hd, rfl⟩ hpass (Or.inr (by rw [hfind]; exact hcar))

/-! the seeded change `C10-m7`: `eups list prod ">= 1.10" -t current` with `current` on `1.9` -/
def s_current : Str := [99, 117, 114, 114, 101, 110, 116]
#guard Str.toString s_current == "current"
#guard Str.toString sLatest == "latest"
example : listProducts (render (opGe, n_1d10) []) [s_current] [[⟨n_1d9, [s_current]⟩, ⟨n_1d10, []⟩, ⟨n_1d2, []⟩]] = .ok (.products []) := by decide +kernel
example : listProducts (render (opGe, n_1d9) []) [s_current] [[⟨n_1d9, [s_current]⟩, ⟨n_1d10, []⟩, ⟨n_1d2, []⟩]] = .ok (.products [(0, n_1d9)]) := by decide +kernel
example : listProducts (render (opGe, n_1d9) []) [] [[⟨n_1d10, []⟩, ⟨n_1d9, [s_current]⟩, ⟨n_1d2, []⟩]] = .ok (.products [(0, n_1d9), (0, n_1d10)]) := by decide +kernel
example : listProducts (render (opGe, n_1d9) []) [sLatest] [[⟨n_1d10, []⟩, ⟨n_1d9, [s_current]⟩, ⟨n_1d2, []⟩]] = .ok (.products [(0, n_1d10)]) := by decide +kernel
example : listProducts [49, 46, 42] [] [[⟨n_1d10, []⟩, ⟨n_2, []⟩, ⟨n_1d2, []⟩]] = .ok (.products [(0, n_1d2), (0, n_1d10)]) := by decide +kernel   -- `1.*`
example : listProducts (render (opGe, n_1d9) []) [s_current] [[⟨n_1d2, []⟩], [⟨n_1d9, []⟩, ⟨n_1d10, [s_current]⟩]] = .ok (.products [(1, n_1d10)]) := by decide +kernel

/-- **The sort of the listing model is a stable sort** of any list of conventional names — a permutation, ordered by
the comparator, names that compare equal in their original relative order — and its last element is the one the
`latest` selection finds (`C10_latest_is_last_of_sort` says the same of every stable sort): the two models of
`vers.sort(...)` agree. -/
theorem C10_sort_model_is_stable_sort (names : List Str) (ps : List (Str × Lexed)) (hps : lexPairs names = .ok ps)
    (hconv : ∀ v ∈ names, convName v = true) :
    (sortVers ps).Perm ps ∧ (sortVers ps).Pairwise (fun a b => cmpSort a.2 b.2 ≤ 0) ∧
    (∀ m ∈ ps, (sortVers ps).filter (fun y => cmpSort y.2 m.2 == 0) = ps.filter (fun y => cmpSort y.2 m.2 == 0)) ∧
    (sortVers ps).getLast? = lastMax none ps := by
  have hc : ∀ p ∈ ps, convLexed p.2 = true := (lexPairs_ok_iff.mp hps).2 ▸ conv_withLex hconv
  exact ⟨sortVers_perm ps, sortVers_sorted ps hc, fun m hm => sortVers_stable m ps (hc m hm) hc, sortVers_getLast ps hc⟩

/-- **`findProduct(name, expr)`** (`_findPreferredProductByExpr`): whatever tags the session prefers and whichever
versions carry them, the product returned satisfies the request and is declared where it is reported. -/
theorem C10_find_by_expr_satisfies_request (preferred : List Str) (expr : Str) (stacks : List (List Decl)) (p : Nat × Str)
    (hok : ∀ st ∈ versOf stacks, ∀ v ∈ st, ∃ b, versionMatch v expr = .ok b)
    (h : findProductExpr preferred expr stacks = .ok (some p)) :
    versionMatch p.2 expr = .ok true ∧ ∃ st, (versOf stacks)[p.1]? = some st ∧ p.2 ∈ st := by
  obtain ⟨ms, hms, _, hiff, hdecl⟩ := C10_matches_across expr (versOf stacks) hok
  simp only [findProductExpr, hms] at h
  have hp := selectPreferred_mem stacks ms preferred p h
  obtain ⟨st, h1, h2, _⟩ := hdecl p hp
  exact ⟨((hiff p.2).mp (List.mem_map_of_mem hp)).2, st, h1, h2⟩

/-- **`setup prod arg`, `arg` a relational request** (`findProductFromVRO`, entries `version` then `versionExpr`):
nothing when no declared version satisfies it, otherwise a declared version that satisfies it and that no declared
version satisfying it exceeds. -/
theorem C10_entry_relational (arg : Str) (stacks : List (List Decl))
    (hrel : isLegalRelativeVersion arg = .relational)
    (hconv : ∀ st ∈ versOf stacks, ∀ v ∈ st, convName v = true)
    (hok : ∀ st ∈ versOf stacks, ∀ v ∈ st, ∃ b, versionMatch v arg = .ok b)
    (hlit : ∀ st ∈ stacks, ∀ d ∈ st, d.ver ≠ arg) :
    (requestEntry arg stacks = .ok .nothing ∧ ∀ w ∈ (versOf stacks).flatten, versionMatch w arg ≠ .ok true) ∨
    (∃ i v, requestEntry arg stacks = .ok (.found true i v) ∧ v ∈ (versOf stacks).flatten ∧ versionMatch v arg = .ok true ∧
      ∀ w ∈ (versOf stacks).flatten, versionMatch w arg = .ok true → ∃ r, stdCompare false w v = .ok r ∧ r ≤ 0) := by
  have hnone : exactLookup arg 0 stacks = none := by
    cases hx : exactLookup arg 0 stacks with
    | none => rfl
    | some q =>
      obtain ⟨_, st, hget, ⟨d, hd, hdv⟩, _⟩ := (exactLookup_spec arg stacks).1 q.1 q.2 hx
      exact absurd hdv (hlit st (List.mem_of_getElem? hget) d hd)
  rcases C10_preferred_by_expr_is_max arg (versOf stacks) hconv hok with ⟨h1, h2⟩ | ⟨i, v, h1, h2, h3, h4⟩
  · exact Or.inl ⟨by simp [requestEntry, hrel, h1, hnone], h2⟩
  · exact Or.inr ⟨i, v, by simp [requestEntry, hrel, h1], h2, h3, h4⟩

/-- **`setup prod arg`, `arg` a version name**: exactly that string (not a version that merely compares equal to it),
from the first stack of the path that declares it. -/
theorem C10_entry_explicit (arg : Str) (stacks : List (List Decl)) (hv : wfName arg) :
    (requestEntry arg stacks = .ok .nothing ∧ ∀ st ∈ stacks, ∀ d ∈ st, d.ver ≠ arg) ∨
    (∃ i st, requestEntry arg stacks = .ok (.found false i arg) ∧ stacks[i]? = some st ∧ (∃ d ∈ st, d.ver = arg) ∧
      ∀ k st', k < i → stacks[k]? = some st' → ∀ d ∈ st', d.ver ≠ arg) := by
  have hp := C10_legal_name_plain arg hv
  cases hx : exactLookup arg 0 stacks with
  | none => exact Or.inl ⟨by simp [requestEntry, hp, hx], (exactLookup_spec arg stacks).2 hx⟩
  | some q =>
    obtain ⟨i, w⟩ := q
    obtain ⟨rfl, st, hget, hdecl, hfirst⟩ := (exactLookup_spec arg stacks).1 i w hx
    exact Or.inr ⟨i, st, by simp [requestEntry, hp, hx], hget, hdecl, hfirst⟩

/-- **`setup prod "= v"`** is refused. -/
theorem C10_entry_single_equals (lead gap v : Str) (stacks : List (List Decl))
    (hl : isWs lead) (hg : isWs gap) (hgne : gap ≠ []) (hv : wfName v) :
    requestEntry (lead ++ 61 :: (gap ++ v)) stacks = .ok .badSyntax := by
  simp [requestEntry, C10_legal_single_equals lead gap v hl hg hgne hv]

-- `findProduct("prod", ">= 1.2")`: `current` (on 1.9) is preferred to the latest (1.10); `setup prod ">= 1.2"` takes the latest
example : findProductExpr [s_current, sLatest] (render (opGe, n_1d2) []) [[⟨n_1d10, []⟩, ⟨n_1d9, [s_current]⟩, ⟨n_1d2, []⟩]] = .ok (some (0, n_1d9)) := by decide +kernel
example : requestEntry (render (opGe, n_1d2) []) [[⟨n_1d10, []⟩, ⟨n_1d9, [s_current]⟩, ⟨n_1d2, []⟩]] = .ok (.found true 0 n_1d10) := by decide +kernel
example : requestEntry n_1d9 [[⟨n_1d10, []⟩], [⟨n_1d9, [s_current]⟩, ⟨n_1d2, []⟩]] = .ok (.found false 1 n_1d9) := by decide +kernel

example : render (opGe, n_1d2) [(opLt, n_1d10)] = [62, 61, 32, 49, 46, 50, 32, 124, 124, 32, 60, 32, 49, 46, 49, 48] := by decide +kernel
#guard Str.toString (render (opGe, n_1d2) [(opLt, n_1d10)]) == ">= 1.2 || < 1.10"
example : versionMatch n_1d9 (render (opGe, n_1d10) [(opLt, n_1d2)]) = .ok false := by decide +kernel
example : versionMatch n_1d9 (render (opGe, n_1d10) [(opLe, n_1d9)]) = .ok true := by decide +kernel
example : versionMatch n_v1 (render (opGe, n_w1) []) = .ok false := by decide +kernel     -- unsortable: no match
example : latest [n_1d9, n_1d10, n_1d2, n_1d10] = .ok (some 1) := by decide +kernel
example : latestAcross [[n_1d9, n_1d2], [], [n_1d10, n_1d2d0]] = .ok (some (2, n_1d10)) := by decide +kernel
-- as strings `1.9` is the last of the stack; as versions `1.10` is
example : dbOrder [n_1d9, n_1d10, n_1d2] = [n_1d10, n_1d2, n_1d9] ∧ latestAcross ([[n_1d9, n_1d10, n_1d2]].map dbOrder) = .ok (some (0, n_1d10)) := by decide +kernel

/-- D5, the pinned comparator: the primary parts were tested for *string* equality before the component
loop, so `v1.0 == v1_0-rc1` and `v1_0-rc1 == v1.0-rc1` while `v1.0 > v1.0-rc1`: not transitive on
conventional names that mix `.` and `_` (the repaired comparator, `stdCompare`, runs the component loop first and orders
them). -/
theorem C10_mixed_separator_witness :
    stdComparePinned false n_v1d0 n_v1u0mrc1 = .ok 0 ∧
    stdComparePinned false n_v1u0mrc1 n_v1d0mrc1 = .ok 0 ∧
    stdComparePinned false n_v1d0 n_v1d0mrc1 = .ok 1 ∧
    stdCompare false n_v1d0 n_v1u0mrc1 = .ok 1 ∧
    stdCompare false n_v1u0mrc1 n_v1d0mrc1 = .ok 0 := by decide +kernel

/-- D5 again, through leading zeros: `1 == 01-rc02+1 == 1-rc02+1 < 1` on the pinned comparator. -/
theorem C10_leading_zero_witness :
    stdComparePinned false n_1 n_01mrc02p1 = .ok 0 ∧
    stdComparePinned false n_01mrc02p1 n_1mrc02p1 = .ok 0 ∧
    stdComparePinned false n_1mrc02p1 n_1 = .ok (-1) ∧
    stdCompare false n_1 n_01mrc02p1 = .ok 1 := by decide +kernel

/-- Outside the conventional names the sorting mode is not transitive: `2 < 10 < 1a < 2`
(numbers compare numerically, `1a` compares as a string); the property claims transitivity for
conventional names only.  The strict mode refuses `10` vs `1a`. -/
theorem C10_arbitrary_cycle_witness :
    stdCompare false n_2 n_10 = .ok (-1) ∧
    stdCompare false n_10 n_1a = .ok (-1) ∧
    stdCompare false n_1a n_2 = .ok (-1) ∧
    stdCompare true n_10 n_1a = .error .unsortable := by decide +kernel

/-- Where the conventional class stops.  A component that is not `letters* digits*` has the shape
`letters* D letter …` with `D` a run of digits, and is compared as a *string* with every other component.
If `D` has a digit other than `9`, two conventional components close a cycle with it: `1.8a < 1.9 < 1.80 < 1.8a`,
`0a < 1 < 09 < 0a` (the numeric order of `9`/`80`, `1`/`09` is the reverse of their string order around the
component).  If `D` is all nines (`1.9a`, `v99b2`) no digit string sorts above it and the order stays
transitive (exhaustive check in docs/notes/g10.md); so "conventional" can be widened by exactly those
components and by nothing else over letters and digits. -/
theorem C10_boundary_witness :
    stdCompare false n_1d8a n_1d9 = .ok (-1) ∧ stdCompare false n_1d9 n_1d80 = .ok (-1) ∧
    stdCompare false n_1d80 n_1d8a = .ok (-1) ∧
    stdCompare false n_0a n_1 = .ok (-1) ∧ stdCompare false n_1 n_09 = .ok (-1) ∧ stdCompare false n_09 n_0a = .ok (-1) ∧
    convName n_1d8a = false ∧ convName n_0a = false ∧ convName n_1d80 = true ∧ convName n_09 = true := by decide +kernel

/-- D5c, the pinned `distrib.Repositories.findPackage(product, Tag("latest"))`: over package repositories whose latest
versions are `10.0`, `3.0`, `4.0` it answered `4.0` (the candidate was replaced when it was *later* than the next
repository's latest, and the next one returned on the spot otherwise) — not the maximum.  The repaired loop over the
repositories is `latestAcross`, for which `C10_latest_across_is_max` holds. -/
theorem C10_latest_repos_witness :
    latestReposPinned 1 [[n_10d0], [n_3d0], [n_4d0]] = .ok (some (2, n_4d0)) ∧
    latestReposPinned 2 [[n_10d0], [n_3d0], [n_4d0]] = .ok (some (2, n_4d0)) ∧
    latestAcross [[n_10d0], [n_3d0], [n_4d0]] = .ok (some (0, n_10d0)) ∧
    stdCompare false n_4d0 n_10d0 = .ok (-1) := by decide +kernel

end EupsModel.C10
