import EupsModel.Lemmas.PathAlgRun
import EupsModel.Lemmas.PathAlgFlags
import EupsModel.Lemmas.PathActEups
import EupsModel.Lemmas.PathActFile
import EupsModel.Lemmas.PathActName
import EupsModel.Lemmas.PathExec
/-! C12 — path-variable commands obey list algebra.  The model is `Model/PathAlg.lean` (the list loop, the string
level, `${VAR}` references) and `Model/PathAct.lean` (product macros, `Action.execute` on the `Eups` state, table files).
Characters are code points: `$` 36, `-` 45, `:` 58, `?` 63, `[` 91, `]` 93, `{` 123, `}` 125. -/
namespace EupsModel.C12
open EupsModel EupsModel.PathAlg
variable {α : Type} [DecidableEq α]

/-- envPrepend puts its value first. -/
theorem prepend_first (v : α) (old : List α) :
    (applyL false true [v] old).head? = some v := by
  rw [applyL_prepend_single]; rfl

/-- The result contains each element once (any direction, any values). -/
theorem nodup (append fwd : Bool) (vals old : List α) : (applyL append fwd vals old).Nodup :=
  uniq_nodup _

/-- envPrepend keeps every other element, in the relative order of first occurrences. -/
theorem prepend_others_kept_in_order (v : α) (old : List α) :
    (applyL false true [v] old).filter (· != v) = (uniq old).filter (· != v) :=
  filter_applyL _ false true [v] old (by simp)

/-- envAppend keeps every other element, in the relative order of first occurrences. -/
theorem append_others_kept_in_order (v : α) (old : List α) :
    (applyL true true [v] old).filter (· != v) = (uniq old).filter (· != v) :=
  filter_applyL _ true true [v] old (by simp)

/-- envAppend puts its value last — for every prior list, also one that already holds the value (the element
moves; repair of D8). -/
theorem append_last (v : α) (old : List α) :
    (applyL true true [v] old).getLast? = some v := by
  simp [applyL_append_single]

/-- The pinned rule (before the repair of D8: add at the end, then `pathUnique` keeping the first occurrence) puts
the value last only when it was not already present … -/
theorem append_last_pinned_partial (v : α) (old : List α) (h : v ∉ old) :
    (applyLPinned true true [v] old).getLast? = some v := by
  simp [applyLPinned, appendLPinned, uniq_append_singleton v old h]

/-- … and is false without that hypothesis: an element that is already present kept its earlier position (D8). -/
theorem append_present_witness_pinned : applyLPinned true true [1] [1, 2] = [1, 2] := by decide +kernel

/-- On lists that do not hold the value the repaired and the pinned rule agree (the repair changes nothing else). -/
theorem append_pinned_agree (v : α) (old : List α) (h : v ∉ old) :
    applyL true true [v] old = applyLPinned true true [v] old := by
  simp [applyL, applyLPinned, appendL, appendLPinned, filter_ne_self v old h]

/-- Unsetup removes exactly the element: nothing equal to `v` is left, everything else is kept. -/
theorem unsetup_removes_exactly (append : Bool) (v : α) (old : List α) :
    applyL append false [v] old = (uniq old).filter (· != v) :=
  applyL_remove_single append v old

/-- Unsetup after setup restores the (de-duplicated) list when the value was not there before. -/
theorem unsetup_after_setup (append : Bool) (v : α) (old : List α) (h : v ∉ old) :
    applyL append false [v] (applyL append true [v] old) = uniq old :=
  unsetupAll_setupAll [(append, v)] old (by simp) (by simpa using h)

/-- Sequences: any fold of actions leaves a duplicate-free list. -/
theorem sequence_nodup (acts : List (Bool × Bool × α)) (old : List α) :
    acts ≠ [] → (acts.foldl (fun l a => applyL a.1 a.2.1 [a.2.2] l) old).Nodup :=
  fun hne => foldl_nodup _ (fun _ _ => nodup _ _ _ _) acts hne old

/-- Non-vacuity: a populated list with duplicates, prepend an element that is present. -/
example : applyL false true [3] [1, 3, 1, 2] = [3, 1, 2] := by decide +kernel
example : applyL true false [3] (applyL true true [3] [1, 1, 2]) = [1, 2] := by decide +kernel


/-! ## whole tables: sequences of contributions to one variable -/

/-- Normal form of a table's contributions `acts` (pairs (append?, value), in table order) to one variable: the
values that were prepended (latest first), then the other elements of the prior list in the order of their first
occurrences, then the values that were appended (latest last) — for every prior list. -/
theorem table_normal_form (acts : List (Bool × α)) (old : List α) (hne : acts ≠ []) :
    setupAll acts old
      = front acts ++ (uniq old).filter (fun x => decide (x ∉ acts.map (·.2))) ++ back acts :=
  setupAll_eq acts old hne

/-- … where every value of the table occurs exactly once in `front ++ back`. -/
theorem table_values_once (acts : List (Bool × α)) :
    (front acts ++ back acts).Nodup ∧ ∀ x, x ∈ front acts ++ back acts ↔ x ∈ acts.map (·.2) := by
  by_cases hne : acts = []
  · subst hne; simp
  · -- the table run on the empty list leaves `front ++ back`
    have hn := setupAll_nodup acts ([] : List α) hne
    have hm := fun x => mem_setupAll acts [] x
    rw [setupAll_eq acts [] hne] at hn hm
    exact ⟨by simpa [uniq] using hn, fun x => by simpa [uniq] using hm x⟩

/-- List-level inverse (the list half of C02): running the whole table in unsetup mode after its setup restores
the prior list (duplicate-free reading), for arbitrary prior lists not holding the table's values … -/
theorem table_unsetup_restores (acts : List (Bool × α)) (old : List α) (hne : acts ≠ [])
    (h : ∀ a ∈ acts, a.2 ∉ old) : unsetupAll acts (setupAll acts old) = uniq old :=
  unsetupAll_setupAll acts old hne h

/-- … and without that hypothesis exactly the table's values are gone (also occurrences that were there before):
the hypothesis of `table_unsetup_restores` cannot be dropped (witness below). -/
theorem table_unsetup_removes_values (acts : List (Bool × α)) (old : List α) (hne : acts ≠ []) :
    unsetupAll acts (setupAll acts old) = (uniq old).filter (fun x => decide (x ∉ acts.map (·.2))) :=
  unsetupAll_setupAll_filter acts old hne

theorem table_unsetup_present_witness :
    unsetupAll [(false, 1)] (setupAll [(false, 1)] [2, 1]) = [2] := by decide +kernel

/-- the order in which the unsetup actions run, and whether they were prepends or appends
(`PathAlg.unsetupAll_kind`), does not matter -/
theorem table_unsetup_order_irrelevant (acts : List (Bool × α)) (l : List α) :
    unsetupAll acts.reverse l = unsetupAll acts l :=
  unsetupAll_reverse acts l

/-- Idempotence: setting up the same table twice is the same as once … -/
theorem table_setup_idempotent (acts : List (Bool × α)) (old : List α) :
    setupAll acts (setupAll acts old) = setupAll acts old :=
  setupAll_idem acts old

/-- … in particular for one action. -/
theorem setup_idempotent (app : Bool) (v : α) (old : List α) :
    applyL app true [v] (applyL app true [v] old) = applyL app true [v] old :=
  setupAll_idem [(app, v)] old

/-! order laws between two different values -/

/-- the later prepend wins the front -/
theorem prepend_prepend_order (a b : α) (hab : a ≠ b) (old : List α) :
    applyL false true [b] (applyL false true [a] old)
      = b :: a :: (uniq old).filter (fun x => x != a && x != b) := by
  rw [applyL_prepend_single b, uniq_applyL, applyL_prepend_single]
  simp [hab, List.filter_filter, Bool.and_comm]

/-- the later append wins the end -/
theorem append_append_order (a b : α) (hab : a ≠ b) (old : List α) :
    applyL true true [b] (applyL true true [a] old)
      = (uniq old).filter (fun x => x != a && x != b) ++ [a, b] := by
  rw [applyL_append_single b, uniq_applyL, applyL_append_single]
  simp [hab, List.filter_append, List.filter_filter, Bool.and_comm]

theorem prepend_append_commute (a b : α) (hab : a ≠ b) (old : List α) :
    applyL true true [b] (applyL false true [a] old) = applyL false true [a] (applyL true true [b] old) := by
  rw [applyL_append_single b, uniq_applyL, applyL_prepend_single a (applyL _ _ _ _), uniq_applyL,
    applyL_prepend_single, applyL_append_single]
  simp [hab, Ne.symm hab, List.filter_append, List.filter_filter, Bool.and_comm]

/-- unsetup of one value does not disturb the setup of another -/
theorem unsetup_setup_commute (app app2 : Bool) (a b : α) (hab : a ≠ b) (l : List α) :
    applyL app2 false [a] (applyL app true [b] l) = applyL app true [b] (applyL app2 false [a] l) := by
  rw [applyL_remove_single, uniq_applyL, applyL_setup_single app b (applyL _ _ _ _), uniq_applyL,
    applyL_remove_single, applyL_setup_single]
  cases app <;> simp [Ne.symm hab, List.filter_append, List.filter_filter, Bool.and_comm]

/-! values holding several elements -/

/-- envPrepend of a value with several elements puts them first in the order written (repair of D121; on `[1, 2]`:
`PathAlg.prepend_multi_in_order`) … -/
theorem prepend_multi_first (vals old : List α) : applyL false true vals old = uniq (vals ++ old) := by
  simp [applyL_eq, uniq_append]

/-- … the pinned loop reversed them. -/
theorem prepend_multi_reversed_witness_pinned : applyLPinned false true [1, 2] [3] = [2, 1, 3] := by decide

/-- envAppend of a value with several (distinct) elements puts them last in the order written (a piece written twice
is there once: `PathAlg.applyL_append_vals_dup_witness`) -/
theorem append_multi_last (vals old : List α) (hnd : vals.Nodup) :
    applyL true true vals old = (uniq old).filter (fun x => decide (x ∉ vals)) ++ vals := by
  -- what stands at the end are the last occurrences, for distinct pieces the pieces as written
  have : vals.reverse.Nodup := by
    unfold List.Nodup at *; rw [List.pairwise_reverse]; exact hnd.imp Ne.symm
  rw [applyL_eq, uniq_of_nodup _ this]; simp

/-- unsetup of a value with several elements removes exactly these -/
theorem unsetup_multi_removes_exactly (app : Bool) (vals old : List α) :
    applyL app false vals old = (uniq old).filter (fun x => decide (x ∉ vals)) := by
  simp [applyL_eq]

example : setupAll [(false, 5), (true, 6), (false, 7)] [1, 6, 1, 2] = [7, 5, 1, 2, 6] := by decide +kernel
example : unsetupAll [(false, 5), (true, 6)] (setupAll [(false, 5), (true, 6)] [1, 1, 2]) = [1, 2] := by
  decide +kernel

/-! ## string level -/

/-- String level: on a variable whose value is a `c`-separated list of well-formed pieces, the real
string-manipulating action computes exactly the list-level operation. -/
theorem string_level_is_list_level (c : Nat) (hc : c ≠ 36) (append fwd : Bool) (var v : Str)
    (oldl : List Str) (env : Env)
    (hold : ∀ e ∈ oldl, GoodPiece c e) (hv : GoodPiece c v)
    (henv : (env.get var).getD [] = join [c] oldl) :
    envPrepend append fwd var v [c] env
      = .ok (env.set var (join [c] (applyL append fwd [v] oldl))) :=
  envPrepend_lifts_old c append fwd var v oldl env (fun e he => (hold e he).old) hv henv

/-- `$?{VAR}` with VAR undefined: the action does nothing, in either direction. -/
theorem optional_guard (append fwd : Bool) (var value delim : Str) (env : Env)
    (hpre : startsWith value delim = false) (happ : endsWith value delim = false)
    (h : expand env value = .skip) :
    envPrepend append fwd var value delim env = .ok env := by
  rw [envPrepend_core, core_plain _ _ hpre happ, h]

theorem optional_guard_envSet (var value : Str) (env : Env) (h : expand env value = .skip) :
    envSet true var value env = .ok env := by
  simp [envSet, h]

/-- the guard really is about an undefined optional reference: `$?{K}...` with K undefined skips -/
theorem optional_undefined_skips (env : Env) (key rest : Str)
    (hk : ∀ ch ∈ key, ch ≠ 45 ∧ ch ≠ 125) (hundef : env.get key = none) :
    expand env (36 :: 63 :: 123 :: key ++ 125 :: rest) = .skip :=
  expand_optional_head_undefined env key rest hk hundef

/-- envSet sets exactly the given value (no references in it). -/
theorem envset_exact (var v : Str) (env : Env) (hne : v ≠ []) (hd : 36 ∉ v) :
    envSet true var v env = .ok (env.set var v) :=
  envSet_of_expand var v v env (expand_no_dollar env v hd) hne hd

/-- ... and the variable then reads back as that value. -/
theorem envset_get (var v : Str) (env : Env) (hne : v ≠ []) (hd : 36 ∉ v) :
    ∃ env', envSet true var v env = .ok env' ∧ env'.get var = some v :=
  ⟨_, envset_exact var v env hne hd, Env.get_set_same _ _ _⟩

/-- Unsetup of envSet removes the variable. -/
theorem envset_unsetup (var v : Str) (env : Env) :
    ∃ env', envSet false var v env = .ok env' ∧ env'.get var = none :=
  ⟨env.unset var, by simp [envSet], Env.get_unset_same _ _⟩

example : expand [] (Str.ofString "$?{NOPE}/z") = .skip := by decide_lit
example : GoodPiece 58 (Str.ofString "/opt/p/1.0/bin") := by unfold GoodPiece; decide_lit


/-- MANPATH style: a leading and/or trailing delimiter written around the value asks for an empty
first / last element; on well-formed values the new value of the variable is exactly the list
result with the requested empty elements re-attached (and never doubled). -/
theorem manpath_flags (c : Nat) (hc : c ≠ 36) (append pre app : Bool) (var v : Str)
    (oldl : List Str) (env : Env)
    (hold : ∀ e ∈ oldl, GoodPiece c e) (hv : GoodPiece c v)
    (henv : (env.get var).getD [] = join [c] oldl) :
    envPrepend append true var (flagged c pre app v) [c] env
      = .ok (env.set var (flagged c pre app (join [c] (applyL append true [v] oldl)))) :=
  envPrepend_lifts_flags_multi_single [c] (by simp) (by simpa using Ne.symm hc) append pre app var v oldl env
    (fun e he => (oldPieceD_single c e).mpr (hold e he).old) ((goodPieceD_single c v).mpr hv) henv

/-- ... so the value starts with the delimiter iff a leading one was written (the trailing one, for any delimiter:
`manpath_flags_iff_any_delimiter`). -/
theorem manpath_leading_iff (c : Nat) (pre app : Bool) (l : List Str) (hne : l ≠ [])
    (h : ∀ e ∈ l, GoodPiece c e) :
    startsWith (flagged c pre app (join [c] l)) [c] = pre :=
  startsWith_flaggedD_old [c] (by simp) pre app l hne (fun e he => (oldPieceD_single c e).mpr (h e he).old)

example : flagged 58 true false (Str.ofString "/usr/man") = Str.ofString ":/usr/man" := by decide_lit


/-! ## `${VAR}` references inside values -/

/-- "envSet sets exactly the given value with `${VAR}` references expanded": a reference to a defined variable,
anywhere in the value, is replaced by the variable's value. -/
theorem envset_expands_reference (var pre key post v : Str) (env : Env)
    (hpre : 36 ∉ pre) (hpost : 36 ∉ post) (hv36 : 36 ∉ v) (hk : GoodKey key) (hv : env.get key = some v)
    (hne : pre ++ v ++ post ≠ []) :
    envSet true var (pre ++ (36 :: 123 :: key ++ [125]) ++ post) env = .ok (env.set var (pre ++ v ++ post)) :=
  envSet_of_expand var _ _ env (expand_defined env pre key post v hpre hpost hk hv) hne (by simp [hpre, hpost, hv36])

/-- `${VAR-default}` with VAR undefined stands for the default. -/
theorem envset_uses_default (var pre key dflt post : Str) (env : Env)
    (hpre : 36 ∉ pre) (hpost : 36 ∉ post) (hd36 : 36 ∉ dflt) (hk : GoodKey key)
    (hd : dflt ≠ []) (hd2 : 125 ∉ dflt) (hv : env.get key = none) :
    envSet true var (pre ++ (36 :: 123 :: key ++ 45 :: dflt ++ [125]) ++ post) env
      = .ok (env.set var (pre ++ dflt ++ post)) :=
  envSet_of_expand var _ _ env (expand_default env pre key dflt post hpre hpost hk hd hd2 hv) (by simp [hd])
    (by simp [hpre, hpost, hd36])

/-- A reference to an undefined variable (no default, not optional) is refused: envSet … -/
theorem envset_undefined_refused (var pre key post : Str) (env : Env)
    (hpre : 36 ∉ pre) (hpost : 36 ∉ post) (hk : GoodKey key) (hv : env.get key = none) :
    envSet true var (pre ++ (36 :: 123 :: key ++ [125]) ++ post) env = .runtimeError := by
  simp only [envSet, ↓reduceIte]
  rw [expand_undefined env pre key post hpre hpost hk hv]

/-- … and envPrepend / envAppend in setup mode (the value free of the delimiter character). -/
theorem prepend_undefined_refused (c : Nat) (append : Bool) (var pre key post : Str) (env : Env)
    (hpre : 36 ∉ pre) (hpost : 36 ∉ post) (hk : GoodKey key) (hv : env.get key = none)
    (hc : c ∉ pre ++ (36 :: 123 :: key ++ [125]) ++ post) :
    envPrepend append true var (pre ++ (36 :: 123 :: key ++ [125]) ++ post) [c] env = .runtimeError :=
  envPrepend_refuses append var _ [c] env (startsWith_not_mem c _ hc) (endsWith_not_mem c _ hc)
    (expand_undefined env pre key post hpre hpost hk hv)

/-- `$?{VAR}` anywhere in the value, VAR undefined: the action does nothing (either direction). -/
theorem optional_guard_anywhere (c : Nat) (append fwd : Bool) (var pre key post : Str) (env : Env)
    (hpre : 36 ∉ pre) (hpost : 36 ∉ post) (hk : GoodKey key) (hv : env.get key = none)
    (hc : c ∉ pre ++ (36 :: 63 :: 123 :: key ++ [125]) ++ post) :
    envPrepend append fwd var (pre ++ (36 :: 63 :: 123 :: key ++ [125]) ++ post) [c] env = .ok env :=
  optional_guard append fwd var _ [c] env (startsWith_not_mem c _ hc) (endsWith_not_mem c _ hc)
    (by simpa using expand_optional_anywhere env pre key post hpre hk hv)

/-- envPrepend / envAppend / their unsetup with a value written with a reference (`${PROD_DIR}/bin`): the list
operation on the *expanded* value — so setup and unsetup act on the same element (D7 repaired). -/
theorem path_expands_reference (c : Nat) (hc : c ≠ 36) (append fwd : Bool) (var pre key post v : Str)
    (oldl : List Str) (env : Env)
    (hpre : 36 ∉ pre) (hpost : 36 ∉ post) (hk : GoodKey key) (hv : env.get key = some v)
    (hcv : c ∉ pre ++ (36 :: 123 :: key ++ [125]) ++ post)
    (hold : ∀ e ∈ oldl, GoodPiece c e) (hgood : GoodPiece c (pre ++ v ++ post))
    (henv : (env.get var).getD [] = join [c] oldl) :
    envPrepend append fwd var (pre ++ (36 :: 123 :: key ++ [125]) ++ post) [c] env
      = .ok (env.set var (join [c] (applyL append fwd [pre ++ v ++ post] oldl))) :=
  envPrepend_lifts_expand c append fwd var _ _ oldl env (fun e he => (hold e he).old) hgood hcv
    (expand_defined env pre key post v hpre hpost hk hv) henv

example : GoodKey (Str.ofString "PROD_DIR") := by unfold GoodKey; decide_lit
example : envSet true (Str.ofString "X") (Str.ofString "a/${FOO}/b") [(Str.ofString "FOO", Str.ofString "/foo")]
    = .ok [(Str.ofString "FOO", Str.ofString "/foo"), (Str.ofString "X", Str.ofString "a//foo/b")] := by
  decide_lit


/-! ## the actions as `Action.execute` runs them for a product's table -/
section Actions
open EupsModel.PathAct

/-- Product macros (`Table.expandEupsVariables`) leave text without `$` alone … -/
theorem macros_leave_plain_text (p : ProdInfo) (s : Str) (h : 36 ∉ s) : expandMacros p s = s :=
  expandMacros_no_dollar p s h

/-- … `${PRODUCT_DIR}` stands for the product's directory … -/
theorem product_dir_macro (p : ProdInfo) (d tail : Str) (hd : p.dir = some d) (hne : d ≠ [])
    (hd36 : 36 ∉ d) (ht : 36 ∉ tail) : expandMacros p (mDIR ++ tail) = d ++ tail :=
  expandMacros_product_dir p d tail hd hne hd36 ht

/-- … and `envPrepend(VAR, ${PRODUCT_DIR}/bin)` (any such tail, either command, either direction) in the table of a
product with directory `d` is the list operation with the element `d/bin`. -/
theorem path_product_dir (c : Nat) (hc : c ≠ 36) (p : ProdInfo) (app fwd : Bool) (var d tail : Str)
    (oldl : List Str) (s : St) (hd : p.dir = some d) (hne : d ≠ []) (hvar : 36 ∉ var)
    (hold : ∀ e ∈ oldl, GoodPiece c e) (hv : GoodPiece c (d ++ tail))
    (henv : (s.env.get var).getD [] = join [c] oldl) :
    exec fwd ((Act.path app var (mDIR ++ tail) [c]).expandMacros p) s
      = .ok { forgetEnv s var with env := s.env.set var (join [c] (applyL app fwd [d ++ tail] oldl)) } :=
  exec_path_product_dir c hc p fwd app var d tail oldl s hd hne hvar hold hv henv

/-- `$?{PRODUCT_DIR}` in the table of a product without a directory (`none`) stays as written, and the action it
guards does nothing. -/
theorem optional_product_dir_guard (p : ProdInfo) (fwd app : Bool) (var tail delim : Str) (s : St)
    (hd : p.dir = some sNone ∨ truthy p.dir = none) (ht : 36 ∉ tail)
    (hpre : startsWith (mDIRopt ++ tail) delim = false) (hend : endsWith (mDIRopt ++ tail) delim = false)
    (hundef : s.env.get (Str.ofString "PRODUCT_DIR") = none) :
    expandMacros p (mDIRopt ++ tail) = mDIRopt ++ tail ∧
    exec fwd (.path app var (mDIRopt ++ tail) delim) s = .ok s :=
  ⟨expandMacros_optional_dir_none p tail hd ht,
   exec_path_skip fwd app var _ delim s
     (by rw [core_plain _ _ hpre hend]; exact expand_mDIRopt_undefined s.env tail hundef)⟩

/-- Frame: an action changes no environment variable but its own (any command, any direction, any state). -/
theorem other_variables_untouched (fwd : Bool) (a : Act) (s s' : St) (k : Str)
    (h : exec fwd a s = .ok s') (hk : k ≠ a.target) : s'.env.get k = s.env.get k :=
  exec_other_var fwd a s s' k h hk

/-- addAlias defines exactly the alias (the words joined by blanks), leaves the others and the environment … -/
theorem alias_setup_exact (key : Str) (ws : List Str) (s : St) :
    ∃ s', exec true (.alias key ws) s = .ok s' ∧ s'.aliases.get key = some (joinWords ws) ∧
      (∀ k, k ≠ key → s'.aliases.get k = s.aliases.get k) ∧ s'.env = s.env :=
  ⟨_, exec_alias_eq true key ws s, by simp [Env.get_set_same],
    fun k hk => by simp [Env.get_set_other _ _ _ _ hk], by simp⟩

/-- … and in unsetup mode removes exactly it (and records that the shell must forget it). -/
theorem alias_unsetup_removes (key : Str) (ws : List Str) (s : St) :
    ∃ s', exec false (.alias key ws) s = .ok s' ∧ s'.aliases.get key = none ∧
      (∀ k, k ≠ key → s'.aliases.get k = s.aliases.get k) ∧ s'.oldAliases.get key = some none :=
  ⟨_, exec_alias_eq false key ws s, by simp [Env.get_unset_same],
    fun k hk => by simp [Env.get_unset_other _ _ _ hk], by simp [OMap.get_setNone_same]⟩

/-- the commands on variables never touch the aliases -/
theorem aliases_untouched (fwd : Bool) (a : Act) (s s' : St) (h : exec fwd a s = .ok s')
    (ha : ∀ k ws, a ≠ .alias k ws) : s'.aliases = s.aliases ∧ s'.oldAliases = s.oldAliases :=
  exec_aliases_untouched fwd a s s' h ha

/-- `--force`: without it the record of the old environment is never touched … -/
theorem noforce_keeps_old_environment (fwd : Bool) (a : Act) (s s' : St) (hf : s.force = false)
    (h : exec fwd a s = .ok s') : s'.oldEnv = s.oldEnv := by
  obtain ⟨key, ws, rfl⟩ | ⟨env', _, rfl | rfl⟩ := exec_var_cases fwd a s s' h
  · exact (exec_alias_env fwd key ws s s' h).2
  · rfl
  · rw [forgetEnv_noforce s _ hf]

/-- … with it, envSet forgets the variable's old value (so that it is always exported) … -/
theorem force_set_forgets (fwd : Bool) (var value : Str) (s s' : St) (hf : s.force = true)
    (hin : s.oldEnv.has var = true) (h : exec fwd (.set var value) s = .ok s') :
    s'.oldEnv.get var = some none := by
  obtain ⟨env', _, rfl⟩ := exec_set_cases h
  exact forgetEnv_force_get s var hf hin

/-- … and so does envPrepend / envAppend unless the action is skipped by its `$?{VAR}` guard. -/
theorem force_path_forgets (fwd app : Bool) (var value delim : Str) (s s' : St) (hf : s.force = true)
    (hin : s.oldEnv.has var = true) (hns : exec.expandSkips app fwd var value delim s.env = false)
    (h : exec fwd (.path app var value delim) s = .ok s') : s'.oldEnv.get var = some none := by
  obtain ⟨env', _, rfl⟩ := exec_path_cases h
  rw [hns]
  exact forgetEnv_force_get s var hf hin

/-- envUnset removes the variable; its unsetup does nothing. -/
theorem envunset_removes (var : Str) (s : St) :
    (∃ s', exec true (.unset var) s = .ok s' ∧ s'.env.get var = none ∧ s'.oldEnv = s.oldEnv) ∧
    exec false (.unset var) s = .ok s :=
  ⟨⟨_, rfl, Env.get_unset_same _ _, rfl⟩, rfl⟩

/-- A table can unset only its product's own `<NAME>_DIR`: an envUnset line for any other variable never reaches
execution. -/
theorem table_unsets_only_own_dir (name var : Str) (h1 : var ≠ Str.ofString "PRODUCT_DIR")
    (h2 : var ≠ upper name ++ Str.ofString "_DIR") : readFilter name (.unset var) = none :=
  readFilter_other name var h1 h2

end Actions


/-! ## the elements already in the list are stored as they are (repair of D123) -/

/-- String level with the weakest hypothesis on the prior value: its elements only have to be non-empty and free of the
delimiter — they may hold `$` or `${VAR}` text, which is kept as it is (the pinned code re-interpolated the whole list
when it stored it). -/
theorem string_level_any_old_elements (c : Nat) (append fwd : Bool) (var v : Str) (oldl : List Str) (env : Env)
    (hold : ∀ e ∈ oldl, OldPiece c e) (hv : GoodPiece c v)
    (henv : (env.get var).getD [] = join [c] oldl) :
    envPrepend append fwd var v [c] env = .ok (env.set var (join [c] (applyL append fwd [v] oldl))) :=
  envPrepend_lifts_old c append fwd var v oldl env hold hv henv

/-- The pinned code rewrote an element that was already there (and so could produce a duplicate) … -/
theorem old_element_rewritten_witness_pinned :
    envPrependPinned false true (Str.ofString "V") (Str.ofString "q") [58]
        [(Str.ofString "V", Str.ofString "${F}/x:/f/x"), (Str.ofString "F", Str.ofString "/f")]
      = .ok [(Str.ofString "V", Str.ofString "q:/f/x:/f/x"), (Str.ofString "F", Str.ofString "/f")] := by
  decide_lit

/-- … the repaired code keeps it. -/
theorem old_element_kept_example :
    envPrepend false true (Str.ofString "V") (Str.ofString "q") [58]
        [(Str.ofString "V", Str.ofString "${F}/x:/f/x"), (Str.ofString "F", Str.ofString "/f")]
      = .ok [(Str.ofString "V", Str.ofString "q:${F}/x:/f/x"), (Str.ofString "F", Str.ofString "/f")] := by
  decide_lit

/-- A value with a nested reference (`${F}` whose value is `${B}/n`): the pinned code added it expanded but, in
unsetup mode, looked for it unexpanded, so it stayed … -/
theorem nested_reference_not_removed_witness_pinned :
    envPrependPinned false false (Str.ofString "V") (Str.ofString "${F}/bin") [58]
        [(Str.ofString "V", Str.ofString "/b/n/bin:a"), (Str.ofString "F", Str.ofString "${B}/n"),
         (Str.ofString "B", Str.ofString "/b")]
      = .ok [(Str.ofString "V", Str.ofString "/b/n/bin:a"), (Str.ofString "F", Str.ofString "${B}/n"),
         (Str.ofString "B", Str.ofString "/b")] := by decide_lit

/-- … the repaired code removes what it added. -/
theorem nested_reference_removed_example :
    envPrepend false false (Str.ofString "V") (Str.ofString "${F}/bin") [58]
        [(Str.ofString "V", Str.ofString "/b/n/bin:a"), (Str.ofString "F", Str.ofString "${B}/n"),
         (Str.ofString "B", Str.ofString "/b")]
      = .ok [(Str.ofString "V", Str.ofString "a"), (Str.ofString "F", Str.ofString "${B}/n"),
         (Str.ofString "B", Str.ofString "/b")] := by decide_lit


/-! ## several references in one value -/

/-- Two references in one value: each is replaced by the value of its own variable (the pinned code replaced both by
the first one's: D22) — at the level of envSet. -/
theorem envset_two_references (var pre keyA mid keyB post a b : Str) (env : Env)
    (hpre : 36 ∉ pre) (hmid : 36 ∉ mid) (hpost : 36 ∉ post) (ha : 36 ∉ a) (hb : 36 ∉ b)
    (hkA : GoodKey keyA) (hkB : GoodKey keyB)
    (hA : env.get keyA = some a) (hB : env.get keyB = some b) (hne : pre ++ a ++ mid ++ b ++ post ≠ []) :
    envSet true var (pre ++ (36 :: 123 :: keyA ++ 125 :: (mid ++ (36 :: 123 :: keyB ++ 125 :: post)))) env
      = .ok (env.set var (pre ++ a ++ mid ++ b ++ post)) :=
  envSet_of_expand var _ _ env (expand_two_defined env pre keyA mid keyB post a b hpre hmid hpost hkA hkB hA hB) hne
    (by simp [hpre, hmid, hpost, ha, hb])

/-- A value written with a reference whose variable's value holds a reference itself (`${F}/bin` with `F = v1${B}v2`):
setup and unsetup both act on the fully expanded element `pre v1 b v2 post` (repair of D123: the pinned code added it
expanded and looked for it unexpanded). -/
theorem path_nested_reference (c : Nat) (append fwd : Bool) (var pre keyF post v1 keyB v2 b : Str)
    (oldl : List Str) (env : Env)
    (hpre : 36 ∉ pre) (hpost : 36 ∉ post) (hv1 : 36 ∉ v1) (hv2 : 36 ∉ v2)
    (hkF : GoodKey keyF) (hkB : 125 ∉ keyB)
    (hF : env.get keyF = some (v1 ++ (36 :: 123 :: keyB ++ [125]) ++ v2)) (hB : env.get keyB = some b)
    (hcv : c ∉ pre ++ (36 :: 123 :: keyF ++ [125]) ++ post)
    (hold : ∀ e ∈ oldl, OldPiece c e) (hgood : GoodPiece c ((pre ++ v1) ++ b ++ (v2 ++ post)))
    (henv : (env.get var).getD [] = join [c] oldl) :
    envPrepend append fwd var (pre ++ (36 :: 123 :: keyF ++ [125]) ++ post) [c] env
      = .ok (env.set var (join [c] (applyL append fwd [(pre ++ v1) ++ b ++ (v2 ++ post)] oldl))) := by
  have hexp := expand_defined env pre keyF post _ hpre hpost hkF hF
  have hw : pre ++ (v1 ++ (36 :: 123 :: keyB ++ [125]) ++ v2) ++ post
      = (pre ++ v1) ++ (36 :: 123 :: keyB ++ [125]) ++ (v2 ++ post) := by simp [List.append_assoc]
  have hint := interp_one_ref env (pre ++ v1) keyB (v2 ++ post) (by simp [hpre, hv1]) (by simp [hv2, hpost]) hkB
  rw [hB, ← hw] at hint
  exact envPrepend_lifts_nested c append fwd var _ _ _ oldl env hold hgood hcv hexp hint henv

/-! ## `${EUPS_PATH[n]}` (repair of D122) -/
section EupsPath
open EupsModel.PathAct

/-- A subscripted reference to `$EUPS_PATH` anywhere in an argument is replaced by that element of the path (or by
`${EUPS_PATH}` when the index is past the end) and the text around it stays. -/
theorem eups_path_subscript (p : ProdInfo) (ep pre ds post : Str) (hpre : 36 ∉ pre) (hpost : 36 ∉ post)
    (h : AllDigits ds) (hname : 91 ∉ p.name) :
    expandArg p (some ep) (pre ++ pEUPSPATH ++ ds ++ 93 :: 125 :: post)
      = pre ++ (split [58] ep).getD (Str.toNat ds) mEUPSPATH ++ post := by
  unfold expandArg
  simp only [expandMacros_eups_ref p pre ds post hpre hpost h hname, hasEupsPathRef_ref pre ds post hpre h, if_true]
  -- the fuel `expandArg` passes is enough
  exact subEupsPath_one_ref _ pre ds post hpre hpost h _ (by simp only [List.length_append]; omega)

/-- The pinned rule made the element the whole argument. -/
theorem eups_path_subscript_witness_pinned :
    subEupsPathPinned [Str.ofString "/st", Str.ofString "/o"] (Str.ofString "${EUPS_PATH[0]}/share")
      = some (Str.ofString "/st") := by decide_lit

/-- With `EUPS_PATH` unset an argument holding such a reference stays exactly as written. -/
theorem eups_path_unset (p : ProdInfo) (arg : Str) (h : hasEupsPathRef (expandMacros p arg) = true) :
    expandArg p none arg = arg :=
  expandArg_unset_ref p arg h

/-- Arguments without `$` are not touched by any step of `Table.expandEupsVariables`. -/
theorem expand_arg_plain (p : ProdInfo) (ep : Option Str) (s : Str) (h : 36 ∉ s) : expandArg p ep s = s :=
  expandArg_no_dollar p ep s h

end EupsPath


/-! ## a whole table on one variable, at string level -/

/-- The table's envPrepend/envAppend lines on one variable, run through the string-manipulating action one after the
other, compute the list-level normal form `setupAll` on the variable's value and touch no other variable. -/
theorem table_run_string_level (c : Nat) (var : Str) (acts : List (Bool × Str)) (oldl : List Str) (env : Env)
    (hgood : ∀ a ∈ acts, GoodPiece c a.2) (hold : ∀ e ∈ oldl, OldPiece c e)
    (henv : (env.get var).getD [] = join [c] oldl) (hne : acts ≠ []) :
    ∃ env', pathRun c var true acts env = .ok env'
      ∧ env'.get var = some (join [c] (setupAll acts oldl))
      ∧ ∀ k, k ≠ var → env'.get k = env.get k :=
  ⟨_, pathRun_eq c var true acts oldl env hgood hold henv hne, Env.get_set_same _ _ _,
    fun _ hk => Env.get_set_other _ _ _ _ hk⟩

/-- String-level inverse (the path-variable half of C02): setup of the table's lines, then the same lines in unsetup
mode, leaves the variable with its prior elements (duplicate-free reading) and every other variable as it was … -/
theorem table_roundtrip_string_level (c : Nat) (var : Str) (acts : List (Bool × Str)) (oldl : List Str) (env : Env)
    (hgood : ∀ a ∈ acts, GoodPiece c a.2) (hold : ∀ e ∈ oldl, OldPiece c e)
    (henv : (env.get var).getD [] = join [c] oldl) (hne : acts ≠ [])
    (hfresh : ∀ a ∈ acts, a.2 ∉ oldl) :
    ∃ env1 env2, pathRun c var true acts env = .ok env1 ∧ pathRun c var false acts env1 = .ok env2
      ∧ env2.get var = some (join [c] (uniq oldl))
      ∧ ∀ k, k ≠ var → env2.get k = env.get k := by
  obtain ⟨h1, h2⟩ := pathRun_after_setup c var false acts oldl env hgood hold henv hne
  refine ⟨_, _, h1, h2, ?_, fun _ hk => Env.get_set_other _ _ _ _ hk⟩
  rw [Env.get_set_same]
  exact congrArg (fun l => some (join [c] l)) (unsetupAll_setupAll acts oldl hne hfresh)

/-- … and when the prior value had no duplicate the whole environment is back, string for string. -/
theorem table_roundtrip_restores_environment (c : Nat) (var : Str) (acts : List (Bool × Str)) (oldl : List Str)
    (env : Env) (hgood : ∀ a ∈ acts, GoodPiece c a.2) (hold : ∀ e ∈ oldl, OldPiece c e)
    (henv : env.get var = some (join [c] oldl)) (hne : acts ≠ [])
    (hfresh : ∀ a ∈ acts, a.2 ∉ oldl) (hnd : oldl.Nodup) :
    ∃ env1 env2, pathRun c var true acts env = .ok env1 ∧ pathRun c var false acts env1 = .ok env2
      ∧ ∀ k, env2.get k = env.get k := by
  obtain ⟨env1, env2, h1, h2, hval, hframe⟩ :=
    table_roundtrip_string_level c var acts oldl env hgood hold (by rw [henv]; rfl) hne hfresh
  refine ⟨env1, env2, h1, h2, fun k => ?_⟩
  by_cases hk : k = var
  · subst hk; rw [hval, henv, uniq_of_nodup _ hnd]
  · exact hframe k hk

/-- A second setup of the table changes no variable (string level). -/
theorem table_run_idempotent (c : Nat) (var : Str) (acts : List (Bool × Str)) (oldl : List Str) (env : Env)
    (hgood : ∀ a ∈ acts, GoodPiece c a.2) (hold : ∀ e ∈ oldl, OldPiece c e)
    (henv : (env.get var).getD [] = join [c] oldl) :
    ∃ env1 env2, pathRun c var true acts env = .ok env1 ∧ pathRun c var true acts env1 = .ok env2
      ∧ ∀ k, env2.get k = env1.get k := by
  by_cases hne : acts = []
  · subst hne; exact ⟨env, env, rfl, rfl, fun _ => rfl⟩
  · obtain ⟨h1, h2⟩ := pathRun_after_setup c var true acts oldl env hgood hold henv hne
    -- the second run stores what the first did: the two environments are equal
    exact ⟨_, _, h1, h2, fun k => congrArg (fun l => (env.set var (join [c] l)).get k) (setupAll_idem acts oldl)⟩

/-! ## the product's own `${<NAME>_DIR}` -/

/-- The product's own `${<NAME>_DIR}` stands for its directory whatever characters the name holds (`c++`, `a.b`:
the reference is matched literally; repair of D124).  Hypothesis: the reference does not itself spell a `${PRODUCT…`
macro (a product called `product` writes `${PRODUCT_DIR}`, which the earlier step owns — with the same result). -/
theorem name_dir_macro (p : PathAct.ProdInfo) (d tail : Str) (hd : p.dir = some d) (hne : d ≠ [])
    (hd36 : 36 ∉ d) (ht : 36 ∉ tail) (hn36 : 36 ∉ p.name)
    (hP : PathAct.sPRODUCT.isPrefixOf (PathAct.upper p.name ++ Str.ofString "_DIR}" ++ tail) = false) :
    PathAct.expandMacros p (PathAct.mNameDir p.name ++ tail) = d ++ tail :=
  PathAct.expandMacros_name_dir p d tail hd hne hd36 ht hn36 hP

/-- … and a reference to another product's variable is not this product's: concrete instance for `c++` vs `${C_DIR}`
(the pinned pattern `\${C++_DIR}` matched it). -/
theorem other_product_dir_untouched_example :
    PathAct.expandMacros PathAct.cxx (Str.ofString "${C_DIR}/lib") = Str.ofString "${C_DIR}/lib" ∧
    PathAct.expandMacros PathAct.cxx (Str.ofString "${C++_DIR}/bin") = Str.ofString "/opt/c/bin" := by
  unfold PathAct.cxx; decide_lit


/-- Frame for a whole run (a table's actions in order, any directions): a variable that no action targets keeps its
value … -/
theorem run_frame (acts : List (Bool × PathAct.Act)) (s s' : PathAct.St) (k : Str)
    (h : PathAct.run acts s = .ok s') (hk : ∀ a ∈ acts, k ≠ a.2.target) : s'.env.get k = s.env.get k :=
  PathAct.run_other_var acts s s' k h hk

/-- … and without addAlias lines the aliases are untouched. -/
theorem run_aliases_frame (acts : List (Bool × PathAct.Act)) (s s' : PathAct.St)
    (h : PathAct.run acts s = .ok s') (hal : ∀ a ∈ acts, ∀ key ws, a.2 ≠ .alias key ws) :
    s'.aliases = s.aliases :=
  PathAct.run_aliases_untouched acts s s' h hal


/-! ## what `Product.getTable` hands out for a table file -/
section File
open EupsModel.PathAct

/-- Lines other than envUnset all come out of the file, in order, with the older synonyms rewritten and the macros
expanded in every argument. -/
theorem table_file_lines_come_through (p : ProdInfo) (ep : Option Str) (acts : List (Bool × Act))
    (h : ∀ a ∈ acts, ∀ v, a.2 ≠ .unset v) :
    fromFile p ep acts = acts.map (fun a => (a.1, (a.2.mapArgs legacySyn).expandAll p ep)) := by
  induction acts with
  | nil => rfl
  | cons a rest ih =>
    obtain ⟨fwd, act⟩ := a
    have hrest := ih (fun a ha => h a (by simp [ha]))
    have hact := h (fwd, act) (by simp)
    rw [fromFile_cons, List.map_cons, hrest]
    cases act with
    | unset v => exact absurd rfl (hact v)
    | path app var value delim => rfl
    | set var value => rfl
    | alias key ws => rfl

/-- An envUnset line for a variable other than the product's own directory variable never comes out … -/
theorem table_file_drops_foreign_unset (p : ProdInfo) (ep : Option Str) (fwd : Bool) (var : Str)
    (rest : List (Bool × Act)) (h36 : 36 ∉ var)
    (h1 : var ≠ Str.ofString "PRODUCT_DIR") (h2 : var ≠ upper p.name ++ Str.ofString "_DIR") :
    fromFile p ep ((fwd, .unset var) :: rest) = fromFile p ep rest := by
  rw [fromFile_cons]
  have : (Act.unset var).mapArgs legacySyn = .unset var := by
    simp only [Act.mapArgs, legacySyn_no_dollar var h36]
  rw [this, readFilter_other p.name var h1 h2]

/-- … and `envUnset(PRODUCT_DIR)` comes out as the unsetting of `<NAME>_DIR`. -/
theorem table_file_unset_product_dir (p : ProdInfo) (ep : Option Str) (fwd : Bool) (rest : List (Bool × Act))
    (hn36 : 36 ∉ p.name) :
    fromFile p ep ((fwd, .unset (Str.ofString "PRODUCT_DIR")) :: rest)
      = (fwd, .unset (upper p.name ++ Str.ofString "_DIR")) :: fromFile p ep rest := by
  have h36 : 36 ∉ Str.ofString "PRODUCT_DIR" := by decide_lit
  have hv : 36 ∉ upper p.name ++ Str.ofString "_DIR" := by
    have := upper_not_mem 36 (by decide) p.name hn36
    have h2 : 36 ∉ Str.ofString "_DIR" := by decide_lit
    simp [this, h2]
  rw [fromFile_cons]
  have : (Act.unset (Str.ofString "PRODUCT_DIR")).mapArgs legacySyn = .unset (Str.ofString "PRODUCT_DIR") := by
    simp only [Act.mapArgs, legacySyn_no_dollar _ h36]
  rw [this, readFilter_product_dir]
  simp only [Act.expandAll, Act.mapArgs, expandArg_no_dollar p ep _ hv]

/-- The older synonym `${UPS_PROD_DIR}` is `${PRODUCT_DIR}` (`Table._rewrite`), wherever it stands in an argument. -/
theorem legacy_ups_prod_dir (pre post : Str) (hpre : 36 ∉ pre) (hpost : 36 ∉ post) :
    legacySyn (pre ++ lUPSPRODDIR ++ post) = pre ++ mDIR ++ post :=
  legacySyn_ups_prod_dir pre post hpre hpost

end File

/-! ## delimiters of several characters, values of several elements -/

/-- `d.join(l).split(d) = l` for a delimiter of any length when no piece holds the delimiter's first character … -/
theorem split_join_any_delimiter (c : Nat) (ds : Str) (l : List Str) (hne : l ≠ []) (h : ∀ e ∈ l, c ∉ e) :
    split (c :: ds) (join (c :: ds) l) = l :=
  split_join_multi c ds l hne h

/-- … which cannot be dropped: `"a:" :: "b"` joined with `::` splits as `"a", ":b"`. -/
theorem split_join_witness : split [58, 58] (join [58, 58] [[97, 58], [98]]) = [[97], [58, 98]] := by decide

/-- String level for a literal delimiter of any length (`::`, …): on well-formed values (non-empty pieces sharing no
character with the delimiter, no `$`) the action computes exactly the list operation. -/
theorem string_level_is_list_level_any_delimiter (d : Str) (hd : d ≠ []) (hd36 : 36 ∉ d) (append fwd : Bool)
    (var v : Str) (oldl : List Str) (env : Env)
    (hold : ∀ e ∈ oldl, GoodPieceD d e) (hv : GoodPieceD d v)
    (henv : (env.get var).getD [] = join d oldl) :
    envPrepend append fwd var v d env = .ok (env.set var (join d (applyL append fwd [v] oldl))) :=
  envPrepend_lifts_vals d hd append fwd var [v] oldl env (by simp) (fun e he => (hold e he).old)
    (by simpa using hv.old) hv.2.2 henv

/-- … and for a value holding several elements (`a:b:c` written in the table): the list operation on all of them. -/
theorem string_level_is_list_level_multi_value (d : Str) (hd : d ≠ []) (hd36 : 36 ∉ d) (append fwd : Bool)
    (var : Str) (vals oldl : List Str) (env : Env) (hvne : vals ≠ [])
    (hold : ∀ e ∈ oldl, GoodPieceD d e) (hv : ∀ e ∈ vals, GoodPieceD d e)
    (henv : (env.get var).getD [] = join d oldl) :
    envPrepend append fwd var (join d vals) d env = .ok (env.set var (join d (applyL append fwd vals oldl))) :=
  envPrepend_lifts_vals d hd append fwd var vals oldl env hvne (fun e he => (hold e he).old)
    (fun e he => (hv e he).old) (no_dollar_join_goodD d hd36 vals hv) henv

example : GoodPieceD [58, 58] (Str.ofString "/opt/bin") := by unfold GoodPieceD; decide_lit


/-- MANPATH style for a literal delimiter of any length and a value of several elements: the new value is the list
result with the requested leading / trailing delimiters re-attached, never doubled; the elements the list already
holds may carry any `$` text. -/
theorem manpath_flags_any_delimiter (d : Str) (hd : d ≠ []) (hd36 : 36 ∉ d) (append pre app : Bool) (var : Str)
    (vals oldl : List Str) (env : Env) (hvne : vals ≠ [])
    (hold : ∀ e ∈ oldl, OldPieceD d e) (hv : ∀ e ∈ vals, GoodPieceD d e)
    (henv : (env.get var).getD [] = join d oldl) :
    envPrepend append true var (flaggedD d pre app (join d vals)) d env
      = .ok (env.set var (flaggedD d pre app (join d (applyL append true vals oldl)))) :=
  envPrepend_lifts_flags_old d hd hd36 append pre app var vals oldl env hvne hold hv henv

/-- … so the new value starts (ends) with the delimiter iff a leading (trailing) one was written. -/
theorem manpath_flags_iff_any_delimiter (d : Str) (hd : d ≠ []) (append pre app : Bool) (vals oldl : List Str)
    (hvne : vals ≠ []) (hold : ∀ e ∈ oldl, OldPieceD d e) (hv : ∀ e ∈ vals, GoodPieceD d e) :
    startsWith (flaggedD d pre app (join d (applyL append true vals oldl))) d = pre ∧
    endsWith (flaggedD d pre app (join d (applyL append true vals oldl))) d = app :=
  have hL := applyL_forall (OldPieceD d) append true vals oldl hold (fun e he => (hv e he).old)
  have hne := applyL_fwd_ne_vals append vals oldl hvne
  ⟨startsWith_flaggedD_old d hd pre app _ hne hL, endsWith_flaggedD_old d hd pre app _ hne hL⟩


/-! ## non-vacuity: concrete instances of the hypotheses used above -/
section NonVacuity
open EupsModel.PathAct

private def sPATH : Str := Str.ofString "PATH"
private def envX : Env := [(sPATH, Str.ofString "/usr/bin:${X}/b:/usr/bin"), (Str.ofString "F", Str.ofString "/f"),
  (Str.ofString "N", Str.ofString "${F}/n")]

-- prior elements that hold `$` text are `OldPiece`s, not `GoodPiece`s; the value is a `GoodPiece`
example : (∀ e ∈ [Str.ofString "/usr/bin", Str.ofString "${X}/b"], OldPiece 58 e) ∧ GoodPiece 58 (Str.ofString "/opt/bin")
    ∧ ¬ GoodPiece 58 (Str.ofString "${X}/b") := by
  unfold OldPiece GoodPiece; decide_lit
-- string_level_any_old_elements / table_roundtrip_string_level on such a variable
example : envPrepend false true sPATH (Str.ofString "/opt/bin") [58] envX
    = .ok (envX.set sPATH (Str.ofString "/opt/bin:/usr/bin:${X}/b")) := by unfold envX sPATH; decide_lit
example : pathRun 58 sPATH false [(false, Str.ofString "/opt/bin")] (envX.set sPATH (Str.ofString "/opt/bin:/usr/bin:${X}/b"))
    = .ok (envX.set sPATH (Str.ofString "/usr/bin:${X}/b")) := by unfold envX sPATH; decide_lit
-- path_expands_reference / path_nested_reference: `${F}/bin` and `${N}/bin`
example : GoodKey (Str.ofString "F") ∧ GoodKey (Str.ofString "N") := by unfold GoodKey; decide_lit
example : envPrepend true true sPATH (Str.ofString "${F}/bin") [58] envX
    = .ok (envX.set sPATH (Str.ofString "/usr/bin:${X}/b:/f/bin")) := by unfold envX sPATH; decide_lit
example : envPrepend true true sPATH (Str.ofString "${N}/bin") [58] envX
    = .ok (envX.set sPATH (Str.ofString "/usr/bin:${X}/b:/f/n/bin")) := by unfold envX sPATH; decide_lit
example : envPrepend true false sPATH (Str.ofString "${N}/bin") [58] (envX.set sPATH (Str.ofString "/usr/bin:/f/n/bin"))
    = .ok (envX.set sPATH (Str.ofString "/usr/bin")) := by unfold envX sPATH; decide_lit
-- envset_two_references
example : envSet true (Str.ofString "V") (Str.ofString "${F}/a/${N}") envX
    = .ok (envX.set (Str.ofString "V") (Str.ofString "/f/a//f/n")) := by unfold envX sPATH; decide_lit
-- eups_path_subscript: digits, a name without `[`
example : AllDigits (Str.ofString "10") ∧ 91 ∉ exProd.name := by unfold AllDigits exProd; decide_lit
example : expandArg exProd (some (Str.ofString "/st:/o")) (Str.ofString "x/${EUPS_PATH[1]}/share") = Str.ofString "x//o/share" := by
  unfold exProd; decide_lit
-- product_dir_macro / path_product_dir
example : exProd.dir = some (Str.ofString "/st/p/1") ∧ GoodPiece 58 (Str.ofString "/st/p/1" ++ Str.ofString "/bin") := by
  unfold GoodPiece exProd; decide_lit
-- manpath_flags_any_delimiter with `::`
example : OldPieceD [58, 58] (Str.ofString "/a/${X}") ∧ GoodPieceD [58, 58] (Str.ofString "/m1") := by
  unfold OldPieceD GoodPieceD; decide_lit
example : flaggedD [58, 58] true false (Str.ofString "/m1") = Str.ofString "::/m1" := by decide_lit

end NonVacuity


end EupsModel.C12
