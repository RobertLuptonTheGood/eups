import EupsModel.Lemmas.FsEff
import EupsModel.Lemmas.FsTab
import EupsModel.Lemmas.FsCache
/-! C08 — an interrupted update never corrupts or loses existing declarations.  Property theorems only
(models: `Model/FsEff.lean`, `FsTab.lean`, `FsCache.lean`; lemmas: `Lemmas/Fs*.lean`).

`effects cfg fs c` is the list of file-system effects of command `c` started in database state `fs`;
`crashAt cfg fs c k` is the state a kill immediately before effect number `k` leaves behind; `read s r` is what a
reader makes of record `r` in state `s` (absent / garbled = empty or truncated / its declared flavors / its
flavor ↦ version assignments); `targets fs c` are the records the command may touch.  `cfg.atomic = true` is the
tree with the D10 repair (records are written to a temporary file and renamed into place), `false` the pinned
in-place writers.  `WF fs` (`Lemmas/FsEff.lean`), the state a command is started in: no file under a writer's temporary
name (`.tmp r`), no file name twice, every record file complete, of its kind and with at least one flavor block. -/
namespace EupsModel.C08
open EupsModel.FsEff

/-- **Frame** (core theorem).  Whatever the writers (repaired or pinned), whatever the state, the command and the
crash point: every record the command does not target reads exactly as before. -/
theorem C08_frame (cfg : Cfg) (fs : Fs) (c : Cmd) (k : Nat) (r : RPath) (h : r ∉ targets fs c) :
    FsEff.read (crashAt cfg fs c k) r = FsEff.read fs r := by
  unfold FsEff.read crashAt
  congr 1
  apply get_applyAll
  intro e he hg
  have he' : e ∈ effects cfg fs c := List.mem_of_mem_take he
  obtain ⟨s, hs, r', hr', hgr⟩ := touched_expandAll cfg.atomic fs (steps fs c) e he' _ hg
  rcases hgr with h1 | h1
  · cases h1
    exact h (steps_within fs c s hs r hr')
  · cases h1

/-- **Commit points.**  With the repaired writers, from a well-formed state, a kill at any point leaves every
record as it is after some whole number of the command's record-level steps (`steps`: whole-record writes and
removals as `Database`/`Eups` decide them) — the intermediate states of a writer are invisible. -/
theorem C08_commit_points (fs : Fs) (hwf : WF fs) (c : Cmd) (k : Nat) :
    ∃ j, j ≤ (steps fs c).length ∧
      ∀ r, FsEff.read (crashAt { atomic := true } fs c k) r = FsEff.read (applySteps fs ((steps fs c).take j)) r := by
  obtain ⟨j, hj, h⟩ := commit_points fs (steps fs c) hwf.noTmp k
  exact ⟨j, hj, fun r => by unfold FsEff.read crashAt effects; rw [h r]⟩

/-- **Old or new** (the clause "each record touched is seen either in its old or in its new form", partial).
Hypothesis `retag fs c = false`: the command does not assign a tag that is already assigned for that product and
flavor (the excluded class is the open finding D11, witness below).  With the repaired writers, from a well-formed
state, for every command, crash point and record: the record reads as before the command or as after the
completed command. -/
theorem C08_record_atomic_partial (fs : Fs) (hwf : WF fs) (c : Cmd) (hnr : retag fs c = false) (k : Nat) (r : RPath) :
    FsEff.read (crashAt { atomic := true } fs c k) r = FsEff.read fs r ∨
    FsEff.read (crashAt { atomic := true } fs c k) r = FsEff.read (final { atomic := true } fs c) r :=
  crash_old_or_new fs hwf.noTmp c k r (steps_atomic fs hwf c r fun p v f tag force t hc ht _ =>
    retag_false_fresh fs p v f tag force t (hc ▸ hnr) ht)

/-- **Never truncated or empty** (full, tag moves included): with the repaired writers, from a well-formed
state, no crash point of any command lets a reader see an empty or half-written record. -/
theorem C08_never_garbled (fs : Fs) (hwf : WF fs) (c : Cmd) (k : Nat) (r : RPath) :
    FsEff.read (crashAt { atomic := true } fs c k) r ≠ .garbled :=
  mainGood_not_garbled _ (mainGood_crash fs hwf c k) r

/-- **The reader succeeds** (full): with the repaired writers, from a well-formed state, after a kill at any
point of any command (tag moves included) every record file in the database directory is complete and of its kind
— a leftover temporary file is not a record — so the listing of a fresh reader is defined for every flavor. -/
theorem C08_reader_total (fs : Fs) (hwf : WF fs) (c : Cmd) (k : Nat) (f : Id) :
    recordsComplete (crashAt { atomic := true } fs c k) = true ∧
    (listing (crashAt { atomic := true } fs c k) f).isSome = true := by
  have h := recordsComplete_of_mainGood _ (mainGood_crash fs hwf c k)
  exact ⟨h, by unfold listing; rw [h]; rfl⟩

/-- The pinned writers do not have this property either: in the truncation witness the reader meets a record it
cannot read in full. -/
theorem C08_reader_total_pinned_witness :
    let fs : Fs := { dirs := [0], files := [(.main (.vfile 0 0), .complete (.ver [⟨0, false⟩, ⟨1, false⟩]))] }
    listing (crashAt { atomic := false } fs (.declare 0 0 0 none true) 1) 0 = none := by decide +kernel

/-- Non-vacuity of the hypotheses: the two-flavor state of the truncation witness is well-formed and the forced
redeclaration is not a re-tag (it has 19 effects); the state of the tag-move witness is well-formed too, and there
`retag` is true. -/
example :
    let fs : Fs := { dirs := [0], files := [(.main (.vfile 0 0), .complete (.ver [⟨0, false⟩, ⟨1, false⟩]))] }
    WF fs ∧ retag fs (.declare 0 0 0 none true) = false ∧ (effects {} fs (.declare 0 0 0 none true)).length = 19 := by
  refine ⟨⟨?_, ?_, ?_⟩, by decide +kernel, by decide +kernel⟩
  · intro x hx r; simp at hx; subst hx; simp
  · decide +kernel
  · intro x hx; simp at hx; subst hx; simp [RecOK]
example :
    retag { dirs := [0], files := [(.main (.vfile 0 0), .complete (.ver [⟨0, false⟩])),
                                   (.main (.vfile 0 1), .complete (.ver [⟨0, false⟩])),
                                   (.main (.cfile 0 0), .complete (.chain [⟨0, 0, false⟩]))] }
      (.declare 0 1 0 (some 0) false) = true := by decide +kernel

/-- The clause "each record touched is seen in its old or in its new form, never truncated or empty" is false of
the pinned writers (D10, repaired): `pa/1.version` holds flavors 0 and 1; flavor 0 is redeclared; killed right
after the truncate, the record is seen empty — flavor 1, which the command did not touch, is lost with it —
although both the old and the new record declare flavors 0 and 1. -/
theorem C08_truncation_witness :
    let fs : Fs := { dirs := [0], files := [(.main (.vfile 0 0), .complete (.ver [⟨0, false⟩, ⟨1, false⟩]))] }
    let c : Cmd := .declare 0 0 0 none true
    (RPath.vfile 0 0) ∈ targets fs c ∧
    FsEff.read (crashAt { atomic := false } fs c 1) (.vfile 0 0) = .garbled ∧
    FsEff.read fs (.vfile 0 0) = .flavors [0, 1] ∧
    FsEff.read (final { atomic := false } fs c) (.vfile 0 0) = .flavors [0, 1] := by decide +kernel

/-- With the repaired writers the same command at the same crash point leaves the record as it was. -/
theorem C08_truncation_repaired :
    let fs : Fs := { dirs := [0], files := [(.main (.vfile 0 0), .complete (.ver [⟨0, false⟩, ⟨1, false⟩]))] }
    let c : Cmd := .declare 0 0 0 none true
    ∀ k, k ≤ (effects {} fs c).length → FsEff.read (crashAt {} fs c k) (.vfile 0 0) = .flavors [0, 1] := by decide +kernel

/-- The same clause is false of a tag move even with the repaired writers (D11, open): `current` is assigned to
`pa 1` and is moved to `pa 2`; the chain record is removed and then written again; killed in between, the tag is
assigned to nothing — neither the old nor the new record. -/
theorem C08_tagmove_gap_witness :
    let fs : Fs := { dirs := [0], files := [(.main (.vfile 0 0), .complete (.ver [⟨0, false⟩])),
                                             (.main (.vfile 0 1), .complete (.ver [⟨0, false⟩])),
                                             (.main (.cfile 0 0), .complete (.chain [⟨0, 0, false⟩]))] }
    let c : Cmd := .declare 0 1 0 (some 0) false
    (RPath.cfile 0 0) ∈ targets fs c ∧
    FsEff.read (crashAt {} fs c 1) (.cfile 0 0) = .absent ∧
    FsEff.read fs (.cfile 0 0) = .assigns [(0, 0)] ∧
    FsEff.read (final {} fs c) (.cfile 0 0) = .assigns [(0, 1)] := by decide +kernel

/-! Non-vacuity of `C08_frame`: in the state of the tag-move witness the command has 9 effects and the version
record `pa/1.version` is not among its targets. -/
example :
    let fs : Fs := { dirs := [0], files := [(.main (.vfile 0 0), .complete (.ver [⟨0, false⟩])),
                                             (.main (.vfile 0 1), .complete (.ver [⟨0, false⟩])),
                                             (.main (.cfile 0 0), .complete (.chain [⟨0, 0, false⟩]))] }
    (effects {} fs (.declare 0 1 0 (some 0) false)).length = 9 ∧
    RPath.vfile 0 0 ∉ targets fs (.declare 0 1 0 (some 0) false) := by decide +kernel

/-! ## Old or new without the hypothesis: exactly what a kill can show

`C08_record_atomic_partial` excludes commands that re-assign a tag (`retag`).  The two theorems below need no such
hypothesis and together say exactly what every record can look like after a kill; the third form of
`C08_tag_chain_forms` is the class predicate of the open finding D11. -/

/-- **Old or new for every record but the re-assigned tag's chain record** (full; repaired writers, well-formed
state, every command — tag moves included —, every crash point). -/
theorem C08_record_atomic_other (fs : Fs) (hwf : WF fs) (c : Cmd) (k : Nat) (r : RPath)
    (hr : ∀ p v f tag force t, c = .declare p v f tag force → declareTag fs p f tag = some t → r ≠ .cfile p t) :
    FsEff.read (crashAt { atomic := true } fs c k) r = FsEff.read fs r ∨
    FsEff.read (crashAt { atomic := true } fs c k) r = FsEff.read (final { atomic := true } fs c) r :=
  crash_old_or_new fs hwf.noTmp c k r (steps_atomic fs hwf c r fun p v f tag force t hc ht e =>
    absurd e (hr p v f tag force t hc ht))

/-- **The chain record of the tag a `declare` assigns** (full; repaired writers, well-formed state, no hypothesis on
the command): at every crash point a reader finds in it, for every flavor `g`, either what was there before, or the
new assignment `f ↦ v` beside the old assignments of the other flavors, or no assignment for `f` beside the old
assignments of the other flavors.  `cview s p t g` = the version the chain record of `(p, t)` assigns to flavor `g` in
state `s`. -/
theorem C08_tag_chain_forms (fs : Fs) (hwf : WF fs) (p v f : Id) (tag : Option Id) (force : Bool) (t : Id)
    (htag : declareTag fs p f tag = some t) (k : Nat) :
    (∀ g, cview (crashAt { atomic := true } fs (.declare p v f tag force) k) p t g = cview fs p t g) ∨
    (∀ g, cview (crashAt { atomic := true } fs (.declare p v f tag force) k) p t g
        = if g = f then some v else cview fs p t g) ∨
    (∀ g, cview (crashAt { atomic := true } fs (.declare p v f tag force) k) p t g
        = if g = f then none else cview fs p t g) :=
  ChainAt.forms ((declare_chainAt fs hwf p v f tag force t htag).expand
    (fun _ _ _ ⟨l, hl, h⟩ => ⟨l, hl, Eq.trans (extra_get_other nofun) h⟩) hwf.noTmp k)

/-- The third form occurs and is neither the old nor the new record: the state and command of
`C08_tagmove_gap_witness`, killed after the first effect. -/
example :
    let fs : Fs := { dirs := [0], files := [(.main (.vfile 0 0), .complete (.ver [⟨0, false⟩])),
                                             (.main (.vfile 0 1), .complete (.ver [⟨0, false⟩])),
                                             (.main (.cfile 0 0), .complete (.chain [⟨0, 0, false⟩]))] }
    let c : Cmd := .declare 0 1 0 (some 0) false
    cview fs 0 0 0 = some 0 ∧ cview (crashAt {} fs c 1) 0 0 0 = none ∧ cview (final {} fs c) 0 0 0 = some 1 := by decide +kernel

/-! ## Database-held table files (`Model/FsTab.lean`)

`Db` = the record store beside the store of interned table files; `Cmd2` = the commands above (`plain c`) and
`declareTab p v f tag n` = a forced declaration that hands the table file over as a stream with content `n`, which
`Eups.declare` copies into the database *after* the records (`utils.copyfile`; repaired, D47: copy beside the
destination and rename; pinned: unlink, then copy in place).  `crashAt2` is the state a kill before effect `k` leaves. -/

/-- The record component of every crash state of an extended command is the crash state of its record part; in
particular frame, commit points, old-or-new, never-garbled and reader-total carry over. -/
theorem C08_tables_records (cfg : Cfg) (db : Db) (c : Cmd2) (k : Nat) :
    (crashAt2 cfg db c k).fs = crashAt cfg db.fs c.onRecords k :=
  crashAt2_fs cfg db c k

/-- **Frame for table files** (both writers): at every crash point of every command, every table file other than
the one the command replaces — for a command without a table stream: every table file — reads exactly as before. -/
theorem C08_table_frame (cfg : Cfg) (db : Db) (c : Cmd2) (k : Nat) (key : TKey)
    (h : ∀ n, c.tab ≠ some (key, n)) :
    readTab (crashAt2 cfg db c k) key = readTab db key := by
  unfold readTab
  rw [crashAt2_tabs]
  unfold tabEffects
  cases hc : c.tab with
  | none => simp [applyTAll]
  | some kn =>
    obtain ⟨k', n⟩ := kn
    have hne : key ≠ k' := by
      intro e; subst e; exact h n hc
    simp only []
    rw [copy_frame cfg.atomic k' n db.tabs _ (.main key) (by rintro (e | e) <;> cases e; exact hne rfl)]

/-- **The replaced table file is seen old or new** (repaired `copyfile`): at every crash point of a declaration with a
table stream, the interned table file reads as before the command or holds the new content, never absent, empty or
truncated unless it was so before. -/
theorem C08_table_atomic (db : Db) (c : Cmd2) (key : TKey) (n : Nat) (h : c.tab = some (key, n)) (k : Nat) :
    readTab (crashAt2 { atomic := true } db c k) key = readTab db key ∨
    readTab (crashAt2 { atomic := true } db c k) key = .content n := by
  unfold readTab
  rw [crashAt2_tabs]
  simp only [tabEffects, h]
  rcases copy_atomic key n db.tabs (k - (effects { atomic := true } db.fs c.onRecords).length) with e | e
  · left; rw [e]
  · right; rw [e]

/-- … and after the completed command it holds the new content. -/
theorem C08_table_final (db : Db) (c : Cmd2) (key : TKey) (n : Nat) (h : c.tab = some (key, n)) :
    readTab (crashAt2 { atomic := true } db c (effects2 { atomic := true } db c).length) key = .content n := by
  unfold readTab
  rw [crashAt2_tabs]
  simp only [tabEffects, h, effects2, List.length_append, List.length_map]
  have : (effects { atomic := true } db.fs c.onRecords).length + (copyEffects true key n).length
      - (effects { atomic := true } db.fs c.onRecords).length = (copyEffects true key n).length := by omega
  rw [this, List.take_length, copy_atomic_final]

/-- The pinned `utils.copyfile` (D47, repaired) does not have this property: product `0 0` of flavor `0` is declared
with an interned table file of content `1` and is redeclared with content `2`; killed after the `unlink` the table
file of the existing declaration is gone — neither the old nor the new content — and one effect later it is empty. -/
theorem C08_table_gap_witness :
    let db : Db := { fs := { dirs := [0], files := [(.main (.vfile 0 0), .complete (.ver [⟨0, false⟩]))] },
                     tabs := [(.main ⟨0, 0, 0⟩, .full 1)] }
    let c : Cmd2 := .declareTab 0 0 0 none 2
    let n1 := (effects { atomic := false } db.fs c.onRecords).length
    readTab db ⟨0, 0, 0⟩ = .content 1 ∧
    readTab (crashAt2 { atomic := false } db c (n1 + 1)) ⟨0, 0, 0⟩ = .absent ∧
    readTab (crashAt2 { atomic := false } db c (n1 + 2)) ⟨0, 0, 0⟩ = .garbled ∧
    readTab (crashAt2 { atomic := false } db c (n1 + 4)) ⟨0, 0, 0⟩ = .content 2 := by decide +kernel

/-- With the repaired `copyfile` the same command leaves the old content until the rename (concrete instance,
every crash point). -/
theorem C08_table_gap_repaired :
    let db : Db := { fs := { dirs := [0], files := [(.main (.vfile 0 0), .complete (.ver [⟨0, false⟩]))] },
                     tabs := [(.main ⟨0, 0, 0⟩, .full 1)] }
    let c : Cmd2 := .declareTab 0 0 0 none 2
    ∀ k, k ≤ (effects2 {} db c).length →
      readTab (crashAt2 {} db c k) ⟨0, 0, 0⟩ = .content 1 ∨ readTab (crashAt2 {} db c k) ⟨0, 0, 0⟩ = .content 2 := by decide +kernel

/-! ## The product cache (`Model/FsCache.lean`)

After every database operation of a command `Eups` saves the product cache, one `utils.AtomicFile` per flavor.
`effects3` = the record effects of the command's database operations with the cache saves in between (and the interned
table file last); `crashAt3` = the state (records, table files, cache files) a kill before effect `k` leaves.  `flavors` =
the cache files the command's `Eups` object holds (`ProductStack.getFlavors()`), part of the state it starts in. -/

/-- The records at every crash point of the extended effect list are the records at a crash point of the plain model:
frame, commit points, old-or-new, never-garbled, reader-total and the chain-record forms hold verbatim with the cache
saves in between. -/
theorem C08_cache_records (cfg : Cfg3) (flavors : List Id) (db : Db3) (c : Cmd2) (k : Nat) :
    ∃ k', (crashAt3 cfg flavors db c k).fs = crashAt { atomic := cfg.atomic } db.fs c.onRecords k' := by
  obtain ⟨k', hk⟩ := filterMap_take Eff3.rec? (effects3 cfg flavors db c) k
  refine ⟨k', ?_⟩
  unfold crashAt3 crashAt
  rw [applyAll3_fs, ← rec_effects3 cfg flavors db c]
  exact congrArg (applyAll db.fs) hk

/-- **The cache files are complete at every crash point** (full; the order in the tree: close, then rename): if no
cache file in place is empty when the command starts, none is at any crash point of any command — for every list of
flavors whose cache files are saved, the last one included. -/
theorem C08_cache_complete (atomic : Bool) (flavors : List Id) (db : Db3) (c : Cmd2) (k : Nat)
    (h : ∀ f, cget db.cache (.main f) ≠ some .empty) :
    ∀ f, cget (crashAt3 { atomic := atomic, renameFirst := false } flavors db c k).cache (.main f) ≠ some .empty := by
  obtain ⟨k', hk⟩ := filterMap_take Eff3.cache? (effects3 { atomic := atomic, renameFirst := false } flavors db c) k
  unfold crashAt3
  rw [applyAll3_cache, hk]
  exact safe_cache_effects3 atomic flavors db c db.cache h k'

/-- Buffered writes matter: with *rename, then close* (not the order in the tree) a kill between the two leaves an
empty cache file in place — here the file of the LAST flavor saved (`2` = generic), with every other file newer and
complete; the model with the order of the tree has the old complete file at the same crash point. -/
theorem C08_cache_rename_before_close_witness :
    let db : Db3 := { fs := { dirs := [0], files := [(.main (.vfile 0 0), .complete (.ver [⟨0, false⟩]))] },
                      tabs := [], cache := [(.main 0, .full 0), (.main 2, .full 0)] }
    let c : Cmd2 := .plain (.undeclare 0 0 0)
    let bad : Cfg3 := { renameFirst := true }
    cget (crashAt3 bad [0, 2] db c 11).cache (.main 2) = some .empty ∧
    cget (crashAt3 {} [0, 2] db c 11).cache (.main 2) = some (.full 0) ∧
    cget (crashAt3 {} [0, 2] db c 12).cache (.main 2) = some (.full 1) := by decide +kernel

end EupsModel.C08
