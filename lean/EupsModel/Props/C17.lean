import EupsModel.Lemmas.Expand
import EupsModel.Lemmas.ExpandDeps
import EupsModel.Lemmas.ExpandSetup
import EupsModel.Lemmas.ExpandTable
import EupsModel.Lemmas.ExpandSubSetup
import EupsModel.Lemmas.ExpandUnsetup
/-! C17 — an expanded table file reproduces the build-time versions exactly.

`A : Answers` is what the environment told the expander (`Model/Expand.lean`); the correspondence check feeds the model with
the answers the real `Eups` gave in the same process.

`expandItems A o lines = .ok items`: the expansion of the table `lines` under options `o` succeeded and made the
sequence `items` of `output(...)` calls (`Expand.Item`; `renderItem` gives the text of each).  `noExactLine A o lines`: the
table has no pre-existing `if (type == exact) {` line (the expander's handling of those, `i += 3`, is modelled and compared
with the code; the theorems that take this hypothesis say nothing of such tables). -/
namespace EupsModel.C17
open EupsModel.Expand

/-! ## never pins a foreign version -/

/-- `C17_never_foreign`, unconditional part: whatever the environment answers, a `-j` pin written into the exact block is
`Sourced`.  Every graph, every table text, every option. -/
theorem C17_never_foreign_sourced (A : Answers) (o : Opts) (lines : List Str) (items : List Item)
    (h : expandItems A o lines = .ok items) (ind : Int) (opt : Bool) (n v : Str)
    (hx : Item.pin ind opt n v ∈ items) : Sourced A o n v :=
  pin_sourced h hx

/-- `C17_never_foreign` (every graph, conflicts included): under `DepsSound`, every `-j v` line of the exact
block names an `(n, v)` that was set up when the table was written (`getSetupVersion n = v`) or that the user
pinned with `-p n=v`. -/
theorem C17_never_foreign (A : Answers) (o : Opts) (lines : List Str) (items : List Item)
    (hs : DepsSound A) (h : expandItems A o lines = .ok items) (ind : Int) (opt : Bool) (n v : Str)
    (hx : Item.pin ind opt n v ∈ items) : Recorded A n v :=
  recorded_of_sourced hs (pin_sourced h hx)

/-- Without recursion (the call `eups distrib` makes, `recurse=False`) no hypothesis is needed: only the
table's own products are pinned, each at its record or pin. -/
theorem C17_never_foreign_toplevel (A : Answers) (o : Opts) (lines : List Str) (items : List Item)
    (hr : o.recurse = false) (h : expandItems A o lines = .ok items) (ind : Int) (opt : Bool) (n v : Str)
    (hx : Item.pin ind opt n v ∈ items) : Recorded A n v := by
  rcases pin_sourced h hx with h1 | ⟨hrc, _⟩
  · exact h1
  · simp [hr] at hrc

theorem pin_text (ind : Int) (opt : Bool) (n v : Str) :
    renderItem (.pin ind opt n v) = indentStr ind ++ strip (cmdName opt ++ [cLpar] ++ pad15 n ++ sJ ++ v ++ [cRpar]) := rfl

theorem orig_text (ind : Int) (k : LKind) (t : Str) : renderItem (.orig ind k t) = indentStr ind ++ strip t := rfl

/-- The pins are written exactly where the exact branch is: in the last setup block, and in no other. -/
theorem C17_setup_block_shape (o : Opts) (c : CState) (ind : Int) (lines : List BLine) (ha : o.addExactBlock = true) :
    emitSetup o true c ind lines
      = [.gen ind sIfExact] ++ pinItems (ind + 1) c ++ [.gen ind sElse] ++ emitSetupLines (ind + 1) lines ++ [.gen ind sClose]
    ∧ emitSetup o false c ind lines = [.gen ind sIfNotExact] ++ emitSetupLines (ind + 1) lines ++ [.gen ind sClose] :=
  ⟨emitSetup_add ha, emitSetup_add ha⟩

/-- The pins of the whole output are, in order and each once, the collected closure `desiredProducts`. -/
theorem C17_pins_once (A : Answers) (o : Opts) (lines : List Str) (items : List Item)
    (h : expandItems A o lines = .ok items) (hn : noExactLine A o lines = true) (ha : o.addExactBlock = true) :
    ∃ st c, readAll A o lines = .ok st ∧ collect A o st = .ok c ∧ items.filterMap pinKey = c.pinKeys :=
  expand_pins h hn ha

/-- **The exact branch, read off the text alone** (`exactBranchText`).  For the text the expander writes, its lines are
exactly the pin lines of the collected closure (and there is no such branch when the table has no setup line). -/
theorem C17_exact_branch_text (A : Answers) (o : Opts) (lines : List Str) (items : List Item)
    (h : expandItems A o lines = .ok items) (hn : noExactLine A o lines = true) (ha : o.addExactBlock = true) :
    ∃ st c ind, readAll A o lines = .ok st ∧ collect A o st = .ok c ∧
      exactBranchText (items.map renderItem) = if st.lastSetup.isSome then (pinItems ind c).map renderItem else [] :=
  expand_exact_branch_text h hn ha

/-- `C17_never_foreign` at the level of the written text: every line of the exact block of the expanded table is a line
`setupRequired(n -j v)` / `setupOptional(n -j v)` (`pin_text`) whose `(n, v)` was set up when the table was written, or
pinned with `-p` — under `DepsSound`, for every graph. -/
theorem C17_never_foreign_text (A : Answers) (o : Opts) (lines : List Str) (items : List Item)
    (hs : DepsSound A) (h : expandItems A o lines = .ok items) (hn : noExactLine A o lines = true)
    (ha : o.addExactBlock = true) :
    ∀ l ∈ exactBranchText (items.map renderItem),
      ∃ ind opt n v, l = renderItem (.pin ind opt n v) ∧ Recorded A n v := by
  obtain ⟨st, c, ind, _, hc, heq⟩ := expand_exact_branch_text h hn ha
  intro l hl
  rw [heq] at hl
  split at hl
  · simp only [List.mem_map] at hl
    obtain ⟨x, hx, rfl⟩ := hl
    obtain ⟨n, v, hm, rfl⟩ := mem_pinItems hx
    exact ⟨ind, _, n, v, rfl, recorded_of_sourced hs (collect_desired hc (n, v) hm)⟩
  · simp at hl

/-- **`DepsSound` discharged from the C13 model of the dependency listing** (`Model/Deps.lean`): take the answers of
`getDependencies(n, v, setup=True, shouldRaise=True)` to be what the C13 model computes (`depsOfModel`) and `getSetupVersion`
to read the same `SETUP_<P>` records `setup` as the listing; then `DepsSound` holds, for every database, every records list
and every fuel. -/
theorem C17_DepsSound_from_Deps (db : Deps.Db) (fuel : Nat) (setup : List (Str × Str)) (raises : Str → Str → Bool)
    (A : Answers) (hsv : ∀ n, A.sv n = setup.lookup n)
    (hdeps : ∀ n v, A.deps n v = depsOfModel db fuel setup raises n v) : DepsSound A :=
  depsSound_of_depsModel db fuel setup raises A hsv hdeps

/-- `C17_never_foreign` with `DepsSound` discharged: when the dependency listings are those of the C13 model, every
`-j v` line of the exact block names a set-up `(n, v)` or a `-p` pin — no hypothesis on the listings left. -/
theorem C17_never_foreign_over_Deps (db : Deps.Db) (fuel : Nat) (setup : List (Str × Str)) (raises : Str → Str → Bool)
    (A : Answers) (hsv : ∀ n, A.sv n = setup.lookup n)
    (hdeps : ∀ n v, A.deps n v = depsOfModel db fuel setup raises n v)
    (o : Opts) (lines : List Str) (items : List Item) (h : expandItems A o lines = .ok items)
    (ind : Int) (opt : Bool) (n v : Str) (hx : Item.pin ind opt n v ∈ items) : Recorded A n v :=
  C17_never_foreign A o lines items (depsSound_of_depsModel db fuel setup raises A hsv hdeps) h ind opt n v hx

/-- **A declared version is reported under its own name, whatever tags exist** (`Eups.findSetupVersion`, the source of
the answers `sv` / `spv`): when the version recorded in `SETUP_<P>` is declared, the version reported is the recorded one —
also when its name is the name of a recognised tag (`current`, `beta`, a user tag) that is assigned to another version. -/
theorem C17_setupVersion_recorded (recognised : List Str) (declared : Str → Bool) (tagged : Str → Option Str) (recorded : Str)
    (h : declared recorded = true) : setupVersion recognised declared tagged recorded = recorded := by
  unfold setupVersion
  split
  · rfl
  · simp [h]

/-- The reading that takes every recognised tag name for the tag (second conjunct) is wrong on exactly the class of
`C17_setupVersion_recorded`: version `current` declared and set up, tag `current` assigned to version `1`. -/
theorem C17_setupVersion_tag_named_witness :
    setupVersion [Str.ofString "current"] (fun _ => true) (fun _ => some (Str.ofString "1")) (Str.ofString "current")
      = Str.ofString "current" ∧
    setupVersion [Str.ofString "current"] (fun _ => false) (fun _ => some (Str.ofString "1")) (Str.ofString "current")
      = Str.ofString "1" := by decide

/-! ## keeps the original constraints for inexact mode -/

/-- `C17_keeps_constraints`, line level (`subSetup`).  `p` is what the expander read on a setup line; when the line is
rewritten at all (`some r`), the rewritten command has the same product, the same flags in the same order and the same
optionality; the original expression is kept verbatim; the original explicit version is kept (unless the user pinned the
product with `-p`); only a line without an explicit version receives the set-up version, and only a line without any
constraint receives `>= version`. -/
theorem C17_keeps_constraints_line (A : Answers) (o : Opts) (optional : Bool) (p : Parsed) (r : Rewrite)
    (h : decideRewrite A o optional p = some r) :
    r.optional = optional ∧ r.name = p.name ∧ r.flags = p.flags ∧
    (o.expandVersions = true → truthy p.logical = true → r.logical = p.logical) ∧
    (A.pin p.name = none → truthy p.version = true → r.version = p.version) ∧
    (A.pin p.name = none → truthy p.version = false → r.version = A.spv p.name) ∧
    (∀ v, A.pin p.name = some v → truthy (some v) = true → r.version = some v) ∧
    (o.expandVersions = true → truthy p.logical = false → A.pin p.name = none → truthy p.version = false →
      ∀ v, A.spv p.name = some v → startsWith v sLocal = false → r.logical = some (sGe ++ v)) := by
  rw [decideRewrite_eq] at h
  split at h
  · -- the line keeps its own version, or takes the `-p` pin: nothing is added
    rename_i hv
    cases h
    refine ⟨rfl, rfl, rfl, fun he hl => shown_eq he hl, fun hp _ => versionAsked_none hp,
      fun hp hf => by simp [versionAsked_none hp, hf] at hv, fun v hp _ => versionAsked_some hp,
      fun _ _ hp hf => by simp [versionAsked_none hp, hf] at hv⟩
  · -- no version of its own: the set-up version, and `>= version` when there is no expression either
    rename_i hv
    cases hs : A.spv p.name with
    | none => simp [hs] at h
    | some sv =>
      simp only [hs, Option.bind] at h
      split at h
      · cases h
        refine ⟨rfl, rfl, rfl, fun he hl => by simp [shown_eq he, hl], fun hp ht => by simp [versionAsked_none hp, ht] at hv,
          fun _ _ => rfl, fun v hp ht => by simp [versionAsked_some hp, ht] at hv, fun he hl _ _ v hsv hloc => ?_⟩
        cases hsv
        simp [shown_eq he, hl, hloc, truthy_ge]
      · cases h

/-- **`parseArgs` against an independent reader of a setup line** (`Lemmas/ExpandSubSetup.lean`).  A setup line as documented
is, between its parentheses, a sequence of tokens with any white space before, between and after them (`layout`: each token
with the gap that follows it): flags anywhere (`Tok`) and, as words in order, the product name and one of the five documented
ways of naming a version (`Form`).  The reader `Form.parsed` says what the line means; `parseArgs` computes exactly that from
the text. -/
theorem C17_parseArgs_reads (lead : Str) (layout : List (Str × Str)) (toks : List Tok) (name : Str) (fm : Form)
    (hlead : ∀ c ∈ lead, Str.isSpace c = true) (htok : ∀ p ∈ layout, tokStr p.1 = true) (hgaps : gapsOK layout = true)
    (hlay : layout.map (·.1) = toks.flatMap Tok.strs) (hok : ∀ t ∈ toks, t.ok = true)
    (hwords : toks.filterMap Tok.wordText = fm.words name) (hn : plainWord name = true) (hf : fm.ok = true)
    (heups : (toks.flatMap Tok.strs).head? ≠ some sEups) :
    parseArgs (lead ++ renderGaps layout) = .ok (.parsed (fm.parsed name (toks.filterMap Tok.flagText))) :=
  parseArgs_reads _ toks name fm (by rw [splitWs_render lead hlead layout htok hgaps, hlay]) hok hwords hn hf heups

theorem truthy_none : truthy none = false := rfl

/-- **keeps the original constraints, for every documented form of a setup line** (`C17_parseArgs_reads` composed with
`decideRewrite`): for a product that is set up at version `v` (not a `LOCAL:` version) and not pinned with `-p`, with versions
expanded, `subSetup` rewrites the line to the same command, product and flags, then what the `match` lists: an explicit version
and an expression stay as written, `v` and `>= v` come in only where the line had none. -/
theorem C17_keeps_constraints_written (A : Answers) (o : Opts) (optional : Bool) (original : Str)
    (lead : Str) (layout : List (Str × Str)) (toks : List Tok) (name : Str) (fm : Form)
    (hlead : ∀ c ∈ lead, Str.isSpace c = true) (htok : ∀ p ∈ layout, tokStr p.1 = true) (hgaps : gapsOK layout = true)
    (hlay : layout.map (·.1) = toks.flatMap Tok.strs) (hok : ∀ t ∈ toks, t.ok = true)
    (hwords : toks.filterMap Tok.wordText = fm.words name) (hn : plainWord name = true) (hf : fm.ok = true)
    (heups : (toks.flatMap Tok.strs).head? ≠ some sEups)
    (hpin : A.pin name = none) (hexp : o.expandVersions = true)
    (v : Str) (hspv : A.spv name = some v) (hv : v ≠ []) (hloc : startsWith v sLocal = false) :
    subSetup A o optional (lead ++ renderGaps layout) original = .ok (renderRewrite (
      let flags := toks.filterMap Tok.flagText
      match fm with
      | .bare => ⟨optional, name, flags, some v, some (sGe ++ v)⟩
      | .ver v0 => ⟨optional, name, flags, some v0, none⟩
      | .verExpr v0 es => ⟨optional, name, flags, some v0, some (join [cSp] es)⟩
      | .expr es => ⟨optional, name, flags, some v, some (join [cSp] es)⟩
      | .rel r ws => ⟨optional, name, flags, some v, some (join [cSp] (r :: ws))⟩)) := by
  have hparse := C17_parseArgs_reads lead layout toks name fm hlead htok hgaps hlay hok hwords hn hf heups
  have htv := truthy_some hv
  have hge := truthy_ge v
  rw [subSetup_parsed hparse]
  cases fm with
  | bare =>
    simp [Form.parsed, decideRewrite_eq, versionAsked_none, shown_eq, hpin, hspv, htv, hexp, hloc, hge, truthy_none]
  | ver v0 =>
    have ht0 := truthy_some (versionWord_legal hf).1
    simp [Form.parsed, decideRewrite_eq, versionAsked_none, shown_none, hpin, ht0]
  | verExpr v0 es =>
    simp only [Form.ok, Bool.and_eq_true, Bool.not_eq_true', List.isEmpty_eq_false_iff, List.all_eq_true] at hf
    have ht0 := truthy_some (versionWord_legal hf.1.1).1
    have hj := join_truthy hf.1.2 (fun e he => plainWord_nonempty (hf.2 e he))
    simp [Form.parsed, decideRewrite_eq, versionAsked_none, shown_eq, hpin, ht0, hexp, hj]
  | expr es =>
    simp only [Form.ok, Bool.and_eq_true, Bool.not_eq_true', List.isEmpty_eq_false_iff, List.all_eq_true] at hf
    have hj := join_truthy hf.1 (fun e he => plainWord_nonempty (hf.2 e he))
    simp [Form.parsed, decideRewrite_eq, versionAsked_none, shown_eq, hpin, hspv, htv, hexp, hj, truthy_none]
  | rel r ws =>
    simp only [Form.ok, Bool.and_eq_true, List.all_eq_true] at hf
    have hpl : ∀ e ∈ r :: ws, plainWord e = true := List.forall_mem_cons.mpr ⟨hf.1.1, hf.2⟩
    have hj := join_truthy (es := r :: ws) (by simp) fun e he => plainWord_nonempty (hpl e he)
    simp [Form.parsed, decideRewrite_eq, versionAsked_none, shown_eq, hpin, hspv, htv, hexp, hj, truthy_none]

/-- A setup command is either left exactly as it was (the `eups` pseudo-product, no product word, or nothing set up
for it) or rewritten as described by `C17_keeps_constraints_line`. -/
theorem C17_subSetup_cases (A : Answers) (o : Opts) (optional : Bool) (argStr original t : Str)
    (h : subSetup A o optional argStr original = .ok t) :
    t = original ∨ ∃ p r, parseArgs argStr = .ok (.parsed p) ∧ decideRewrite A o optional p = some r ∧ t = renderRewrite r := by
  cases hp : parseArgs argStr with
  | error e => simp [subSetup, hp, bind, Except.bind] at h
  | ok pr =>
    cases pr with
    | passthrough => rw [subSetup_passthrough hp] at h; cases h; exact .inl rfl
    | parsed p =>
      rw [subSetup_parsed hp] at h
      cases h
      cases hd : decideRewrite A o optional p with
      | none => exact .inl rfl
      | some r => exact .inr ⟨p, r, rfl, hd, rfl⟩

/-- `C17_keeps_constraints`, table level: every setup line of the table (as rewritten by `subSetup`) is in the output,
once and in the original order, as an input line inside an inexact branch (`C17_setup_block_shape`) — except the lines
labelled `--external` and the `eups` lines, which are moved to the final block (`C17_final_block`). -/
theorem C17_keeps_constraints (A : Answers) (o : Opts) (lines : List Str) (items : List Item)
    (h : expandItems A o lines = .ok items) (hn : noExactLine A o lines = true) :
    ∃ cs, lines.mapM (classify A o) = .ok cs ∧
      items.filterMap (origOf .setup)
        = ((cs.filterMap Classified.setupText).filter fun t => !contains sExternal (strip t)).map strip :=
  expand_setup_lines h hn

/-- The final block: the `eups` setup lines, then the `--external` setup lines of products other than the top-level
one, each as it was rewritten; nothing else. -/
theorem C17_final_block (A : Answers) (o : Opts) (lines : List Str) (items : List Item)
    (h : expandItems A o lines = .ok items) :
    ∃ cs, lines.mapM (classify A o) = .ok cs ∧
      items.filterMap finText = cs.filterMap Classified.finalLine ++
        ((cs.filterMap Classified.prod).filter fun p => !(o.toplevel == some p.name) && p.external).map (·.line) :=
  expand_final h

/-! ## passes the other lines through -/

/-- `C17_passthrough`: the input lines of kind `other` in the output are, in order and each once, exactly the lines
the reader classified as not being setup commands (comment-stripped; `orig_text`: re-indented and stripped when printed). -/
theorem C17_passthrough (A : Answers) (o : Opts) (lines : List Str) (items : List Item)
    (h : expandItems A o lines = .ok items) (hn : noExactLine A o lines = true) :
    ∃ cs, lines.mapM (classify A o) = .ok cs ∧
      items.filterMap (origOf .other) = cs.filterMap Classified.otherText :=
  expand_other_lines h hn

def isOtherInput (raw : Str) : Bool := !isBlankOrComment raw && (searchRex (stripComment raw)).isNone

/-- `C17_passthrough`, in terms of the input text alone: the lines of the table that contain no setup command (and
are not blank or comments) appear in the output in their original order, each with its trailing comment dropped,
whatever the environment answers. -/
theorem C17_passthrough_text (A : Answers) (o : Opts) (lines : List Str) (items : List Item)
    (h : expandItems A o lines = .ok items) (hn : noExactLine A o lines = true) :
    ((lines.filter isOtherInput).map stripComment).Sublist (items.filterMap (origOf .other)) := by
  obtain ⟨cs, hcs, heq⟩ := expand_other_lines h hn
  rw [heq]
  exact otherInput_sublist hcs

/-! ## exact mode reproduces the build-time versions -/

/-- `C17_exact_reproduces_partial`, instance form.  `ExactSetup lines db` is the effect on the records of setting a
product up in exact mode from the table `lines` in database `db` (`none` = the setup fails); `hA` and `hB` are the two
fields of `ExactSetupHyps` (below) on this expansion.  Then, for a build whose set-up versions are the closure of the
table (`Covered`, `DepsSound`; pins given with `-p` agree with what is set up) and any later database in which the
recorded versions are still declared, exact setup from the expanded table succeeds and records exactly the build-time
version of every product. -/
theorem C17_exact_reproduces_partial_inst {Db : Type} (declared : Db → Str → Str → Bool)
    (ExactSetup : List Str → Db → Option Recs)
    (A : Answers) (o : Opts) (lines : List Str) (items : List Item)
    (h : expandItems A o lines = .ok items) (hn : noExactLine A o lines = true) (ha : o.addExactBlock = true)
    (hsound : DepsSound A) (hpins : ∀ n v, A.pin n = some v → A.sv n = some v)
    (hcov : ∀ st, readAll A o lines = .ok st → Covered A o st)
    (db' : Db) (hdecl : ∀ n v, A.sv n = some v → declared db' n v = true)
    (hA : ExactSetup (items.map renderItem) db' = ExactSetup ((items.filter Item.isPin).map renderItem) db')
    (hB : ExactSetup ((items.filter Item.isPin).map renderItem) db' = runPins declared db' (items.filterMap pinKey) (fun _ => none)) :
    ∃ recs, ExactSetup (items.map renderItem) db' = some recs ∧ ∀ n, o.toplevel ≠ some n → recs n = A.sv n := by
  obtain ⟨st, c, hr, hc, hpk⟩ := expand_pins h hn ha
  rw [hA, hB, hpk]
  obtain ⟨r, hrun, hrep⟩ := runPins_reproduces declared db' hc hsound hpins (hcov st hr) hdecl (fun _ => none)
  exact ⟨r, hrun, fun n hne => by rw [hrep n hne]; cases A.sv n <;> rfl⟩

/-- **What the Setup (C01) and TableParse (C11) models have to discharge about exact-mode setup**, for every expansion
the expander can produce: `Inert t` says that the table parser does not read the line `t` as a setup command (the
expander's notion — `setupRequired(` / `setupOptional(` spelled exactly so — is narrower than the parser's, which ignores
case and allows blanks before the parenthesis; such lines are passed through outside every block). -/
structure ExactSetupHyps {Db : Type} (declared : Db → Str → Str → Bool) (Inert : Str → Prop)
    (ExactSetup : List Str → Db → Option Recs) : Prop where
  /-- exact-mode setup applies exactly the lines of the `type == exact` branch -/
  applies_exact_branch : ∀ (A : Answers) (o : Opts) (lines : List Str) (items : List Item),
    expandItems A o lines = .ok items → noExactLine A o lines = true → o.addExactBlock = true →
    (∀ cs, lines.mapM (classify A o) = .ok cs → ∀ t ∈ cs.filterMap Classified.otherText, Inert t) →
    ∀ db, ExactSetup (items.map renderItem) db = ExactSetup ((items.filter Item.isPin).map renderItem) db
  /-- a `setupRequired(n -j v)` line sets up exactly `(n, v)` when it is declared (`runPins`) -/
  pin_sets_exactly : ∀ (pins : List (Int × Bool × Str × Str)) (db : Db),
    ExactSetup (pins.map fun x => renderItem (.pin x.1 x.2.1 x.2.2.1 x.2.2.2)) db
      = runPins declared db (pins.map (·.2)) (fun _ => none)

/-- `C17_exact_reproduces_partial`: the clause at full strength over an abstract exact-mode setup function, under the
named hypotheses `ExactSetupHyps` (Setup + TableParse), `DepsSound` and `Covered` (Deps + Setup). -/
theorem C17_exact_reproduces_partial {Db : Type} (declared : Db → Str → Str → Bool) (Inert : Str → Prop)
    (ExactSetup : List Str → Db → Option Recs) (H : ExactSetupHyps declared Inert ExactSetup)
    (A : Answers) (o : Opts) (lines : List Str) (items : List Item)
    (h : expandItems A o lines = .ok items) (hn : noExactLine A o lines = true) (ha : o.addExactBlock = true)
    (hinert : ∀ cs, lines.mapM (classify A o) = .ok cs → ∀ t ∈ cs.filterMap Classified.otherText, Inert t)
    (hsound : DepsSound A) (hpins : ∀ n v, A.pin n = some v → A.sv n = some v)
    (hcov : ∀ st, readAll A o lines = .ok st → Covered A o st)
    (db' : Db) (hdecl : ∀ n v, A.sv n = some v → declared db' n v = true) :
    ∃ recs, ExactSetup (items.map renderItem) db' = some recs ∧ ∀ n, o.toplevel ≠ some n → recs n = A.sv n := by
  obtain ⟨pl, hf, hm⟩ := filter_isPin_eq items
  refine C17_exact_reproduces_partial_inst declared ExactSetup A o lines items h hn ha hsound hpins hcov db' hdecl
    (H.applies_exact_branch A o lines items h hn ha hinert db') ?_
  rw [hf, ← hm, List.map_map]
  exact H.pin_sets_exactly pl db'

/-- **`Covered` cannot be weakened** (it is exactly what exact reproduction needs of the build environment).  If running
the pins of the expanded table (`runPins`, from an environment without records) reproduces the build-time record of
every product other than the top-level one, then `Covered` holds.  No hypothesis on the environment's answers.  (The
class on which `Covered` fails on the real code is the open finding D72: `C17_d72_covered_fails_witness`.) -/
theorem C17_covered_necessary {Db : Type} (declared : Db → Str → Str → Bool)
    (A : Answers) (o : Opts) (lines : List Str) (items : List Item)
    (h : expandItems A o lines = .ok items) (hn : noExactLine A o lines = true) (ha : o.addExactBlock = true)
    (db' : Db) (recs : Recs) (hrun : runPins declared db' (items.filterMap pinKey) (fun _ => none) = some recs)
    (hrep : ∀ n, o.toplevel ≠ some n → recs n = A.sv n) :
    ∀ st, readAll A o lines = .ok st → Covered A o st := by
  intro st hr
  obtain ⟨st', c, hr', hc, hpk⟩ := expand_pins h hn ha
  cases hr.symm.trans hr'
  rw [hpk] at hrun
  refine (covered_iff_pinned hc).mpr fun n v hs hne => Decidable.byContradiction fun hin => ?_
  have := runPins_frame hrun hin
  rw [hrep n hne, hs] at this
  cases this

/-- **Exact reproduction ⟺ `Covered`**, in an environment whose listings are sound and whose `-p` pins agree with the
records, for a later database in which the recorded versions are still declared. -/
theorem C17_exact_reproduces_iff_covered {Db : Type} (declared : Db → Str → Str → Bool)
    (A : Answers) (o : Opts) (lines : List Str) (items : List Item)
    (h : expandItems A o lines = .ok items) (hn : noExactLine A o lines = true) (ha : o.addExactBlock = true)
    (hsound : DepsSound A) (hpins : ∀ n v, A.pin n = some v → A.sv n = some v)
    (db' : Db) (hdecl : ∀ n v, A.sv n = some v → declared db' n v = true) :
    (∃ recs, runPins declared db' (items.filterMap pinKey) (fun _ => none) = some recs ∧
      ∀ n, o.toplevel ≠ some n → recs n = A.sv n)
    ↔ (∀ st, readAll A o lines = .ok st → Covered A o st) := by
  constructor
  · rintro ⟨recs, hrun, hrep⟩
    exact C17_covered_necessary declared A o lines items h hn ha db' recs hrun hrep
  · intro hcov
    exact C17_exact_reproduces_partial_inst declared (fun _ db => runPins declared db (items.filterMap pinKey) (fun _ => none))
      A o lines items h hn ha hsound hpins hcov db' hdecl rfl rfl

/-! ## exact reproduction over the model of `Eups.setup` (C01) -/

/-- **The Setup half of `ExactSetupHyps.pin_sets_exactly`, discharged from `Model/Setup.lean`.**  The action loop of
`Eups.setup` (exact VRO, no `--keep`, no `--max-depth`), run at the top level on the actions `pinAct` of pin lines
`setupX(n -j v)` for distinct products none of which is set up yet, behaves as `runPins` says: it succeeds with exactly the
records `runPins` computes, or raises when `runPins` fails (a required pin that is no longer declared). -/
theorem C17_pins_run_by_Setup (cfg : Setup.Cfg) (hk : cfg.keep = false) (hm : cfg.maxDepth = none) (fuel : Nat) (top : Setup.Decl)
    (pins : List (Bool × Str × Str)) (s : Setup.St)
    (hnodup : (pins.map (·.2.1)).Nodup)
    (hfresh : ∀ p ∈ pins, Setup.aget s.already p.2.1 = none ∧ s.env.rec? p.2.1 = none) :
    (∀ r, runPins declaredS cfg pins (recNames s.env) = some r →
      ∃ s', Setup.acts (Setup.setup cfg (fuel + 1)) cfg true 0 false exactVro top (pins.map pinAct) s = .ok s' ∧
        ∀ m, recNames s'.env m = r m) ∧
    (runPins declaredS cfg pins (recNames s.env) = none →
      ∃ s', Setup.acts (Setup.setup cfg (fuel + 1)) cfg true 0 false exactVro top (pins.map pinAct) s = .raised s') :=
  acts_pins cfg hm fuel top pins s hnodup hfresh

/-- `C17_exact_reproduces_over_Setup`: exact reproduction with the exact-mode setup of the C01 model, at the level of
actions.  For an expansion whose build environment is the closure of the table (`DepsSound`, `Covered`, `-p` pins agree with
the records), any later Setup database in which the recorded versions are still declared, and any state in which nothing
but the top-level product is set up: running `Eups.setup`'s action loop in exact mode on the actions of the pin lines
succeeds and leaves, for every product other than the top-level one, exactly its build-time record.  What connects this to
the *text* of the expanded table is TableParse's part (`C17_exact_reproduces_text`). -/
theorem C17_exact_reproduces_over_Setup (cfg : Setup.Cfg) (hk : cfg.keep = false) (hm : cfg.maxDepth = none) (fuel : Nat)
    (top : Setup.Decl) (s : Setup.St)
    (A : Answers) (o : Opts) (lines : List Str) (items : List Item)
    (h : expandItems A o lines = .ok items) (hn : noExactLine A o lines = true) (ha : o.addExactBlock = true)
    (hsound : DepsSound A) (hpins : ∀ n v, A.pin n = some v → A.sv n = some v)
    (hcov : ∀ st, readAll A o lines = .ok st → Covered A o st)
    (hdecl : ∀ n v, A.sv n = some v → declaredS cfg n v = true)
    (hclean : ∀ n, o.toplevel ≠ some n → Setup.aget s.already n = none ∧ s.env.rec? n = none)
    (htop : ∀ v, ∀ n, o.toplevel = some n → (n, v) ∉ (items.filterMap pinKey).map (·.2)) :
    ∃ s', Setup.acts (Setup.setup cfg (fuel + 1)) cfg true 0 false exactVro top ((items.filterMap pinKey).map pinAct) s = .ok s' ∧
      ∀ n, o.toplevel ≠ some n → recNames s'.env n = A.sv n := by
  obtain ⟨st, c, hr, hc, hpk⟩ := expand_pins h hn ha
  rw [hpk] at htop ⊢
  exact acts_pinKeys cfg hm fuel top s hc hsound hpins (hcov st hr) hdecl hclean fun p hp htl =>
    htop p.2.2 p.2.1 htl (List.mem_map_of_mem (f := fun y : Bool × Str × Str => y.2) hp)

/-! ## the expanded table read by the table parser (C11 model) and set up by `Eups.setup` (C01 model)

The scope conditions `ExpandTable.itemOK` (what is asked of an item) and `ExpandTable.inertItem` (`Inert` made concrete) are
decidable and evaluated by the driver on every real expansion; `Model/ExpandTable.lean` says what they ask. -/

/-- **`C17_exact_actions_text`: the TableParse step, discharged from the C11 model.**  For every successful expansion (no
pre-existing exact block, `addExactBlock`) whose items are `itemOK`: the real reader's model — `Table._rewrite`, the block
state machine and command parser of `Table._read`, the condition evaluator, `Table.actions(flavor, types)` — applied to the
*text* of the expanded table, with `exact` among the setup types, returns exactly `exactActs` of the items.  Every flavor
(other than the evaluator's four special tokens), every list of setup types that holds `exact`, every product. -/
theorem C17_exact_actions_text (pdir : Option Str) (env : Cond.Env) (hfl : C11Spec.flavorOK env.flavor = true)
    (hex : env.types.contains ExpandTable.sExactW = true)
    (A : Answers) (o : Opts) (lines : List Str) (items : List Item)
    (h : expandItems A o lines = .ok items) (hn : noExactLine A o lines = true) (ha : o.addExactBlock = true)
    (hok : ∀ it ∈ items, ExpandTable.itemOK pdir it = true) (nl : Bool) :
    TableParse.tableActions TableParse.repaired pdir env (ExpandTable.expandedText items nl)
      = .ok (items.flatMap (ExpandTable.exactActs pdir)) :=
  ExpandTable.expand_exact_actions pdir env hfl hex h hn ha hok nl

/-- **`C17_inexact_actions_text`: keeps the original constraints for inexact mode, through the table reader.**  For every
successful expansion (`addExactBlock`; items `itemOK`; pre-existing exact blocks or not) and every list of setup types that
does *not* hold `exact`, the reader's model applied to the text of the expanded table returns exactly `inexactActs` of the
items: the setup lines as `subSetup` rewrote them (`C17_keeps_constraints_written`) among them, none of the pins. -/
theorem C17_inexact_actions_text (pdir : Option Str) (env : Cond.Env) (hfl : C11Spec.flavorOK env.flavor = true)
    (hne : env.types.contains ExpandTable.sExactW = false)
    (A : Answers) (o : Opts) (lines : List Str) (items : List Item)
    (h : expandItems A o lines = .ok items) (ha : o.addExactBlock = true)
    (hok : ∀ it ∈ items, ExpandTable.itemOK pdir it = true) (nl : Bool) :
    TableParse.tableActions TableParse.repaired pdir env (ExpandTable.expandedText items nl)
      = .ok (items.flatMap (ExpandTable.inexactActs pdir)) :=
  ExpandTable.expand_inexact_actions pdir env hfl hne h ha hok nl

/-- **`applies_exact_branch` and the text half of `pin_sets_exactly`, discharged.**  Under `inertItem` (the lines passed
through are not setup / unsetup commands for the parser) the actions of the expanded table in exact mode that set a product
up or take one away are, in order and each once, the pin actions of the collected closure `desiredProducts` — nothing of the
inexact branches, nothing else. -/
theorem C17_exact_setup_actions (pdir : Option Str) (env : Cond.Env) (hfl : C11Spec.flavorOK env.flavor = true)
    (hex : env.types.contains ExpandTable.sExactW = true)
    (A : Answers) (o : Opts) (lines : List Str) (items : List Item)
    (h : expandItems A o lines = .ok items) (hn : noExactLine A o lines = true) (ha : o.addExactBlock = true)
    (hok : ∀ it ∈ items, ExpandTable.itemOK pdir it = true) (hinert : ∀ it ∈ items, ExpandTable.inertItem pdir it = true)
    (nl : Bool) :
    ∃ acts st c, TableParse.tableActions TableParse.repaired pdir env (ExpandTable.expandedText items nl) = .ok acts ∧
      readAll A o lines = .ok st ∧ collect A o st = .ok c ∧
      acts.filter ExpandTable.isSetupAct = c.pinKeys.map (fun p => ExpandTable.pinAction p.1 p.2.1 p.2.2) ∧
      acts.filterMap ExpandTable.toPin = c.pinKeys := by
  obtain ⟨st, c, hr, hc, hpk⟩ := expand_pins h hn ha
  refine ⟨_, st, c, ExpandTable.expand_exact_actions pdir env hfl hex h hn ha hok nl, hr, hc, ?_, ?_⟩
  · rw [ExpandTable.setupActs_flatMap items hinert, hpk]
  · rw [ExpandTable.toPin_flatMap items hinert, hpk]

/-- **`C17_exact_reproduces_text`: exact reproduction from the text of the expanded table**, through the C11 model of
the table reader and the C01 model of `Eups.setup` — no abstract exact-mode setup function, no `ExactSetupHyps`.  In the
scope of `C17_exact_actions_text`, with the lines passed through `inertItem`, and under the hypotheses of
`C17_exact_reproduces_over_Setup`: reading the expanded text in exact mode succeeds, and running `Eups.setup`'s action
loop in exact mode on the setup commands it yields (`toPin` = `Action.processArgs` on `[n, -j, v]`) succeeds and leaves,
for every product other than the top-level one, exactly its build-time record.  (Actions other than setup / unsetup
commands do not touch the records: `Setup.apply_rec?`.) -/
theorem C17_exact_reproduces_text (cfg : Setup.Cfg) (hk : cfg.keep = false) (hm : cfg.maxDepth = none) (fuel : Nat)
    (top : Setup.Decl) (s : Setup.St)
    (pdir : Option Str) (env : Cond.Env) (hfl : C11Spec.flavorOK env.flavor = true)
    (hex : env.types.contains ExpandTable.sExactW = true)
    (A : Answers) (o : Opts) (lines : List Str) (items : List Item)
    (h : expandItems A o lines = .ok items) (hn : noExactLine A o lines = true) (ha : o.addExactBlock = true)
    (hok : ∀ it ∈ items, ExpandTable.itemOK pdir it = true) (hinert : ∀ it ∈ items, ExpandTable.inertItem pdir it = true)
    (hsound : DepsSound A) (hpins : ∀ n v, A.pin n = some v → A.sv n = some v)
    (hcov : ∀ st, readAll A o lines = .ok st → Covered A o st)
    (hdecl : ∀ n v, A.sv n = some v → declaredS cfg n v = true)
    (hclean : ∀ n, o.toplevel ≠ some n → Setup.aget s.already n = none ∧ s.env.rec? n = none)
    (htop : ∀ v, ∀ n, o.toplevel = some n → (n, v) ∉ (items.filterMap pinKey).map (·.2)) (nl : Bool) :
    ∃ acts s', TableParse.tableActions TableParse.repaired pdir env (ExpandTable.expandedText items nl) = .ok acts ∧
      Setup.acts (Setup.setup cfg (fuel + 1)) cfg true 0 false exactVro top ((acts.filterMap ExpandTable.toPin).map pinAct) s = .ok s' ∧
      ∀ n, o.toplevel ≠ some n → recNames s'.env n = A.sv n := by
  obtain ⟨s', hs', hrec⟩ := C17_exact_reproduces_over_Setup cfg hk hm fuel top s A o lines items h hn ha hsound hpins hcov hdecl
    hclean htop
  refine ⟨_, s', ExpandTable.expand_exact_actions pdir env hfl hex h hn ha hok nl, ?_, hrec⟩
  rw [ExpandTable.toPin_flatMap items hinert]
  exact hs'

/-- **`C17_exact_actions_blocks`: the TableParse step for tables whose non-setup lines have `if` blocks of their own**
(flavor blocks and the like).  Scope condition `ExpandTable.expandOK2` (decidable, evaluated by the driver on every real
expansion): the items of the setup blocks are `itemOK`, and the lines of every non-setup block and of the final block are
grouped rightly by `ExpandTable.groupPlain` (the grouping is *checked*, not trusted).  Then the reader's model applied to the
text of the expanded table returns exactly what the written table `tableOf` denotes — every flavor, every list of setup
types, no hypothesis on a pre-existing exact block. -/
theorem C17_exact_actions_blocks (pdir : Option Str) (env : Cond.Env) (hfl : C11Spec.flavorOK env.flavor = true)
    (A : Answers) (o : Opts) (lines : List Str) (items : List Item)
    (h : expandItems A o lines = .ok items) (ha : o.addExactBlock = true)
    (hok : ExpandTable.expandOK2 pdir A o lines = true) (nl : Bool) :
    ∃ p, ExpandTable.expandParts A o lines = .ok p ∧
      TableParse.tableActions TableParse.repaired pdir env (ExpandTable.expandedText items nl)
        = .ok (C11Spec.denoteTable env (C11Spec.tableAbs (ExpandTable.tableOf pdir p))) :=
  ExpandTable.expand_exact_actions2 pdir env hfl h ha hok nl

/-- **`C17_exact_reproduces_text_blocks`**: `C17_exact_reproduces_text` for tables with blocks of their own — scope
`expandOK2`; `Inert` in the form `ExpandTable.expandInert2` (for this flavor, no non-setup block and no line of the final
block denotes a setup / unsetup command). -/
theorem C17_exact_reproduces_text_blocks (cfg : Setup.Cfg) (hk : cfg.keep = false) (hm : cfg.maxDepth = none) (fuel : Nat)
    (top : Setup.Decl) (s : Setup.St)
    (pdir : Option Str) (env : Cond.Env) (hfl : C11Spec.flavorOK env.flavor = true)
    (hex : env.types.contains ExpandTable.sExactW = true)
    (A : Answers) (o : Opts) (lines : List Str) (items : List Item)
    (h : expandItems A o lines = .ok items) (hn : noExactLine A o lines = true) (ha : o.addExactBlock = true)
    (hok : ExpandTable.expandOK2 pdir A o lines = true) (hinert : ExpandTable.expandInert2 pdir env A o lines = true)
    (hsound : DepsSound A) (hpins : ∀ n v, A.pin n = some v → A.sv n = some v)
    (hcov : ∀ st, readAll A o lines = .ok st → Covered A o st)
    (hdecl : ∀ n v, A.sv n = some v → declaredS cfg n v = true)
    (hclean : ∀ n, o.toplevel ≠ some n → Setup.aget s.already n = none ∧ s.env.rec? n = none)
    (htop : ∀ v, ∀ n, o.toplevel = some n → (n, v) ∉ (items.filterMap pinKey).map (·.2)) (nl : Bool) :
    ∃ acts s', TableParse.tableActions TableParse.repaired pdir env (ExpandTable.expandedText items nl) = .ok acts ∧
      acts.filterMap ExpandTable.toPin = items.filterMap pinKey ∧
      Setup.acts (Setup.setup cfg (fuel + 1)) cfg true 0 false exactVro top ((acts.filterMap ExpandTable.toPin).map pinAct) s = .ok s' ∧
      ∀ n, o.toplevel ≠ some n → recNames s'.env n = A.sv n := by
  obtain ⟨s', hs', hrec⟩ := C17_exact_reproduces_over_Setup cfg hk hm fuel top s A o lines items h hn ha hsound hpins hcov hdecl
    hclean htop
  obtain ⟨p, hp, hact⟩ := ExpandTable.expand_exact_actions2 pdir env hfl h ha hok nl
  obtain ⟨p', hp', hpin⟩ := ExpandTable.expand_pins2 pdir env hex h ha hok hinert
  cases hp.symm.trans hp'
  exact ⟨_, s', hact, hpin, by rw [hpin]; exact hs', hrec⟩

/-! ## concrete instances: the hypotheses are satisfiable, the theorems are not vacuous; negation witnesses -/

/-- string literal as a list of code points -/
local macro "str!" s:str : term => do
  let cs := s.getString.toList.toArray.map (fun c => Lean.Syntax.mkNumLit (toString c.toNat))
  `(([$cs,*] : Str))

def okItems (r : Except Err (List Item)) (l : List Item) : Bool :=
  match r with
  | .ok x => x == l
  | .error _ => false

theorem okItems_eq {r : Except Err (List Item)} {l : List Item} (h : okItems r l = true) : r = .ok l := by
  unfold okItems at h
  split at h
  · simp at h; subst h; rfl
  · simp at h

def okText (r : Except Err (List Str)) (l : List Str) : Bool :=
  match r with
  | .ok x => x == l
  | .error _ => false

/-- Build environment of the example: `b 1`, `c 2`, `d 1` are set up (and the top product `a 1`); `b` depends on `c`. -/
def D1 : AnswerData where
  sv := [(str! "a", str! "1"), (str! "b", str! "1"), (str! "c", str! "2"), (str! "d", str! "1")]
  spv := [(str! "a", str! "1"), (str! "b", str! "1"), (str! "c", str! "2"), (str! "d", str! "1")]
  deps := [((str! "b", str! "1"), some [⟨str! "c", str! "2", false⟩]), ((str! "d", str! "1"), some [])]

def o1 : Opts := { toplevel := some (str! "a") }

def T1 : List Str :=
  [str! "# the table of product a\n", str! "setupRequired(b >= 1)   # any b\n", str! "envPrepend(PATH, ${PRODUCT_DIR}/bin)\n",
   str! "setupOptional(d -j)\n", str! "setupOptional(x)\n", str! "if (flavor == Linux) {\n", str! "   envSet(A_FL, 1)\n", str! "}\n"]

/-- the sequence of `output` calls for that table -/
def items1 : List Item :=
  [.orig 0 .blank (str! "# the table of product a\n"),
   .gen 0 sIfNotExact, .orig 1 .setup (str! "setupRequired(b 1 [>= 1])"), .gen 0 sClose,
   .orig 0 .other (str! "envPrepend(PATH, ${PRODUCT_DIR}/bin)\n"),
   .gen 0 sIfExact, .pin 1 false (str! "b") (str! "1"), .pin 1 false (str! "c") (str! "2"), .pin 1 true (str! "d") (str! "1"),
   .gen 0 sElse, .orig 1 .setup (str! "setupOptional(d -j 1 [>= 1])"), .orig 1 .setup (str! "setupOptional(x)"), .gen 0 sClose,
   .orig 0 .other (str! "if (flavor == Linux) {\n"), .orig 1 .other (str! "   envSet(A_FL, 1)\n"), .orig 1 .other (str! "}\n")]

def exactEnv1 : Cond.Env := ⟨str! "Linux", [str! "exact"]⟩
/-- the example without its flavor block, and its expansion -/
def T1flat : List Str := T1.take 5
def items1flat : List Item :=
  [.orig 0 .blank (str! "# the table of product a\n"),
   .gen 0 sIfNotExact, .orig 1 .setup (str! "setupRequired(b 1 [>= 1])"), .gen 0 sClose,
   .orig 0 .other (str! "envPrepend(PATH, ${PRODUCT_DIR}/bin)\n"),
   .gen 0 sIfExact, .pin 1 false (str! "b") (str! "1"), .pin 1 false (str! "c") (str! "2"), .pin 1 true (str! "d") (str! "1"),
   .gen 0 sElse, .orig 1 .setup (str! "setupOptional(d -j 1 [>= 1])"), .orig 1 .setup (str! "setupOptional(x)"), .gen 0 sClose]

/-- One conjunction, because every evaluation that reaches the reader decodes the string constants of the model anew, which
is slower to check than the run itself. -/
theorem run1 : (okItems (expandItems D1.toAnswers o1 T1) items1 = true ∧ noExactLine D1.toAnswers o1 T1 = true) ∧
    (okItems (expandItems D1.toAnswers o1 T1flat) items1flat = true ∧ noExactLine D1.toAnswers o1 T1flat = true) ∧
    D1.covered o1 T1 = true ∧ D1.depsSound = true ∧ D1.pinsAgree = true := by decide +kernel

/-- what the table reader makes of both expansions, in one evaluation for the same reason -/
theorem read1 : ((ExpandTable.expandOK2 none D1.toAnswers o1 T1 = true ∧ ExpandTable.expandInert2 none exactEnv1 D1.toAnswers o1 T1 = true) ∧
    (match ExpandTable.expandParts D1.toAnswers o1 T1 with
    | .ok p => (C11Spec.denoteTable exactEnv1 (C11Spec.tableAbs (ExpandTable.tableOf none p))).map (·.cmd)
        == [str! "envPrepend", str! "setupRequired", str! "setupRequired", str! "setupRequired", str! "envSet"]
    | .error _ => false) = true) ∧
    items1flat.all (fun it => ExpandTable.itemOK none it && ExpandTable.inertItem none it) = true ∧
    items1flat.flatMap (ExpandTable.exactActs none)
      = [⟨str! "envPrepend", [str! "PATH", str! "${PRODUCT_DIR}/bin"], .append false⟩,
         ExpandTable.pinAction false (str! "b") (str! "1"), ExpandTable.pinAction false (str! "c") (str! "2"),
         ExpandTable.pinAction true (str! "d") (str! "1")] ∧
    (items1flat.flatMap (ExpandTable.inexactActs none)).map (fun a => (a.cmd, a.args))
      = [(str! "setupRequired", [str! "b", str! "1", str! "[>=", str! "1]"]), (str! "envPrepend", [str! "PATH", str! "${PRODUCT_DIR}/bin"]),
         (str! "setupRequired", [str! "d", str! "-j", str! "1", str! "[>=", str! "1]"]), (str! "setupRequired", [str! "x"])] := by
  decide +kernel

theorem expand1 : expandItems D1.toAnswers o1 T1 = .ok items1 := okItems_eq run1.1.1

example : okText (expandText D1.toAnswers o1 T1)
    [str! "# the table of product a", str! "if (type != exact) {", str! "   setupRequired(b 1 [>= 1])", str! "}",
     str! "envPrepend(PATH, ${PRODUCT_DIR}/bin)", str! "if (type == exact) {", str! "   setupRequired(b               -j 1)",
     str! "   setupRequired(c               -j 2)", str! "   setupOptional(d               -j 1)", str! "} else {",
     str! "   setupOptional(d -j 1 [>= 1])", str! "   setupOptional(x)", str! "}", str! "if (flavor == Linux) {",
     str! "   envSet(A_FL, 1)", str! "   }"] = true := by
  unfold expandText
  rw [expand1]
  decide +kernel

/-- the hypotheses of `C17_never_foreign` hold of the example, and its conclusion is about three pins -/
theorem depsSound1 : DepsSound D1.toAnswers := depsSound_of_data run1.2.2.2.1
theorem noExact1 : noExactLine D1.toAnswers o1 T1 = true := run1.1.2
example : DepsSound D1.toAnswers := depsSound1
example : (items1.filterMap pinKey).length = 3 := by decide +kernel
example : noExactLine D1.toAnswers o1 T1 = true := noExact1

theorem pinsAgree1 : ∀ n v, D1.toAnswers.pin n = some v → D1.toAnswers.sv n = some v := pinsAgree_of_data run1.2.2.2.2
theorem covered1 : ∀ st, readAll D1.toAnswers o1 T1 = .ok st → Covered D1.toAnswers o1 st := covered_of_data run1.2.2.1

theorem declared_of_sv1 {declared : Str → Str → Bool} (h : ∀ e ∈ D1.sv, declared e.1 e.2 = true) (n v : Str)
    (hs : D1.toAnswers.sv n = some v) : declared n v = true :=
  h (n, v) (lookup_mem (l := D1.sv) hs)

example : exactBranchText (items1.map renderItem)
    = [str! "   setupRequired(b               -j 1)", str! "   setupRequired(c               -j 2)",
       str! "   setupOptional(d               -j 1)"] := by decide +kernel

/-- (for the non-vacuity example only) a naive exact-mode reading of a table: lines of the form `setupX(name -j version)`
that are not inside an `} else {` branch or an `if (type != exact) {` block are applied, everything else is ignored. -/
def toyPins : Bool → List Str → List (Bool × Str × Str)
  | _, [] => []
  | skip, l :: rest =>
    let t := strip l
    if t == sIfExact then toyPins false rest
    else if t == sElse || t == sIfNotExact then toyPins true rest
    else if t == sClose then toyPins false rest
    else if skip then toyPins skip rest
    else match matchRexAt t with
      | some m => match splitWs m.args with
        | [n, j, v] => if j == sDashJ then (m.optional, n, v) :: toyPins skip rest else toyPins skip rest
        | _ => toyPins skip rest
      | none => toyPins skip rest

def declared1 (db : List (Str × Str)) (n v : Str) : Bool := db.contains (n, v)

def toyExactSetup (lines : List Str) (db : List (Str × Str)) : Option Recs :=
  runPins declared1 db (toyPins false lines) (fun _ => none)

/-- a later database: everything that was recorded is still declared; newer versions exist -/
def db1 : List (Str × Str) :=
  [(str! "a", str! "1"), (str! "b", str! "1"), (str! "b", str! "7"), (str! "c", str! "2"), (str! "c", str! "8"),
   (str! "d", str! "1"), (str! "x", str! "1")]

/-- `C17_exact_reproduces_partial_inst` is not vacuous: every hypothesis holds of the example (with the naive exact-mode
reader above), so exact setup from the expanded table in the later database records `b 1`, `c 2`, `d 1` and nothing else. -/
example : ∃ recs, toyExactSetup (items1.map renderItem) db1 = some recs ∧
    ∀ n, o1.toplevel ≠ some n → recs n = D1.toAnswers.sv n := by
  have toy : toyPins false (items1.map renderItem) = toyPins false ((items1.filter Item.isPin).map renderItem) ∧
      toyPins false ((items1.filter Item.isPin).map renderItem) = items1.filterMap pinKey := by decide +kernel
  exact C17_exact_reproduces_partial_inst declared1 toyExactSetup D1.toAnswers o1 T1 items1
    expand1 noExact1 rfl depsSound1 pinsAgree1 covered1 db1 (declared_of_sv1 (declared := declared1 db1) (by decide +kernel))
    (congrArg (runPins declared1 db1 · (fun _ => none)) toy.1) (congrArg (runPins declared1 db1 · (fun _ => none)) toy.2)

/-- `C17_keeps_constraints_line` on a concrete line: `b >= 1` with `b 1` set up is rewritten to `b 1 [>= 1]`. -/
example : (match parseArgs (str! "b >= 1") with
    | .ok r => r == .parsed ⟨str! "b", [], none, some (str! ">= 1")⟩
    | .error _ => false) = true := by decide +kernel
example : decideRewrite D1.toAnswers o1 false ⟨str! "b", [], none, some (str! ">= 1")⟩
    = some ⟨false, str! "b", [], some (str! "1"), some (str! ">= 1")⟩ := by decide +kernel

/-- `C17_DepsSound_from_Deps` is not vacuous: a C13 database `a 1 → b 1 → c (current 2)`, records `b 1`, `c 2`; the model's
listing for `b 1` is `[c 2]`, and the answers built from it satisfy the theorem's hypotheses by definition. -/
def depsDb1 : Deps.Db :=
  { decls := [⟨str! "a", str! "1", [⟨false, false, str! "b", none, false, false⟩], false⟩,
              ⟨str! "b", str! "1", [⟨false, false, str! "c", none, false, false⟩], false⟩,
              ⟨str! "c", str! "1", [], false⟩, ⟨str! "c", str! "2", [], false⟩],
    current := [(str! "b", str! "1"), (str! "c", str! "1")] }
def setup1 : List (Str × Str) := [(str! "a", str! "1"), (str! "b", str! "1"), (str! "c", str! "2")]
def A1 : Answers :=
  { pin := fun _ => none, spv := fun n => setup1.lookup n, sv := fun n => setup1.lookup n,
    deps := depsOfModel depsDb1 depsDb1.fuel setup1 (fun _ _ => false) }
example : (match A1.deps (str! "b") (str! "1") with
    | .ok l => l == [⟨str! "c", str! "2", false⟩]      -- the set-up version 2, not the current one
    | _ => false) = true := by decide +kernel
example : DepsSound A1 :=
  C17_DepsSound_from_Deps depsDb1 depsDb1.fuel setup1 (fun _ _ => false) A1 (fun _ => rfl) (fun _ _ => rfl)

/-- `C17_exact_reproduces_over_Setup` is not vacuous: a later C01 database (newer versions of `b` and `c` declared, `current`
moved), the state in which only the top product `a 1` is set up, and the expansion `items1` of the example above; the
theorem then says that the exact-mode action loop on the three pin actions records `b 1`, `c 2`, `d 1`. -/
def setupDb1 : Setup.Db :=
  { decls := [⟨str! "a", (str! "1", 0), str! "/s/a/1", []⟩, ⟨str! "b", (str! "1", 0), str! "/s/b/1", [(.always, .dep (str! "c") false false none none [] false)]⟩,
              ⟨str! "b", (str! "7", 0), str! "/s/b/7", []⟩, ⟨str! "c", (str! "2", 0), str! "/s/c/2", []⟩, ⟨str! "c", (str! "8", 0), str! "/s/c/8", []⟩,
              ⟨str! "d", (str! "1", 0), str! "/s/d/1", [(.always, .dep (str! "c") false false none none [] false)]⟩],
    tags := [(Setup.tagCurrent, str! "b", (str! "7", 0)), (Setup.tagCurrent, str! "c", (str! "8", 0))] }
def setupCfg1 : Setup.Cfg := ⟨setupDb1, [0], false, none, true⟩
def topDecl1 : Setup.Decl := ⟨str! "a", (str! "1", 0), str! "/s/a/1", []⟩
def setupSt1 : Setup.St :=
  ⟨⟨[(str! "a", (str! "1", 0))], [], [], []⟩, [], [], [(str! "a", (topDecl1, some .commandLine))], []⟩

theorem declared_setupCfg1 : ∀ n v, D1.toAnswers.sv n = some v → declaredS setupCfg1 n v = true :=
  declared_of_sv1 (by decide +kernel)

theorem clean_setupSt1 (n : Str) (hne : o1.toplevel ≠ some n) :
    Setup.aget setupSt1.already n = none ∧ setupSt1.env.rec? n = none := by
  have hna : (str! "a") ≠ n := fun e => hne (by rw [← e]; rfl)
  simp [setupSt1, Setup.aget, Setup.Env.rec?, hna]

theorem top_not_pinned1 (v n : Str) (htl : o1.toplevel = some n) : (n, v) ∉ (items1.filterMap pinKey).map (·.2) := by
  cases htl
  have hp : (items1.filterMap pinKey).map (·.2) = [(str! "b", str! "1"), (str! "c", str! "2"), (str! "d", str! "1")] := by decide +kernel
  rw [hp]
  simp

example : ∃ s', Setup.acts (Setup.setup setupCfg1 2) setupCfg1 true 0 false exactVro topDecl1 ((items1.filterMap pinKey).map pinAct) setupSt1 = .ok s' ∧
    ∀ n, o1.toplevel ≠ some n → recNames s'.env n = D1.toAnswers.sv n :=
  C17_exact_reproduces_over_Setup setupCfg1 rfl rfl 1 topDecl1 setupSt1 D1.toAnswers o1 T1 items1 expand1 noExact1 rfl
    depsSound1 pinsAgree1 covered1
    declared_setupCfg1 clean_setupSt1 top_not_pinned1

/-- `C17_exact_actions_text` / `C17_exact_reproduces_text` are not vacuous: the items of the example are `itemOK` and
`inertItem`; in exact mode the expanded text of the example yields the `envPrepend` line's action and the three pin actions. -/
theorem expand1flat : expandItems D1.toAnswers o1 T1flat = .ok items1flat := okItems_eq run1.2.1.1
theorem itemsOK1flat : ∀ it ∈ items1flat, ExpandTable.itemOK none it = true := fun it hit =>
  (Bool.and_eq_true _ _ ▸ List.all_eq_true.mp read1.2.1 it hit).1
example : items1flat.all (fun it => ExpandTable.itemOK none it && ExpandTable.inertItem none it) = true := read1.2.1
example : items1flat.flatMap (ExpandTable.exactActs none)
    = [⟨str! "envPrepend", [str! "PATH", str! "${PRODUCT_DIR}/bin"], .append false⟩,
       ExpandTable.pinAction false (str! "b") (str! "1"), ExpandTable.pinAction false (str! "c") (str! "2"),
       ExpandTable.pinAction true (str! "d") (str! "1")] := read1.2.2.1
example : TableParse.tableActions TableParse.repaired none exactEnv1 (ExpandTable.expandedText items1flat true)
    = .ok (items1flat.flatMap (ExpandTable.exactActs none)) :=
  C17_exact_actions_text none exactEnv1 (by decide) (by decide) D1.toAnswers o1 T1flat items1flat expand1flat run1.2.1.2 rfl
    itemsOK1flat true

/-- `C17_exact_actions_blocks` is not vacuous: the whole example table `T1` — with its `if (flavor == Linux) {` block — is in
scope (`expandOK2`, `expandInert2`), and its expanded text yields, for flavor Linux in exact mode, the `envPrepend` action, the
three pin actions and the `envSet` of the flavor block. -/
example : ExpandTable.expandOK2 none D1.toAnswers o1 T1 = true ∧ ExpandTable.expandInert2 none exactEnv1 D1.toAnswers o1 T1 = true :=
  read1.1.1
example : (match ExpandTable.expandParts D1.toAnswers o1 T1 with
    | .ok p => (C11Spec.denoteTable exactEnv1 (C11Spec.tableAbs (ExpandTable.tableOf none p))).map (·.cmd)
        == [str! "envPrepend", str! "setupRequired", str! "setupRequired", str! "setupRequired", str! "envSet"]
    | .error _ => false) = true := read1.1.2

/-- `C17_exact_reproduces_text_blocks` is not vacuous: every hypothesis holds of the example table `T1` (flavor block
included), the later C01 database `setupCfg1` and the clean state `setupSt1`; so reading the expanded text in exact mode
for flavor Linux and running the setup commands it yields leaves exactly the build-time records `b 1`, `c 2`, `d 1`. -/
example : ∃ acts s', TableParse.tableActions TableParse.repaired none exactEnv1 (ExpandTable.expandedText items1 true) = .ok acts ∧
    acts.filterMap ExpandTable.toPin = items1.filterMap pinKey ∧
    Setup.acts (Setup.setup setupCfg1 2) setupCfg1 true 0 false exactVro topDecl1 ((acts.filterMap ExpandTable.toPin).map pinAct) setupSt1 = .ok s' ∧
    ∀ n, o1.toplevel ≠ some n → recNames s'.env n = D1.toAnswers.sv n :=
  C17_exact_reproduces_text_blocks setupCfg1 rfl rfl 1 topDecl1 setupSt1 none exactEnv1 (by decide) (by decide)
    D1.toAnswers o1 T1 items1 expand1 noExact1 rfl read1.1.1.1 read1.1.1.2 depsSound1 pinsAgree1 covered1
    declared_setupCfg1 clean_setupSt1 top_not_pinned1 true

/-- `C17_inexact_actions_text` on the example: in build mode the expanded text yields the rewritten setup lines and the
`envPrepend` line, no pin. -/
example : (items1flat.flatMap (ExpandTable.inexactActs none)).map (fun a => (a.cmd, a.args))
    = [(str! "setupRequired", [str! "b", str! "1", str! "[>=", str! "1]"]), (str! "envPrepend", [str! "PATH", str! "${PRODUCT_DIR}/bin"]),
       (str! "setupRequired", [str! "d", str! "-j", str! "1", str! "[>=", str! "1]"]), (str! "setupRequired", [str! "x"])] :=
  read1.2.2.2
example : TableParse.tableActions TableParse.repaired none ⟨str! "Linux", [str! "build"]⟩ (ExpandTable.expandedText items1flat true)
    = .ok (items1flat.flatMap (ExpandTable.inexactActs none)) :=
  C17_inexact_actions_text none ⟨str! "Linux", [str! "build"]⟩ (by decide) (by decide) D1.toAnswers o1 T1flat items1flat expand1flat rfl
    itemsOK1flat true

/-- **`inertItem` cannot be dropped (observation O2).**  The expander recognises `setupRequired(` spelled exactly so; the
table parser allows blanks before the parenthesis.  `setupRequired (x)` is passed through outside every block, the item is
`itemOK` but not `inertItem`, and in exact mode the expanded table sets `x` up unpinned — whatever version is current then. -/
theorem C17_inert_needed_witness :
    okItems (expandItems D1.toAnswers o1 [str! "setupRequired (x)\n"]) [.orig 0 .other (str! "setupRequired (x)\n")] = true ∧
    ExpandTable.itemOK none (.orig 0 .other (str! "setupRequired (x)\n")) = true ∧
    ExpandTable.inertItem none (.orig 0 .other (str! "setupRequired (x)\n")) = false ∧
    TableParse.tableActions TableParse.repaired none exactEnv1 (ExpandTable.expandedText [.orig 0 .other (str! "setupRequired (x)\n")] true)
      = .ok [⟨str! "setupRequired", [str! "x"], .optional false⟩] := by
  decide +kernel

/-! ### negation witnesses: the two ways exact reproduction failed on the pinned tree -/

/-- **Empty exact block**: when nothing was set up for the table at build time (only optional dependencies, all
absent) the expander writes `if (type == exact) {` immediately followed by `} else {`.  With the table parser's
empty-branch defect D4 (since repaired) the else branch was then applied in exact mode, so a later exact setup
picked up whatever had been declared since. -/
theorem C17_empty_exact_block_witness :
    okText (expandText ({} : AnswerData).toAnswers o1 [str! "setupOptional(x)\n", str! "envSet(A_X, x)\n"])
      [str! "if (type == exact) {", str! "} else {", str! "   setupOptional(x)", str! "}", str! "envSet(A_X, x)"] = true := by
  decide +kernel

/-- the closure collection of the pinned tree: `-j` was not carried into the loop -/
def collectPinned (A : Answers) (o : Opts) (st : RState) : Except Err CState :=
  collect A o { st with products := st.products.map fun p => { p with noRecursion := false } }

def desiredIs (r : Except Err CState) (l : List (Str × Str)) : Bool :=
  match r with
  | .ok c => c.desired == l
  | .error _ => false

/-- `setupOptional(b -j)` set `b 1` up without its dependency `c`; `getDependencies(b, 1, shouldRaise=True)` raises -/
def D2 : AnswerData where
  sv := [(str! "a", str! "1"), (str! "d", str! "1"), (str! "b", str! "1")]
  spv := [(str! "a", str! "1"), (str! "d", str! "1"), (str! "b", str! "1")]
  deps := [((str! "d", str! "1"), some []), ((str! "b", str! "1"), none)]

def T2 : List Str := [str! "setupRequired(d)\n", str! "setupOptional(b -j)\n"]

/-- the three collections below, in one evaluation (as for `run1`) -/
theorem d19_runs :
    desiredIs ((readAll D2.toAnswers o1 T2).bind (collectPinned D2.toAnswers o1)) [(str! "d", str! "1")] = true ∧
    (match (readAll D2.toAnswers o1 [str! "setupRequired(d)\n", str! "setupRequired(b -j)\n"]).bind (collectPinned D2.toAnswers o1) with
      | .error .depsRaised => true
      | _ => false) = true ∧
    desiredIs ((readAll D2.toAnswers o1 T2).bind (collect D2.toAnswers o1)) [(str! "d", str! "1"), (str! "b", str! "1")] = true := by
  decide +kernel

/-- **D19** on the pinned collection: the optional `-j` product `b` is silently dropped from the closure (so exact
re-setup no longer sets it up) … -/
theorem C17_d19_witness_pinned :
    desiredIs ((readAll D2.toAnswers o1 T2).bind (collectPinned D2.toAnswers o1)) [(str! "d", str! "1")] = true :=
  d19_runs.1

/-- … and a required one makes the expansion fail. -/
theorem C17_d19_witness_pinned_required :
    (match (readAll D2.toAnswers o1 [str! "setupRequired(d)\n", str! "setupRequired(b -j)\n"]).bind (collectPinned D2.toAnswers o1) with
      | .error .depsRaised => true
      | _ => false) = true :=
  d19_runs.2.1

/-- With the repair (`fix: … do not collect the dependencies of a product that the table sets up with -j`) the model of
the current tree keeps `b`: the closure is everything that is set up. -/
theorem C17_d19_repaired :
    desiredIs ((readAll D2.toAnswers o1 T2).bind (collect D2.toAnswers o1)) [(str! "d", str! "1"), (str! "b", str! "1")] = true :=
  d19_runs.2.2

/-- **An unsetup line names no product** (the repair of D73, for every line): when what the pattern finds first on a
line — after the substitutions — is an unsetup command, the reader keeps the line in its setup block and registers neither
a product to collect nor a line for the final block, whatever the environment answers. -/
theorem C17_unsetup_names_no_product (A : Answers) (o : Opts) (raw t : Str) (m : RexMatch)
    (hb : isBlankOrComment raw = false) (hs : subAll A o (stripComment raw) = .ok t)
    (hm : searchRex t = some m) (hu : m.unsetup = true) :
    classify A o raw = .ok (.setup t none) := by
  unfold classify
  simp [hb, hs, hm, hu, bind, Except.bind, pure, Except.pure]

/-- The substitution leaves an unsetup command exactly as it was written (no version, no `>= version`). -/
theorem C17_unsetup_command_verbatim (A : Answers) (o : Opts) (c : Nat) (cs : Str) (m : RexMatch)
    (hm : matchRexAt (c :: cs) = some m) (hu : m.unsetup = true) :
    subGo A o 0 (c :: cs) = (subGo A o (m.len - 1) cs).map (fun rest => (c :: cs).take m.len ++ rest) := by
  simp only [subGo, hm, hu, if_true, bind, Except.bind, pure, Except.pure]
  cases subGo A o (m.len - 1) cs <;> rfl

/-- **`C17_unsetup_line_kept`: the repair of D73 at the level of the text.**  The line `unsetupRequired(args)` /
`unsetupOptional(args)` (`unsetupLine opt args`, with its newline) — for every argument text without a double quote, `#` or
newline: product names, flags, versions, parentheses, anything — is read as a line of a setup block that is kept exactly as
written and names no product, whatever is set up and whatever the options. -/
theorem C17_unsetup_line_kept (A : Answers) (o : Opts) (opt : Bool) (args : Str)
    (hq : 34 ∉ args) (hh : 35 ∉ args) (hn : 10 ∉ args) :
    classify A o (unsetupLine opt args) = .ok (.setup (unsetupLine opt args) none) :=
  classify_unsetupLine A o opt hq hh

example : unsetupLine false (str! "b -j") = str! "unsetupRequired(b -j)\n" := by decide

/-- the search with the pattern of the pinned tree, `(setupRequired|setupOptional)\(…\)` without the optional `un` -/
def searchRexPinned : Str → Option RexMatch
  | [] => none
  | c :: cs =>
    match matchSetupAt (c :: cs) with
    | some m => some m
    | none => searchRexPinned cs

/-- **D73** on the pinned pattern: the unanchored pattern finds the setup command `setupRequired(b)` *inside* the line
`unsetupRequired(b)`, so `b` was registered as a product the table sets up (and demanded to be set up) … -/
theorem C17_d73_witness_pinned :
    searchRexPinned (str! "unsetupRequired(b)\n") = some ⟨false, str! "b", 16, false⟩ := by decide +kernel

/-- … whereas the pattern of the repaired tree matches the line as an unsetup command, which the reader keeps in the setup
block as it is, without a product. -/
example : searchRex (str! "unsetupRequired(b)\n") = some ⟨false, str! "b", 18, true⟩ := by decide +kernel
example : (match classify D1.toAnswers o1 (str! "unsetupRequired(b)\n") with
    | .ok c => c == .setup (str! "unsetupRequired(b)\n") none
    | .error _ => false) = true := by decide +kernel

/-- **D74** (open finding): the expander ignores the block structure of the table it expands.  `setupRequired(b)` inside
`if (flavor == Darwin) {` is not applied on Linux, so `b` is rightly not set up (`D4a`: only `a` and `c` are) — yet the
expansion demands it and refuses the table. -/
def D4a : AnswerData where
  sv := [(str! "a", str! "1"), (str! "c", str! "1")]
  spv := [(str! "a", str! "1"), (str! "c", str! "1")]
  deps := [((str! "c", str! "1"), some [])]

theorem C17_d74_witness :
    (match expandItems D4a.toAnswers o1
        [str! "setupRequired(c)\n", str! "if (flavor == Darwin) {\n", str! "setupRequired(b)\n", str! "}\n"] with
      | .error .notSetup => true
      | _ => false) = true := by
  decide +kernel

/-- **D74, second form**: `setupRequired(b)` inside `if (flavor == Linux) {` … `} else {` `envSet(A_FL, 2)` `}`.  The
expander nests its `if (type == exact) {` block inside the table's block; the reader (no nested blocks) drops the outer
condition and reads the else branch as unconditional: on Linux, in exact mode, the expanded text yields `envSet(A_FL, 2)`,
the original text does not. -/
def D4b : AnswerData where
  sv := [(str! "a", str! "1"), (str! "b", str! "1"), (str! "c", str! "1")]
  spv := [(str! "a", str! "1"), (str! "b", str! "1"), (str! "c", str! "1")]
  deps := [((str! "c", str! "1"), some []), ((str! "b", str! "1"), some [])]
def T4b : List Str :=
  [str! "setupRequired(c)\n", str! "if (flavor == Linux) {\n", str! "setupRequired(b)\n", str! "} else {\n",
   str! "envSet(A_FL, 2)\n", str! "}\n"]
def hasEnvSet (r : Cond.Res (List TableParse.Action)) : Bool :=
  match r with
  | .ok acts => acts.any (fun a => a.cmd == str! "envSet")
  | _ => false

theorem C17_d74_nested_witness :
    hasEnvSet (TableParse.tableActions TableParse.repaired none exactEnv1 T4b.flatten) = false ∧
    (match expandItems D4b.toAnswers o1 T4b with
      | .ok items => hasEnvSet (TableParse.tableActions TableParse.repaired none exactEnv1 (ExpandTable.expandedText items true))
      | .error _ => false) = true := by
  decide +kernel

/-- **D72** (open finding): the hypothesis `Covered` is not a formality.  Answers as the real code gives them for the table
`setupRequired(d)`, `setupRequired(c)`, `setupRequired(b)` when `d` takes `f` away again, `c` takes `e` away and `b` sets
`e` — and with it `f` — up again: `f 1` is set up, but no listing mentions it (`Table.dependencies` removed it by name
inside `d`'s sub-listing and does not expand `e` a second time).  `DepsSound` holds, `Covered` does not, and the exact block
pins `d`, `e`, `c`, `b` only. -/
def D3 : AnswerData where
  sv := [(str! "a", str! "1"), (str! "b", str! "1"), (str! "c", str! "1"), (str! "d", str! "1"), (str! "e", str! "1"), (str! "f", str! "1")]
  spv := [(str! "a", str! "1"), (str! "b", str! "1"), (str! "c", str! "1"), (str! "d", str! "1"), (str! "e", str! "1"), (str! "f", str! "1")]
  deps := [((str! "d", str! "1"), some [⟨str! "e", str! "1", false⟩]), ((str! "c", str! "1"), some []),
           ((str! "b", str! "1"), some [⟨str! "d", str! "1", false⟩, ⟨str! "e", str! "1", false⟩, ⟨str! "e", str! "1", false⟩])]
def T3 : List Str := [str! "setupRequired(d)\n", str! "setupRequired(c)\n", str! "setupRequired(b)\n"]

theorem C17_d72_covered_fails_witness :
    (D3.depsSound && !D3.covered o1 T3 &&
      okText (expandText D3.toAnswers o1 T3)
        [str! "if (type == exact) {", str! "   setupRequired(d               -j 1)", str! "   setupRequired(e               -j 1)",
         str! "   setupRequired(c               -j 1)", str! "   setupRequired(b               -j 1)", str! "} else {",
         str! "   setupRequired(d 1 [>= 1])", str! "   setupRequired(c 1 [>= 1])", str! "   setupRequired(b 1 [>= 1])", str! "}"]) = true := by
  decide +kernel

end EupsModel.C17
