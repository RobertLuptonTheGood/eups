import EupsModel.Lemmas.ShellEmit
import EupsModel.Lemmas.ShellFn
import EupsModel.Lemmas.Str
/-! C05 — emitted shell commands reproduce the computed environment when sourced.

`shEval base text`: what an sh-family shell started with the environment `base` exports after it has evaluated `text`
(`none`: outside the modelled fragment).  `emitText old new`: the text `";\n".join(cmds)` that `eups.app.setup` prints
for `oldEnviron = old` and `os.environ = new` (sh dialect, no `-n`, no aliases).  `SameEnv a b`: equal as maps. -/
namespace EupsModel.C05
open EupsModel EupsModel.ShellEmit

/-- **C05, full clause.**  The values eups has to write are `Writable`: drawn from the claimed alphabet, or of the class
eups single-quotes — any text without a single quote that holds a blank or one of `< > | & ; ( )`, whatever else it
holds (`$NAME`, `${NAME}`, backquotes, backslashes, double quotes).  `hprot`: none of the four `EUPS_*` variables the
code refuses to unset disappears.  Nothing is assumed about the values of `old` or about unchanged values of `new`. -/
theorem C05_roundtrip (old new : Env)
    (hold : ∀ p ∈ old, isIdent p.1 = true) (hnew : ∀ p ∈ new, isIdent p.1 = true)
    (hdict : (new.map (·.1)).Nodup)
    (halpha : ∀ p ∈ new, old.get p.1 ≠ some p.2 → Writable p.2)
    (hprot : ∀ k, isProtected k = true → old.has k = true → new.has k = true) :
    ∃ e, shEval old (emitText (OldEnv.ofEnv old) new) = some e ∧ SameEnv e new := by
  simpa using roundtrip_tracks (OldEnv.ofEnv old) old new (tracks_ofEnv old) hold hnew hdict (written_ofEnv halpha) hprot
    false

/-- the same for the text as `print` writes it (with the final newline) -/
theorem C05_roundtrip_printed (old new : Env)
    (hold : ∀ p ∈ old, isIdent p.1 = true) (hnew : ∀ p ∈ new, isIdent p.1 = true)
    (hdict : (new.map (·.1)).Nodup)
    (halpha : ∀ p ∈ new, old.get p.1 ≠ some p.2 → Writable p.2)
    (hprot : ∀ k, isProtected k = true → old.has k = true → new.has k = true) :
    ∃ e, shEval old (emitText (OldEnv.ofEnv old) new ++ [10]) = some e ∧ SameEnv e new := by
  simpa using roundtrip_tracks (OldEnv.ofEnv old) old new (tracks_ofEnv old) hold hnew hdict (written_ofEnv halpha) hprot
    true

/-- Non-vacuity: an unchanged value outside the alphabet, a removed variable, values with a blank, parentheses, `;`, a
newline, an empty one. -/
example :
    let old : Env := [(Str.ofString "KEEP", Str.ofString "it's"), (Str.ofString "GONE", Str.ofString "1"),
                      (Str.ofString "PATH", Str.ofString "/bin")]
    let new : Env := [(Str.ofString "KEEP", Str.ofString "it's"), (Str.ofString "PATH", Str.ofString "/my prod (v1)/bin:/bin"),
                      (Str.ofString "E", []), (Str.ofString "X", Str.ofString "a;b\nc")]
    emitText (OldEnv.ofEnv old) new =
        Str.ofString "export PATH='/my prod (v1)/bin:/bin';\nexport E=;\nexport X='a;b\nc';\nunset GONE" ∧
      shEval old (emitText (OldEnv.ofEnv old) new) =
        some [(Str.ofString "KEEP", Str.ofString "it's"), (Str.ofString "PATH", Str.ofString "/my prod (v1)/bin:/bin"),
              (Str.ofString "E", []), (Str.ofString "X", Str.ofString "a;b\nc")] := by
  decide_lit

set_option maxRecDepth 20000 in
/-- Non-vacuity for `Writable`'s second disjunct: `${NAME}`, `$NAME`, a backquote, a backslash and `"` next to a blank
are literal inside the single quotes. -/
example :
    let v1 := Str.ofString "-L${PRODUCT_DIR}/lib -Wl,-rpath,$ORIGIN/../lib"
    let v2 := Str.ofString "(tool) $ "
    let v3 := Str.ofString "say \"hi\" > `tty` \\n"
    Writable v1 ∧ Writable v2 ∧ Writable v3 ∧ ¬ InAlphabet v1 ∧
      emitText (OldEnv.ofEnv []) [(Str.ofString "LDFLAGS", v1), (Str.ofString "P", v2), (Str.ofString "Q", v3)] =
        Str.ofString "export LDFLAGS='-L${PRODUCT_DIR}/lib -Wl,-rpath,$ORIGIN/../lib';\nexport P='(tool) $ ';\nexport Q='say \"hi\" > `tty` \\n'" ∧
      shEval [] (emitText (OldEnv.ofEnv []) [(Str.ofString "LDFLAGS", v1), (Str.ofString "P", v2), (Str.ofString "Q", v3)]) =
        some [(Str.ofString "LDFLAGS", v1), (Str.ofString "P", v2), (Str.ofString "Q", v3)] := by
  unfold Writable InAlphabet
  decide_lit

/-- a value with `$` that eups does *not* quote (no blank, no metacharacter) is outside the claim, and so is any value
holding a single quote -/
example : ¬ Writable (Str.ofString "$ORIGIN/../lib") ∧ ¬ Writable (Str.ofString "it's a $x") := by
  unfold Writable InAlphabet
  decide_lit

/-- **`--force`, repaired tree (D9).**  After any sequence of table actions (`envSet`, `envPrepend`/`envAppend`,
`envUnset`, `addAlias`, in either direction, with or without `--force`) interleaved in any way with `pushStack("env")` /
`popStack("env")` / `dropStack("env")` (optional and nested setups, failed ones rolled back — what `--force` made
`oldEnviron` forget stays forgotten), the emitted text evaluated from the caller's `base` yields the computed environment. -/
theorem C05_force_roundtrip (acts : List Act) (base : Env)
    (hbase : ∀ p ∈ base, isIdent p.1 = true)
    (hnew : ∀ p ∈ (runActs false acts base).cur, isIdent p.1 = true)
    (hdict : ((runActs false acts base).cur.map (·.1)).Nodup)
    (halpha : ∀ p ∈ (runActs false acts base).cur,
      (runActs false acts base).old.lookup p.1 ≠ some (some p.2) → Writable p.2)
    (hprot : ∀ k, isProtected k = true → base.has k = true → (runActs false acts base).cur.has k = true) :
    ∃ e, shEval base (emitText (runActs false acts base).old (runActs false acts base).cur) = some e ∧
      SameEnv e (runActs false acts base).cur := by
  simpa using roundtrip_tracks _ base _ (tracks_runActs acts base) hbase hnew hdict halpha hprot false

/-- Non-vacuity with a rolled-back optional setup under `--force`: the text exports `B` and re-exports the forgotten
`A` and `PATH` with their old values. -/
example :
    let base : Env := [(Str.ofString "A", Str.ofString "1"), (Str.ofString "PATH", Str.ofString "/bin")]
    let s := runActs false [.envSet true true (Str.ofString "B") (Str.ofString "b b"), .push,
                            .envSet true true (Str.ofString "A") (Str.ofString "2"),
                            .path true (Str.ofString "PATH") (Str.ofString "/opt/my prod/bin:/bin"), .pop] base
    s.cur = base ++ [(Str.ofString "B", Str.ofString "b b")] ∧
      emitText s.old s.cur = Str.ofString "export A=1;
export PATH=/bin;
export B='b b'" ∧
      shEval base (emitText s.old s.cur) = some (base ++ [(Str.ofString "B", Str.ofString "b b")]) := by
  decide_lit

/-- Non-vacuity and the repaired behaviour on the D9 input: `unsetup --force` of a product that `envSet`s `A`. -/
example :
    let base : Env := [([65], [49])]
    let s := runActs false [Act.envSet true false [65] [49]] base
    s.cur = [] ∧ emitText s.old s.cur = Str.ofString "unset A" ∧ shEval base (emitText s.old s.cur) = some [] := by
  decide_lit

/-- **D9, pinned tree (negation witness).**  With the pinned `execute_envSet` (`del oldEnviron[key]` in both
directions) `unsetup --force` emits nothing for the variable it removed: the shell keeps `A`. -/
theorem C05_force_unsetup_pinned_witness :
    let base : Env := [([65], [49])]
    let s := runActs true [Act.envSet true false [65] [49]] base
    s.cur = [] ∧ emitText s.old s.cur = [] ∧ shEval base (emitText s.old s.cur) = some base := by
  decide +kernel

/-- **The quoting condition is necessary.**  Whatever an emitter writes without a single quote, the shell never reads a
value holding one of the metacharacters back from it. -/
theorem C05_unquoted_never_meta (env : Env) (text k v : Str)
    (hq : ∀ c ∈ text, c ≠ 39) (hm : v.any isShMeta = true) (h0 : env.get k ≠ some v) :
    ∀ e, shEval env text = some e → e.get k ≠ some v :=
  unquoted_never_meta hm env text hq h0

/-- in particular `export K=V` with such a `V` unquoted sets `K` to something else, or is outside the fragment -/
theorem C05_quote_needed (env : Env) (k v : Str) (hk : isIdent k = true) (hv : InAlphabet v)
    (hm : v.any isShMeta = true) (h0 : env.get k ≠ some v) :
    ∀ e, shEval env (sExport ++ [32] ++ k ++ [61] ++ v) = some e → e.get k ≠ some v := by
  apply unquoted_never_meta hm env _ _ h0
  simp only [List.forall_mem_append]
  exact ⟨⟨⟨⟨by decide, by decide⟩, fun c hc => ne_of_class (ident_safe hk c hc) rfl⟩, by decide⟩, alpha_no_sq hv⟩

/-- Non-vacuity of `C05_quote_needed`, and what actually happens: `export K=a b` sets `K=a`. -/
example : shEval [] (Str.ofString "export K=a b") = some [(Str.ofString "K", Str.ofString "a")] := by decide_lit
example : shEval [] (Str.ofString "export K=a;b") = none := by decide_lit
example : emitVal (Str.ofString "a b") = Str.ofString "'a b'" := by decide_lit

theorem C05_unchanged_not_written (old : OldEnv) (k v : Str) (h : old.lookup k = some (some v)) :
    setCmd? {} old (k, v) = none := by
  simp [setCmd?, h]

/-- **Removed aliases do not disturb the environment (repaired D27).**  The complete command list of an alias-free new
state — with an `unset -f NAME` for every alias that went away — yields exactly `new`, even when an alias shares its
name with a variable. -/
theorem C05_roundtrip_alias_removal (old new : Env) (oldAliases : List (Str × Option Str))
    (hold : ∀ p ∈ old, isIdent p.1 = true) (hnew : ∀ p ∈ new, isIdent p.1 = true)
    (hdict : (new.map (·.1)).Nodup)
    (halpha : ∀ p ∈ new, old.get p.1 ≠ some p.2 → Writable p.2)
    (hprot : ∀ k, isProtected k = true → old.has k = true → new.has k = true)
    (hal : ∀ p ∈ oldAliases, isIdent p.1 = true) :
    ∃ cmds e, emit {} (OldEnv.ofEnv old) new [] oldAliases = some cmds ∧
      shEval old (join cmds) = some e ∧ SameEnv e new := by
  simpa [finalEnv] using roundtrip_emit {} rfl rfl _ old new (tracks_ofEnv old) hold hnew hdict (written_ofEnv halpha)
    (.inr hprot) oldAliases hal false

/-- **D27, pinned tree (negation witness):** the pinned emission `unset ll` for a removed alias `ll` removes the
*variable* `ll`; the repaired `unset -f ll` leaves the environment alone. -/
theorem C05_alias_removal_pinned_witness :
    let env : Env := [(Str.ofString "ll", Str.ofString "x")]
    shEval env (Str.ofString "unset ll") = some [] ∧ shEval env (Str.ofString "unset -f ll") = some env ∧
      emit {} (OldEnv.ofEnv env) env [] [(Str.ofString "ll", none)] = some [Str.ofString "unset -f ll"] := by
  decide_lit

/-- **`unsetup eups` (repaired D23).**  `app.setup` drops `EUPS_PATH`, `EUPS_PKGROOT` and `EUPS_SHELL` from the
environment `Eups.setup` left (`finalEnv`), and no variable is protected.  The commands yield exactly that final
environment: each of the three the caller had is unset, whether `Eups.setup` kept, changed or had removed it. -/
theorem C05_roundtrip_unsetup_eups (old new : Env)
    (hold : ∀ p ∈ old, isIdent p.1 = true) (hnew : ∀ p ∈ finalEnv unsetupEups new, isIdent p.1 = true)
    (hdict : ((finalEnv unsetupEups new).map (·.1)).Nodup)
    (halpha : ∀ p ∈ finalEnv unsetupEups new, old.get p.1 ≠ some p.2 → Writable p.2) :
    ∃ cmds e, emit unsetupEups (OldEnv.ofEnv old) new [] [] = some cmds ∧
      shEval old (join cmds) = some e ∧ SameEnv e (finalEnv unsetupEups new) := by
  simpa using roundtrip_emit unsetupEups rfl rfl _ old new (tracks_ofEnv old) hold hnew hdict (written_ofEnv halpha)
    (.inl rfl) [] (fun _ h => nomatch h) false

theorem C05_unsetup_eups_drops (new : Env) :
    (finalEnv unsetupEups new).has sEUPS_PATH = false ∧ (finalEnv unsetupEups new).has sEUPS_PKGROOT = false ∧
      (finalEnv unsetupEups new).has sEUPS_SHELL = false := by
  have h1 : sEUPS_PATH ≠ sEUPS_PKGROOT := by decide
  have h2 : sEUPS_PATH ≠ sEUPS_SHELL := by decide
  have h3 : sEUPS_PKGROOT ≠ sEUPS_SHELL := by decide
  simp [finalEnv, unsetupEups, Env.has, Env.get_unset_same, Env.get_unset_other _ _ _ h1, Env.get_unset_other _ _ _ h2,
    Env.get_unset_other _ _ _ h3]

/-- Non-vacuity on `setup eups; unsetup eups`: the repaired order unsets the variables the caller had; with the block
below both loops nothing would be unset. -/
example :
    let old : Env := [(sEUPS_PATH, Str.ofString "/s"), (sEUPS_SHELL, Str.ofString "sh"), (Str.ofString "K", Str.ofString "k k")]
    emit unsetupEups (OldEnv.ofEnv old) old [] [] =
        some [Str.ofString "unset EUPS_PATH", Str.ofString "unset EUPS_SHELL"] ∧
      shEval old (Str.ofString "unset EUPS_PATH;\nunset EUPS_SHELL") = some [(Str.ofString "K", Str.ofString "k k")] ∧
      finalEnv unsetupEups old = [(Str.ofString "K", Str.ofString "k k")] ∧
      -- the block below both loops: both loops see `old` unchanged and print nothing
      (emitVarsOn unsetupEups (OldEnv.ofEnv old) old).map Cmd.text = [] := by
  decide_lit

/-! ## the protected names are an exact-match set -/

/-- `^EUPS_(DIR|PATH|PKGROOT|SHELL)$`: the four names themselves, or one of them followed by a final newline (Python's
`$`), and nothing else -/
theorem C05_protected_iff (k : Str) :
    isProtected k = true ↔
      k ∈ [sEUPS_DIR, sEUPS_PATH, sEUPS_PKGROOT, sEUPS_SHELL] ∨
      k ∈ [sEUPS_DIR ++ [10], sEUPS_PATH ++ [10], sEUPS_PKGROOT ++ [10], sEUPS_SHELL ++ [10]] :=
  any_eq_or_eq_snoc _ k

/-- for identifiers exactly the four names: one that merely starts with, ends with or contains one of them is not
protected -/
theorem C05_protected_exact (k : Str) (hk : isIdent k = true) :
    isProtected k = true ↔ k = sEUPS_DIR ∨ k = sEUPS_PATH ∨ k = sEUPS_PKGROOT ∨ k = sEUPS_SHELL := by
  rw [C05_protected_iff]
  constructor
  · rintro (h | h)
    · simpa using h
    · exfalso
      have hs := ident_safe hk
      simp only [List.mem_cons, List.not_mem_nil, or_false] at h
      have h10 : (10 : Nat) ∈ k := by rcases h with h | h | h | h <;> (rw [h]; simp)
      have := hs 10 h10
      revert this; decide
  · intro h; left; simpa using h

theorem C05_unprotected_is_unset (new : Env) (k : Str) (v : Option Str) (hp : isProtected k = false)
    (hgone : new.has k = false) : unsetCmd? {} new (k, v) = some (Cmd.unsetVar k) := by
  simp [unsetCmd?, hp, hgone, hidden]

/-- near misses (variables of products `eups_shelltools`, `eups_path`, saved copies) are not protected; the four names
are -/
example :
    (["EUPS_PATH_SAVED", "EUPS_PKGROOT_MIRROR", "EUPS_DIR_EXTRA", "EUPS_SHELLTOOLS_DIR", "SETUP_EUPS_SHELLTOOLS",
      "MY_EUPS_PATH", "EUPS_DIRS", "EUPS_PAT", "EUPS_", "eups_path", "EUPS_PATH_DIR", "XEUPS_SHELL"].map
        fun n => isProtected (Str.ofString n)) = List.replicate 12 false ∧
      (["EUPS_DIR", "EUPS_PATH", "EUPS_PKGROOT", "EUPS_SHELL"].map fun n => isProtected (Str.ofString n)) =
        List.replicate 4 true := by
  simp only [List.map_cons, List.map_nil]
  decide_lit

/-- on the witness of the corpus: every near miss that disappeared is unset, the protected `EUPS_PKGROOT` is not -/
example :
    let old : Env := [(Str.ofString "EUPS_PATH", [47]), (Str.ofString "EUPS_PATH_SAVED", [47]),
                      (Str.ofString "EUPS_SHELLTOOLS_DIR", [47]), (Str.ofString "EUPS_PKGROOT", [47])]
    emit {} (OldEnv.ofEnv old) [(Str.ofString "EUPS_PATH", [47])] [] [] =
      some [Str.ofString "unset EUPS_PATH_SAVED", Str.ofString "unset EUPS_SHELLTOOLS_DIR"] := by
  decide_lit

/-! ## the complete text: variables *and* shell functions (aliases), exit status

`shEvalF env funcs text`: the second layer of the shell model; besides the environment it tracks the shell's functions
(name → canonical text of the parsed body), what `echo` wrote, and the last exit status.  `canon v`: the canonical text
of the function the alias value `v` defines (its words joined by single blanks). -/

/-- **C05 with aliases, full clause.**  Whatever functions `funcs0` the caller's shell holds: after the *complete* text
printed by `setup` (exports, unsets, `NAME() { VALUE ; }` per new alias, `unset -f NAME` per removed alias, joined by
`";\n"`) it has exactly `new` as its environment, every alias defined as a function holding its value, every removed
alias gone, every other function untouched, nothing written to the terminal and exit status 0.  Alias names are
usable as function names, alias values plain command lines.  `htrack`: an alias that eups skips because `oldAliases`
already holds its value is assumed to exist in the shell with that value — what "already defined" means. -/
theorem C05_roundtrip_aliases (old new funcs0 : Env) (aliases : List (Str × Str)) (oldAliases : List (Str × Option Str))
    (nl : Bool)
    (hold : ∀ p ∈ old, isIdent p.1 = true) (holdnd : (old.map (·.1)).Nodup)
    (hnew : ∀ p ∈ new, isIdent p.1 = true) (hdict : (new.map (·.1)).Nodup)
    (halpha : ∀ p ∈ new, old.get p.1 ≠ some p.2 → Writable p.2)
    (hprot : ∀ k, isProtected k = true → old.has k = true → new.has k = true)
    (hal : ∀ p ∈ aliases, fnNameOk p.1 = true ∧ SimpleBody p.2) (haldict : (aliases.map (·.1)).Nodup)
    (hoal : ∀ p ∈ oldAliases, isIdent p.1 = true)
    (htrack : ∀ p ∈ aliases, defCmd? oldAliases p = none → funcs0.get p.1 = some (canon p.2)) :
    ∃ cmds r, emit {} (OldEnv.ofEnv old) new aliases oldAliases = some cmds ∧
      shEvalF old funcs0 (join cmds ++ (if nl then [10] else [])) = some r ∧
      SameEnv r.sh.env new ∧
      (∀ n, r.funcs.get n = match Env.get aliases n with
                            | some v => some (canon v)
                            | none => if oldAliases.any (·.1 == n) then none else funcs0.get n) ∧
      r.out = [] ∧ r.status = 0 := by
  exact roundtrip_aliases_tracks _ old new funcs0 (tracks_ofEnv old) aliases oldAliases nl hold holdnd hnew hdict
    (written_ofEnv halpha) hprot hal haldict hoal htrack

/-- Non-vacuity: a new alias `ll`, a removed alias `gone` that is also a variable that stays, a function `other` eups
knows nothing about. -/
example :
    let old : Env := [(Str.ofString "PATH", Str.ofString "/bin"), (Str.ofString "GONE", Str.ofString "1"),
                      (Str.ofString "gone", Str.ofString "v")]
    let new : Env := [(Str.ofString "PATH", Str.ofString "/my prod/bin:/bin"), (Str.ofString "gone", Str.ofString "v")]
    let f0 : Env := [(Str.ofString "gone", Str.ofString "true"), (Str.ofString "other", Str.ofString "ls")]
    let text := Str.ofString "export PATH='/my prod/bin:/bin';\nunset GONE;\nll() { ls  -l ; };\nunset -f gone\n"
    emit {} (OldEnv.ofEnv old) new [(Str.ofString "ll", Str.ofString "ls  -l")] [(Str.ofString "gone", none)] =
        some [Str.ofString "export PATH='/my prod/bin:/bin'", Str.ofString "unset GONE", Str.ofString "ll() { ls  -l ; }",
              Str.ofString "unset -f gone"] ∧
      (shEvalF old f0 text).map (fun r => (r.sh.env, r.funcs, r.out, r.status)) =
        some (new, [(Str.ofString "other", Str.ofString "ls"), (Str.ofString "ll", Str.ofString "ls -l")], [], 0) := by
  decide_lit

/-- the fragment of function bodies is wider than the theorem's plain command lines: `"$@"`, `$@`, single-quoted
words and several commands are read too (and compared with dash and bash on every run); a body that closes the
brace early, an empty body, a reserved word in command position and a function called `export` are outside it -/
example :
    ((shEvalF [] [] (Str.ofString "gg() { git grep \"$@\" ; }; w() { echo $@ done; printf 'a  b' ; }")).map (·.funcs)) =
        some [(Str.ofString "gg", Str.ofString "git grep \"$@\""), (Str.ofString "w", Str.ofString "echo $@ done; printf 'a  b'")] ∧
      shEvalF [] [] (Str.ofString "ll() { ls } ; }") = none ∧ shEvalF [] [] (Str.ofString "ll() {  ; }") = none ∧
      shEvalF [] [] (Str.ofString "ll() { if ; }") = none ∧ shEvalF [] [] (Str.ofString "export() { ls ; }") = none := by
  decide_lit

/-- **A failed request.**  When `Eups.setup` fails, `app.setup` returns the single command `false`: the shell keeps its
environment and its functions and reports failure to the caller (status 1). -/
theorem C05_failure_reports_false (env funcs : Env) (nl : Bool) :
    ∃ r, shEvalF env funcs (sFalse ++ (if nl then [10] else [])) = some r ∧
      r.sh.env = env ∧ r.funcs = funcs ∧ r.out = [] ∧ r.status = 1 := by
  have hs : SpellsF sFalse [sFalse] := spellsF_of_spells (spells_safe (by decide) (by decide))
  -- neither `echo` nor `unset`: `exec` keeps the environment, `fnEffect` the functions; status 1 is the `if w == sFalse`
  have he : execF env funcs [] [sFalse] = some (cleanF env funcs [] 1) := rfl
  have := (readsF_of_spellsF hs he 0).alone nl
  rw [finishF_cleanF] at this
  exact ⟨_, this, rfl, rfl, rfl, rfl⟩

/-- the status is the last command's: a failure in the middle is not what the caller sees, a failure at the end is -/
example : (shEvalF [] [] (Str.ofString "false;\nexport A=1")).map (·.status) = some 0 ∧
    (shEvalF [] [] (Str.ofString "export A=1;\nfalse\n")).map (fun r => (r.sh.env, r.status)) =
      some ([(Str.ofString "A", Str.ofString "1")], 1) := by decide_lit

/-! ## `setup -n` -/

/-- **`-n`: the printed text only prints.**  With `--noaction` every command is wrapped in `echo "…"`.  The shell that
evaluates that text (written values over the alphabet) keeps its environment and its functions, succeeds, and writes —
one per line, in order — exactly the commands of the model's list for these options (the `SETUP_…` variables hidden
unless `-vv`). -/
theorem C05_noaction_prints (o : Opts) (ho : o.noaction = true) (hsh : o.shell = .sh) (old new funcs0 : Env) (nl : Bool)
    (hold : ∀ p ∈ old, isIdent p.1 = true) (hnew : ∀ p ∈ finalEnv o new, isIdent p.1 = true)
    (halpha : ∀ p ∈ finalEnv o new, old.get p.1 ≠ some p.2 → InAlphabet p.2) :
    ∃ cmds r, emit o (OldEnv.ofEnv old) new [] [] = some cmds ∧
      shEvalF old funcs0 (join cmds ++ (if nl then [10] else [])) = some r ∧
      r.sh.env = old ∧ r.funcs = funcs0 ∧ r.status = 0 ∧
      r.out = (emitVars o (OldEnv.ofEnv old) new).map Cmd.text := by
  exact noaction_prints_tracks o ho hsh _ old new funcs0 (tracks_ofEnv old) nl hold hnew (written_ofEnv halpha)

/-- with `-n -vv` nothing is hidden: the lines printed are exactly the commands the same request emits without `-n` -/
theorem C05_noaction_vv_same_commands (o : Opts) (hv : o.verbose2 = true) (old : OldEnv) (new : Env) :
    emitVars { o with noaction := true } old new = emitVars { o with noaction := false } old new := by
  have hh : ∀ k, hidden { o with noaction := true } k = hidden { o with noaction := false } k := by
    intro k; simp [hidden, hv]
  exact emitVarsOn_congr (o := { o with noaction := true }) (o' := { o with noaction := false }) rfl hh old _

/-- Non-vacuity: `setup -n` with a value that needs quoting, a removed variable and a hidden `SETUP_` variable. -/
example :
    let old : Env := [(Str.ofString "PATH", Str.ofString "/bin"), (Str.ofString "GONE", Str.ofString "1")]
    let new : Env := [(Str.ofString "PATH", Str.ofString "/my prod/bin:/bin"), (Str.ofString "SETUP_P", Str.ofString "p 1")]
    let o : Opts := { noaction := true }
    emit o (OldEnv.ofEnv old) new [] [] =
        some [Str.ofString "echo \"export PATH='/my prod/bin:/bin'\"", Str.ofString "echo \"unset GONE\""] ∧
      (shEvalF old [] (Str.ofString "echo \"export PATH='/my prod/bin:/bin'\";\necho \"unset GONE\"\n")).map
          (fun r => (r.sh.env, r.out, r.status)) =
        some (old, [Str.ofString "export PATH='/my prod/bin:/bin'", Str.ofString "unset GONE"], 0) := by
  decide_lit

/-! ## the csh dialect (text level; spec from the manual, no csh binary) -/

/-- **csh reads back what the emitter wrote, word by word**: the word written after `setenv NAME ` (single-quoted iff it
holds a blank or one of `< > | & ; ( )`) for a value over the alphabet that holds no newline. -/
theorem C05_csh_word_roundtrip (v : Str) (hv : InAlphabet v) (hnl : ∀ c ∈ v, c ≠ 10) : cshWord (emitVal v) = some v := by
  rcases emitVal_alpha hv with h | ⟨h, hsafe⟩
  · rw [h]
    have hrev : (v ++ [39]).reverse = 39 :: v.reverse := by simp
    have hall : (v.all fun c => c != 39 && c != 10 && c != 33) = true := by
      apply List.all_eq_true.mpr
      intro c hc
      have h39 := alpha_no_sq hv c hc
      have h10 := hnl c hc
      have h33 : c ≠ 33 := alpha_ne (hv c hc) rfl rfl
      simp [h39, h10, h33]
    simp [cshWord, hrev, hall]
  · rw [h]
    cases v with
    | nil => rfl
    | cons c r =>
      have hc : c ≠ 39 := ne_of_class (hsafe c (by simp)) rfl
      have hall : ((c :: r).all isSafe) = true := List.all_eq_true.mpr hsafe
      simp only [cshWord]
      split
      · rename_i heq; cases heq
      · rename_i heq; cases heq; exact absurd rfl hc
      · simp [hall]

/-- **The whole csh command list** (`setenv` for every changed or new variable, `unsetenv` for every removed one) takes
the caller's environment to the computed one, as csh reads it.  (The same list as for sh: only the rendering differs.) -/
theorem C05_csh_roundtrip (old new : Env)
    (hold : ∀ p ∈ old, isIdent p.1 = true) (hnew : ∀ p ∈ new, isIdent p.1 = true)
    (hdict : (new.map (·.1)).Nodup)
    (halpha : ∀ p ∈ new, old.get p.1 ≠ some p.2 → InAlphabet p.2 ∧ ∀ c ∈ p.2, c ≠ 10)
    (hprot : ∀ k, isProtected k = true → old.has k = true → new.has k = true) :
    ∃ e, cshApplyAll (emitVarsOn { shell := .csh } (OldEnv.ofEnv old) new) old = some e ∧ SameEnv e new := by
  exact csh_roundtrip_tracks _ old new (tracks_ofEnv old) hold hnew hdict (written_ofEnv
    (P := fun v => cshWord (emitVal v) = some v) fun p hp h => (halpha p hp h).elim (C05_csh_word_roundtrip _)) hprot

/-- **csh cannot take a newline inside a quoted word (witness against the emission, per the manual):** for the value
`a b<newline>c` the emitter writes the same quoted word as for sh; sh reads it back, csh does not. -/
theorem C05_csh_newline_witness :
    let v := Str.ofString "a b\nc"
    emitVal v = Str.ofString "'a b\nc'" ∧ cshWord (emitVal v) = none ∧
      shEval [] (Str.ofString "export K=" ++ emitVal v) = some [(Str.ofString "K", v)] := by
  decide_lit

/-- Non-vacuity: a path with a blank and parentheses, an empty value, a removed variable, through csh's eyes. -/
example :
    let old : Env := [(Str.ofString "PATH", Str.ofString "/bin"), (Str.ofString "GONE", Str.ofString "1")]
    let new : Env := [(Str.ofString "PATH", Str.ofString "/my prod (v1)/bin:/bin"), (Str.ofString "E", [])]
    emit { shell := .csh } (OldEnv.ofEnv old) new [] [] =
        some [Str.ofString "setenv PATH '/my prod (v1)/bin:/bin'", Str.ofString "setenv E ", Str.ofString "unsetenv GONE"] ∧
      cshApplyAll (emitVarsOn { shell := .csh } (OldEnv.ofEnv old) new) old = some new := by
  decide_lit

/-! ## the command line (`setupcmd.EupsSetup.run` behind `bin/eups_setup`) -/

/-- **What the wrapper can print.**  A run that ends with a non-zero status has printed nothing at all or the single
line `false`; a run that ends with status 0 has printed nothing (`-h`, `-V`) or exactly the command list `eups.setup`
returned, joined by `";\n"`, with the newline `print` adds — the text of the round trips above that take `nl`, at
`nl := true` (`roundtrip_emit` has it for the two that do not). -/
theorem C05_cli_outcomes (c : Cli) (w : CliWorld) (inner : Inner) :
    ((runCli c w inner).status ≠ 0 →
        (runCli c w inner).stdout = none ∨ (runCli c w inner).stdout = some (sFalse ++ [10])) ∧
      ((runCli c w inner).status = 0 →
        (runCli c w inner).stdout = none ∨
          ∃ cmds, inner = .returned cmds ∧ (runCli c w inner).stdout = some (join cmds ++ [10])) := by
  unfold runCli
  cases he : cliEarly c w with
  | some r => rcases cliEarly_mem c w r he with rfl | rfl | rfl | rfl <;> simp [cliFailed]
  | none =>
    cases inner with
    | eupsException => simp [cliInner, cliFailed]
    | otherException => simp [cliInner, cliFailed]
    | returned cmds =>
      simp only [cliInner]
      split <;> simp

/-- **A failed command line leaves the caller's shell untouched**, however the request fails (usage errors, a missing
table file, an undeclared version, `--just` with `--max-depth`, an exception of any kind): evaluating what was printed
changes neither the environment nor the functions, and when something was printed the caller sees a failure. -/
theorem C05_cli_failure_untouched (c : Cli) (w : CliWorld) (inner : Inner) (env funcs : Env)
    (hfail : (runCli c w inner).status ≠ 0) :
    ∃ r, shEvalF env funcs ((runCli c w inner).stdout.getD []) = some r ∧ r.sh.env = env ∧ r.funcs = funcs ∧
      ((runCli c w inner).stdout ≠ none → r.status = 1) := by
  rcases (C05_cli_outcomes c w inner).1 hfail with h | h
  · refine ⟨startF env funcs, ?_, rfl, rfl, fun hn => absurd h hn⟩
    rw [h]; exact finishF_cleanF env funcs [] 0
  · obtain ⟨r, hr, h1, h2, _, h4⟩ := C05_failure_reports_false env funcs true
    refine ⟨r, ?_, h1, h2, fun _ => h4⟩
    simpa [h] using hr

/-- Non-vacuity: the exits of `execute`, one each — `-l`; a missing table file; no product; `-r` on a directory
whose table files do not include the product asked for (the wrapper prints `false`, status 4); `-j -S 2`;
`-r DIR PRODUCT VERSION` with an undeclared version; an `EupsException`; a successful run. -/
example :
    let p : Str := Str.ofString "p0"
    (runCli { list := true, args := [p] } {} (.returned [])) = ⟨none, 2⟩ ∧
    (runCli { tablefile := some (Str.ofString "/x/p0.table"), args := [p] } {} (.returned [])) = ⟨none, 3⟩ ∧
    (runCli {} {} (.returned [])) = ⟨none, 3⟩ ∧
    (runCli { productDir := some (Str.ofString "/d"), args := [Str.ofString "other"] }
        { upsIsDir := true, tables := [p] } (.returned [])) = ⟨some (Str.ofString "false\n"), 4⟩ ∧
    (runCli { nodepend := true, maxDepth := 2, args := [p] } {} (.returned [])) = ⟨none, 3⟩ ∧
    (runCli { productDir := some (Str.ofString "/d"), args := [p, Str.ofString "9.9"] }
        { upsIsDir := true, tables := [p] } (.returned [])) = ⟨none, 3⟩ ∧
    (runCli { args := [p] } {} .eupsException) = ⟨some (Str.ofString "false\n"), 1⟩ ∧
    (runCli { tablefile := some (Str.ofString "/d/ups/p0.table") } { tablefileExists := true }
        (.returned [Str.ofString "export A=1", Str.ofString "unset B"])) = ⟨some (Str.ofString "export A=1;\nunset B\n"), 0⟩ ∧
    stem (basename (Str.ofString "/d/ups/p0.v1.table")) = Str.ofString "p0.v1" := by
  decide_lit

end EupsModel.C05
