-- Root of the `EupsModel` library: models, lemmas, property theorems and driver handlers.
import EupsModel.Drv.All
import EupsModel.Props.C01
import EupsModel.Props.C02
import EupsModel.Props.C03
import EupsModel.Props.C04
import EupsModel.Props.C05
import EupsModel.Props.C06
import EupsModel.Props.C07
import EupsModel.Props.C08
import EupsModel.Props.C09
import EupsModel.Props.C10
import EupsModel.Props.C11
import EupsModel.Props.C12
import EupsModel.Props.C13
import EupsModel.Props.C14
import EupsModel.Props.C15
import EupsModel.Props.C16
import EupsModel.Props.C17
import EupsModel.Props.C18
